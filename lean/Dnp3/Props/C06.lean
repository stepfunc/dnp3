import Dnp3.Gen.Link
import Dnp3.Gen.CrcTable
import Dnp3.Model.LinkReader
import Dnp3.Proofs.LinkParser
import Dnp3.Proofs.LinkReader
import Dnp3.Proofs.CrcHd
/-!
# C06 — Only intact link frames are delivered, and every frame sent is recovered
-/
namespace Dnp3.Props.C06
open Dnp3

/-- the constants the hand-written link model transcribes are the ones in the source -/
theorem link_constants_as_modelled :
    Gen.Link.start1 = 0x05 ∧ Gen.Link.start2 = 0x64 ∧ Gen.Link.maxFramePayloadLength = 250 ∧
    Gen.Link.linkHeaderLength = 10 ∧ Gen.Link.maxLinkFrameLength = 292 ∧
    Gen.Link.maxAppBytesPerFrame = 249 ∧ Gen.Link.minHeaderLengthValue = 5 ∧
    Gen.Link.maxBlockSize = 16 ∧ Gen.Link.crcLength = 2 ∧ Gen.Link.maxBlockSizeWithCrc = 18 ∧
    Gen.crcFnShapeOk = true := by decide

/-- every entry of the table in `crc.rs` is the bit-serial CRC-16/DNP of its index -/
theorem crc_table_is_dnp : ∀ i : Fin 256, Gen.crcTable.getD i.val 0 = bitStep8 i.val :=
  fun i => Dnp3.Proofs.Crc.crcTable_is_serial i.isLt

/-- `CRC_OF_0564` is the CRC register after the two start octets -/
theorem crc_of_0564 : Gen.crcOf0564 = crcIncS 0 [0x05, 0x64] := by decide +kernel

/-- **soundness**: whatever the parser delivers from a frame-start state is exactly the image of a
    well-formed frame (start octets, length, header CRC, every block CRC), and the delivered
    control octet, addresses and payload are the ones in those octets -/
theorem parser_sound (bs rest : List Nat) (st' : PState) (h : LHeader) (p : List Nat)
    (hb : ∀ b ∈ bs, b < 256) (hr : parseImpl .sync1 bs = (st', rest, .ok (some (h, p)))) :
    bs = encodeFrame h p ++ rest ∧ p.length ≤ 250 ∧ st' = .sync1 ∧
      h.ctrl < 256 ∧ h.dst < 65536 ∧ h.src < 65536 :=
  Dnp3.parser_sound bs rest st' h p hb hr

/-- soundness through `Parser::parse` in Close mode -/
theorem parser_sound_close (bs rest : List Nat) (st' : PState) (h : LHeader) (p : List Nat)
    (hb : ∀ b ∈ bs, b < 256) (hr : parse .close .sync1 bs = (st', rest, .ok (some (h, p)))) :
    bs = encodeFrame h p ++ rest ∧ p.length ≤ 250 ∧ st' = .sync1 ∧
      h.ctrl < 256 ∧ h.dst < 65536 ∧ h.src < 65536 :=
  Dnp3.parser_sound bs rest st' h p hb hr

set_option linter.unusedVariables false in
/-- **round trip, one call**: every frame the library formats is parsed back identically,
    leaving exactly the octets that follow it (`hc` and `hp` are not used: the control octet is
    handed on as read, and the body state carries the trailer length) -/
theorem parse_encode (h : LHeader) (p rest : List Nat) (hc : h.ctrl < 256) (hd : h.dst < 65536)
    (hs : h.src < 65536) (hp : p.length ≤ 250) :
    parseImpl .sync1 (encodeFrame h p ++ rest) = (.sync1, rest, .ok (some (h, p))) :=
  Dnp3.parse_encode h p rest hd hs

/-- **chunking-independent round trip** (both error modes, every legal buffer size): any stream
    of formatted frames, split into reads in any way whatsoever (one octet at a time, reads
    straddling the buffer shift, empty reads), is delivered as exactly those frames, in order,
    with no error -/
theorem stream_roundtrip (m : ErrMode) (frag : Nat) (frames : List (LHeader × List Nat))
    (hv : ∀ f ∈ frames, ValidFrame f) (chunks : List (List Nat))
    (hcat : chunks.flatten = frames.flatMap (fun f => encodeFrame f.1 f.2)) :
    ((Reader.new m .stream frag).feedAll chunks).2 = frames.map (fun f => LEvent.frame f.1 f.2) := by
  obtain ⟨r', h, _⟩ := Dnp3.stream_roundtrip m frag frames hv chunks hcat
  rw [h]

/-- a parse that needs more octets resumes exactly where it stopped: the state and unread octets it
    leaves, followed by `more`, parse as the whole input followed by `more` would have in one call -/
theorem parse_incremental (st st' : PState) (bs rest more : List Nat)
    (h : parseImpl st bs = (st', rest, .ok none)) :
    parseImpl st (bs ++ more) = parseImpl st' (rest ++ more) :=
  Dnp3.parseImpl_more st st' bs rest more h

/-- the reader never issues a zero-length read (which the physical layer wrapper turns into
    `UnexpectedEof`): after a parse that needs more data at most 281 octets are pending -/
theorem reader_never_zero_read (r : Reader) (avail rest : List Nat) (st' : PState)
    (hcap : 293 ≤ r.cap) (hbe : r.begin_ ≤ r.end_) (hec : r.end_ ≤ r.cap)
    (hpl : r.pending.length = r.end_ - r.begin_) (hb : ∀ b ∈ r.pending, b < 256)
    (hst : boundedState r.pst) (hrl : rest.length ≤ r.pending.length)
    (hparse : parse r.emode r.pst r.pending = (st', rest, .ok none)) (ha : avail ≠ []) :
    rest.length ≤ 281 ∧
    ({ r with pst := st', pending := rest,
              begin_ := r.begin_ + (r.pending.length - rest.length) } : Reader).readMore avail ≠ none :=
  Dnp3.reader_never_zero_read r avail rest st' hcap hbe hec hpl hb hst hrl hparse ha

/-- every legal fragment size gives a read buffer that can hold a whole frame plus one octet -/
theorem read_buffer_holds_a_frame (frag : Nat) : 293 ≤ readBufferSize frag :=
  Dnp3.readBufferSize_ge frag

/-- the table-driven CRC of `crc.rs` is the bit-serial CRC-16/DNP on every octet string -/
theorem crc_table_computes_dnp (acc : Nat) (bs : List Nat) (hb : ∀ b ∈ bs, b < 256) :
    crcIncT acc bs = crcIncS acc bs :=
  Dnp3.Proofs.Crc.crcIncT_eq_serial acc bs hb

/-- **error detection, data blocks**: a block of up to 16 data octets followed by its CRC, hit by
    ANY error pattern of weight 1, 2 or 3 (anywhere in data or CRC), fails the parser's block
    test (Hamming distance ≥ 4 of the code defined by the table in `crc.rs`) -/
theorem crc_detects_le3 (d : List Nat) (hd : d.length ≤ 16) (hb : ∀ b ∈ d, b < 256)
    (e : List Nat) (he : e.length = d.length + 2) (heb : ∀ b ∈ e, b < 256)
    (hw : 1 ≤ Dnp3.Proofs.Crc.weight e ∧ Dnp3.Proofs.Crc.weight e ≤ 3) :
    ¬ Dnp3.Proofs.Crc.blockValid (List.zipWith (· ^^^ ·) (Dnp3.Proofs.Crc.blockImage d) e) :=
  Dnp3.Proofs.Crc.crc_detects_le3 d hd hb e he heb hw

/-- … stated on the parser's own function: `checkBody` returns `BadBodyCrc` -/
theorem body_block_rejected_le3 (fuel : Nat) (d : List Nat) (hd1 : 1 ≤ d.length) (hd : d.length ≤ 16)
    (hb : ∀ b ∈ d, b < 256) (e : List Nat) (he : e.length = d.length + 2) (heb : ∀ b ∈ e, b < 256)
    (hw : 1 ≤ Dnp3.Proofs.Crc.weight e ∧ Dnp3.Proofs.Crc.weight e ≤ 3) :
    checkBody (fuel + 1) (List.zipWith (· ^^^ ·) (Dnp3.Proofs.Crc.blockImage d) e) = .error .bodyCrc := by
  have hl : (List.zipWith (· ^^^ ·) (Dnp3.Proofs.Crc.blockImage d) e).length = d.length + 2 := by
    simp [Dnp3.Proofs.Crc.blockImage, le16, he]
  exact Dnp3.Proofs.Crc.checkBody_rejects fuel _ (by omega) (by omega)
    (Dnp3.Proofs.Crc.crc_detects_le3 d hd hb e he heb hw)

/-- **error detection, header block**: the ten header octets `05 64 LEN CTRL DST SRC CRC` hit by
    any error pattern of weight 1..3 make the parser return an error (bad start octet, bad
    length or bad header CRC) — never a header -/
theorem header_rejected_le3 (hf : List Nat) (hlen : hf.length = 6) (hb : ∀ b ∈ hf, b < 256)
    (e : List Nat) (he : e.length = 10) (heb : ∀ b ∈ e, b < 256)
    (hw : 1 ≤ Dnp3.Proofs.Crc.weight e ∧ Dnp3.Proofs.Crc.weight e ≤ 3) (rest : List Nat) :
    ∃ err, (parseSync1 (List.zipWith (· ^^^ ·) ([0x05, 0x64] ++ hf ++ le16 (calcCrc0564 hf)) e
      ++ rest)).2.2 = .error err := by
  open Dnp3.Proofs.Crc in
  match e, he with
  | x0 :: x1 :: e, he =>
    have he : e.length = 8 := by simpa using he
    apply parseSync1_error (5 ^^^ x0) (100 ^^^ x1)
      (List.zipWith (· ^^^ ·) (hf ++ le16 (calcCrc0564 hf)) e) rest (by simp [hlen, he, le16])
    intro h0 h1
    rw [eq_zero_of_xor_eq_self h0, eq_zero_of_xor_eq_self h1, weight_zero_cons, weight_zero_cons] at hw
    exact header_crc_detects_le3 hf hlen hb e he (fun b hb' => heb b (.tail _ (.tail _ hb'))) hw

/-- known finding D10 (witness, decided by evaluation of the model): in discard mode `05 64`
    delivered in an earlier read than a valid frame makes the frame disappear, while the same
    octets in one read are recovered -/
theorem discard_resync_counterexample :
    let frame := encodeFrame ⟨0xC4, 1024, 1⟩ [0xC0, 0xC0, 0x01, 0x02]
    ((Reader.new .discard .stream 2048).feedAll [[0x05, 0x64], frame]).2 = [] ∧
    ((Reader.new .discard .stream 2048).feedAll [[0x05, 0x64] ++ frame]).2 =
      [.frame ⟨0xC4, 1024, 1⟩ [0xC0, 0xC0, 0x01, 0x02]] := by
  decide +kernel

example : ValidFrame (⟨0xC4, 1024, 1⟩, [0xC0, 0xC0, 0x01, 0x02]) := by decide

section
open Dnp3.Proofs.Crc

example : checkBody 5 (List.zipWith (· ^^^ ·) (blockImage [0xC0, 0xC1, 0x01]) [0x01, 0, 0x80, 0, 0x04])
    = .error .bodyCrc :=
  body_block_rejected_le3 4 _ (by decide) (by decide) (by decide) _ (by decide) (by decide) (by decide)

example : ∃ err, (parseSync1 (List.zipWith (· ^^^ ·)
    ([0x05, 0x64] ++ [5, 0xC0, 1, 0, 0, 4] ++ le16 (calcCrc0564 [5, 0xC0, 1, 0, 0, 4]))
    [0, 0, 0, 0, 3, 0, 0, 0, 0, 0x80] ++ [1, 2, 3])).2.2 = .error err :=
  header_rejected_le3 _ (by decide) (by decide) _ (by decide) (by decide) (by decide) _

end

end Dnp3.Props.C06
