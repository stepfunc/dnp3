import Dnp3.Proofs.C02Reach
import Dnp3.Proofs.C02Session
import Dnp3.Props.C02Master
import Dnp3.Proofs.NoPanicOutstationDb
import Dnp3.Proofs.OutstationC12
/-!
# C02 — a multi-fragment READ response series: database, outstation session, master session, and their
composition over an ideal wire

§ series of C02; the overview of the property is in `Props/C02.lean`.
-/
namespace Dnp3.Proofs.C02Series
open Dnp3 Dnp3.DbM Dnp3.DbProofs Dnp3.Proofs.C02Static Dnp3.Proofs.C02Reach
open Dnp3.Props.C02 (callItems)


/-- no event record is `Selected` or `Written` -/
def AllUnsel (db : Db) : Prop := ∀ r ∈ db.events, r.st = .unselected

theorem AllUnsel.noSel {db : Db} (h : AllUnsel db) : ∀ r ∈ db.events, r.st ≠ .selected := by
  intro r hr e; rw [h r hr] at e; cases e

/-- the database when fragment `k` (counted from 0) is about to be written: `k` fragments written, each confirmed -/
def dbAt (cap : Nat) (db1 : Db) : Nat → Db
  | 0 => db1
  | k + 1 => ((dbAt cap db1 k).writeResponse cap).1.clearWritten.1

/-- `write_response_headers` for fragment `k`: (database, octets, has_events, complete) -/
def fragW (cap : Nat) (db1 : Db) (k : Nat) : Db × List Nat × Bool × Bool := (dbAt cap db1 k).writeResponse cap

/-- the static objects of fragment `k`, one list per queue entry touched -/
def fragObjs (cap : Nat) (db1 : Db) (k : Nat) : List (List SObj) := writeStaticObjs (dbAt cap db1 k) cap

theorem writeResponse_allUnsel (db : Db) (cap : Nat) (h : AllUnsel db) :
    (db.writeResponse cap).1.events = db.events ∧ (db.writeResponse cap).2.2.1 = false ∧
    (db.writeResponse cap).2.1 = (writeStaticObjs db cap).flatMap (encodeStatic none) := by
  obtain ⟨q, u, _, hr⟩ := writeResponse_unselected db cap h.noSel
  rw [hr]; exact ⟨rfl, rfl, rfl⟩

theorem clearWritten_allUnsel (db : Db) (h : AllUnsel db) :
    db.clearWritten.1.events = db.events ∧ db.clearWritten.2.1 = [] := by
  obtain ⟨h1, h2, _⟩ := clear_spec db
  refine ⟨?_, ?_⟩
  · rw [h1]
    apply List.filter_eq_self.mpr
    intro r hr
    simp [isWritten, h r hr]
  · rw [h2]
    have : db.events.filter isWritten = [] := by
      apply List.filter_eq_nil_iff.mpr
      intro r hr
      simp [isWritten, h r hr]
    rw [this]; rfl

theorem AllUnsel.write {db : Db} (h : AllUnsel db) (cap : Nat) : AllUnsel (db.writeResponse cap).1 :=
  fun r hr => h r ((writeResponse_allUnsel db cap h).1 ▸ hr)

theorem AllUnsel.clear {db : Db} (h : AllUnsel db) : AllUnsel db.clearWritten.1 :=
  fun r hr => h r ((clearWritten_allUnsel db h).1 ▸ hr)

theorem dbAt_inv (cap : Nat) (db1 : Db) (hs : StaticSorted db1) (hu : AllUnsel db1) (k : Nat) :
    StaticSorted (dbAt cap db1 k) ∧ AllUnsel (dbAt cap db1 k) ∧
    (List.range k).flatMap (fun j => (fragObjs cap db1 j).flatten) ++ pending (dbAt cap db1 k) (dbAt cap db1 k).queue =
      pending db1 db1.queue := by
  induction k with
  | zero => exact ⟨hs, hu, by simp [dbAt]⟩
  | succ k ih =>
    obtain ⟨ih1, ih2, ih3⟩ := ih
    obtain ⟨w1, w2⟩ := sstep_conserves (dbAt cap db1 k) ih1 (.write cap)
    obtain ⟨c1, c2⟩ := sstep_conserves (sstep (dbAt cap db1 k) (.write cap)) w1 .clear
    have e : dbAt cap db1 (k + 1) = sstep (sstep (dbAt cap db1 k) (.write cap)) .clear := rfl
    refine ⟨e ▸ c1, (ih2.write cap).clear, ?_⟩
    · rw [List.range_succ, List.flatMap_append, List.append_assoc, e]
      simp only [List.flatMap_cons, List.flatMap_nil, List.append_nil]
      rw [← ih3]
      refine congrArg _ ?_
      have c2' : pending (sstep (sstep (dbAt cap db1 k) (.write cap)) .clear) (sstep (sstep (dbAt cap db1 k) (.write cap)) .clear).queue =
          pending (sstep (dbAt cap db1 k) (.write cap)) (sstep (dbAt cap db1 k) (.write cap)).queue := by
        simpa [sobjs] using c2
      rw [c2']
      exact w2

theorem fragW_complete (cap : Nat) (db1 : Db) (hs : StaticSorted db1) (hu : AllUnsel db1) (k : Nat) :
    (fragW cap db1 k).2.2.2 = true ↔ (dbAt cap db1 (k + 1)).queue = [] := by
  obtain ⟨q, u, _, hr⟩ := writeResponse_unselected (dbAt cap db1 k) cap (dbAt_inv cap db1 hs hu k).2.1.noSel
  have hq : (dbAt cap db1 (k + 1)).queue = ((dbAt cap db1 k).writeResponse cap).1.queue :=
    (clear_st ((dbAt cap db1 k).writeResponse cap).1).2.1
  unfold fragW
  rw [hq, hr]
  exact List.isEmpty_iff

/-- **the static objects of the fragments `0 … n` of a series whose fragment `n` is the complete one, concatenated, are
    exactly the objects the request selected** -/
theorem _root_.Dnp3.Props.C02.series_objects (cap : Nat) (db1 : Db) (hs : StaticSorted db1) (hu : AllUnsel db1) (n : Nat)
    (hend : (fragW cap db1 n).2.2.2 = true) :
    (List.range (n + 1)).flatMap (fun j => (fragObjs cap db1 j).flatten) = pending db1 db1.queue := by
  obtain ⟨_, _, h3⟩ := dbAt_inv cap db1 hs hu (n + 1)
  rw [(fragW_complete cap db1 hs hu n).mp hend] at h3
  simpa [pending] using h3

/-- the selection of a class-0 READ on an idle `pair` database -/
theorem _root_.Dnp3.Props.C02.class0_pending (db : Db) (hc : Class0Db db) (hq : db.queue = []) (hu : AllUnsel db) :
    pending db.selectClass0.1 db.selectClass0.1.queue = objsOf .binary db.bins ++ objsOf .analog db.ans ∧
    StaticSorted db.selectClass0.1 ∧ AllUnsel db.selectClass0.1 ∧ Class0Db db.selectClass0.1 := by
  obtain ⟨hs, hp, hcap, hk⟩ := hc
  have hcl : Class0Db db.selectClass0.1 :=
    select_class0 db ▸ class0Db_inv.select db ⟨60, 1, 6, 0, 0⟩ ⟨hs, hp, hcap, hk⟩
  obtain ⟨hev, hobjs, _⟩ := class0_queue db hs hq hcap hp.sv hp.sa hp.empty hp.czb hp.cza
  exact ⟨hobjs, hcl.1, fun r hr => hu r (hev ▸ hr), hcl⟩

section
open Dnp3.Master Dnp3.Proofs.C02Master

/-- the handler calls for the static objects `ws` of one fragment: one per run of each queue entry's objects -/
def fragCalls (who : Who) (ws : List (List SObj)) : List MOut := (ws.flatMap runs).map (runCall who)

theorem fragCalls_items (who : Who) (ws : List (List SObj)) :
    (fragCalls who ws).flatMap callItems = ws.flatten.map (fun o => (o.idx, stObjBytes o)) := by
  unfold fragCalls
  rw [runCalls_items]
  congr 1
  induction ws with
  | nil => rfl
  | cons w ws ih => simp only [List.flatMap_cons, List.flatten_append, List.flatten_cons, ih, runs_flatten]

end

section
open Dnp3.Proofs.Iin Dnp3.Proofs.Frame Dnp3.Proofs.C02Session

theorem parseRequest_confirm (e : Nat) (he : e < 16) :
    parseRequest [0xC0 + e, 0] = .request ⟨true, true, false, false, e⟩ 0 (parseObjects false 0 []) [] :=
  RequestWire.parseRequest_requestBytes e 0 [] he (by decide)

/-- the outstation awaits the confirm of a non-final fragment of a READ response with sequence number `e`;
    nothing is pending; `db` is its database -/
structure OWait (cfg : OCfg) (s : OState) (e : Nat) (db : Db) : Prop where
  hmode : ∃ dl cont, s.mode = .solWait ⟨e, false⟩ dl cont
  hpending : s.pending = none
  hcfg : s.cfg = cfg
  hbuf : cfg.sol ≤ s.solBuf.length
  hdb : s.db = db

/-- `Outstation.step` on a fragment addressed to the outstation itself that passes the link-level checks: the
    fragment becomes pending and the session is dispatched -/
theorem step_rx_unicast (env : OEnv) (s : OState) (src dst : Nat) (data : List Nat) (hmode : s.mode ≠ .dead)
    (hdst : dst = env.outstation) (hsrc : src < 0xFFF0) (hne : data.isEmpty = false) (hrx : data.length ≤ env.rx) :
    Outstation.step env s (.rx src dst data) =
      finishStep (settle 8 (dispatch
        ({ s with frameId := (s.frameId + 1) % 4294967296, pending := some ⟨s.frameId, src, none, data⟩ }, []))) := by
  rw [Proofs.Skel.step_init env s _ hmode]
  dsimp only [Proofs.Skel.init]
  rw [show Proofs.Skel.rxBroadcast env dst = some none from by rw [Proofs.Skel.rxBroadcast, if_pos hdst]]
  dsimp only
  rw [if_pos ⟨hsrc, (fun h => by rw [h] at hne; cases hne), hrx, nofun⟩]
  rfl

open Dnp3.Proofs.Skel in
/-- **one step of the outstation session model on the CONFIRM it awaits**: the events written are released,
    the next fragment is formatted from the database and transmitted -/
theorem _root_.Dnp3.Props.C02.step_confirm (env : OEnv) (cfg : OCfg) (s : OState) (e : Nat) (db : Db) (src dst : Nat)
    (hw : OWait cfg s e db) (he : e < 16)
    (hdst : dst = env.outstation) (hsrc : src < 0xFFF0) (hrx : 2 ≤ env.rx)
    (hmaster : cfg.anymaster = true ∨ src = cfg.master) (h4 : 4 ≤ cfg.sol)
    (c1 c2 c3 : Bool) (hu : (db.clearWritten.1.writeResponse (cfg.sol - 4)).1.unwrittenClasses = some (c1, c2, c3)) :
    ∃ (i1 i2 : Nat) (s' : OState) (rest : List OOut), i2 &&& 7 = 0 ∧
      Outstation.step env s (.rx src dst [0xC0 + e, 0]) =
        (s', [.cb (.solConfirmed e), .cb .beginConfirm] ++ db.clearWritten.2.1.map (fun id => OOut.cb (.eventCleared id)) ++
          [.cb (.endConfirm db.clearWritten.2.2.1 db.clearWritten.2.2.2.1 db.clearWritten.2.2.2.2),
           .tx src ([(⟨false, (db.clearWritten.1.writeResponse (cfg.sol - 4)).2.2.2,
               (db.clearWritten.1.writeResponse (cfg.sol - 4)).2.2.1 || !(db.clearWritten.1.writeResponse (cfg.sol - 4)).2.2.2,
               false, seq4Next e⟩ : AppCtrl).toNat, 0x81, i1, i2] ++ (db.clearWritten.1.writeResponse (cfg.sol - 4)).2.1)] ++ rest) ∧
      ((db.clearWritten.1.writeResponse (cfg.sol - 4)).2.2.2 = false →
        rest = [] ∧ OWait cfg s' (seq4Next e) (db.clearWritten.1.writeResponse (cfg.sol - 4)).1) := by
  obtain ⟨⟨dl, cont, hmode⟩, hpend, hcfg, hbuf, hdb⟩ := hw
  subst hcfg hdb
  let f : Frag := ⟨s.frameId, src, none, [0xC0 + e, 0]⟩
  let s1 : OState := { s with frameId := (s.frameId + 1) % 4294967296, pending := some f }
  -- the step is the continuation of the series, under the `settle 8` of `Outstation.step`
  have hstep : Outstation.step env s (.rx src dst [0xC0 + e, 0]) =
      finishStep (settle 8 (Dnp3.Proofs.C12.solContinuation (s1, []) f ⟨e, false⟩ cont)) := by
    rw [step_rx_unicast env s src dst [0xC0 + e, 0] (by rw [hmode]; nofun) hdst hsrc rfl hrx,
      ← Dnp3.Proofs.C12.solWait_confirm_continues (s1, []) ⟨e, false⟩ dl cont f ⟨true, true, false, false, e⟩ _ [] rfl
        (parseRequest_confirm e he) hmaster rfl rfl rfl]
    rw [Skel.dispatch_solWait (a := (s1, [])) hmode rfl]
  rw [hstep]
  unfold Dnp3.Proofs.C12.solContinuation
  rw [clearWrittenEvents_eq]
  dsimp only
  cases hws : writeSolicited _ _ _ with
  | none =>
    cases (Dnp3.Proofs.Frame.writeSolicited_eq_none.1 hws).symm.trans hu
  | some p =>
    obtain ⟨a2, r2⟩ := p
    obtain ⟨con, i1, i2, hi2, hct, htx, hdb2, hcon, hcfg2, hpend2, hlen2, _, _⟩ :=
      formatRead_written _ _ _ _ _ _ (by exact hbuf) (by exact h4) a2 r2 hws
    rw [Dnp3.Proofs.Frame.formatReadResponse_eq]
    dsimp only
    simp only [show (onLinkActivity s1).db = s.db from rfl, show (onLinkActivity s1).cfg = s.cfg from rfl]
    refine ⟨i1, i2, ?_⟩
    generalize houts : ([OOut.cb (Cb.solConfirmed e), OOut.cb Cb.beginConfirm] ++ _ ++ _ : List OOut) = outs
    replace htx : a2.2 = outs := by
      rw [htx, hcon rfl, ← houts]
      simp only [List.append_assoc, List.cons_append, List.nil_append, Nat.zero_or]
      rfl
    -- with CON (events, or not the last fragment) the result is `.blocked` with nothing pending: `settle` returns it as it is and
    -- `rest = []`.  A last fragment without events lets the session run on from `resumePt`: of what it still emits only the
    -- existence is known, from `Reach.base`
    by_cases hc : ((s.db.clearWritten.1.writeResponse (s.cfg.sol - 4)).2.2.1 ||
        !(s.db.clearWritten.1.writeResponse (s.cfg.sol - 4)).2.2.2) = true
    · rw [if_pos hc]
      dsimp only
      rw [Skel.settle_blocked_no_pending _ _ (by exact hpend2)]
      refine ⟨_, [], hi2, Prod.ext rfl (htx.trans (List.append_nil _).symm), ?_⟩
      · intro hcomp
        refine ⟨rfl, ⟨a2.1.now + a2.1.cfg.ctimeout, cont, ?_⟩, hpend2, hcfg2, hlen2 ▸ hbuf, hdb2⟩
        show Mode.solWait _ _ _ = _
        rw [hcomp]
    · rw [if_neg hc]
      dsimp only
      have hp0 : PendOk none (({ a2.1 with lastReq := a2.1.lastReq.map (fun lr => { lr with response := some r2 }) },
        a2.2) : Acc) := Or.inl hpend2
      rw [← run_resumePt]
      obtain ⟨_, _, l, hl⟩ := Reach.base (settle_reach hp0 8 _
        (run_reach hp0 (resumePt _ cont) (Skel2.resume_reach2 _ cont).toReach))
      refine ⟨_, l, hi2, Prod.ext rfl ?_, ?_⟩
      · rw [hl]; exact congrArg (· ++ l) htx
      · intro hcomp
        rw [hcomp] at hc
        simp at hc

open Dnp3.Proofs.Skel Dnp3.Proofs.NoPanicOutstation in
/-- **one step of the outstation session model on a READ request received while idle**: the selections are
    made, the first fragment is formatted from the database and transmitted -/
theorem _root_.Dnp3.Props.C02.step_read_first (env : OEnv) (cfg : OCfg) (s : OState) (next : NextIdle) (src dst : Nat) (req : List Nat)
    (ctrl : AppCtrl) (hs : List ObjHdr) (raw : List Nat)
    (hmode : s.mode = .idle next) (hcfg : s.cfg = cfg)
    (hbuf : cfg.sol ≤ s.solBuf.length) (h4 : 4 ≤ cfg.sol) (hnb : s.lastBroadcast = none)
    (hcnt : CountersExact s.db)
    (hdst : dst = env.outstation) (hsrc : src < 0xFFF0) (hne : req.isEmpty = false) (hrx : req.length ≤ env.rx)
    (hmaster : cfg.anymaster = true ∨ src = cfg.master)
    (hreq : parseRequest req = .request ctrl 1 (.ok hs) raw) :
    ∃ (i1 i2 : Nat) (s' : OState) (rest : List OOut), i2 &&& 7 = 0 ∧
      Outstation.step env s (.rx src dst req) =
        (s', [.tx src ([(⟨true, ((dbSelectAll s.db hs).1.writeResponse (cfg.sol - 4)).2.2.2,
             ((dbSelectAll s.db hs).1.writeResponse (cfg.sol - 4)).2.2.1 || !((dbSelectAll s.db hs).1.writeResponse (cfg.sol - 4)).2.2.2,
             false, ctrl.seq⟩ : AppCtrl).toNat, 0x81, i1, (dbSelectAll s.db hs).2 ||| i2] ++
             ((dbSelectAll s.db hs).1.writeResponse (cfg.sol - 4)).2.1)] ++ rest) ∧
      (((dbSelectAll s.db hs).1.writeResponse (cfg.sol - 4)).2.2.2 = false →
        rest = [.cb (.solWait ctrl.seq)] ∧ OWait cfg s' ctrl.seq ((dbSelectAll s.db hs).1.writeResponse (cfg.sol - 4)).1) := by
  subst hcfg
  let f : Frag := ⟨s.frameId, src, none, req⟩
  let s1 : OState := { s with frameId := (s.frameId + 1) % 4294967296, pending := some f }
  let a0 : Acc := (onLinkActivity { s1 with notified := false, pending := none }, [])
  -- one turn of the pass pops the request: `passFuel = 63 + 1`, what follows the request runs on `runPass 63`
  have hstep : Outstation.step env s (.rx src dst req) =
      finishStep (settle 8 (match handleRequestFromIdle a0 f ctrl 1 (.ok hs) raw with
        | none => die a0
        | some (a, some series) => .blocked (enterSolWait a series .fromRequest)
        | some (a, none) => afterRequest (runPass 63) a)) := by
    rw [step_rx_unicast env s src dst req (by rw [hmode]; nofun) hdst hsrc hne hrx]
    show finishStep (settle 8 (dispatch (s1, []))) = _
    rw [Skel.dispatch_idle (a := (s1, [])) hmode (by simp [idleWakes, s1])]
    show finishStep (settle 8 (runPass (63 + 1) (s1, []))) = _
    rw [runPass]
    dsimp only
    rw [popRequest_eq_request (s := { s1 with notified := false }) rfl hreq hmaster]
    rfl
  rw [hstep]
  cases hres : handleRequestFromIdle a0 f ctrl 1 (.ok hs) raw with
  | none =>
    exfalso
    have := (handleRequestFromIdle_spec a0 f ctrl 1 (.ok hs) raw).none hres
    exact no_counterUnderflow hcnt this
  | some p =>
    obtain ⟨a', series⟩ := p
    obtain ⟨con, i1, i2, hi2, htx, hdb, hcs, hcfg', hpend', hlen', hmode', hnow'⟩ :=
      read_from_idle a0 f ctrl 1 (.ok hs) raw hs (classify_read _ _ _ _ rfl) hbuf h4 a' series hres
    obtain ⟨rfl, hser⟩ := hcs hnb
    have e1 : a0.1.db = s.db := rfl
    have e2 : a0.1.cfg = s.cfg := rfl
    have e3 : f.src = src := rfl
    have e4 : a0.2 = [] := rfl
    have e5 : a0.1.pending = none := rfl
    have e6 : a0.1.solBuf = s.solBuf := rfl
    simp only [e1, e2, e3, e4, e5, e6, List.nil_append] at htx hdb hser hcfg' hlen' hpend'
    -- as in `step_confirm`: with CON the session blocks in `solWait` and `rest` is its callback; otherwise `rest` is what
    -- `afterRequest` still emits, known to exist only
    by_cases hc : (((dbSelectAll s.db hs).1.writeResponse (s.cfg.sol - 4)).2.2.1 ||
        !((dbSelectAll s.db hs).1.writeResponse (s.cfg.sol - 4)).2.2.2) = true
    · rw [if_pos hc] at hser
      subst hser
      rw [Skel.settle_blocked_no_pending _ _ (by exact hpend')]
      refine ⟨i1, i2, _, [.cb (.solWait ctrl.seq)], hi2, Prod.ext rfl ?_, ?_⟩
      · show a'.2 ++ [OOut.cb (.solWait ctrl.seq)] = _
        rw [htx]
      · intro hcomp
        refine ⟨rfl, ⟨a'.1.now + a'.1.cfg.ctimeout, .fromRequest, ?_⟩, hpend', hcfg', hlen' ▸ hbuf, hdb⟩
        show Mode.solWait _ _ _ = _
        rw [hcomp]
        rfl
    · rw [if_neg hc] at hser
      subst hser
      simp only []
      have hp0 : PendOk none a' := Or.inl hpend'
      obtain ⟨_, _, l, hl⟩ := Reach.base (settle_reach hp0 8 (afterRequest (runPass 63) a')
        (run_reach hp0 (.req 63, a') (Star.refl _)))
      refine ⟨i1, i2, _, l, hi2, Prod.ext rfl ?_, ?_⟩
      · show _ = _
        rw [hl, htx]
      · intro hcomp
        rw [hcomp] at hc
        simp at hc

end

open Dnp3.Proofs.C02SeriesMaster
open Dnp3.Pair (masterAddr outstationAddr)

/-- `k` applications of the 4-bit sequence successor -/
def seqAt (e : Nat) : Nat → Nat
  | 0 => e
  | k + 1 => seq4Next (seqAt e k)

theorem seqAt_lt (e : Nat) (h : e < 16) (k : Nat) : seqAt e k < 16 := by
  induction k with
  | zero => exact h
  | succ k ih => exact Frame.seq4Next_lt _ ih

theorem seqAt_succ' (e k : Nat) : seqAt (seq4Next e) k = seqAt e (k + 1) := by
  induction k with
  | zero => rfl
  | succ k ih => simp only [seqAt, ih]

/-- the octets of a fragment of a READ response that carries no events: CON exactly when it is not final -/
def fragOct (fir fin : Bool) (e i1 i2 : Nat) (objs : List Nat) : List Nat :=
  [(⟨fir, fin, !fin, false, e⟩ : AppCtrl).toNat, 0x81, i1, i2] ++ objs

/-- **lock-step exchange of the non-final fragments of a READ response over an ideal wire.**
    `Exchange env who rt o m frag e calls oE mE fragE eE`: the outstation session is in state `o`, the master
    session in state `m`, the fragment `frag` (sequence number `e`) is in flight to the master.  Each round:
    `Master.step` on the fragment makes exactly the handler calls `deliverBegin, calls_k…, deliverEnd` and
    transmits the CONFIRM `[0xC0 + e, 0]`; `Outstation.step` on that CONFIRM transmits the next fragment first
    (the ideal wire hands each transmission to the peer, in order).  After `calls.length` rounds the states
    are `oE`, `mE` and `fragE` (sequence number `eE`) is in flight. -/
inductive Exchange (env : OEnv) (who : Master.Who) (rt : Master.ReadType) :
    OState → Master.MState → List Nat → Nat → List (List Master.MOut) → OState → Master.MState → List Nat → Nat → Prop
  | done (o : OState) (m : Master.MState) (frag : List Nat) (e : Nat) : Exchange env who rt o m frag e [] o m frag e
  | round (o o' oE : OState) (m m' mE : Master.MState) (frag frag' fragE : List Nat) (e eE c i1 i2 : Nat)
      (calls : List Master.MOut) (rest : List (List Master.MOut)) (oo : List OOut) :
      Master.step m (.rx outstationAddr masterAddr frag) =
        (m', [.deliverBegin who rt c i1 i2] ++ calls ++ [.deliverEnd who rt, .tx outstationAddr [0xC0 + e, 0]]) →
      Outstation.step env o (.rx masterAddr outstationAddr [0xC0 + e, 0]) = (o', oo) →
      (txFrags oo).head? = some (masterAddr, frag') →
      Exchange env who rt o' m' frag' (seq4Next e) rest oE mE fragE eE →
      Exchange env who rt o m frag e (calls :: rest) oE mE fragE eE

section
variable (env : OEnv) (cfg : OCfg) (db1 : Db) (t : Master.ReadTask)

/-- what the composition needs of the configuration and of the database after the request's selections -/
structure SeriesCtx : Prop where
  sorted : StaticSorted db1
  unsel : AllUnsel db1
  counters : CountersExact db1
  plain : ∀ o ∈ pending db1 db1.queue, Plain o ∧ o.idx < 65536
  haddr : env.outstation = outstationAddr
  hrx : 2 ≤ env.rx
  hmaster : cfg.anymaster = true ∨ masterAddr = cfg.master
  h4 : 4 ≤ cfg.sol
  hmax : cfg.sol ≤ 2048

variable {env cfg db1}

theorem dbAt_counters (cap : Nat) (db : Db) (h : CountersExact db) (k : Nat) : CountersExact (dbAt cap db k) := by
  induction k with
  | zero => exact h
  | succ k ih => exact counters_step _ .clear (counters_step _ (.write cap) ih)

theorem frag_facts (C : SeriesCtx env cfg db1) (k : Nat) :
    (fragW (cfg.sol - 4) db1 k).2.2.1 = false ∧
    (fragW (cfg.sol - 4) db1 k).2.1 = (fragObjs (cfg.sol - 4) db1 k).flatMap (encodeStatic none) ∧
    (∀ os ∈ fragObjs (cfg.sol - 4) db1 k, ∀ o ∈ os, Plain o ∧ o.idx < 65536) ∧
    CountersExact (dbAt (cfg.sol - 4) db1 k) ∧ CountersExact (fragW (cfg.sol - 4) db1 k).1 ∧
    AllUnsel (fragW (cfg.sol - 4) db1 k).1 ∧
    (fragW (cfg.sol - 4) db1 k).2.1.length ≤ cfg.sol - 4 := by
  obtain ⟨i1, i2, _⟩ := dbAt_inv (cfg.sol - 4) db1 C.sorted C.unsel k
  obtain ⟨w1, w2, w3⟩ := writeResponse_allUnsel (dbAt (cfg.sol - 4) db1 k) (cfg.sol - 4) i2
  have hcnt : CountersExact (dbAt (cfg.sol - 4) db1 k) := dbAt_counters _ _ C.counters k
  refine ⟨w2, w3, ?_, hcnt, counters_step _ (.write (cfg.sol - 4)) hcnt, i2.write _, response_within_capacity _ _⟩
  · intro os hos o ho
    apply C.plain
    obtain ⟨_, _, h3⟩ := dbAt_inv (cfg.sol - 4) db1 C.sorted C.unsel (k + 1)
    rw [← h3]
    apply List.mem_append_left
    rw [List.range_succ, List.flatMap_append]
    apply List.mem_append_right
    simp only [List.flatMap_cons, List.flatMap_nil, List.append_nil]
    exact List.mem_flatten.mpr ⟨os, hos, ho⟩

theorem headerCalls_frag (who : Master.Who) (ws : List (List SObj)) (hp : ∀ os ∈ ws, ∀ o ∈ os, Plain o ∧ o.idx < 65536) :
    ((ws.flatMap runs).map runHdr).flatMap (Dnp3.Proofs.C02Master.headerCalls who) = fragCalls who ws := by
  have h1 := deliver_lists who ws hp (default, [])
  have h2 := C02Master.foldl_deliverHeader_eq who ((ws.flatMap runs).map runHdr) (default, [])
  rw [h1] at h2
  simpa [fragCalls] using (congrArg Prod.snd h2).symm

theorem txFrags_confirmOuts (e : Nat) (c1 c2 c3 : Nat) (dst : Nat) (b : List Nat) (rest : List OOut) :
    (txFrags ([OOut.cb (.solConfirmed e), .cb .beginConfirm] ++ ([] : List Nat).map (fun id => OOut.cb (.eventCleared id)) ++
      [.cb (.endConfirm c1 c2 c3), .tx dst b] ++ rest)).head? = some (dst, b) := by
  simp [txFrags]

theorem one_round (C : SeriesCtx env cfg db1) (k : Nat) (o : OState) (mst : Master.MState) (e i1 i2 : Nat) (isFirst : Bool)
    (ho : OWait cfg o e (fragW (cfg.sol - 4) db1 k).1) (hm : MWait mst outstationAddr t e isFirst)
    (he : e < 16) (hi2 : i2 &&& 7 = 0) :
    ∃ (m' : Master.MState) (o' : OState) (oo : List OOut) (c j1 j2 : Nat), j2 &&& 7 = 0 ∧
      Master.step mst (.rx outstationAddr masterAddr (fragOct isFirst false e i1 i2 (fragW (cfg.sol - 4) db1 k).2.1)) =
        (m', [.deliverBegin (Master.whoOf outstationAddr t) (Master.rtOf t) c i1 i2] ++
          fragCalls (Master.whoOf outstationAddr t) (fragObjs (cfg.sol - 4) db1 k) ++
          [.deliverEnd (Master.whoOf outstationAddr t) (Master.rtOf t), .tx outstationAddr [0xC0 + e, 0]]) ∧
      MWait m' outstationAddr t (seq4Next e) false ∧
      Outstation.step env o (.rx masterAddr outstationAddr [0xC0 + e, 0]) = (o', oo) ∧
      (txFrags oo).head? = some (masterAddr,
        fragOct false (fragW (cfg.sol - 4) db1 (k + 1)).2.2.2 (seq4Next e) j1 j2 (fragW (cfg.sol - 4) db1 (k + 1)).2.1) ∧
      ((fragW (cfg.sol - 4) db1 (k + 1)).2.2.2 = false → OWait cfg o' (seq4Next e) (fragW (cfg.sol - 4) db1 (k + 1)).1) := by
  obtain ⟨f1, f2, f3, _, f5, f6, f7⟩ := frag_facts C k
  obtain ⟨g1, g2, g3, _, g5, _, _⟩ := frag_facts C (k + 1)
  have hctrl : AppCtrl.ofNat (AppCtrl.toNat ⟨isFirst, false, true, false, e⟩) = ⟨isFirst, false, true, false, e⟩ :=
    Dnp3.Proofs.C12.ofNat_toNat isFirst false true false e he
  have hparse : Master.parseRespObjects (fragW (cfg.sol - 4) db1 k).2.1.length (fragW (cfg.sol - 4) db1 k).2.1 =
      some (((fragObjs (cfg.sol - 4) db1 k).flatMap runs).map runHdr) := by
    rw [f2]
    exact parse_lists _ f3 _ (Nat.le_refl _)
  have hmax := C.hmax
  obtain ⟨m', hstep, hm'⟩ := Props.C02.step_read_nonfinal mst outstationAddr t e isFirst _ i1 i2 _ _ hm hctrl hi2 hparse
    (by decide) (by omega)
  rw [headerCalls_frag _ _ f3] at hstep
  obtain ⟨b1, b2, b3, hu, _⟩ := class_bits_exact_of_counters _ g5
  obtain ⟨j1, j2, o', rest, hj2, hos, hnext⟩ := Props.C02.step_confirm env cfg o e (fragW (cfg.sol - 4) db1 k).1 masterAddr outstationAddr
    ho he C.haddr.symm (by decide) C.hrx C.hmaster C.h4 b1 b2 b3 hu
  have hcl := (clearWritten_allUnsel _ f6).2
  have hw : (fragW (cfg.sol - 4) db1 k).1.clearWritten.1.writeResponse (cfg.sol - 4) = fragW (cfg.sol - 4) db1 (k + 1) := rfl
  rw [hw, hcl, g1] at hos
  rw [hw] at hnext
  refine ⟨m', o', _, _, j1, j2, hj2, hstep, hm', hos, ?_, fun h => (hnext h).2⟩
  simp only [Bool.false_or]
  exact txFrags_confirmOuts _ _ _ _ _ _ _

/-- **any number of rounds**: fragment `k` is in flight, fragments `k … k + m - 1` are non-final, fragment
    `n = k + m` is the final one -/
theorem exchange_rounds (C : SeriesCtx env cfg db1) (n : Nat)
    (hnf : ∀ j, j < n → (fragW (cfg.sol - 4) db1 j).2.2.2 = false) (hfin : (fragW (cfg.sol - 4) db1 n).2.2.2 = true)
    (m : Nat) : ∀ (k : Nat) (o : OState) (mst : Master.MState) (e i1 i2 : Nat) (isFirst : Bool), k + m = n →
    ((fragW (cfg.sol - 4) db1 k).2.2.2 = false → OWait cfg o e (fragW (cfg.sol - 4) db1 k).1) →
    MWait mst outstationAddr t e isFirst → e < 16 → i2 &&& 7 = 0 →
    ∃ (oE : OState) (mE : Master.MState) (j1 j2 : Nat), j2 &&& 7 = 0 ∧
      Exchange env (Master.whoOf outstationAddr t) (Master.rtOf t) o mst
        (fragOct isFirst (fragW (cfg.sol - 4) db1 k).2.2.2 e i1 i2 (fragW (cfg.sol - 4) db1 k).2.1) e
        ((List.range' k m).map fun j => fragCalls (Master.whoOf outstationAddr t) (fragObjs (cfg.sol - 4) db1 j))
        oE mE (fragOct (isFirst && decide (m = 0)) true (seqAt e m) j1 j2 (fragW (cfg.sol - 4) db1 n).2.1) (seqAt e m) ∧
      MWait mE outstationAddr t (seqAt e m) (isFirst && decide (m = 0)) := by
  induction m with
  | zero =>
    intro k o mst e i1 i2 isFirst hk _ hm _ hi2
    have hk : k = n := hk
    subst hk
    rw [hfin]
    simp only [decide_true, Bool.and_true]
    exact ⟨o, mst, i1, i2, hi2, .done .., hm⟩
  | succ m ih =>
    intro k o mst e i1 i2 isFirst hk ho hm he hi2
    have hk0 : (fragW (cfg.sol - 4) db1 k).2.2.2 = false := hnf k (by omega)
    obtain ⟨m', o', oo, c, j1, j2, hj2, hms, hm', hos, htx, hnext⟩ :=
      one_round (t := t) C k o mst e i1 i2 isFirst (ho hk0) hm he hi2
    obtain ⟨oE, mE, l1, l2, hl2, hex, hmE⟩ := ih (k + 1) o' m' (seq4Next e) j1 j2 false (by omega) hnext hm'
      (Frame.seq4Next_lt e he) hj2
    rw [seqAt_succ', Bool.false_and] at hex hmE
    rw [hk0]
    simp only [Nat.succ_ne_zero, decide_false, Bool.and_false]
    exact ⟨oE, mE, l1, l2, hl2, .round o o' oE mst m' mE _ _ _ e _ c i1 i2 _ _ oo hms hos htx hex, hmE⟩
end

theorem final_fragment (mE : Master.MState) (t : Master.ReadTask) (e i1 i2 : Nat) (isFirst : Bool) (ws : List (List SObj))
    (hm : MWait mE outstationAddr t e isFirst) (he : e < 16) (hi2 : i2 &&& 7 = 0)
    (hp : ∀ os ∈ ws, ∀ o ∈ os, Plain o ∧ o.idx < 65536) :
    ∃ (A : Master.Acc) (c : Nat),
      Master.onFragment (mE, []) outstationAddr (fragOct isFirst true e i1 i2 (ws.flatMap (encodeStatic none))) =
        .appDone (Master.finishRead A outstationAddr t (.ok e)) outstationAddr t.taskType 1 (.ok e) ∧
      A.2 = [.deliverBegin (Master.whoOf outstationAddr t) (Master.rtOf t) c i1 i2] ++
        fragCalls (Master.whoOf outstationAddr t) ws ++ [.deliverEnd (Master.whoOf outstationAddr t) (Master.rtOf t)] := by
  obtain ⟨⟨dl, hmode⟩, ⟨x, hx, _⟩, _⟩ := hm
  have hctrl : AppCtrl.ofNat (AppCtrl.toNat ⟨isFirst, true, false, false, e⟩) = ⟨isFirst, true, false, false, e⟩ :=
    Dnp3.Proofs.C12.ofNat_toNat isFirst true false false e he
  have hparse := parse_lists ws hp _ (Nat.le_refl _)
  have h := onFragment_read_accept (mE, []) outstationAddr t e dl isFirst _ i1 i2 _ _ true false x hmode hx hctrl
    (.inl rfl) hi2 hparse
  simp only [if_true] at h
  refine ⟨_, (⟨isFirst, true, false, false, e⟩ : AppCtrl).toNat, h, ?_⟩
  rw [acceptedAcc_outs, headerCalls_frag _ _ hp, hctrl]
  simp

/-- the whole step of the master on the final fragment: the handler calls of `final_fragment`, then only outputs that are
    neither deliveries nor CONFIRMs (`QuietOut`: task bookkeeping, the next task's request, …) -/
theorem final_fragment_step (mE : Master.MState) (t : Master.ReadTask) (e i1 i2 : Nat) (isFirst : Bool) (ws : List (List SObj))
    (hm : MWait mE outstationAddr t e isFirst) (he : e < 16) (hi2 : i2 &&& 7 = 0)
    (hp : ∀ os ∈ ws, ∀ o ∈ os, Plain o ∧ o.idx < 65536) (hlen : 4 + (ws.flatMap (encodeStatic none)).length ≤ 2048) :
    ∃ (mF : Master.MState) (c : Nat) (l : List Master.MOut),
      Master.step mE (.rx outstationAddr masterAddr (fragOct isFirst true e i1 i2 (ws.flatMap (encodeStatic none)))) =
        (mF, [.deliverBegin (Master.whoOf outstationAddr t) (Master.rtOf t) c i1 i2] ++
          fragCalls (Master.whoOf outstationAddr t) ws ++ [.deliverEnd (Master.whoOf outstationAddr t) (Master.rtOf t)] ++ l) ∧
      ∀ o ∈ l, Dnp3.Proofs.C02MasterQuiet.QuietOut o := by
  obtain ⟨A, c, hA1, hA2⟩ := final_fragment mE t e i1 i2 isFirst ws hm he hi2 hp
  have hq := Dnp3.Props.C02.master_step_rx_quiet mE outstationAddr
    (fragOct isFirst true e i1 i2 (ws.flatMap (encodeStatic none))) (by decide) rfl
    (by simp only [fragOct, List.cons_append, List.nil_append, List.length_cons]; omega)
  rw [hA1] at hq
  obtain ⟨l, hl, hql⟩ := (Dnp3.Proofs.C02MasterQuiet.Quiet.finishRead A outstationAddr t (.ok e)).trans hq
  refine ⟨_, c, l, Prod.ext rfl ?_, hql⟩
  exact hl.trans (by rw [hA2])

/-- **a class-0 READ answered in ANY number of fragments converges** — the two session models composed over an
    ideal wire (every transmission reaches the peer, in order, before anything else happens: the glue that
    `wire_is_fifo` / `wire_invariant` provide in the pair model, plus "no timer fires, no update, no other
    input", is what this statement assumes instead of deriving it from `Pair.step`).

    Outstation session state `so`: idle, no broadcast to report, buffers as configured, a `pair`
    database (`Class0Db`) with exact counters, no READ in progress (`queue = []`), every event record
    `Unselected`.  The request `req` is a READ whose headers select what `select_class_zero` selects
    (`hsel`; e.g. `[60, 1, 6]`, or the integrity poll `60,2 60,3 60,4 60,1` on an empty event buffer).
    Master session state `sm`: waiting for the first fragment of the answer to that request (`MWait … true`).
    The answer takes `n + 1` fragments (`hnf`, `hfin`: the database's `write_response_headers` is complete
    for the first time at fragment `n`; capacity `cfg.sol - 4`).  Then there are states and IIN octets with:
    1. `Outstation.step` on the request transmits fragment 0 first (FIR, FIN iff `n = 0`, CON iff not FIN);
    2. `n` rounds of `Exchange`: `Master.step` on fragment `k` emits EXACTLY `deliverBegin`, the calls
       `fragCalls (fragObjs k)`, `deliverEnd`, CONFIRM; `Outstation.step` on that CONFIRM transmits fragment `k + 1`
       first;
    3. `Master.step` on fragment `n` emits `deliverBegin`, `fragCalls (fragObjs n)`, `deliverEnd` and then only
       outputs that are neither deliveries nor CONFIRMs (`QuietOut`; the READ task has ended);
    4. the items of all handler calls of all fragments, concatenated, are `(index, wire octets of the CURRENT
       value)` of every binary input, then every analog input — each point exactly once, ascending. -/
theorem _root_.Dnp3.Props.C02.class0_series_converges (env : OEnv) (cfg : OCfg) (so : OState) (next : NextIdle) (sm : Master.MState)
    (t : Master.ReadTask) (req : List Nat) (ctrl : AppCtrl) (hs : List ObjHdr) (raw : List Nat) (n : Nat)
    (hmode : so.mode = .idle next) (hcfg : so.cfg = cfg)
    (hbuf : cfg.sol ≤ so.solBuf.length) (h4 : 4 ≤ cfg.sol) (hmax : cfg.sol ≤ 2048) (hnb : so.lastBroadcast = none)
    (hcnt : CountersExact so.db) (hc0 : Class0Db so.db) (hq : so.db.queue = []) (hu : AllUnsel so.db)
    (haddr : env.outstation = outstationAddr) (hrx : 2 ≤ env.rx) (hlen : req.length ≤ env.rx)
    (hmaster : cfg.anymaster = true ∨ masterAddr = cfg.master)
    (hreq : parseRequest req = .request ctrl 1 (.ok hs) raw) (hseq : ctrl.seq < 16)
    (hsel : dbSelectAll so.db hs = (so.db.selectClass0.1, 0))
    (hm : MWait sm outstationAddr t ctrl.seq true)
    (hnf : ∀ k, k < n → (fragW (cfg.sol - 4) so.db.selectClass0.1 k).2.2.2 = false)
    (hfin : (fragW (cfg.sol - 4) so.db.selectClass0.1 n).2.2.2 = true) :
    let db1 := so.db.selectClass0.1
    let who := Master.whoOf outstationAddr t
    let rt := Master.rtOf t
    let calls := fun k => fragCalls who (fragObjs (cfg.sol - 4) db1 k)
    ∃ (o0 oE : OState) (mE mF : Master.MState) (rest0 : List OOut) (i1 i2 j1 j2 c : Nat) (l : List Master.MOut),
      Outstation.step env so (.rx masterAddr outstationAddr req) =
        (o0, [.tx masterAddr (fragOct true (decide (n = 0)) ctrl.seq i1 i2 (fragW (cfg.sol - 4) db1 0).2.1)] ++ rest0) ∧
      Exchange env who rt o0 sm (fragOct true (decide (n = 0)) ctrl.seq i1 i2 (fragW (cfg.sol - 4) db1 0).2.1) ctrl.seq
        ((List.range n).map calls) oE mE
        (fragOct (decide (n = 0)) true (seqAt ctrl.seq n) j1 j2 (fragW (cfg.sol - 4) db1 n).2.1) (seqAt ctrl.seq n) ∧
      Master.step mE (.rx outstationAddr masterAddr
          (fragOct (decide (n = 0)) true (seqAt ctrl.seq n) j1 j2 (fragW (cfg.sol - 4) db1 n).2.1)) =
        (mF, [.deliverBegin who rt c j1 j2] ++ calls n ++ [.deliverEnd who rt] ++ l) ∧
      (∀ o ∈ l, Dnp3.Proofs.C02MasterQuiet.QuietOut o) ∧
      (List.range (n + 1)).flatMap (fun k => (calls k).flatMap callItems) =
        so.db.bins.map (fun p => (p.1, [p.2.current.wire .binary])) ++
        so.db.ans.map (fun p => (p.1, stObjBytes { idx := p.1, g := 30, v := 1, m := p.2.current })) := by
  dsimp only
  obtain ⟨hpen, hs1, hu1, hc1⟩ := Props.C02.class0_pending so.db hc0 hq hu
  have hcnt1 : CountersExact so.db.selectClass0.1 := select_class0 so.db ▸ counters_step so.db (.select ⟨60, 1, 6, 0, 0⟩) hcnt
  -- from here on the database after the selections is a variable: `fragW … so.db.selectClass0.1 k` would be unfolded
  generalize so.db.selectClass0.1 = db1 at *
  have hplain : ∀ o ∈ pending db1 db1.queue, Plain o ∧ o.idx < 65536 := by
    intro o ho
    rw [hpen] at ho
    rcases List.mem_append.mp ho with ho | ho
    · exact objsOf_plain .binary (.inl rfl) so.db.bins (hc0.2.2.2 .binary) o ho
    · exact objsOf_plain .analog (.inr rfl) so.db.ans (hc0.2.2.2 .analog) o ho
  have C : SeriesCtx env cfg db1 := ⟨hs1, hu1, hcnt1, hplain, haddr, hrx, hmaster, h4, hmax⟩
  have hne : req.isEmpty = false := by
    cases req with
    | nil => simp [parseRequest] at hreq
    | cons _ _ => rfl
  obtain ⟨i1, i2, o0, rest0, hi2, hfirst, hnext0⟩ := Props.C02.step_read_first env cfg so next masterAddr outstationAddr req ctrl hs raw
    hmode hcfg hbuf h4 hnb hcnt haddr.symm (by decide) hne hlen hmaster hreq
  rw [hsel] at hfirst hnext0
  have hw0 : db1.writeResponse (cfg.sol - 4) = fragW (cfg.sol - 4) db1 0 := rfl
  simp only [hw0] at hfirst hnext0
  obtain ⟨f1, _⟩ := frag_facts C 0
  rw [f1] at hfirst
  simp only [Bool.false_or, Nat.zero_or] at hfirst
  have hitems : (List.range (n + 1)).flatMap
        (fun k => (fragCalls (Master.whoOf outstationAddr t) (fragObjs (cfg.sol - 4) db1 k)).flatMap callItems) =
      so.db.bins.map (fun p => (p.1, [p.2.current.wire .binary])) ++
      so.db.ans.map (fun p => (p.1, stObjBytes { idx := p.1, g := 30, v := 1, m := p.2.current })) := by
    simp only [fragCalls_items]
    rw [← List.map_flatMap, Props.C02.series_objects (cfg.sol - 4) db1 hs1 hu1 n hfin, hpen, List.map_append]
    simp only [objsOf, List.map_map]
    rfl
  have hfin0 : (fragW (cfg.sol - 4) db1 0).2.2.2 = decide (n = 0) := by
    cases n with
    | zero => exact hfin
    | succ m => exact hnf 0 (Nat.succ_pos m)
  obtain ⟨oE, mE, j1, j2, hj2, hex, hmE⟩ := exchange_rounds (t := t) C n hnf hfin n 0 o0 sm ctrl.seq i1 i2 true
    (Nat.zero_add n) (fun h => (hnext0 h).2) hm hseq hi2
  rw [← List.range_eq_range', Bool.true_and, hfin0] at hex
  rw [Bool.true_and] at hmE
  rw [hfin0] at hfirst
  obtain ⟨_, f2, f3, _, _, _, f7⟩ := frag_facts C n
  obtain ⟨mF, c, l, hA1, hA2⟩ := final_fragment_step mE t (seqAt ctrl.seq n) j1 j2 (decide (n = 0)) _ hmE
    (seqAt_lt _ hseq _) hj2 f3 (by rw [← f2]; omega)
  rw [← f2] at hA1
  exact ⟨o0, oE, mE, mF, rest0, i1, i2, j1, j2, c, l, hfirst, hex, hA1, hA2, hitems⟩

open Dnp3.Proofs.C02Session in
section

theorem sel_class0 (db : Db) (hc0 : Class0Db db) (hq : db.queue = []) :
    dbSelectAll db [class0Hdr] = (db.selectClass0.1, 0) := by
  obtain ⟨e1, e2⟩ := dbSelectAll_class0 db
  have := selectClass0_iin db hc0.1 hq hc0.2.2.1 hc0.2.1.empty
  exact Prod.ext e1 (by rw [e2, this]; rfl)

/-- the headers of the master's integrity poll: g60v2, g60v3, g60v4, g60v1 (classes 1, 2, 3, 0) -/
def integrityHdrs : List ObjHdr := [⟨60, 2, 0x06, 0, 0, []⟩, ⟨60, 3, 0x06, 0, 0, []⟩, ⟨60, 4, 0x06, 0, 0, []⟩, class0Hdr]

theorem select_evClass_empty (db : Db) (he : db.events = []) (h : ReadHdr) (c : Nat) (lim : Option Nat)
    (hcl : h.classify = .evClass c lim) : db.select h = (db, 0) := by
  unfold Db.select
  rw [hcl]
  simp only [he]
  have : (selectEvents (fun r => r.cls == c) none lim []).1 = [] := by
    cases lim with
    | none => rfl
    | some k => cases k <;> rfl
  rw [this, ← he]

theorem sel_integrity (db : Db) (hc0 : Class0Db db) (hq : db.queue = []) (he : db.events = []) :
    dbSelectAll db integrityHdrs = (db.selectClass0.1, 0) := by
  have h1 : db.select (toReadHdr ⟨60, 2, 0x06, 0, 0, []⟩) = (db, 0) := select_evClass_empty db he _ 1 none (by decide)
  have h2 : db.select (toReadHdr ⟨60, 3, 0x06, 0, 0, []⟩) = (db, 0) := select_evClass_empty db he _ 2 none (by decide)
  have h3 : db.select (toReadHdr ⟨60, 4, 0x06, 0, 0, []⟩) = (db, 0) := select_evClass_empty db he _ 3 none (by decide)
  have h4 := sel_class0 db hc0 hq
  simp only [integrityHdrs, dbSelectAll, h1, h2, h3] at h4 ⊢
  obtain ⟨a, b⟩ := Prod.mk.inj h4
  exact Prod.ext a (by simp only [Nat.zero_or]; exact b)

theorem parseRequest_class0 (e : Nat) (he : e < 16) :
    parseRequest [0xC0 + e, 1, 60, 1, 6] = .request ⟨true, true, false, false, e⟩ 1 (.ok [class0Hdr]) [60, 1, 6] :=
  RequestWire.parseRequest_requestBytes e 1 [60, 1, 6] he (by decide)

theorem parseRequest_integrity (e : Nat) (he : e < 16) :
    parseRequest ([0xC0 + e, 1] ++ Master.classHeaders 15) =
      .request ⟨true, true, false, false, e⟩ 1 (.ok integrityHdrs) (Master.classHeaders 15) :=
  RequestWire.parseRequest_requestBytes e 1 (Master.classHeaders 15) he (by decide)

theorem class0Db_run (n : Nat) (sel : Option Nat) (ops : List DbOp)
    (hops : ∀ op ∈ ops, ∀ t idx cls, op = .add t idx cls → t = .binary ∨ t = .analog) :
    Class0Db (DbProofs.run (Db.new (legacyEv n) sel) ops) :=
  List.foldlRecOn ops DbProofs.step (class0Db_new n sel) fun db h op hop => class0Db_step db op (hops op hop) h

/-- binaries 0, 1, 5 and analog 2, two of them updated (two events buffered, `Unselected`) -/
def exOps : List DbOp := [.add .binary 0 1, .add .binary 1 1, .add .binary 5 0, .add .analog 2 2,
  .update .binary 1 1 1 7, .update .analog 2 (-5) 1 8]
/-- binaries 0, 1, 5 and analog 2 (event buffer: binary and analog inputs, 10 events each), two of them updated -/
def exDb : Db := DbProofs.run (Db.new (legacyEv 10) none) exOps
/-- a 20-octet solicited buffer: 16 octets of objects per fragment -/
def exCfg : OCfg := { sol := 20 }
def exSo : OState := { OState.init exCfg (legacyEv 10) with db := exDb, mode := .idle .untilEvent }
/-- the master waits for the first fragment of the answer to its integrity poll, sequence number 3 -/
def exSm : Master.MState :=
  { assocs := [{ addr := 1024, cfg := {}, seq := 4 }], ring := [1024], mode := .waitRead 1024 (.integrity 15) 3 true 5000, live := 1 }

theorem exOps_ok : ∀ op ∈ exOps, ∀ t idx cls, op = .add t idx cls → t = .binary ∨ t = .analog := by
  intro op h t idx cls e
  subst e
  simp only [exOps, List.mem_cons, List.not_mem_nil, or_false, DbOp.add.injEq, reduceCtorEq] at h
  rcases h with ⟨rfl, _, _⟩ | ⟨rfl, _, _⟩ | ⟨rfl, _, _⟩ | ⟨rfl, _, _⟩
  · exact .inl rfl
  · exact .inl rfl
  · exact .inl rfl
  · exact .inr rfl

/-- every hypothesis of `class0_series_converges` holds for this pair of states, the request READ g60v1 with
    sequence number 3, and `n = 2`: the answer takes three fragments (binaries 0-1 / binary 5 / analog 2) -/
example :
    exSo.mode = .idle .untilEvent ∧ exSo.cfg = exCfg ∧ exCfg.sol ≤ exSo.solBuf.length ∧ 4 ≤ exCfg.sol ∧ exCfg.sol ≤ 2048 ∧
    exSo.lastBroadcast = none ∧ CountersExact exSo.db ∧ Class0Db exSo.db ∧ exSo.db.queue = [] ∧ AllUnsel exSo.db ∧
    ({} : OEnv).outstation = outstationAddr ∧ 2 ≤ ({} : OEnv).rx ∧ [0xC0 + 3, 1, 60, 1, 6].length ≤ ({} : OEnv).rx ∧
    (exCfg.anymaster = true ∨ masterAddr = exCfg.master) ∧
    parseRequest [0xC0 + 3, 1, 60, 1, 6] = .request ⟨true, true, false, false, 3⟩ 1 (.ok [class0Hdr]) [60, 1, 6] ∧
    dbSelectAll exSo.db [class0Hdr] = (exSo.db.selectClass0.1, 0) ∧
    MWait exSm outstationAddr (.integrity 15) 3 true ∧
    (∀ k, k < 2 → (fragW (exCfg.sol - 4) exSo.db.selectClass0.1 k).2.2.2 = false) ∧
    (fragW (exCfg.sol - 4) exSo.db.selectClass0.1 2).2.2.2 = true ∧
    (List.range 3).map (fun k => (fragObjs (exCfg.sol - 4) exSo.db.selectClass0.1 k).flatten.map (fun o => (o.g, o.idx))) =
      [[(1, 0), (1, 1)], [(1, 5)], [(30, 2)]] := by
  have hc0 : Class0Db exSo.db := class0Db_run 10 none exOps exOps_ok
  refine ⟨rfl, rfl, by decide, by decide, by decide, rfl, counters_run _ _ (new_counters _ _), hc0, by decide, by unfold AllUnsel; decide,
    rfl, by decide, by decide, .inr rfl, parseRequest_class0 3 (by decide), sel_class0 _ hc0 (by decide),
    ⟨⟨5000, rfl⟩, ⟨_, rfl, rfl⟩, by decide⟩, ?_, by decide +kernel, by decide +kernel⟩
  intro k hk
  have : k = 0 ∨ k = 1 := by omega
  rcases this with rfl | rfl <;> decide +kernel
end

end Dnp3.Proofs.C02Series
