import Dnp3.Proofs.PanicClass
import Dnp3.Proofs.NoPanicLink
import Dnp3.Proofs.NoPanicOutstation
import Dnp3.Proofs.NoPanicOutstationDb
import Dnp3.Props.C09
/-!
# C01 — Bytes from the peer can never crash or wedge a master or an outstation

"Whatever bytes a remote peer sends, in whatever chunking and in whatever protocol state, to a
master or an outstation - at any decode/log level and with any legal buffer-size configuration -
the endpoint's task never panics (including arithmetic overflow), never spins or stalls, and either
keeps serving (a following well-formed request is handled normally) or, where the configured link
error mode says so, ends that session cleanly and serves the next one."

Three kinds of obligations (outstation role and the shared link / transport / parse layers; the
master role is the master engine's):

1. **Panic-site inventory** (translator tie).  `Gen.panicSites` is regenerated from the source on
   every run (tools/gen_panic_sites.py): every `unwrap` / `expect` / panic-family macro / index
   expression / panicking slice call / arithmetic operator of the non-test code of C01's anchor
   files (+ the peer-reachable helper modules they call).  `classified` below is the HAND-WRITTEN
   classification of every site, made by reading the site; `all_sites_classified` proves that no
   generated site is missing from it.  A new panicking construct in those files produces a key
   that is not in the table and breaks the obligation.
2. **No-panic / no-spin theorems** over the models (the models are total functions in which Rust
   panics are explicit values, so "no panic" is a statement and "no spin" is: no loop depends on
   its fuel).  Proofs in `Proofs/NoPanicLink.lean`, `Proofs/NoPanicOutstation.lean` and
   `Proofs/NoPanicOutstationDb.lean`.
3. No exception is left on the outstation side: `outstation_step_no_panic` holds for every state of every
   trace from construction and every input.  Repaired: D1 (OPERATE echo larger than the solicited buffer:
   `handle_operate` keeps the `Result` of its echo writers like `handle_select` / `handle_direct_operate`; the
   witness is answered, `outstation_former_d1_witness_answered`), D2 (`RangedBytesIterator` index
   overflow, `fix:` 320622f) and D3 (event-counter underflow: `EventBuffer::insert` takes a discarded
   `Written` record out of `written` too; `no_counter_underflow`); regression corpus for all three.
-/
namespace Dnp3.Props.C01
open Dnp3 Dnp3.App Dnp3.Proofs.NoPanicLink Dnp3.Proofs.NoPanicOutstation Dnp3.PanicInventory

/-- The classification.  One line of justification per site; produced by reading each site in
    the Rust source.  `python3 tools/gen_panic_sites.py` prints the inventory
    with line numbers for whoever has to extend it. -/
def classified : List Entry := [
  -- link/parser.rs
  ⟨3807060755051516831, "link/parser.rs|FramePayload::get|index|&self.buffer[0..self.length]|0",
    .cannotFail "FramePayload.length only grows in push() after np_get_mut(length..length+n) succeeded, so length <= 250 = buffer size"⟩,
  ⟨5238981831316108664, "link/parser.rs|FramePayload::push|arith|let dest = buff.np_get_mut(self.length..self.length + data.len())?;|0",
    .cannotFail "length <= 250 and data.len() <= 16 (one CRC block): usize addition far from overflow; the range itself is checked by np_get_mut (error, not panic)"⟩,
  ⟨470157485628353806, "link/parser.rs|FramePayload::push|call|dest.copy_from_slice(data);|0",
    .cannotFail "dest is the sub-slice length..length+data.len(): same length as data by construction"⟩,
  ⟨11591749515403122812, "link/parser.rs|FramePayload::push|arith|self.length += data.len();|0",
    .cannotFail "only reached after np_get_mut accepted length+data.len() <= 250"⟩,
  ⟨12296436411710567350, "link/parser.rs|Parser::calc_trailer_length|arith|let div16: usize = data_length as usize / constant::MAX_BLOCK_SIZE;|0",
    .cannotFail "division / remainder by the non-zero constant MAX_BLOCK_SIZE = 16"⟩,
  ⟨7930543168475520003, "link/parser.rs|Parser::calc_trailer_length|arith|let mod16: usize = data_length as usize % constant::MAX_BLOCK_SIZE;|0",
    .cannotFail "division / remainder by the non-zero constant MAX_BLOCK_SIZE = 16"⟩,
  ⟨11455559789611495133, "link/parser.rs|Parser::calc_trailer_length|arith|div16 * constant::MAX_BLOCK_SIZE_WITH_CRC|0",
    .cannotFail "data_length is a u8: div16 <= 15, result <= 15*18+15+2 = 287 in usize (modelled: calcTrailerLength, Proofs.LinkReader.calcTrailerLength_le)"⟩,
  ⟨5373680821981674908, "link/parser.rs|Parser::calc_trailer_length|arith|(div16 * constant::MAX_BLOCK_SIZE_WITH_CRC) + mod16 + constant::CRC_LENGTH|0",
    .cannotFail "data_length is a u8: div16 <= 15, result <= 15*18+15+2 = 287 in usize (modelled: calcTrailerLength, Proofs.LinkReader.calcTrailerLength_le)"⟩,
  ⟨5373681921493303119, "link/parser.rs|Parser::calc_trailer_length|arith|(div16 * constant::MAX_BLOCK_SIZE_WITH_CRC) + mod16 + constant::CRC_LENGTH|1",
    .cannotFail "data_length is a u8: div16 <= 15, result <= 15*18+15+2 = 287 in usize (modelled: calcTrailerLength, Proofs.LinkReader.calcTrailerLength_le)"⟩,
  ⟨5373683021004931330, "link/parser.rs|Parser::calc_trailer_length|arith|(div16 * constant::MAX_BLOCK_SIZE_WITH_CRC) + mod16 + constant::CRC_LENGTH|2",
    .cannotFail "data_length is a u8: div16 <= 15, result <= 15*18+15+2 = 287 in usize (modelled: calcTrailerLength, Proofs.LinkReader.calcTrailerLength_le)"⟩,
  ⟨15813380097392263417, "link/parser.rs|Parser::parse_header|arith|let trailer_length = Self::calc_trailer_length(len - 5);|0",
    .cannotFail "guarded three lines above by `if len < 5 { return Err(BadLength) }` (modelled: parseHeader)"⟩,
  ⟨2569412818115770492, "link/parser.rs|Parser::parse_body|arith|let data_len = block.len() - 2;|0",
    .cannotFail "guarded by `if block.len() < 3 { return Err(BadSize) }` (modelled: checkBody)"⟩,
  -- link/reader.rs
  ⟨12666120231284939945, "link/reader.rs|num_link_frames|arith|let full_link_frames = fragment_size / link::constant::MAX_APP_BYTES_PER_FRAME;|0",
    .notPeerReachable "const fn on the configured rx buffer size, evaluated at construction; division by the constant 249"⟩,
  ⟨15176722692765574303, "link/reader.rs|num_link_frames|arith|if fragment_size % link::constant::MAX_APP_BYTES_PER_FRAME == 0 {|0",
    .notPeerReachable "const fn on the configured rx buffer size, evaluated at construction; division by the constant 249"⟩,
  ⟨325389602086435679, "link/reader.rs|num_link_frames|arith|full_link_frames + 1|0",
    .notPeerReachable "const fn on the configured rx buffer size (BufferSize <= 2048 -> at most 9*292+1), evaluated at construction"⟩,
  ⟨10048095785069917808, "link/reader.rs|read_buffer_size|arith|num_frames * link::constant::MAX_LINK_FRAME_LENGTH|0",
    .notPeerReachable "const fn on the configured rx buffer size (BufferSize <= 2048 -> at most 9*292+1), evaluated at construction"⟩,
  ⟨10989940194746184472, "link/reader.rs|read_buffer_size|arith|size + 1|0",
    .notPeerReachable "const fn on the configured rx buffer size (BufferSize <= 2048 -> at most 9*292+1), evaluated at construction"⟩,
  ⟨13215125243971278051, "link/reader.rs|ReadBuffer::shift_unread_bytes|arith|self.end -= self.begin;|0",
    .modelled "Dnp3.Props.C01.link_reader_buffer_invariant"⟩,
  ⟨11372313148771744447, "link/reader.rs|ReadBuffer::writable|index|self.buffer[self.end..].as_mut()|0",
    .modelled "Dnp3.Props.C01.link_reader_buffer_invariant"⟩,
  ⟨9598146176293752945, "link/reader.rs|ReadBuffer::readable|index|self.buffer[self.begin..self.end].as_ref()|0",
    .modelled "Dnp3.Props.C01.link_reader_buffer_invariant"⟩,
  ⟨2819869932810828309, "link/reader.rs|ReadBuffer::advance_write|arith|self.end += count;|0",
    .modelled "Dnp3.Props.C01.link_reader_buffer_invariant"⟩,
  ⟨12229279695234053310, "link/reader.rs|ReadBuffer::advance_read|arith|self.begin += count;|0",
    .modelled "Dnp3.Props.C01.link_reader_buffer_invariant"⟩,
  ⟨9529611901444791083, "link/reader.rs|ReadBuffer::num_bytes_unread|arith|self.end - self.begin|0",
    .modelled "Dnp3.Props.C01.link_reader_buffer_invariant"⟩,
  -- transport/real/assembler.rs
  ⟨4474619802367335748, "transport/real/assembler.rs|Assembler::peek|expect|.expect(\"tracking size greater than buffer size\");|0",
    .modelled "Dnp3.Props.C01.transport_no_panic"⟩,
  ⟨915219422051606090, "transport/real/assembler.rs|Assembler::pop|expect|.expect(\"tracking size greater than buffer size\");|0",
    .modelled "Dnp3.Props.C01.transport_no_panic"⟩,
  ⟨5802156556514683286, "transport/real/assembler.rs|Assembler::append|arith|let new_length = acc_length + data.len();|0",
    .cannotFail "acc_length <= buffer size <= 2048 (assembler invariant, Dnp3.Props.C01.transport_no_panic) and data.len() <= 249: usize addition cannot overflow"⟩,
  ⟨17961820045524477350, "transport/real/assembler.rs|Assembler::append|expect|.expect(\"accumulated length is greater than the buffer size\");|0",
    .modelled "Dnp3.Props.C01.transport_no_panic"⟩,
  -- app/parse/bytes.rs
  ⟨18253301003319400014, "app/parse/bytes.rs|RangedBytesSequence::parse|arith|bytes: cursor.read_bytes(variation as usize * count)?,|0",
    .cannotFail "variation is a u8 and count <= 65536 (Range::count): product < 2^24 in usize"⟩,
  ⟨2920238119271707184, "app/parse/bytes.rs|PrefixedBytesSequence::parse|arith|let size = (variation as usize + T::SIZE as usize) * count as usize;|0",
    .cannotFail "(255 + 2) * 65535 < 2^25 in usize"⟩,
  ⟨2920239218783335395, "app/parse/bytes.rs|PrefixedBytesSequence::parse|arith|let size = (variation as usize + T::SIZE as usize) * count as usize;|1",
    .cannotFail "(255 + 2) * 65535 < 2^25 in usize"⟩,
  ⟨18056657054454993782, "app/parse/bytes.rs|RangedBytesIterator::next|arith|self.index += 1;|0",
    .modelled "Dnp3.Props.C01.iter_no_panic"⟩,
  ⟨16525779224071103624, "app/parse/bytes.rs|RangedBytesIterator::next|arith|self.remaining -= 1;|0",
    .cannotFail "guarded by `if self.remaining == 0 { return None }` at the top of next()"⟩,
  ⟨3579415639492225374, "app/parse/bytes.rs|PrefixedBytesIterator::next|arith|self.remaining -= 1;|0",
    .cannotFail "guarded by `if self.remaining == 0 { return None }` at the top of next()"⟩,
  -- app/parse/bit.rs
  ⟨11274806510928485147, "app/parse/bit.rs|BitIterator::next|arith|let byte = self.pos / 8;|0",
    .cannotFail "division / remainder by a non-zero literal"⟩,
  ⟨10136954743875432880, "app/parse/bit.rs|BitIterator::next|arith|let bit = (self.pos % 8) as u8;|0",
    .cannotFail "division / remainder by a non-zero literal"⟩,
  ⟨8613688861053436595, "app/parse/bit.rs|BitIterator::next|arith|self.pos += 1;|0",
    .cannotFail "reached only when pos < count <= 65536 (usize)"⟩,
  ⟨9748120647840567409, "app/parse/bit.rs|BitIterator::next|arith|self.index += 1;|0",
    .modelled "Dnp3.Props.C01.iter_no_panic"⟩,
  ⟨12598748669258966555, "app/parse/bit.rs|BitIterator::size_hint|arith|let count = self.count - self.pos;|0",
    .cannotFail "pos is incremented only while pos < count, so pos <= count"⟩,
  ⟨1158338633521101354, "app/parse/bit.rs|DoubleBitIterator::next|arith|let byte = self.pos / 4;|0",
    .cannotFail "division / remainder by a non-zero literal"⟩,
  ⟨10206121065901006612, "app/parse/bit.rs|DoubleBitIterator::next|arith|let shift = 2 * (self.pos % 4) as u8;|0",
    .cannotFail "(pos % 4) <= 3, so 2 * that <= 6 in u8"⟩,
  ⟨10206122165412634823, "app/parse/bit.rs|DoubleBitIterator::next|arith|let shift = 2 * (self.pos % 4) as u8;|1",
    .cannotFail "(pos % 4) <= 3, so 2 * that <= 6 in u8"⟩,
  ⟨12741737722389169314, "app/parse/bit.rs|DoubleBitIterator::next|arith|self.pos += 1;|0",
    .cannotFail "reached only when pos < count <= 65536 (usize)"⟩,
  ⟨6073363619832693980, "app/parse/bit.rs|DoubleBitIterator::next|arith|self.index += 1;|0",
    .modelled "Dnp3.Props.C01.iter_no_panic"⟩,
  ⟨7840199538604929320, "app/parse/bit.rs|DoubleBitIterator::size_hint|arith|let count = self.count - self.pos;|0",
    .cannotFail "pos is incremented only while pos < count, so pos <= count"⟩,
  -- app/parse/range.rs
  ⟨10497304588360041706, "app/parse/range.rs|Range::from|arith|count: stop as usize - start as usize + 1,|0",
    .cannotFail "`if stop < start { return Err }` precedes; stop - start + 1 <= 65536 in usize"⟩,
  ⟨10497305687871669917, "app/parse/range.rs|Range::from|arith|count: stop as usize - start as usize + 1,|1",
    .cannotFail "`if stop < start { return Err }` precedes; stop - start + 1 <= 65536 in usize"⟩,
  ⟨2190040945783957450, "app/parse/range.rs|RangedSequence::parse|arith|let num_bytes = T::SIZE as usize * range.count;|0",
    .cannotFail "SIZE is a u8 and count <= 65536: product < 2^24 in usize"⟩,
  -- app/attr.rs
  ⟨5010995348304410411, "app/attr.rs|AttrValue::parse|arith|let len = len as u16 + 256;|0",
    .cannotFail "len is a u8 widened to u16: at most 255 + 256 = 511"⟩,
  ⟨6579402504035627603, "app/attr.rs|AttrValue::parse_attr_list|arith|if len % 2 != 0 {|0",
    .cannotFail "remainder by the literal 2"⟩,
  -- outstation/session.rs
  ⟨14584061169224622313, "outstation/session.rs|RetryCounter::decrement|arith|self.retries = Some(x - 1);|0",
    .cannotFail "inside `if x == 0 {..} else {..}`: x >= 1 (modelled: unsolWaitTimeout)"⟩,
  ⟨16180221405612582719, "outstation/session.rs|OutstationSession::new|arith|.map(|delay| tokio::time::Instant::now() + delay);|0",
    .notPeerReachable "tokio Instant + configured Duration (keep-alive timeout / unsolicited retry delay): configuration values, no peer octet flows into them"⟩,
  ⟨3521502236005505756, "outstation/session.rs|OutstationSession::repeat_unsolicited|unwrap|self.unsol_tx_buffer.get(len).unwrap(),|0",
    .cannotFail "len = max(4, response.size) where response.size was cursor.written().len() of the same tx buffer (>= 249 octets): get(len) is Some (modelled: repeatSolicited / repeatUnsolicited take `buf.take len`)"⟩,
  ⟨14171960156873176696, "outstation/session.rs|OutstationSession::repeat_solicited|unwrap|self.sol_tx_buffer.get(len).unwrap(),|0",
    .cannotFail "len = max(4, response.size) where response.size was cursor.written().len() of the same tx buffer (>= 249 octets): get(len) is Some (modelled: repeatSolicited / repeatUnsolicited take `buf.take len`)"⟩,
  ⟨10660676711384924138, "outstation/session.rs|OutstationSession::handle_delay_measure|unwrap|writer.write_count_of_one(g52v2).unwrap();|0",
    .cannotFail "one count-of-one g52 object (4 + 3 + 1 + 2 = 10 octets) into a solicited buffer of at least 249 octets (BufferSize::MIN)"⟩,
  ⟨3761973965013362207, "outstation/session.rs|OutstationSession::handle_restart|unwrap|.unwrap();|0",
    .cannotFail "one count-of-one g52 object (4 + 3 + 1 + 2 = 10 octets) into a solicited buffer of at least 249 octets (BufferSize::MIN)"⟩,
  ⟨3761972865501733996, "outstation/session.rs|OutstationSession::handle_restart|unwrap|.unwrap();|1",
    .cannotFail "one count-of-one g52 object (4 + 3 + 1 + 2 = 10 octets) into a solicited buffer of at least 249 octets (BufferSize::MIN)"⟩,
  ⟨7133588084577880745, "outstation/session.rs|OutstationSession::new_unsolicited_retry_deadline|arith|tokio::time::Instant::now() + self.config.unsolicited_retry_delay|0",
    .notPeerReachable "tokio Instant + configured Duration (keep-alive timeout / unsolicited retry delay): configuration values, no peer octet flows into them"⟩,
  ⟨12062078765128114833, "outstation/session.rs|OutstationSession::on_link_activity|arith|.map(|timeout| tokio::time::Instant::now() + timeout);|0",
    .notPeerReachable "tokio Instant + configured Duration (keep-alive timeout / unsolicited retry delay): configuration values, no peer octet flows into them"⟩,
  -- outstation/control/collection.rs
  ⟨11906242098320282647, "outstation/control/collection.rs|select_header_with_response|arith|*num_controls += 1;|0",
    .cannotFail "usize counter of control objects in ONE request fragment (<= rx buffer size / 4 objects)"⟩,
  ⟨16147381315210655641, "outstation/control/collection.rs|operate_header_with_response|arith|*num_controls += 1;|0",
    .cannotFail "usize counter of control objects in ONE request fragment (<= rx buffer size / 4 objects)"⟩,
  ⟨10894455898977512418, "outstation/control/collection.rs|operate_header_no_ack|arith|*num_controls += 1;|0",
    .cannotFail "usize counter of control objects in ONE request fragment (<= rx buffer size / 4 objects)"⟩,
  -- outstation/database/details/event/buffer.rs
  ⟨17614748597320251592, "outstation/database/details/event/buffer.rs|Count::subtract|arith|value: self.value - other.value,|0",
    .modelled "Dnp3.Props.C01.no_counter_underflow"⟩,
  ⟨16230468875009351846, "outstation/database/details/event/buffer.rs|Count::increment|arith|self.value += 1;|0",
    .cannotFail "usize count of events held per class / type: bounded by the configured buffer sizes (u16 each)"⟩,
  ⟨13793723387269476396, "outstation/database/details/event/buffer.rs|Count::decrement|arith|self.value -= 1;|0",
    .cannotFail "called only for a record that is being removed from the list: on `total`, which counts the records in the list (>= 1), and (since the repair of D3, in EventBuffer::insert) on `written` only when the removed record is Written, which `written` counts (>= 1) (modelled: Dnp3.Props.Db.discard_decrements_no_underflow, Dnp3.Props.Db.counters_exact)"⟩,
  ⟨10237107360862332229, "outstation/database/details/event/buffer.rs|EventBuffer::insert|arith|self.next += 1;|0",
    .cannotFail "u64 event id: 2^64 insertions"⟩,
  ⟨16911464063772489611, "outstation/database/details/event/buffer.rs|EventBuffer::write_events|arith|count += 1;|0",
    .cannotFail "usize loop counter bounded by the number of stored events"⟩,
  ⟨13209512251926144434, "outstation/database/details/event/buffer.rs|EventBuffer::select|arith|count += 1;|0",
    .cannotFail "usize loop counter bounded by the number of stored events"⟩,
  -- master/association.rs
  ⟨4198987275041778665, "master/association.rs|AutoTaskState::failure|arith|Self::Failed(backoff.clone(), Instant::now() + delay)|0",
    .notPeerReachable "Instant + back-off delay bounded by the configured retry strategy (master configuration; master role is covered by the master engine)"⟩,
  ⟨17800554782521471733, "master/association.rs|AutoTaskState::failure|arith|Self::Failed(backoff, Instant::now() + delay)|0",
    .notPeerReachable "Instant + back-off delay bounded by the configured retry strategy (master configuration; master role is covered by the master engine)"⟩,
  ⟨15795052552842880550, "master/association.rs|Association::new|arith|next_link_status_deadline: config.keep_alive_timeout.map(|delay| now + delay),|0",
    .notPeerReachable "Instant + configured keep-alive timeout (master configuration)"⟩,
  ⟨11036248780006299349, "master/association.rs|Association::on_link_activity|arith|.map(|timeout| Instant::now() + timeout)|0",
    .notPeerReachable "Instant + configured keep-alive timeout (master configuration)"⟩,
  -- link/format.rs
  ⟨7624813319491707889, "link/format.rs|format_header_fixed_size|index|buffer[0] = constant::START1;|0",
    .cannotFail "constant index < 10 into `&mut [u8; LINK_HEADER_LENGTH]` (LINK_HEADER_LENGTH = 10), checked by rustc for array types"⟩,
  ⟨11852395761527032687, "link/format.rs|format_header_fixed_size|index|buffer[1] = constant::START2;|0",
    .cannotFail "constant index < 10 into `&mut [u8; LINK_HEADER_LENGTH]` (LINK_HEADER_LENGTH = 10), checked by rustc for array types"⟩,
  ⟨4770724976918290993, "link/format.rs|format_header_fixed_size|index|buffer[2] = 5;|0",
    .cannotFail "constant index < 10 into `&mut [u8; LINK_HEADER_LENGTH]` (LINK_HEADER_LENGTH = 10), checked by rustc for array types"⟩,
  ⟨2911799893992919011, "link/format.rs|format_header_fixed_size|index|buffer[3] = header.control.to_u8();|0",
    .cannotFail "constant index < 10 into `&mut [u8; LINK_HEADER_LENGTH]` (LINK_HEADER_LENGTH = 10), checked by rustc for array types"⟩,
  ⟨3625321716730088381, "link/format.rs|format_header_fixed_size|index|buffer[4] = d1;|0",
    .cannotFail "constant index < 10 into `&mut [u8; LINK_HEADER_LENGTH]` (LINK_HEADER_LENGTH = 10), checked by rustc for array types"⟩,
  ⟨4931399729623687859, "link/format.rs|format_header_fixed_size|index|buffer[5] = d2;|0",
    .cannotFail "constant index < 10 into `&mut [u8; LINK_HEADER_LENGTH]` (LINK_HEADER_LENGTH = 10), checked by rustc for array types"⟩,
  ⟨16029474365421029538, "link/format.rs|format_header_fixed_size|index|buffer[6] = s1;|0",
    .cannotFail "constant index < 10 into `&mut [u8; LINK_HEADER_LENGTH]` (LINK_HEADER_LENGTH = 10), checked by rustc for array types"⟩,
  ⟨392808578541245340, "link/format.rs|format_header_fixed_size|index|buffer[7] = s2;|0",
    .cannotFail "constant index < 10 into `&mut [u8; LINK_HEADER_LENGTH]` (LINK_HEADER_LENGTH = 10), checked by rustc for array types"⟩,
  ⟨10719147567330668124, "link/format.rs|format_header_fixed_size|index|let (c1, c2) = to_le(calc_crc(&buffer[0..8]));|0",
    .cannotFail "constant index < 10 into `&mut [u8; LINK_HEADER_LENGTH]` (LINK_HEADER_LENGTH = 10), checked by rustc for array types"⟩,
  ⟨16967596800532462644, "link/format.rs|format_header_fixed_size|index|buffer[8] = c1;|0",
    .cannotFail "constant index < 10 into `&mut [u8; LINK_HEADER_LENGTH]` (LINK_HEADER_LENGTH = 10), checked by rustc for array types"⟩,
  ⟨13071398527317222226, "link/format.rs|format_header_fixed_size|index|buffer[9] = c2;|0",
    .cannotFail "constant index < 10 into `&mut [u8; LINK_HEADER_LENGTH]` (LINK_HEADER_LENGTH = 10), checked by rustc for array types"⟩,
  ⟨8137305827930858733, "link/format.rs|format_frame::format_payload|arith|.np_split_at_no_error(constant::MAX_BLOCK_SIZE - 1);|0",
    .cannotFail "constants: MAX_BLOCK_SIZE - 1 = 15"⟩,
  ⟨17977029768937546828, "link/format.rs|format_frame|arith|payload.app_data.len() as u8 + constant::MIN_HEADER_LENGTH_VALUE + 1|0",
    .cannotFail "guarded by `if payload.app_data.len() > MAX_APP_BYTES_PER_FRAME (249) { return Err }`: 249 + 5 + 1 = 255 fits u8"⟩,
  ⟨17977030868449175039, "link/format.rs|format_frame|arith|payload.app_data.len() as u8 + constant::MIN_HEADER_LENGTH_VALUE + 1|1",
    .cannotFail "guarded by `if payload.app_data.len() > MAX_APP_BYTES_PER_FRAME (249) { return Err }`: 249 + 5 + 1 = 255 fits u8"⟩,
  -- link/crc.rs
  ⟨5041140852783526284, "link/crc.rs|crc_increment|index|acc = CRC_TABLE[index] ^ (acc >> 8)|0",
    .cannotFail "index = (u8 ^ u8) as usize < 256 = CRC_TABLE.len() (Proofs.LinkParser.crcTable_size)"⟩,
  -- transport/real/writer.rs
  ⟨6809008349068894888, "transport/real/writer.rs|Writer::write|arith|chunks.len() - 1|0",
    .cannotFail "inside the else branch of `if chunks.len() == 0`"⟩,
  -- transport/real/sequence.rs
  ⟨8526463320880134315, "transport/real/sequence.rs|Sequence::calc_next|arith|value + 1|0",
    .cannotFail "inside the else branch of `if value == MAX_VALUE (63)`"⟩,
  -- app/sequence.rs
  ⟨14752895933946613712, "app/sequence.rs|Sequence::calc_next|arith|value + 1|0",
    .cannotFail "inside the else branch of `if value == MAX_VALUE (15)`"⟩,
  -- app/parse/traits.rs
  ⟨14070574708522644059, "app/parse/traits.rs|u8::next|arith|self + 1|0",
    .notPeerReachable "only callers: one() and the outstation PrefixWriter, which starts at one() and calls next() once per further echoed item of ONE request header, whose count field is the same width (<= 255 / 65535 items): no overflow; the master-side writer HeaderWriter::write_prefixed_items counts with checked_next() since the repair of D17 (C09) and no longer reaches this site"⟩,
  ⟨18046147020626651638, "app/parse/traits.rs|u16::next|arith|self + 1|0",
    .notPeerReachable "only callers: one() and the outstation PrefixWriter, which starts at one() and calls next() once per further echoed item of ONE request header, whose count field is the same width (<= 255 / 65535 items): no overflow; the master-side writer HeaderWriter::write_prefixed_items counts with checked_next() since the repair of D17 (C09) and no longer reaches this site"⟩,
  -- app/parse/count.rs
  ⟨10229195354683010637, "app/parse/count.rs|CountSequence::parse|arith|let num_bytes = T::SIZE as usize * count as usize;|0",
    .cannotFail "SIZE is a u8 and count a u16: product < 2^24 in usize"⟩,
  -- app/format/write.rs
  ⟨608490658271417086, "app/format/write.rs|HeaderWriter::write_free_format|arith|let length = crate::app::format::to_u16(self.cursor.position() - object_start)?;|0",
    .cannotFail "cursor position only grows between the two reads (object_start was read before value.write)"⟩,
  -- util/bit.rs
  ⟨1774453919388974205, "util/bit.rs|format_bitfield|index|push(f, prev, names[0])?;|0",
    .cannotFail "constant index < 8 into `[&'static str; 8]`, checked by rustc for array types"⟩,
  ⟨9756096302916840974, "util/bit.rs|format_bitfield|index|push(f, prev, names[1])?;|0",
    .cannotFail "constant index < 8 into `[&'static str; 8]`, checked by rustc for array types"⟩,
  ⟨5947580382733461287, "util/bit.rs|format_bitfield|index|push(f, prev, names[2])?;|0",
    .cannotFail "constant index < 8 into `[&'static str; 8]`, checked by rustc for array types"⟩,
  ⟨5891067625351217784, "util/bit.rs|format_bitfield|index|push(f, prev, names[3])?;|0",
    .cannotFail "constant index < 8 into `[&'static str; 8]`, checked by rustc for array types"⟩,
  ⟨608716688972006545, "util/bit.rs|format_bitfield|index|push(f, prev, names[4])?;|0",
    .cannotFail "constant index < 8 into `[&'static str; 8]`, checked by rustc for array types"⟩,
  ⟨10756197937195253474, "util/bit.rs|format_bitfield|index|push(f, prev, names[5])?;|0",
    .cannotFail "constant index < 8 into `[&'static str; 8]`, checked by rustc for array types"⟩,
  ⟨2637155399388282443, "util/bit.rs|format_bitfield|index|push(f, prev, names[6])?;|0",
    .cannotFail "constant index < 8 into `[&'static str; 8]`, checked by rustc for array types"⟩,
  ⟨3910194043922250652, "util/bit.rs|format_bitfield|index|push(f, prev, names[7])?;|0",
    .cannotFail "constant index < 8 into `[&'static str; 8]`, checked by rustc for array types"⟩,
  -- outstation/database/mod.rs
  ⟨1551951540285066236, "outstation/database/mod.rs|EventBufferConfig::max_events|arith|+ self.max_double_binary as usize|0",
    .notPeerReachable "sum of eight configured u16 limits in usize, at construction"⟩,
  ⟨5203261352955377877, "outstation/database/mod.rs|EventBufferConfig::max_events|arith|+ self.max_binary_output_status as usize|0",
    .notPeerReachable "sum of eight configured u16 limits in usize, at construction"⟩,
  ⟨3707579468392824989, "outstation/database/mod.rs|EventBufferConfig::max_events|arith|+ self.max_counter as usize|0",
    .notPeerReachable "sum of eight configured u16 limits in usize, at construction"⟩,
  ⟨3482436084091138332, "outstation/database/mod.rs|EventBufferConfig::max_events|arith|+ self.max_frozen_counter as usize|0",
    .notPeerReachable "sum of eight configured u16 limits in usize, at construction"⟩,
  ⟨11132348028617418291, "outstation/database/mod.rs|EventBufferConfig::max_events|arith|+ self.max_analog as usize|0",
    .notPeerReachable "sum of eight configured u16 limits in usize, at construction"⟩,
  ⟨15968306888718331834, "outstation/database/mod.rs|EventBufferConfig::max_events|arith|+ self.max_analog_output_status as usize|0",
    .notPeerReachable "sum of eight configured u16 limits in usize, at construction"⟩,
  ⟨12377948277987063904, "outstation/database/mod.rs|EventBufferConfig::max_events|arith|+ self.max_octet_string as usize|0",
    .notPeerReachable "sum of eight configured u16 limits in usize, at construction"⟩,
  ⟨1739985423053919868, "outstation/database/mod.rs|DatabaseHandle::transaction|unwrap|let mut db = self.inner.lock().unwrap();|0",
    .notPeerReachable "Mutex::lock().unwrap(): fails only if another thread panicked while holding the database lock (poisoning) - a consequence of an earlier panic (e.g. D3 inside the task), never its cause"⟩,
  ⟨12481562563912549729, "outstation/database/mod.rs|DatabaseHandle::clear_written_events|unwrap|let state = self.inner.lock().unwrap().inner.clear_written_events(app);|0",
    .notPeerReachable "Mutex::lock().unwrap(): fails only if another thread panicked while holding the database lock (poisoning) - a consequence of an earlier panic (e.g. D3 inside the task), never its cause"⟩,
  ⟨9268737207390444906, "outstation/database/mod.rs|DatabaseHandle::get_events_info|unwrap|let guard = self.inner.lock().unwrap();|0",
    .notPeerReachable "Mutex::lock().unwrap(): fails only if another thread panicked while holding the database lock (poisoning) - a consequence of an earlier panic (e.g. D3 inside the task), never its cause"⟩,
  ⟨11083213902154839723, "outstation/database/mod.rs|DatabaseHandle::select|unwrap|let mut guard = self.inner.lock().unwrap();|0",
    .notPeerReachable "Mutex::lock().unwrap(): fails only if another thread panicked while holding the database lock (poisoning) - a consequence of an earlier panic (e.g. D3 inside the task), never its cause"⟩,
  ⟨8775722536802608327, "outstation/database/mod.rs|DatabaseHandle::write_response_headers|unwrap|.unwrap()|0",
    .notPeerReachable "Mutex::lock().unwrap(): fails only if another thread panicked while holding the database lock (poisoning) - a consequence of an earlier panic (e.g. D3 inside the task), never its cause"⟩,
  ⟨3574680401021948642, "outstation/database/mod.rs|DatabaseHandle::write_unsolicited|unwrap|let mut guard = self.inner.lock().unwrap();|0",
    .notPeerReachable "Mutex::lock().unwrap(): fails only if another thread panicked while holding the database lock (poisoning) - a consequence of an earlier panic (e.g. D3 inside the task), never its cause"⟩,
  ⟨6649129292727277866, "outstation/database/mod.rs|DatabaseHandle::reset|unwrap|self.inner.lock().unwrap().inner.reset()|0",
    .notPeerReachable "Mutex::lock().unwrap(): fails only if another thread panicked while holding the database lock (poisoning) - a consequence of an earlier panic (e.g. D3 inside the task), never its cause"⟩,
  -- outstation/database/details/event/list.rs
  ⟨2131001293212187918, "outstation/database/details/event/list.rs|State::append|arith|size: self.size + 1,|0",
    .cannotFail "size counts the list entries (<= configured capacity)"⟩,
  ⟨18185697841795439467, "outstation/database/details/event/list.rs|State::from|unwrap|Some(State::new(head.unwrap(), tail.unwrap(), size))|0",
    .cannotFail "size != 0 branch: a non-empty list has head and tail (VecList structural invariant; remove_at computes them from the removed entry's links)"⟩,
  ⟨18185696742283811256, "outstation/database/details/event/list.rs|State::from|unwrap|Some(State::new(head.unwrap(), tail.unwrap(), size))|1",
    .cannotFail "size != 0 branch: a non-empty list has head and tail (VecList structural invariant; remove_at computes them from the removed entry's links)"⟩,
  ⟨17782814589387531121, "outstation/database/details/event/list.rs|ListIterator::next|index|let entry = &self.list.storage[idx];|0",
    .cannotFail "VecList structural invariant: head / tail / next / prev / free-stack values are indices of pushed entries, never derived from peer octets (NOT proved here: the VecList refinement belongs to C03's event-buffer model; exercised by every event-bearing rawbytes / outstation case)"⟩,
  ⟨4342622365698558280, "outstation/database/details/event/list.rs|VecList::add|index|self.storage[idx] = Entry::last(self.version, item, Some(current.tail));|0",
    .cannotFail "VecList structural invariant: head / tail / next / prev / free-stack values are indices of pushed entries, never derived from peer octets (NOT proved here: the VecList refinement belongs to C03's event-buffer model; exercised by every event-bearing rawbytes / outstation case)"⟩,
  ⟨6966508945515272912, "outstation/database/details/event/list.rs|VecList::add|index|self.storage[current.tail].metadata.next = Some(idx);|0",
    .cannotFail "VecList structural invariant: head / tail / next / prev / free-stack values are indices of pushed entries, never derived from peer octets (NOT proved here: the VecList refinement belongs to C03's event-buffer model; exercised by every event-bearing rawbytes / outstation case)"⟩,
  ⟨6966510045026901123, "outstation/database/details/event/list.rs|VecList::add|index|self.storage[current.tail].metadata.next = Some(idx);|1",
    .cannotFail "VecList structural invariant: head / tail / next / prev / free-stack values are indices of pushed entries, never derived from peer octets (NOT proved here: the VecList refinement belongs to C03's event-buffer model; exercised by every event-bearing rawbytes / outstation case)"⟩,
  ⟨5002750774633794326, "outstation/database/details/event/list.rs|VecList::add|index|self.storage[idx] = Entry::first(self.version, item);|0",
    .cannotFail "VecList structural invariant: head / tail / next / prev / free-stack values are indices of pushed entries, never derived from peer octets (NOT proved here: the VecList refinement belongs to C03's event-buffer model; exercised by every event-bearing rawbytes / outstation case)"⟩,
  ⟨18178355079208690654, "outstation/database/details/event/list.rs|VecList::remove_all|index|let entry = &self.storage[current];|0",
    .cannotFail "VecList structural invariant: head / tail / next / prev / free-stack values are indices of pushed entries, never derived from peer octets (NOT proved here: the VecList refinement belongs to C03's event-buffer model; exercised by every event-bearing rawbytes / outstation case)"⟩,
  ⟨6792929808337973728, "outstation/database/details/event/list.rs|VecList::remove_all|arith|count += 1;|0",
    .cannotFail "usize counter bounded by the list length"⟩,
  ⟨3991911709453574731, "outstation/database/details/event/list.rs|VecList::find_first_from|index|let entry = &self.storage[current];|0",
    .cannotFail "VecList structural invariant: head / tail / next / prev / free-stack values are indices of pushed entries, never derived from peer octets (NOT proved here: the VecList refinement belongs to C03's event-buffer model; exercised by every event-bearing rawbytes / outstation case)"⟩,
  ⟨15911077394716029083, "outstation/database/details/event/list.rs|VecList::remove_at|index|self.storage[prev].metadata.next = metadata.next;|0",
    .cannotFail "VecList structural invariant: head / tail / next / prev / free-stack values are indices of pushed entries, never derived from peer octets (NOT proved here: the VecList refinement belongs to C03's event-buffer model; exercised by every event-bearing rawbytes / outstation case)"⟩,
  ⟨362716656521721267, "outstation/database/details/event/list.rs|VecList::remove_at|index|self.storage[next].metadata.prev = metadata.prev;|0",
    .cannotFail "VecList structural invariant: head / tail / next / prev / free-stack values are indices of pushed entries, never derived from peer octets (NOT proved here: the VecList refinement belongs to C03's event-buffer model; exercised by every event-bearing rawbytes / outstation case)"⟩,
  ⟨1749672840689736332, "outstation/database/details/event/list.rs|VecList::remove_at|arith|self.state = State::from(current.size - 1, new_head, new_tail);|0",
    .cannotFail "remove_at of an existing entry: current.size >= 1"⟩,
  -- outstation/database/details/event/writer.rs
  ⟨18313138941866619161, "outstation/database/details/event/writer.rs|HeaderState::increment|arith|count: self.count + 1,|0",
    .cannotFail "u16 count of event objects written into ONE response fragment (<= 2048 octets, >= 3 octets per object)"⟩,
  -- outstation/database/details/event/write_fn.rs
  ⟨16510232596529126526, "outstation/database/details/event/write_fn.rs|write_cto|arith|let difference: u64 = time.timestamp().raw_value() - cto.timestamp().raw_value();|0",
    .cannotFail "guarded by `if cto > time { return NewHeader }` directly above"⟩,
  -- outstation/database/details/range/static_db.rs
  ⟨843845038246756492, "outstation/database/details/range/static_db.rs|SelectionQueue::push_back|arith|self.capacity_exceeded += 1;|0",
    .cannotFail "usize counter reset by SelectionQueue::reset() on every READ; at most one increment per object header of one fragment"⟩,
  ⟨11758349530546425529, "outstation/database/details/range/static_db.rs|Deadband::exceeded|arith|let diff = if lhs > rhs { lhs - rhs } else { rhs - lhs };|0",
    .notPeerReachable "deadband comparison on values supplied by the application (Database::update), taken on the larger-minus-smaller branch"⟩,
  ⟨11758348431034797318, "outstation/database/details/range/static_db.rs|Deadband::exceeded|arith|let diff = if lhs > rhs { lhs - rhs } else { rhs - lhs };|1",
    .notPeerReachable "deadband comparison on values supplied by the application (Database::update), taken on the larger-minus-smaller branch"⟩,
  ⟨14925000443606191936, "outstation/database/details/range/static_db.rs|OctetString::default|unwrap|Self::new(&[0x00]).unwrap()|0",
    .cannotFail "OctetString::new(&[0x00]) of a constant non-empty slice is Ok"⟩,
  -- outstation/database/details/range/writer.rs
  ⟨15379675593852642448, "outstation/database/details/range/writer.rs|BitState::next|arith|bit_pos: self.bit_pos + T::NUM_BITS,|0",
    .cannotFail "guarded by `if self.bit_pos < 8`; NUM_BITS is 1 or 2"⟩,
  ⟨14393560617674958007, "outstation/database/details/range/writer.rs|is_consecutive|arith|next == last + 1|0",
    .cannotFail "guarded by `if next > last`, so last < 65535"⟩
]

/-- the entry found under each site's id carries literally the same key string (a conjunction of
    equations closed by `rfl`: the kernel compares string LITERALS) -/
theorem keys_agree : keysAgree classified classified Gen.panicSites := by
  repeat' (first | exact trivial | apply And.intro | exact rfl)

theorem all_site_ids_classified : (Gen.panicSites.all fun s => (lookup classified s.id).isSome) = true :=
  List.all_eq_true.2 fun s hs =>
    let ⟨e, he, hid, _⟩ := keysAgree_mem classified _ _ (fun _ => id) keys_agree s hs
    List.find?_isSome.2 ⟨e, he, hid⟩

/-- every potentially panicking construct of the inventoried files has
    a classification.  (A construct added to those files yields a key that is not in `classified`.) -/
theorem all_sites_classified : ∀ s ∈ Gen.panicSites, s.key ∈ classified.map (·.key) := fun s hs =>
  let ⟨e, he, _, hk⟩ := keysAgree_mem classified _ _ (fun _ => id) keys_agree s hs
  List.mem_map.2 ⟨e, he, hk⟩

/-- the inventory is not empty and is the one the generator counted -/
theorem inventory_size : Gen.panicSites.length = Gen.panicSiteCount := by decide +kernel

/-- no site is left that CAN fail on peer input: the three `unwrap`s of `handle_operate` (D1) are gone from
    the source (the function keeps the `Result` of its echo writers, like `handle_select` /
    `handle_direct_operate`); the D2 site (`self.index += 1` of `RangedBytesIterator`) is guarded since
    `fix:` 320622f and is covered by `iter_no_panic`; the D3 site (`Count::subtract`) cannot underflow
    since the repair of `EventBuffer::insert` and is covered by `no_counter_underflow` -/
theorem known_finding_sites : knownFindingIds classified = [] := by decide +kernel

/-- classification statistics (modelled, not peer-reachable, cannot fail, known finding) -/
theorem classification_counts : countClass classified = (13, 30, 94, 0) := by decide +kernel

/-- the discard loop: `Parser::parse` in discard mode calls the retry loop with
    fuel = number of unread octets; any larger fuel gives the same result; the result is never an
    error, its unread rest is a suffix of the input, and a failed first `parse_impl` means strictly
    fewer octets are left (at most `bs.length` retries).  No hypothesis on state or octets. -/
theorem link_no_panic (st : PState) (bs : List Nat) :
    (∀ n, parseDiscard (bs.length + n) st bs = parseDiscard bs.length st bs) ∧
    (∀ st' rest r, parseDiscard bs.length st bs = (st', rest, r) →
      (∃ pre, bs = pre ++ rest) ∧ (∃ x, r = .ok x) ∧
      (∀ s1 r1 e, parseImpl st bs = (s1, r1, .error e) → bs ≠ [] ∧ rest.length < bs.length)) := by
  refine ⟨fun n => parseDiscard_fuel_irrel _ _ _ _ (by omega) (Nat.le_refl _), ?_⟩
  intro st' rest r hr
  obtain ⟨k, hk, hpk, hok⟩ := parse_attempt .discard st bs
  rw [show parse .discard st bs = parseDiscard bs.length st bs from rfl, hr] at hpk hok
  obtain ⟨x, hx⟩ := hok rfl
  have hsuf := (parseImpl_facts _ _ _ _ _ hpk.symm).1
  obtain ⟨pre, hpre⟩ := hsuf.trans (List.drop_suffix k bs)
  refine ⟨⟨pre, hpre.symm⟩, ⟨x, hx⟩, fun s1 r1 e he => ?_⟩
  have hk0 : k ≠ 0 := by
    intro h0; subst h0
    rw [if_pos rfl, List.drop_zero, he] at hpk
    cases hpk; cases hx
  have := hsuf.length_le
  rw [List.length_drop] at this
  exact ⟨fun hnil => by rw [hnil] at hk; exact hk0 (Nat.le_zero.mp hk), by omega⟩

/-- the number of discard retries is at most the number of unread octets -/
theorem link_discard_retries_bounded (st : PState) (bs : List Nat) :
    ∃ k st' rest x, k ≤ bs.length ∧ parse .discard st bs = (st', rest, .ok x) ∧
      parseImpl (if k = 0 then st else .sync1) (bs.drop k) = (st', rest, .ok x) ∧
      (∀ j, j < k → ∃ s r e, parseImpl (if j = 0 then st else .sync1) (bs.drop j) = (s, r, .error e)) :=
  parseDiscard_retries_aux bs.length st bs (Nat.le_refl _)

/-- either mode: the parser never un-reads, keeps its state
    well-formed (also after an error), delivers a frame only after consuming an octet, never errors
    in discard mode, and when it asks for more leaves at most 281 octets unread (less than the
    293-octet minimum buffer: the reader's next read is never a zero-length read) -/
theorem link_parse_progress (m : ErrMode) (st st' : PState) (bs rest : List Nat) (r : PResult)
    (hw : wfState st) (hp : parse m st bs = (st', rest, r)) :
    (∃ pre, bs = pre ++ rest) ∧ wfState st' ∧
    (∀ x, r = .ok (some x) → rest.length < bs.length ∧ st' = .sync1) ∧
    (m = .discard → ∃ x, r = .ok x) ∧
    (r = .ok none → (∀ b ∈ bs, b < 256) → boundedState st → rest.length ≤ 281 ∧ boundedState st') :=
  parse_consumes_or_waits m st st' bs rest r hw hp

example : wfState .sync1 ∧ parse .discard .sync1 [7, 5, 0x64] = (.header, [], .ok none) := ⟨trivial, rfl⟩

/-- on ANY input (not only valid streams) the loop of `read_frame`
    needs at most `3·|chunk| + |pending| + 4` iterations: more fuel changes nothing.  Every
    iteration returns a frame after consuming an octet, or takes in at least one available octet,
    or ends. -/
theorem link_reader_never_spins (r : Reader) (avail : List Nat) (hw : wfState r.pst) :
    ∀ n, Reader.run (3 * avail.length + r.pending.length + 4 + n) r avail =
         Reader.run (3 * avail.length + r.pending.length + 4) r avail :=
  fun n => run_fuel_irrel _ _ r avail hw (by unfold mu; omega) (by unfold mu; omega)

example : wfState (Reader.new .discard .stream 2048).pst := trivial

/-- the slice indexing and cursor arithmetic of `link/reader.rs::ReadBuffer`: `begin ≤ end ≤ cap`, `|unread| = end - begin`, `cap ≥ 293`, parser
    state well-formed and bounded — holds for a new reader, after `reset`, and after every
    `Reader.feed` of octets; so `buffer[begin..end]`, `buffer[end..]`, `end -= begin`,
    `end += count`, `begin += count`, `end - begin` cannot fail. -/
theorem link_reader_buffer_invariant :
    (∀ em rm frag, RInv (Reader.new em rm frag)) ∧
    (∀ r, RInv r → RInv r.reset) ∧
    (∀ r chunk, RInv r → (∀ b ∈ chunk, b < 256) → RInv (r.feed chunk).1) ∧
    (∀ chunks r, RInv r → (∀ c ∈ chunks, ∀ b ∈ c, b < 256) → RInv (r.feedAll chunks).1) := by
  refine ⟨rinv_new, rinv_reset, rinv_feed, fun chunks => ?_⟩
  induction chunks with
  | nil => intro r h _; exact h
  | cons c cs ih =>
    intro r h hc
    simp only [Reader.feedAll]
    exact ih _ (rinv_feed r c h (hc c (List.mem_cons_self ..)))
      (fun c' hc' => hc c' (List.mem_cons_of_mem _ hc'))

example : RInv (Reader.new .discard .stream 2048) := rinv_new _ _ _

/-- `Reader.feed` stops only when the session died on a Close-mode error or EVERY available octet
    has been taken in; in Discard mode it never dies.  `runL` (`Proofs/NoPanicLink.lean`) is
    `Reader.run` with one more output, the available octets not read when the loop stops; the first
    conjunct says that its other two outputs are those of `Reader.feed` -/
theorem link_reader_never_wedges (r : Reader) (chunk : List Nat) (h : RInv r) (hc : ∀ b ∈ chunk, b < 256) :
    ((runL (3 * chunk.length + r.pending.length + 4) r chunk).1,
      (runL (3 * chunk.length + r.pending.length + 4) r chunk).2.1) = r.feed chunk ∧
    ((r.feed chunk).1.dead = true ∨ (runL (3 * chunk.length + r.pending.length + 4) r chunk).2.2 = []) ∧
    (r.emode = .discard → r.dead = false → (r.feed chunk).1.dead = false) := by
  have h1 := runL_run (3 * chunk.length + r.pending.length + 4) r chunk
  obtain ⟨h2, h3⟩ := run_never_wedges (3 * chunk.length + r.pending.length + 4) r chunk h hc
    (by unfold mu; omega)
  have hfst : (r.feed chunk).1 = (runL (3 * chunk.length + r.pending.length + 4) r chunk).1 := by
    unfold Reader.feed; rw [← h1]
  exact ⟨h1, by rw [hfst]; exact h2, by rw [hfst]; exact h3⟩

example : RInv (Reader.new .close .datagram 249) ∧ ∀ b ∈ [5, 0x64, 0xFF, 0xFF], b < 256 :=
  ⟨rinv_new _ _ _, by decide⟩

/-- transport `Reader::read` and the drain loop never depend on their
    fuel (each recursive call has removed a queued link event / popped something).  No hypotheses. -/
theorem transport_never_spins (t : TReader) (dbl : Bool) :
    (∀ n, TReader.read (t.queue.length + 2 + n) t = TReader.read (t.queue.length + 2) t) ∧
    (∀ n, TReader.drain (t.queue.length + 2 + n) dbl t = TReader.drain (t.queue.length + 2) dbl t) :=
  ⟨fun n => tread_fuel_irrel _ _ t (by omega) (by omega),
   fun n => tdrain_fuel_irrel _ _ dbl t (by have := dM_le t; omega) (dM_le t)⟩

/-- the three `expect`s of `transport/real/assembler.rs`: the assembler
    never accumulates more than `cap` octets and the length it records is exactly what it holds —
    for every header and payload (`assemble`), for `pop`, and end to end for octets arriving on the
    wire (`TReader.feed`): every fragment handed to the application has at most `cap` octets. -/
theorem transport_no_panic :
    (∀ (a : Assembler) info hdr payload, AInv a →
      AInv (a.assemble info hdr payload) ∧ (a.assemble info hdr payload).cap = a.cap ∧
      (a.assemble info hdr payload).buf.length ≤ a.cap) ∧
    (∀ (a : Assembler), AInv a → AInv a.pop.1 ∧ a.pop.1.cap = a.cap ∧
      ∀ fi d, a.pop.2 = some (fi, d) → d = a.buf ∧ d.length ≤ a.cap) ∧
    (∀ (t : TReader) dbl chunk, AInv t.asm →
      AInv (t.feed dbl chunk).1.asm ∧ (t.feed dbl chunk).1.asm.cap = t.asm.cap ∧
      ∀ fi d, TOut.frag fi d ∈ (t.feed dbl chunk).2 → d.length ≤ t.asm.cap) :=
  ⟨assembler_total, assembler_pop_bounded, fun _ dbl _ h => ainv_tdrain _ dbl _ h⟩

example : AInv (TReader.new ⟨false, false, 1024⟩ .discard .stream 2048).asm :=
  ⟨Nat.zero_le _, fun l hl => by cases hl⟩

/-- the validating pass is a well-founded recursion on the remaining
    octets: every accepted header consumes at least 3, so an accepted object section of `n` octets
    holds at most `n / 3` headers -/
theorem walk_terminates :
    (∀ {isRead zls bs rest rec}, parseOne isRead zls bs = .ok (rec, rest) → rest.length + 3 ≤ bs.length) ∧
    (∀ isRead zls bs recs, walk isRead zls bs = .ok recs → 3 * recs.length ≤ bs.length) := by
  refine ⟨fun h => App.parseOne_length3 h, fun isRead zls bs recs h => ?_⟩
  fun_induction walk isRead zls bs generalizing recs with
  | case1 bs hempty => injection h with h; subst h; simp
  | case2 bs hne e he => cases h
  | case3 bs hne r rest hp e hw ih => cases h
  | case4 bs hne r rest hp rs hw ih =>
    injection h with h; subst h
    have := App.parseOne_length3 hp
    have := ih rs hw
    simp only [List.length_cons]; omega

example : parseOne false false [1, 2, 0, 3, 4, 0x81, 0x01] =
    .ok (⟨.fixed 1 2, .range false 3 4, .fixed 1 2, [0x81, 0x01]⟩, []) := rfl

/-- iterating an accepted header never panics — for any payload and every payload kind — provided
    the announced last index is a `u16`, which every accepted range satisfies (`start ≤ stop ≤
    65535`).  The three iterators that increment a `u16` index guard the increment
    (`RangedBytesIterator` since the repair of D2: a ranged octet-string header ending at index
    65535 overflowed; now a regression case of engines `parse`, `convert` and `rawbytes`); every
    other iterator is total by construction (`chunks`: well-founded
    on the remaining octets with `SIZE > 0`; `iterPrefixedBytes`, `iterRangedBytes`: structural on
    `remaining`; `iterBitsA`: well-founded on `count - pos`). -/
theorem iter_no_panic (r : HeaderRec)
    (hidx : r.kind = .octets ∨ r.kind = .bits ∨ r.kind = .dbits → r.spec.start + r.spec.nobj ≤ 65536) :
    iterPanics r = false :=
  Proofs.NoPanicLink.iter_no_panic r hidx

example : (⟨.wild 110 1, .range true 65535 65535, .octets, [0x41]⟩ : HeaderRec).spec.start +
    (⟨.wild 110 1, .range true 65535 65535, .octets, [0x41]⟩ : HeaderRec).spec.nobj ≤ 65536 := by decide

/-- the witness of D2, `6E 01 01 FF FF FF FF 41`, is accepted and iterated cleanly -/
theorem iter_end_of_index_space :
    parseOne false false [110, 1, 1, 255, 255, 255, 255, 0x41] =
      .ok (⟨.wild 110 1, .range true 65535 65535, .octets, [0x41]⟩, []) ∧
    iterate ⟨.wild 110 1, .range true 65535 65535, .octets, [0x41]⟩ = some (.ok [⟨some 65535, [0x41]⟩]) ∧
    iterPanics ⟨.wild 110 1, .range true 65535 65535, .octets, [0x41]⟩ = false :=
  ⟨Props.C09.ranged_bytes_header_accepted, Props.C09.ranged_bytes_iter_end_of_index_space.1, rfl⟩

/-! ## the outstation session

`Outstation.step` (Model/Outstation.lean) is total; a Rust panic is the explicit outcome
`StepRes.panicked` (`die`: `mode := .dead`, output `OOut.panic`).  The database behind the `Db`
interface is OPAQUE to the session-level theorem `outstation_step_panic_cause` (no `Db.*` function is
unfolded in its proof); the one fact it needs about the database — `unwrittenClasses` never fails on a
database reachable from a fresh one — is the database component's `counters_exact`
(`Props/DbComponent.lean`), brought in by `no_counter_underflow`. -/

/-- **`outstation_step_panic_cause`** (database opaque): for EVERY state `s` — reachable or not — and
    EVERY input `i`, a step of the outstation session panics ONLY IF `Db.unwrittenClasses` returns `none`
    (the checked counter subtraction) on a database reachable from `s.db` by the database operations the
    session applies (`CounterUnderflow`; this was D3 — excluded by `no_counter_underflow` whenever `s.db`
    has exact counters).  No request handler panics: with D1 repaired `handle_operate` has no `unwrap` on an
    echo that does not fit the solicited buffer. -/
theorem outstation_step_panic_cause (env : OEnv) (s : OState) (i : OInput)
    (hp : OOut.panic ∈ (Outstation.step env s i).2) : CounterUnderflow s.db :=
  Proofs.NoPanicOutstation.outstation_step_panic_cause env s i hp

/-- `DbReach db0` (the closure used by `CounterUnderflow` and by the session frame `LeS`) is exactly:
    the databases `run db0 ops` for a list `ops` of the seven database operations of the component
    theorems (`add`, `update`, `select`, `write`, `unsol`, `clear`, `reset`) -/
theorem db_reach_is_run (db0 db : Db) : DbReach db0 db ↔ ∃ ops : List DbProofs.DbOp, db = DbProofs.run db0 ops :=
  dbReach_iff_run db0 db

/-- **`no_counter_underflow`** (the `Count::subtract` site of `unwritten_classes`; D3 repaired): from
    a database with exact counters — in particular a fresh one, and every database reachable from a
    fresh one — no sequence of database operations reaches a state in which the checked subtraction
    `total - written` fails -/
theorem no_counter_underflow :
    (∀ db0, DbProofs.CountersExact db0 → ¬ CounterUnderflow db0) ∧
    (∀ evMax sel db, DbReach (Db.new evMax sel) db → DbProofs.CountersExact db ∧ ¬ CounterUnderflow db) :=
  ⟨fun _ h => no_counterUnderflow h,
   fun evMax sel _ h =>
    have hc := dbReach_counters (DbProofs.new_counters evMax sel) h
    ⟨hc, no_counterUnderflow hc⟩⟩

example : DbProofs.CountersExact (Db.new 3 none) := DbProofs.new_counters 3 none

/-- every state of every trace from construction is alive (the task never panicked) and holds a database
    with exact counters -/
theorem reachable_alive_db_counters_exact (cfg : OCfg) (evMax : Nat) (env : OEnv) (s : OState)
    (hr : Outstation.Reachable cfg evMax env s) : s.mode ≠ .dead ∧ DbProofs.CountersExact s.db :=
  reachable_alive_counters hr

/-- the start-up pass itself (construction until the task first blocks) does not panic -/
theorem outstation_start_no_panic (cfg : OCfg) (evMax : Nat) :
    OOut.panic ∉ (Outstation.start cfg evMax).2 ∧ (Outstation.start cfg evMax).1.mode ≠ .dead :=
  ⟨(start_alive_counters cfg evMax).1, (start_alive_counters cfg evMax).2.1⟩

/-- one step from ANY state whose database has exact counters does not panic, and a live task stays alive -/
theorem outstation_step_no_panic_of_counters (env : OEnv) (s : OState) (i : OInput)
    (hdb : DbProofs.CountersExact s.db) :
    OOut.panic ∉ (Outstation.step env s i).2 ∧ (s.mode ≠ .dead → (Outstation.step env s i).1.mode ≠ .dead) :=
  Proofs.NoPanicOutstation.outstation_step_no_panic_of_counters env s i hdb

/-- **`outstation_step_no_panic`** (the full statement): on
    EVERY trace from construction — any configuration (buffer sizes, timeouts, modes; in particular every
    configuration with the library's minimum buffer sizes), any event-buffer size, any input list — and for
    EVERY further input (fragment, clock advance, database transaction, point added, disconnect, script
    change), a step of the outstation session neither panics nor leaves the task dead. -/
theorem outstation_step_no_panic (cfg : OCfg) (evMax : Nat) (env : OEnv) (s : OState)
    (hr : Outstation.Reachable cfg evMax env s) (i : OInput) :
    OOut.panic ∉ (Outstation.step env s i).2 ∧ (Outstation.step env s i).1.mode ≠ .dead :=
  outstation_reachable_no_panic hr i

example : Outstation.Reachable { sol := 249 } 10 {} d1State := d1State_reachable

/-- the witness of D1 is answered: tx buffer 249, OPERATE of 62 x g41v2
    with 16-bit indices (317 octets) against the freshly started session — the state is reachable, no panic,
    the task lives, and exactly one fragment goes out, to the master: `d1Response`, the NO_SELECT (status 2)
    echo of the 48 objects that fit 249 octets, count patched to 48, FIR FIN, the request's sequence number,
    IIN2 clean; no control callback is made.  (That the echo is silently truncated is the remaining finding
    D13.)  Regression cases on the real task: harness/corpus/C12/outstation_D1.ops (engine outstation) and
    harness/corpus/C01/rawbytes_D1.ops (engine rawbytes) -/
theorem outstation_former_d1_witness_answered :
    Outstation.Reachable { sol := 249 } 10 {} d1State ∧
    OOut.panic ∉ (Outstation.step {} d1State (.rx 1 1024 d1Data)).2 ∧
    (Outstation.step {} d1State (.rx 1 1024 d1Data)).1.mode ≠ .dead ∧
    txFrags (Outstation.step {} d1State (.rx 1 1024 d1Data)).2 = [(1, d1Response)] ∧
    cbs (Outstation.step {} d1State (.rx 1 1024 d1Data)).2 = [] ∧
    d1Response = [0xC0, 0x81, 0x80, 0x00, 41, 2, 0x28, 48, 0] ++ (List.replicate 48 [1, 0, 5, 0, 2]).flatten ∧
    d1Response.length = 249 :=
  have h : (Outstation.step {} d1State (.rx 1 1024 d1Data)).2.any isPanic = false ∧
      isDead (Outstation.step {} d1State (.rx 1 1024 d1Data)).1.mode = false ∧
      txFrags (Outstation.step {} d1State (.rx 1 1024 d1Data)).2 = [(1, d1Response)] ∧
      cbs (Outstation.step {} d1State (.rx 1 1024 d1Data)).2 = [] ∧ d1Response.length = 249 := by decide +kernel
  ⟨d1State_reachable, not_mem_of_any_isPanic h.1, ne_dead_of_isDead h.2.1, h.2.2.1, h.2.2.2.1, rfl, h.2.2.2.2⟩

/-- **`outstation_dies_only_by_panic`**: `Mode.dead` is entered only together with the `panic` output -/
theorem outstation_dies_only_by_panic (env : OEnv) (s : OState) (i : OInput) (hs : s.mode ≠ .dead)
    (hd : (Outstation.step env s i).1.mode = .dead) : OOut.panic ∈ (Outstation.step env s i).2 :=
  dead_only_by_panic env s i hs hd

example : d1State.mode ≠ .dead := (reachable_alive_db_counters_exact _ _ _ _ d1State_reachable).1

/-- the witness of D3, in the model with the real database: event buffer of one event per
    type, a class-1 event transmitted unsolicited (Written), a class-2 event of the same type overflows
    it out, then the 2-octet DELAY_MEASURE request `C1 17` — which panicked in `get_response_iin` before the
    repair — is answered: the state is reachable, no panic, the task lives, `unwritten_classes` reports class 2.
    Regression case on the real task: harness/corpus/C01/rawbytes_D3.ops (engine rawbytes) -/
theorem outstation_former_d3_witness_no_panic :
    Outstation.Reachable { unsolicited := true } 1 {} d3State ∧
    OOut.panic ∉ (Outstation.step {} d3State (.rx 1 1024 [0xC1, 0x17])).2 ∧
    (Outstation.step {} d3State (.rx 1 1024 [0xC1, 0x17])).1.mode ≠ .dead ∧
    d3State.db.unwrittenClasses = some (false, true, false) :=
  have h : (Outstation.step {} d3State (.rx 1 1024 [0xC1, 0x17])).2.any isPanic = false ∧
      isDead (Outstation.step {} d3State (.rx 1 1024 [0xC1, 0x17])).1.mode = false ∧
      d3State.db.unwrittenClasses = some (false, true, false) := by decide +kernel
  ⟨d3State_reachable, not_mem_of_any_isPanic h.1, ne_dead_of_isDead h.2.1, h.2.2⟩

/-- **`outstation_never_spins`**: `runPass` is one pass of `run_idle_state` per unit of fuel, invoked
    with `passFuel = 64`.  Unless the keep-alive period is configured as 0 (a timer that is due again
    the moment it is re-armed: configuration, not peer input), the continuation of the SECOND
    consecutive pass is never called — a third consecutive pass never happens — so the result never
    depends on the fuel, and the `modelFuelExhausted` callback of `runPass 0` is unreachable.
    (Each extra pass needs `pending`, `notified`, `noSleep` or a due deadline; the first pass consumes
    `pending` and `deferred`, and leaves every deadline strictly in the future.) -/
theorem outstation_never_spins {a : Acc} (hka : a.1.cfg.keepalive ≠ some 0) :
    (∀ k₁ k₂ : Acc → StepRes, pass (pass k₁) a = pass (pass k₂) a) ∧
    (∀ n, runPass (n + 2) a = runPass 2 a) ∧
    (∀ k : Acc → StepRes, runPass passFuel a = pass (pass k) a) :=
  ⟨fun k₁ k₂ => pass_pass_indep k₁ k₂ hka, fun n => runPass_add_two n hka, fun k => runPass_passFuel k hka⟩

theorem runPass_is_pass (n : Nat) (a : Acc) : runPass (n + 1) a = pass (runPass n) a := rfl

example : ((OState.init {} 10, []) : Acc).1.cfg.keepalive ≠ some 0 := by decide

/- NOT PROVED as an equation: the analogous statement for the outer loop `settle 8` (`settle (n + 1) r = settle 1 r`).
   What the properties need of it is `Proofs.C04.settles_done` (one round of `settle` consumes the fragment a solicited
   confirm wait retained); see the end of Proofs/NoPanicOutstation.lean. -/

/-! ## the theorem names used by the classification exist -/
example := @link_reader_buffer_invariant
example := @transport_no_panic
example := @iter_no_panic
example := @outstation_step_no_panic
example := @no_counter_underflow

end Dnp3.Props.C01
