import Dnp3.Model.MasterSession
import Dnp3.Proofs.Master
/-!
# C16 — Commands succeed only if truly accepted; every request gets exactly one outcome

`CommandHeaders.compare` (model of `request.rs::CommandHeaders::compare` /
`CommandHeader::compare` / `compare_items`) characterised as an iff; the command task
(`tasks/command.rs`) reports success only when `compare` does, and the SBO OPERATE is
produced only from a faithful SELECT echo.  Objects are compared as octet strings: the
library compares decoded values, which coincides except for floating point (NaN ≠ NaN,
−0.0 = +0.0); the engine's generators stay away from both.
-/
namespace Dnp3.Props.C16
open Dnp3 Dnp3.Master

/-- `compare_items` succeeds exactly when the received objects are the sent ones, octet for
    octet, and every received status octet is SUCCESS -/
theorem compareItems_none_iff (sent recv : List (List Nat)) :
    compareItems sent recv = none ↔ (recv = sent ∧ ∀ r ∈ recv, r.getLastD 0 = 0) := by
  induction sent generalizing recv with
  | nil =>
    cases recv with
    | nil => simp [compareItems]
    | cons r rs => simp [compareItems]
  | cons s ss ih =>
    cases recv with
    | nil => simp [compareItems]
    | cons r rs =>
      by_cases h1 : r.getLastD 0 = 0
      · by_cases h2 : r = s
        · subst h2
          simp only [compareItems, h1, ne_eq, not_true_eq_false, if_false, ih, List.cons.injEq, true_and,
            List.forall_mem_cons]
        · simp only [compareItems, h1, ne_eq, not_true_eq_false, if_false, h2, not_false_eq_true, if_true,
            List.cons.injEq, false_and, reduceCtorEq]
      · simp only [compareItems, ne_eq, h1, not_false_eq_true, if_true, List.forall_mem_cons, false_and, and_false,
          reduceCtorEq]

/-- the first difference decides the error: a non-SUCCESS status is reported before a value
    mismatch of the same object -/
theorem compareItems_bad_status_first (s r : List Nat) (ss rs : List (List Nat)) (h : r.getLastD 0 ≠ 0) :
    compareItems (s :: ss) (r :: rs) = some (.badStatus (r.getLastD 0)) := by
  simp only [compareItems, ne_eq, h, not_false_eq_true, if_true]

/-- a header matches exactly when variation and index width agree and the objects are echoed -/
theorem compareHeader_none_iff (sent recv : ObjHdr) :
    compareHeader sent recv = none ↔
      ((sent.qual = 0x17 ∨ sent.qual = 0x28) ∧ recv.qual = sent.qual ∧ recv.group = sent.group ∧ recv.var = sent.var ∧
       (ctlObjSize sent.group sent.var).isSome = true ∧ hdrItems recv = hdrItems sent ∧
       ∀ r ∈ hdrItems recv, r.getLastD 0 = 0) := by
  unfold compareHeader
  split
  · rename_i h
    rw [compareItems_none_iff]
    constructor
    · rintro ⟨h1, h2⟩
      exact ⟨h.1, h.2.1, h.2.2.1, h.2.2.2.1, h.2.2.2.2, h1, h2⟩
    · rintro ⟨_, _, _, _, _, h1, h2⟩
      exact ⟨h1, h2⟩
  · rename_i h
    constructor
    · intro h'
      cases h'
    · rintro ⟨a, b, c, d, e, _, _⟩
      exact absurd ⟨a, b, c, d, e⟩ h

/-- `compare sent received = ok` ⇔ same number of headers and every pair matches -/
theorem compare_ok_iff (sent recv : List ObjHdr) :
    CommandHeaders.compare sent recv = none ↔
      (sent.length = recv.length ∧ ∀ p ∈ sent.zip recv, compareHeader p.1 p.2 = none) := by
  induction sent generalizing recv with
  | nil =>
    cases recv with
    | nil => simp [CommandHeaders.compare]
    | cons r rs => simp [CommandHeaders.compare]
  | cons s ss ih =>
    cases recv with
    | nil => simp [CommandHeaders.compare]
    | cons r rs =>
      simp only [CommandHeaders.compare]
      cases hc : compareHeader s r with
      | some e => simp [hc]
      | none => simp [hc, ih]

/-- a missing or an extra header is a header-count mismatch -/
theorem compare_header_count (sent recv : List ObjHdr) (h : CommandHeaders.compare sent recv = none) :
    sent.length = recv.length := ((compare_ok_iff sent recv).1 h).1

example :
    let h : ObjHdr := ⟨12, 1, 0x17, 1, 0, [3, 1, 1, 100, 0, 0, 0, 200, 0, 0, 0, 0]⟩
    CommandHeaders.compare [h] [h] = none := by decide

example :
    let h : ObjHdr := ⟨12, 1, 0x17, 1, 0, [3, 1, 1, 100, 0, 0, 0, 200, 0, 0, 0, 0]⟩
    let bad : ObjHdr := ⟨12, 1, 0x17, 1, 0, [3, 1, 1, 100, 0, 0, 0, 200, 0, 0, 0, 4]⟩
    CommandHeaders.compare [h] [bad] = some (.badStatus 4) := by decide

/-- `CommandTask::handle`: the user's future resolves `ok` only from a reply that satisfies
    `compare`, and only in the DIRECT_OPERATE / OPERATE step -/
theorem command_ok_only_by_echo (a : Acc) (dest uid : Nat) (st : CmdState) (objs : List Nat) (r : Resp)
    (h : MOut.complete uid .ok ∈ (handleResponse a dest (.command uid st objs) r).1.2)
    (hnot : MOut.complete uid .ok ∉ a.2) :
    st ≠ .select ∧ ∃ recv, r.objects = some recv ∧
      CommandHeaders.compare ((parseRespObjects objs.length objs).getD []) recv = none := by
  -- every branch of `handleResponse` appends at most one `complete uid _`; it is `.ok` only where `compare` found no
  -- difference and the step is not SELECT
  unfold handleResponse at h
  cases ho : r.objects with
  | none =>
    simp [ho, complete, emit] at h
    exact absurd h hnot
  | some recv =>
    simp only [ho] at h
    cases hc : CommandHeaders.compare ((parseRespObjects objs.length objs).getD []) recv with
    | some e =>
      simp [hc, complete, emit] at h
      rcases h with h | h
      · exact absurd h hnot
      · cases e <;> simp [cmdOutcome] at h
    | none =>
      cases st with
      | select =>
        simp [hc] at h
        exact absurd h hnot
      | operate => exact ⟨by simp, recv, rfl, hc⟩
      | direct => exact ⟨by simp, recv, rfl, hc⟩

/-- select-before-operate: the OPERATE step exists only as the continuation of a SELECT whose
    reply satisfied `compare`; it carries the same objects -/
theorem operate_only_after_faithful_select (a : Acc) (dest uid : Nat) (st : CmdState) (objs : List Nat) (r : Resp)
    (next : NonReadTask) (h : (handleResponse a dest (.command uid st objs) r).2 = .ok (some next)) :
    st = .select ∧ next = .command uid .operate objs ∧
      ∃ recv, r.objects = some recv ∧ CommandHeaders.compare ((parseRespObjects objs.length objs).getD []) recv = none := by
  unfold handleResponse at h
  cases ho : r.objects with
  | none => simp [ho] at h
  | some recv =>
    simp only [ho] at h
    cases hc : CommandHeaders.compare ((parseRespObjects objs.length objs).getD []) recv with
    | some e => simp [hc] at h
    | none =>
      cases st with
      | select =>
        simp [hc] at h
        exact ⟨rfl, h.symm, recv, rfl, hc⟩
      | operate => simp [hc] at h
      | direct => simp [hc] at h

/-- the OPERATE request goes out with the next sequence number (`send_request` increments the
    association's counter once per request) -/
theorem next_request_uses_next_seq (a : Acc) (dest func : Nat) (objs : List Nat) (x : Assoc) (seq : Nat)
    (hx : a.1.getAssoc dest = some x) (h : (sendRequest a dest func objs).2 = .ok seq) :
    seq = x.seq ∧ MOut.tx dest (requestBytes x.seq func objs) ∈ (sendRequest a dest func objs).1.2 := by
  unfold sendRequest at h ⊢
  simp only [hx] at h ⊢
  split at h
  · simp at h
  · rename_i hlen
    simp only [Except.ok.injEq] at h
    simp [hlen, h.symm, emit]

/-- `taskOnError` for a user request appends exactly one `complete uid` to the outputs.  Of the user READs only
    `.single uid 0 false` (no class, not custom) is among the cases, though nothing in the proof turns on the two values -/
theorem user_task_error_completes_once (a : Acc) (dest uid : Nat) (t : Task) (e : TaskErr)
    (ht : t = .read (.single uid 0 false) ∨ (∃ st o, t = .nonRead (.command uid st o)) ∨ (∃ c, t = .nonRead (.restart uid c)) ∨
          (∃ o, t = .nonRead (.deadband uid o)) ∨ (∃ st, t = .nonRead (.timeSync (some uid) st)) ∨ t = .linkStatus (some uid)) :
    (taskOnError a dest t e).2 = a.2 ++ [.complete uid (.task e)] := by
  rcases ht with h | ⟨_, _, h⟩ | ⟨_, h⟩ | ⟨_, h⟩ | ⟨_, h⟩ | h <;> subst h <;> simp [taskOnError, complete, emit]

/-
`bounded_duration`: a request of n protocol steps completes within n response timeouts.  In the
model every wait mode carries a deadline `now + rto` that is set when the step's request goes out
(`beginTask`, `runSingle`, the next fragment of a READ series in `onFragment`), `onTime` ends the
task once `deadline ≤ now` (`timeout_ends_wait`), and no message from a handle moves a deadline
(`message_never_extends_wait`).  For the link status check (one step) this is
`link_check_deadline_at_start`, `link_check_deadline_fixed` and `link_check_bounded`: the check is
over at the latest one response timeout after its request.  (Until the repair of D24 the real
`run_link_status_task` re-armed its timeout after every processed message; the former
counterexample is kept as the regression `link_check_not_rearmed_regression`.)
-/

/-- a timed-out wait always ends the task: `onTime` never leaves a wait whose deadline has passed -/
theorem timeout_ends_wait (s : MState) (h : match s.mode with
      | .waitRead _ _ _ _ dl => dl ≤ s.now
      | .waitNonRead _ _ _ _ dl => dl ≤ s.now
      | .waitLink _ _ dl => dl ≤ s.now
      | _ => False) :
    ∀ a, onTime (s, []) ≠ .waiting a := by
  intro a
  unfold onTime
  cases hm : s.mode <;> simp [hm] at h ⊢ <;> simp [h]

end Dnp3.Props.C16

namespace Dnp3.Proofs.Master
open Dnp3 Dnp3.Master

theorem taskOnError_mode (a : Acc) (dest : Nat) (t : Task) (e : TaskErr) : (taskOnError a dest t e).1.mode = a.1.mode :=
  taskOnError_rule (fun b => b.1.mode = a.1.mode) a dest t e rfl (fun _ => rfl) (fun _ => rfl) (fun _ => rfl)
    (fun _ _ _ _ _ _ => rfl)

theorem foldl_taskOnError_mode (addr : Nat) (e : TaskErr) (q : List Task) (a : Acc) :
    (q.foldl (fun a t => taskOnError a addr t e) a).1.mode = a.1.mode := by
  induction q generalizing a with
  | nil => rfl
  | cons t ts ih => simp only [List.foldl]; rw [ih, taskOnError_mode]

theorem processMessage_mode (a : Acc) (c : Bool) (m : Msg) : (processMessage a c m).1.1.mode = a.1.mode := by
  unfold processMessage
  cases m with
  | enable on => rfl
  | addAssoc addr cfg => simp only; split <;> rfl
  | removeAssoc addr =>
    simp only
    split
    · exact foldl_taskOnError_mode _ _ _ _
    · rfl
  | queueTask addr t =>
    simp only
    split
    · exact taskOnError_mode _ _ _ _
    · split
      · exact taskOnError_mode _ _ _ _
      · split
        · rfl
        · exact taskOnError_mode _ _ _ _
  | addPoll addr period classes => simp only; split <;> rfl
  | removePoll addr id => rfl
  | demand addr id => rfl

end Dnp3.Proofs.Master

namespace Dnp3.Props.C16
open Dnp3 Dnp3.Master

/-- the three response waits -/
def isWait : Mode → Prop
  | .waitRead .. => True
  | .waitNonRead .. => True
  | .waitLink .. => True
  | _ => False

/-- no message from a handle (user request, poll management, association management, enable) extends
    a response wait: if the task is still waiting afterwards, it waits in the same mode — same
    request, same deadline -/
theorem message_never_extends_wait (s : MState) (m : Option Msg) (a' : Acc) (hw : isWait s.mode)
    (h : onMessage (s, []) m = .waiting a') : a'.1.mode = s.mode := by
  unfold onMessage at h
  cases m with
  | none =>
    cases hm : s.mode <;> simp [hm, isWait] at hw h
  | some msg =>
    -- processing the message keeps the mode, and every `waiting` exit of `onMessage` returns the accumulator it left
    have hpm := Proofs.Master.processMessage_mode (s, []) true msg
    cases hm : s.mode <;> simp only [hm, isWait] at hw h hpm
    all_goals
      generalize processMessage (s, []) true msg = res at h hpm
      obtain ⟨a1, b⟩ := res
      cases b
      · simp only at h hpm
        first
          | (injection h with h; subst h; exact hpm)
          | (split at h
             · cases h
             · injection h with h; subst h; exact hpm)
      · simp only at h hpm
        rw [hpm] at h
        cases h

example : isWait (.waitLink 1024 (some 1) 1000) := trivial

/-- the link status check gets its deadline when the request goes out: one response timeout ahead -/
theorem link_check_deadline_at_start (a : Acc) (dest : Nat) (uid : Option Nat) (x : Assoc)
    (hx : a.1.getAssoc dest = some x) :
    beginTask a dest (.linkStatus uid) =
      .waiting (setMode (emit a (.txLink 0xC9 dest 1)) (.waitLink dest uid (a.1.now + x.cfg.rto))) := by
  unfold beginTask
  simp only [hx]
  rfl

/-- while a link status check is outstanding no event moves its deadline: a message either ends the
    check (association gone, disable, shutdown) or leaves the wait untouched; a fragment, a link
    frame and the loss of the connection end it; time passing below the deadline changes nothing -/
theorem link_check_deadline_fixed (s : MState) (dest dl : Nat) (uid : Option Nat) (hm : s.mode = .waitLink dest uid dl) :
    (∀ m a', onMessage (s, []) m = .waiting a' → a'.1.mode = .waitLink dest uid dl) ∧
    (∀ src frag a', onFragment (s, []) src frag ≠ .waiting a') ∧
    (∀ src a', onLinkMsg (s, []) src ≠ .waiting a') ∧
    (∀ a', onTime (s, []) = .waiting a' → a' = (s, []) ∧ s.now < dl) ∧
    (∀ a', onEof (s, []) ≠ .waiting a') := by
  refine ⟨?_, ?_, ?_, ?_, ?_⟩
  · intro m a' h
    rw [← hm]
    exact message_never_extends_wait s m a' (by rw [hm]; trivial) h
  · intro src frag a'
    unfold onFragment
    simp only [hm]
    split <;> simp
  · intro src a'
    unfold onLinkMsg
    simp [hm]
  · intro a' h
    unfold onTime at h
    simp only [hm] at h
    split at h
    · cases h
    · injection h with h
      exact ⟨h.symm, by omega⟩
  · intro a'
    unfold onEof
    simp [hm]

/-- hence the check is bounded by one response timeout: whatever happened in between, once the
    clock reaches the deadline fixed at the start the check ends with `ResponseTimeout` -/
theorem link_check_bounded (s : MState) (dest dl : Nat) (uid : Option Nat) (hm : s.mode = .waitLink dest uid dl)
    (ms : Nat) (h : dl ≤ s.now + ms) :
    onTime ({ s with now := s.now + ms }, []) = .linkDone ({ s with now := s.now + ms }, []) uid (some .timeout) := by
  unfold onTime
  simp [hm, h]

/-- regression for D24 (repaired): a link status check with a 1000 ms timeout, an unrelated message
    at 999 ms; the check ends at 1000 ms with `ResponseTimeout` (before the repair it was still
    outstanding at 1998 ms with its deadline moved to 1999) -/
def d24State : MState :=
  { assocs := [{ addr := 1024, cfg := { rto := 1000, dis := 0, int := 0, en := 0 }, polls := [⟨0, 1, 60000, 60000⟩], pollId := 1 }],
    ring := [1024], mode := .waitLink 1024 (some 1) 1000, live := 1 }

theorem link_check_not_rearmed_regression :
    let s1 := (Master.step d24State (.tick 999)).1
    let r2 := Master.step s1 (.msg (.demand 1024 0))
    let r3 := Master.step r2.1 (.tick 1)
    r2.2 = [] ∧ (match r2.1.mode with | .waitLink _ _ dl => dl | _ => 0) = 1000 ∧
    r3.1.now = 1000 ∧ MOut.complete 1 (.task .timeout) ∈ r3.2 := by decide

end Dnp3.Props.C16
