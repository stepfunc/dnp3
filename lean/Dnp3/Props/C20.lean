import Dnp3.Props.C20Lists
import Dnp3.Model.FfiMeas
import Dnp3.Proofs.FfiTables
/-!
# C20 — The C/.NET/Java binding layer maps every value to its namesake, losslessly

The quantifier of the property ("every variant of every enumeration and every conversion impl in the binding
crate") is the finite table `Dnp3.Gen.Ffi.armsN` / `fieldsN`, regenerated from `ffi/dnp3-ffi/src/**.rs` on every
run by `tools/gen_ffi.py` (every arm of every conversion `match`, every field assignment of every struct
conversion).  Exhaustiveness of each `match` and completeness of each struct literal are rustc's (trusted base);
a wildcard arm or a `..base` would appear in the table (`lvar = "_"`, kind `rest`) and fail the theorems below.

All theorems are closed `Bool` computations over the whole table, checked by the kernel (`decide +kernel`),
directly or through a cheaper computation that is proved to imply them (`Dnp3.Proofs.FfiTables`).
The reviewed exception lists are in `Dnp3.Props.C20Lists`, one comment per entry; a mapping that is not a namesake and not listed
fails `arms_namesake…`, a collision that is not listed fails `arms_injective`, a crossed field fails
`struct_fields_namesake…`.
-/
namespace Dnp3.Props.C20
open Dnp3.Gen.Ffi Dnp3.Ffi Dnp3.Proofs.FfiTables

/-! ## known finding D22 — `EmptyResponseError`: `IinError` and `RejectedByIin2` are exchanged
see `Dnp3.Ffi.isD22` (Model/Ffi.lean). -/

/-- the table is not empty and its declared sizes are its sizes -/
theorem table_wellformed : nArms = armsN.length ∧ nFields = fieldsN.length ∧ 0 < nArms ∧ 0 < nFields ∧
    armsN.all (fun a => a.impl < implNames.length) = true ∧ fieldsN.all (fun f => f.conv < convNames.length) = true := by
  simp only [armsN, List.append_assoc]
  decide +kernel

/-
Full statement (FALSE on the unchanged tree because of D22, see `arms_namesake_counterexample`):
  theorem arms_namesake : armsN.all (ArmNamesake renames) = true
-/
/-- every arm of every conversion maps a variant to its namesake, or is a reviewed rename — except the two D22 arms -/
theorem arms_namesake_partial : (armsN.filter (fun a => !isD22 a)).all (ArmNamesake renames) = true := by
  rw [List.all_filter]
  -- an arm between two occurrences of one interned name is a namesake; whether an arm is one of D22 is asked last
  refine all_of_or (fun a => a.lvar == a.rvar || ArmNamesake renames a) (fun a h => ?_) ?_
  · rcases Bool.or_eq_true _ _ ▸ h with h | h
    · simp [ArmNamesake, eq_of_beq h]
    · simp [h]
  · simp only [armsN, List.append_assoc]
    decide +kernel

/-- D22 is in the table (two arms), and `WriteError::IinError(_) => ffi::EmptyResponseError::RejectedByIin2` is neither a
    namesake nor covered by any reviewed rename -/
theorem arms_namesake_counterexample :
    (armsN.filter isD22).length = 2 ∧ (armsN.filter isD22).all (ArmNamesake renames) = false := by
  rw [filter_isD22]
  simp only [armsN, List.append_assoc]
  decide +kernel

/-
Full statement (FALSE on the unchanged tree because of D22):
  theorem renames_only_without_namesake : armsN.all (fun a => !namesakeAvailable armsN a) = true
-/
/-- no arm is renamed although its target enumeration has a like-named variant — except the two D22 arms -/
theorem renames_only_without_namesake_partial :
    (armsN.filter (fun a => !isD22 a)).all (fun a => !namesakeAvailable armsN a) = true := by
  rw [List.all_filter]
  -- an arm between two occurrences of one name is not renamed; for the others only the arms into the target types of
  -- such arms are searched (the kernel computes that sublist and its set of offered variants once), and an arm whose
  -- source variant meets no offered variant of its target type in the hash has no namesake there
  refine all_of_or
    (fun a => a.lvar == a.rvar ||
      (renamedInto armsN).testBit a.rty &&
        !(offered (armsN.filter fun b => (renamedInto armsN).testBit b.rty)).testBit (slot a.rty a.lvar))
    (fun a h => ?_) ?_
  · rcases Bool.or_eq_true _ _ ▸ h with h | h
    · simp [namesakeAvailable, eq_of_beq h]
    · rw [Bool.and_eq_true] at h
      cases hn : namesakeAvailable armsN a with
      | false => simp
      | true =>
        rw [← namesakeAvailable_filter _ _ h.1] at hn
        simp [namesakeAvailable_offered hn] at h
  · simp only [armsN, List.append_assoc]
    decide +kernel

/-- both D22 arms are renamed although the namesake exists in `ffi::EmptyResponseError` -/
theorem renames_only_without_namesake_counterexample :
    (armsN.filter isD22).all (namesakeAvailable armsN) = true := by
  rw [filter_isD22]
  simp only [armsN, List.append_assoc]
  decide +kernel

/-- the enumerations related by each arm are namesakes or a reviewed pairing -/
theorem arm_types_namesake : armsN.all (ArmTypesNamesake typeRenames) = true := by
  -- the arms of one `match` relate the same two types
  rw [← all_runHeads (same := fun a b => a.lty == b.lty && a.rty == b.rty && delegates a == delegates b)
    fun a b e => by simp only [Bool.and_eq_true, beq_iff_eq] at e; simp [ArmTypesNamesake, e]]
  simp only [armsN, List.append_assoc]
  decide +kernel

/-- within one conversion distinct source variants go to distinct targets, except the deliberate collapses -/
theorem arms_injective : ImplInjective manyToOne armsN = true := by
  rw [ImplInjective, Bool.and_eq_true]
  simp only [armsN, List.append_assoc]
  exact ⟨by decide +kernel, injectiveGrouped_of_fast (by decide +kernel)⟩

/-- every struct conversion assigns field `f` from accessor `f` (no crossed fields, no `..base`, reviewed constants
    only) and no two target fields read the same source.
    (Full strength since the repair of D21 — `From<dnp3::app::Permissions> for ffi::Permissions` used to
    assign `group ← world`, `owner ← group`; see known_findings.jsonl, entry `fixed: … D21`.) -/
theorem struct_fields_namesake :
    StructFieldsNamesake fieldRenames constFields fieldsN = true := by
  rw [StructFieldsNamesake, Bool.and_eq_true]
  exact ⟨all_of_or _ (fieldNamesake_of_same_name _ _) (by decide +kernel), by decide +kernel⟩

/-- the crossed rows of D21 are gone from the table read from the current source -/
theorem d21_absent : d21Present = false := by
  -- only a row of a conversion to `ffi::Permissions` can be crossed: the other rows' fields are not looked up
  rw [d21Present, List.any_eq_not_all_not, Bool.not_eq_false']
  refine all_of_or (fun f => !(f.dir == 1 && nm f.ty == nFfiPermissions)) (fun f h => ?_) (by decide +kernel)
  rw [Bool.not_eq_true'] at h
  simp [isD21Row, h]

/-! ## master-side measurement path — `impl ReadHandler for ffi::ReadHandler`, `implement_iterator!`, `OctetStringIterator`

The quantifier ("every measurement handed to the foreign consumer") is the table `Dnp3.Gen.FfiHandler.*`, regenerated from
`ffi/dnp3-ffi/src/handler.rs` on every run by `tools/gen_ffi_handler.py`.  Together with `struct_fields_namesake`
(`index: idx`, `value: value.value`, `flags: value.flags.into()`, `time: value.time.into()` of every `ffi::X::new`) the
theorems below say that each field of each measurement struct the consumer reads is fed from its namesake of the
native value the master handed to the handler.  The dynamic half is the engine `ffimeas`. -/
section handler
open Dnp3.Gen.FfiHandler Dnp3.FfiHandler

/-- the tables are not empty: 12 iterator methods + 2 fragment methods + abs_time + device attribute, 11 macro
    instantiations, 9 attribute arms, 12 constructors -/
theorem handler_table_wellformed :
    0 < methods.length ∧ 0 < iterators.length ∧ 0 < attrArms.length ∧ 0 < ctors.length ∧
    (methods.filter (·.kind == 0)).length = iterators.length + 1 ∧
    distinct (methods.map (·.name)) = true ∧ distinct (iterators.map (·.itName)) = true ∧
    distinct (iterators.map (·.func)) = true ∧ distinct (iterators.map (·.libTy)) = true := by
  decide +kernel

/-- every method of the impl invokes exactly one callback of the interface struct — its namesake — and a measurement
    method hands it (self, info.into(), &mut <its own adapter>::new(iter)) -/
theorem handler_methods_namesake : methods.all (MethodNamesake methodCfg attrArms.length) = true := by
  decide +kernel

/-- every adapter is built by exactly one method; `OctetStringIterator` too; no method builds anything else -/
theorem handler_adapters_used_once : AdaptersUsedOnce octetIt methods iterators = true := by
  decide +kernel

/-- `implement_iterator!(XIterator, x_iterator_next, X, ffi::X)` for every instantiation -/
theorem iterator_instances_namesake :
    iterators.all (IterInstNamesake methodCfg.sIterator (c!"IteratorNext") (c!"ffi::")) = true := by
  decide +kernel

/-- the macro's `fn next` turns the native pair `(value: $lib_type, idx: u16)` into `<$ffi_type>::new(idx, value)`,
    and the constructor of every instantiation takes `(idx: u16, value: <its native type>)` -/
theorem iterator_macro_feeds_namesake :
    MacroFeedsNamesake macroCfg = true ∧ iterators.all (CtorMatches macroCfg ctors) = true := by
  decide +kernel

/-- every exported next function advances the adapter and then yields the slot -/
theorem iterator_next_advances_then_yields : macroFnSteps = nextSteps ∧ octetFnSteps = nextSteps := by
  decide +kernel

/-- a fresh `ByteIterator` is created for EVERY octet string (seed S80 removes the reset of the slot: the second and
    later strings of a header then reach the consumer through the consumed iterator of the first), the item is built from
    the string's own index and that iterator, and the exhausted branch clears the item -/
theorem octet_iterator_fresh_byte_iterator :
    octetItem = [c!"&'a[u8]", c!"u16"] ∧
    octetNewInit = [c!"inner", c!"next:None", c!"current_byte_it:None"] ∧
    FreshByteIterator (c!"crate::ByteIterator::new") (c!"ffi::OctetString::new") (c!"self.next") octetNextPattern octetNextSome = true ∧
    ExhaustedClears (c!"self.next") octetNextElse = true := by
  decide +kernel

/-- every arm of `handle_device_attribute` invokes its namesake callback with the arm's own value and the enum of the
    arm's own kind; distinct variants reach distinct callbacks -/
theorem attr_arms_namesake :
    attrArms.all (AttrArmNamesake attrCfg) = true ∧
    distinct (attrArms.map (·.variant)) = true ∧ distinct (attrArms.map (·.callee)) = true := by
  decide +kernel

end handler

/-- a value without a payload-carrying variant crosses unchanged: the model the real binding layer is compared with
    is the identity -/
theorem model_crossing_lossless (l : List Char) (h : ∀ c ∈ l, c ≠ '(') : Dnp3.FfiMeas.strip 0 l = l := by
  induction l with
  | nil => rfl
  | cons c cs ih =>
    have hc : c ≠ '(' := h c (by simp)
    have hcs : ∀ x ∈ cs, x ≠ '(' := fun x hx => h x (by simp [hx])
    simp [Dnp3.FfiMeas.strip, hc, ih hcs]

example : Dnp3.FfiMeas.strip 0 "i 7 1 81 sync:5".toList = "i 7 1 81 sync:5".toList :=
  model_crossing_lossless _ (by decide)

/-- the only thing the model drops is a parenthesised payload -/
example : String.ofList (Dnp3.FfiMeas.strip 0 "octet_string Group110(5) Range8 0 0".toList) = "octet_string Group110 Range8 0 0" := by
  decide +kernel

end Dnp3.Props.C20
