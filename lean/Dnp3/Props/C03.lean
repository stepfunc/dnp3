import Dnp3.Props.DbComponent
import Dnp3.Proofs.OutstationC03A
import Dnp3.Proofs.OutstationC03Db
/-!
# C03 — No event is lost, invented, or released before a confirmed response carried it

Database-component theorems (`Dnp3.Model.Database`, proofs in `Dnp3.Proofs.Database*`) for EVERY
database state / operation / operation sequence, ALL EIGHT point types of the library's database and
every per-type event-buffer configuration (the satisfiability `example`s are in
`Dnp3.Props.DbComponent`, namespace `Dnp3.Props.Db`):

* the generated per-type tables (`Dnp3.Gen.DbT`, re-extracted from `outstation/database/**` on every run)
  are well formed: every `impl Insertable` touches its own maximum, counter and `Event` variant
  (`insertable_slots_own`, `counter_dispatch_own`), `is_any_full` / `max_events` mention every type once
  (`is_any_full_each_type_once`), the header variants lead to the type they name (`header_dispatch_own`);
* no type ever holds more events than ITS OWN maximum and the shared event list never more than the sum of
  the maxima (`type_capacity`, `events_within_capacity`);
* the event rule: an update in `Detect` mode creates an event iff the flags changed or the value is beyond
  the point's dead-band of the value LAST REPORTED as an event, and that baseline moves only with an event
  (`event_iff_beyond_deadband`, `update_creates_event_iff`, `last_reported_moves_only_with_event`);

* events are kept oldest first with unique increasing ids (`ordered_*`), counters are exact
  (`total_exact_invariant`, `counters_exact` for every operation sequence, `counters_exact_preserved`
  per operation; the former D3 witness: `counters_exact_former_witness`), the checked counter
  decrements of an overflow cannot underflow (`discard_decrements_no_underflow`);
* an event leaves the buffer only by `clearWritten` (exactly the `Written` records, oldest first,
  each id once: `clear_releases_*`) or by an overflow that is reported and discards the oldest record
  of the type (`kept`, `overflow_reported_discards_oldest`); `reset` (timeout, new request) releases
  nothing and returns every record to the pool (`reset_releases_nothing`);
* responses mark exactly a prefix, in buffer order, of the selected records as written and carry
  exactly those (`write_marks_prefix`, `unsol_marks_prefix`), selection never touches anything but
  `Unselected → Selected` (`select_only_selects`).

Which session paths call `clearWritten` / `reset` is the session model's part
(`Dnp3.Model.Outstation`, tied by the `outstationdb` correspondence engine and the event-ledger
monitors): section "Session level" at the end of this file (proofs in
`Dnp3.Proofs.OutstationC03`/`…C03A`/`…C03B`, database opaque; `…C03Db` instantiates the real database).
The session-level defects D4 (an unsolicited data series that ended without its confirm did not
reset the database) and D19 (neither did a disconnect) are repaired; the theorems there are the
full statements.
-/
namespace Dnp3.Props.C03
open Dnp3 Dnp3.DbM Dnp3.DbProofs Dnp3.Props.Db

/-- every `impl Insertable for measurement::X` reads its own maximum and its own counter, changes its own
    counter, and names its own `Event` variant -/
theorem insertable_slots_own (t : PtType) : Gen.DbT.insertable t = ⟨t, t, t, t, t, t, t⟩ :=
  DbTables.insertable_own t

/-- `TypeCounter::modify` and the `match` of `Counters::decrement` pick the counter of the record's type -/
theorem counter_dispatch_own (t : PtType) : Gen.DbT.typeCounterModify t = t ∧ Gen.DbT.countersDecrement t = t :=
  ⟨DbTables.typeCounterModify_own t, DbTables.countersDecrement_own t⟩

/-- `EventBuffer::is_any_full` asks every type exactly once; `EventBufferConfig::max_events` (the capacity
    of the shared event list) adds every type's maximum exactly once -/
theorem is_any_full_each_type_once (t : PtType) :
    Gen.DbT.isAnyFull.count t = 1 ∧ Gen.DbT.maxEventsSum.count t = 1 :=
  ⟨DbTables.isAnyFull_each_once t, DbTables.maxEventsSum_each_once t⟩

/-- the header variants of `select_by_header`, `StaticDatabase::select`, `write_range` and the accessors of
    `impl Updatable` lead to the type they are named after; `select_class_zero` visits every type once, in
    the order of `enum Event` -/
theorem header_dispatch_own (t : PtType) :
    Gen.DbT.eventHdrTy t = t ∧ Gen.DbT.staticHdrTy t = t ∧ Gen.DbT.writeRangeTy t = t ∧
    Gen.DbT.updatable t = ⟨t, t, t, decide (t ≠ .octetString), t⟩ ∧ Gen.DbT.classZeroOrder = Gen.DbT.Ty.all :=
  ⟨DbTables.eventHdrTy_own t, DbTables.staticHdrTy_own t, DbTables.writeRangeTy_own t, DbTables.updatable_own t,
   DbTables.classZeroOrder_all⟩

/-- events are kept oldest first with strictly increasing ids below `next`: an invariant of
    every operation sequence from a fresh database -/
theorem ordered_invariant (ev : TyVec Nat) (cz : TyVec Bool) (sel : Option Nat) (ops : List DbOpX) :
    Ordered (runX (Db.newCfg ev cz sel) ops) :=
  ordered_inv.runX _ ops (newCfg_ordered ev cz sel)

/-- … and it is preserved by every single operation from any state that has it -/
theorem ordered_preserved (db : Db) (op : DbOpX) (h : Ordered db) : Ordered (stepX db op) :=
  ordered_inv.stepX db op h

/-- `total` (per class and per type) equals the number of records of that class / type: an
    invariant of every operation sequence, overflow included -/
theorem total_exact_invariant (ev : TyVec Nat) (cz : TyVec Bool) (sel : Option Nat) (ops : List DbOpX) :
    TotalExact (runX (Db.newCfg ev cz sel) ops) :=
  total_inv.runX _ ops (newCfg_total ev cz sel)

/-- `counters_exact`: `total` AND `written` counters equal the per-class / per-type counts of
    records / of `Written` records: an invariant of every operation sequence from a fresh database,
    the overflow of a `Written` record out of the buffer included (false before the repair of D3:
    `insert` left `written` too high) -/
theorem counters_exact (ev : TyVec Nat) (cz : TyVec Bool) (sel : Option Nat) (ops : List DbOpX) :
    CountersExact (runX (Db.newCfg ev cz sel) ops) :=
  @Dnp3.Props.Db.counters_exact ev cz sel ops

/-- … in particular of every sequence of the session model's operations, the configuration written as
    the number `Db.new` takes -/
theorem counters_exact_session (evMax : Nat) (sel : Option Nat) (ops : List DbOp) :
    CountersExact (run (Db.new evMax sel) ops) :=
  counters_run _ ops (new_counters evMax sel)

/-- … and it is preserved by every single operation from any state that has it -/
theorem counters_exact_preserved (db : Db) (op : DbOpX) (h : CountersExact db) : CountersExact (stepX db op) :=
  @Dnp3.Props.Db.counters_exact_preserved db op h

/-- one step: every operation preserves `WrittenExact` (no side condition: an update that discards
    a `Written` record takes it out of `written` too) -/
theorem written_exact_preserved (db : Db) (op : DbOpX) (h : WrittenExact db) : WrittenExact (stepX db op) :=
  @Dnp3.Props.Db.written_exact_preserved db op h

/-- the witness history of D3 leaves exact counters: the discarded `Written` class-1 record
    is gone from `written` as well (`written.class1 = total.class1 = 0`; without the repair of D3
    `written.class1 = 1`), `unwritten_classes` does not panic and reports class 2 only -/
theorem counters_exact_former_witness :
    CountersExact (run (Db.new 1 none) d3Witness) ∧
    (run (Db.new 1 none) d3Witness).unwrittenClasses = some (false, true, false) ∧
    (run (Db.new 1 none) d3Witness).written.c1 = 0 ∧ (run (Db.new 1 none) d3Witness).total.c1 = 0 :=
  @Dnp3.Props.Db.counters_exact_former_witness 

/-- the checked decrements of `insert` (`Count::decrement`, `-= 1`) never underflow: with exact
    counters the record an overflow of type `t` discards is counted in `total` (type, then class) and,
    when it is `Written`, in `written` (type, then class).  The model writes these decrements as truncated
    subtraction (`Counters.decTy`, `Counters.decCls`), not as a panic it could reach: this theorem is what stands for the
    panic, for `insert`; the decrements of `clear_written_events` (`foldl Counters.dec`) have no such statement -/
theorem discard_decrements_no_underflow (db : Db) (t : PtType) (d : EvRec) (rest : List EvRec)
    (h : CountersExact db) (hrem : removeFirstTy t db.events = some (d, rest)) :
    1 ≤ db.total.ty t ∧ (d.cls = 1 ∨ d.cls = 2 ∨ d.cls = 3 → 1 ≤ (db.total.decTy t).cls d.cls) ∧
    (d.st = .written →
      1 ≤ db.written.ty t ∧ (d.cls = 1 ∨ d.cls = 2 ∨ d.cls = 3 → 1 ≤ (db.written.decTy t).cls d.cls)) := by
  obtain ⟨hty, pre, post, hl, _, _⟩ := removeFirstTy_spec t _ _ _ hrem
  have hmem : d ∈ db.events := by rw [hl]; exact List.mem_append_right _ (List.mem_cons_self ..)
  have key : ∀ c : Counters, (∀ s : Slot, s.has d = true → 1 ≤ c.get s) →
      1 ≤ c.ty t ∧ (d.cls = 1 ∨ d.cls = 2 ∨ d.cls = 3 → 1 ≤ (c.decTy t).cls d.cls) := by
    intro c hc
    refine ⟨hc (.ty t) (by simp [Slot.has, Slot.isTy, hty]), ?_⟩
    rintro (hk | hk | hk) <;> rw [hk]
    · exact hc .c1 (by simp [Slot.has, Slot.cls, hk])
    · exact hc .c2 (by simp [Slot.has, Slot.cls, hk])
    · exact hc .c3 (by simp [Slot.has, Slot.cls, hk])
  obtain ⟨ht, hw⟩ := h
  refine ⟨(key _ fun s hs => ?_).1, (key _ fun s hs => ?_).2, fun hst => key _ fun s hs => ?_⟩
  · rw [ht]; exact tallyBy_pos hmem rfl hs
  · rw [ht]; exact tallyBy_pos hmem rfl hs
  · rw [hw]; exact tallyBy_pos hmem (by simp [isWritten, hst]) hs

/-- `clear` and `reset` establish `WrittenExact` from ANY state -/
theorem written_exact_restored (db : Db) : WrittenExact db.clearWritten.1 ∧ WrittenExact db.reset :=
  ⟨clear_written db, reset_written db⟩

/-- `clearWritten` (a confirmed response) removes exactly the `Written` records, reports exactly
    their ids in buffer order (oldest first), zeroes `written`, and returns the remaining
    per-class totals -/
theorem clear_releases_exactly_written (db : Db) :
    db.clearWritten.1.events = db.events.filter (fun r => !isWritten r) ∧
    db.clearWritten.2.1 = (db.events.filter isWritten).map (·.id) ∧
    db.clearWritten.1.written = {} ∧
    db.clearWritten.2.2 = (db.clearWritten.1.total.c1, db.clearWritten.1.total.c2, db.clearWritten.1.total.c3) := by
  obtain ⟨h1, h2, h3, _, _, _, h7⟩ := clear_spec db
  exact ⟨h1, h2, h3, h7⟩

/-- released ids are strictly increasing (so no id is released twice by one clear), and after the
    clear no record with a released id is left -/
theorem clear_releases_once (db : Db) (h : Ordered db) :
    db.clearWritten.2.1.Pairwise (· < ·) ∧
    ∀ r ∈ db.clearWritten.1.events, r.id ∉ db.clearWritten.2.1 := by
  obtain ⟨h1, h2, _⟩ := clear_spec db
  rw [h1, h2]
  constructor
  · exact List.pairwise_map.mpr (h.1.sublist List.filter_sublist)
  · intro r hr hmem
    obtain ⟨hr1, hr2⟩ := List.mem_filter.mp hr
    obtain ⟨x, hx, hid⟩ := List.mem_map.mp hmem
    obtain ⟨hx1, hx2⟩ := List.mem_filter.mp hx
    have : x = r := ordered_id_inj h.1 hx1 hr1 hid
    subst this
    simp [hx2] at hr2

/-- `reset` releases nothing: same records (ids, indices, classes, types, values) in the same
    order, every one `Unselected`, `written` zeroed, static selection dropped -/
theorem reset_releases_nothing (db : Db) :
    db.reset.events.map core = db.events.map core ∧
    (∀ r ∈ db.reset.events, r.st = .unselected) ∧ db.reset.written = {} ∧ db.reset.queue = [] := by
  obtain ⟨_, h2, h3, _, h5, _, _, _, h9⟩ := reset_spec db
  exact ⟨h2, h3, h5, h9⟩

/-- `select` (any READ header) only ever moves records `Unselected` → `Selected`; counters,
    ids, overflow flag untouched -/
theorem select_only_selects (db : Db) (h : ReadHdr) :
    Pointwise SelStep db.events (db.select h).1.events ∧
    (db.select h).1.total = db.total ∧ (db.select h).1.written = db.written ∧
    (db.select h).1.next = db.next ∧ (db.select h).1.overflown = db.overflown := by
  obtain ⟨h1, h2, h3, h4, _, h6⟩ := select_sel db h
  exact ⟨h1, h2, h3, h4, h6⟩

/-- `write_response_headers`: a prefix (in buffer order) of the `Selected` records becomes
    `Written` — exactly the records whose encodings open the response; `has_events` says
    whether that prefix is non-empty; if it is not all of them the response is incomplete and
    carries no static data -/
theorem write_marks_prefix (db : Db) (cap : Nat) :
    ∃ n, let w := (db.events.filter isSelected).take n
      (db.writeResponse cap).1.events = markFirst n db.events ∧
      n = w.length ∧
      (∃ st, (db.writeResponse cap).2.1 = encodeEvents none w ++ st ∧
        (w ≠ db.events.filter isSelected → st = [])) ∧
      (db.writeResponse cap).2.2.1 = !w.isEmpty ∧
      (w ≠ db.events.filter isSelected → (db.writeResponse cap).2.2.2 = false) := by
  obtain ⟨n, hm, he⟩ := writeEvents_spec db cap
  have hall : (db.events.filter isSelected).take n ≠ db.events.filter isSelected →
      decide (n = (db.events.filter isSelected).length) = false := fun hne =>
    decide_eq_false fun hn => hne (by rw [hn, List.take_length])
  refine ⟨n, ?_⟩
  simp only []
  refine ⟨?_, by rw [List.length_take, Nat.min_eq_left hm.1], ?_⟩
  · rw [(writeResponse_eb db cap).1, he]
  · rcases writeResponse_cases db cap with ⟨_, _, hr⟩ | ⟨hc, _, _, _, hr⟩ <;> rw [hr, he]
    · exact ⟨⟨[], (List.append_nil _).symm, fun _ => rfl⟩, rfl, fun _ => rfl⟩
    · rw [he] at hc
      exact ⟨⟨_, rfl, fun hne => absurd hc (by rw [hall hne]; exact Bool.false_ne_true)⟩, rfl,
        fun hne => absurd hc (by rw [hall hne]; exact Bool.false_ne_true)⟩

/-- `write_unsolicited` = reset, select the classes, write events only: its octets are exactly
    the encodings of the prefix it marked `Written` -/
theorem unsol_marks_prefix (db : Db) (c1 c2 c3 : Bool) (cap : Nat) :
    ∃ dbs n, EbSel db.reset dbs ∧
      (db.writeUnsolicited c1 c2 c3 cap).1.events = markFirst n dbs.events ∧
      (db.writeUnsolicited c1 c2 c3 cap).2.1 = encodeEvents none ((dbs.events.filter isSelected).take n) ∧
      (db.writeUnsolicited c1 c2 c3 cap).2.2 = ((dbs.events.filter isSelected).take n).length :=
  @Dnp3.Props.Db.unsol_marks_prefix db c1 c2 c3 cap

/-- `kept`: whatever the operation, every record stays in the buffer with its id, index,
    class, type, value/flags/time and default variation — unless the operation is an update that
    REPORTS it as its overflow discard, or a `clear` that reports its id as released -/
theorem kept (db : Db) (op : DbOp) (r : EvRec) (hr : r ∈ db.events) :
    SurvivesIn r (step db op).events ∨ Lost db op r := by
  cases op with
  | update t idx v f tm =>
    show SurvivesIn r (db.update t idx v f tm).1.events ∨ ∃ c, (db.update t idx v f tm).2 = .overflow c r.id
    obtain ⟨db0, he, h1 | h1 | ⟨t', idx', cls, m, dv, h1⟩⟩ := update_spec_enc db t idx v f tm <;> rw [h1]
    · left; simp only []; rw [he.1]; exact ⟨r, hr, rfl⟩
    · left; simp only []; rw [he.1]; exact ⟨r, hr, rfl⟩
    · have hr0 : r ∈ db0.events := by rw [he.1]; exact hr
      rcases insert_survives db0 idx' cls t' m dv r hr0 with h | ⟨c, h⟩
      · exact Or.inl h
      · right; exact ⟨c, by simp only [h, infoOf]⟩
  | clear =>
    show SurvivesIn r db.clearWritten.1.events ∨ r.id ∈ db.clearWritten.2.1
    obtain ⟨h1, h2, _⟩ := clear_spec db
    rw [h1, h2]
    cases hw : isWritten r
    · left; exact ⟨r, List.mem_filter.mpr ⟨hr, by simp [hw]⟩, rfl⟩
    · right; exact List.mem_map.mpr ⟨r, List.mem_filter.mpr ⟨hr, hw⟩, rfl⟩
  | _ => exact Or.inl ((survives_keep r).step db _ ⟨fun _ _ _ _ _ e => (by cases e), fun e => (by cases e)⟩ ⟨r, hr, rfl⟩)

/-- an overflow is reported, raises the overflow flag, and discards the OLDEST record of the type -/
theorem overflow_reported_discards_oldest (db : Db) (idx cls : Nat) (t : PtType) (m : Meas) (dv c dId : Nat)
    (ho : Ordered db) (h : (db.insert idx cls t m dv).2 = .overflow c dId) :
    ∃ d ∈ db.events, d.id = dId ∧ d.ty = t ∧ (db.insert idx cls t m dv).1.overflown = true ∧
      ∀ r ∈ db.events, r.ty = t → r ≠ d → d.id < r.id :=
  overflow_discards_oldest db idx cls t m dv c dId ho h

/-- no type ever holds more events than its configured maximum -/
theorem type_capacity (ev : TyVec Nat) (cz : TyVec Bool) (sel : Option Nat) (ops : List DbOpX) (t : PtType) :
    (runX (Db.newCfg ev cz sel) ops).events.countP (fun r => r.ty == t) ≤ ev.get t :=
  type_capacityX ev cz sel ops t

/-- the shared event list never holds more than the sum of the maxima — the capacity the library gives its
    `VecList` (so that `VecList::add` cannot fail, which `EventBuffer::insert` does not check) -/
theorem events_within_capacity (ev : TyVec Nat) (cz : TyVec Bool) (sel : Option Nat) (ops : List DbOpX) :
    (runX (Db.newCfg ev cz sel) ops).events.length ≤ (Gen.DbT.maxEventsSum.map fun t => ev.get t).sum := by
  have h := length_le_capacity _ (bounded_runX ev cz sel ops).1
  rwa [(bounded_runX ev cz sel ops).2] at h

/-- `event_iff_beyond_deadband`: an update of an existing point in `EventMode::Detect` wants an event iff the
    flags as reported changed or — for the types whose detector has a dead-band — the new value differs from
    the value LAST REPORTED as an event by more than the point's dead-band (binary types: the reported flags
    carry the state; octet strings: the octets differ); `Force` always does, `Suppress` never -/
theorem event_iff_beyond_deadband (t : PtType) (p : Point) (m : Meas) :
    (wantsEvent t p m .detect = true ↔
      match Gen.DbT.detector t with
      | .flags => p.lastEvent.wire t ≠ m.wire t
      | .deadband => p.lastEvent.wire t ≠ m.wire t ∨ (m.value - p.lastEvent.value).natAbs > p.deadband
      | .value => p.lastEvent.octets ≠ m.octets) ∧
    wantsEvent t p m .force = true ∧ wantsEvent t p m .suppress = false :=
  ⟨isEvent_iff t p.deadband p.lastEvent m, rfl, rfl⟩

/-- … the update reports `created` / `overflow` exactly when an event is wanted, the point has an event
    class and the type's buffer is not switched off … -/
theorem update_creates_event_iff (db : Db) (t : PtType) (idx : Nat) (m : Meas) (o : UpdOpts) (p : Point)
    (hp : pmLookup (db.map t) idx = some p) :
    ((∃ id, (db.updateOpt t idx m o).2 = .created id) ∨ (∃ c d, (db.updateOpt t idx m o).2 = .overflow c d)) ↔
      (wantsEvent t p m o.mode = true ∧ p.cls ≠ 0 ∧ db.evCfg.get t ≠ 0) := by
  obtain ⟨db0, he, _, _, ⟨hn, h1⟩ | ⟨hw, hc, h1⟩⟩ := updateOpt_point db t idx m o p hp <;> rw [h1]
  · constructor
    · rintro (⟨id, h⟩ | ⟨c, d, h⟩) <;> cases h
    · rintro ⟨hw, hc, _⟩
      exact absurd ⟨hw, hc⟩ hn
  · rw [← (he.2.2.2.2.1 : db0.evCfg = db.evCfg)]
    rcases insert_reports db0 idx p.cls t m p.evar with ⟨h0, hi⟩ | ⟨h0, hi⟩
    · constructor
      · rintro (⟨id, h⟩ | ⟨c, d, h⟩) <;> rw [hi] at h <;> cases h
      · rintro ⟨_, _, hmax⟩
        exact absurd h0 hmax
    · exact ⟨fun _ => ⟨hw, hc, h0⟩, fun _ => hi⟩

/-- … and `last reported` (the detector's baseline `lastEvent`) becomes the new value exactly when an event
    is wanted and is left alone otherwise; the static value follows `update_static`; nothing else of the
    point, and no other point, changes -/
theorem last_reported_moves_only_with_event (db : Db) (t : PtType) (idx : Nat) (m : Meas)
    (o : UpdOpts) (p : Point) (hp : pmLookup (db.map t) idx = some p) :
    ∃ p', pmLookup ((db.updateOpt t idx m o).1.map t) idx = some p' ∧
      p'.lastEvent = (if wantsEvent t p m o.mode then m else p.lastEvent) ∧
      p'.current = (if o.updateStatic then m else p.current) ∧
      p'.selected = p.selected ∧ p'.cls = p.cls ∧ p'.svar = p.svar ∧ p'.evar = p.evar ∧ p'.deadband = p.deadband := by
  obtain ⟨db0, he, hm, _, ⟨_, h1⟩ | ⟨_, _, h1⟩⟩ := updateOpt_point db t idx m o p hp <;>
    refine ⟨updPoint t p m o, ?_, rfl, rfl, rfl, rfl, rfl, rfl, rfl⟩ <;> rw [h1] <;> simp only []
  · rw [hm]
    exact pmLookup_pmSet_same (db.map t) idx p _ hp
  · rw [show (db0.insert idx p.cls t m p.evar).1.map t = db0.map t from
      congrArg (·.get t) (insert_st db0 idx p.cls t m p.evar).1, hm]
    exact pmLookup_pmSet_same (db.map t) idx p _ hp

/-! ## Session level: where the session applies `clearWritten` and `reset` (D4, D19 repaired)

Over the session model `Dnp3.Model.Outstation`, for ALL states and inputs, with the database opaque
(the `Db` operations are irreducible in the proofs: `Dnp3.Proofs.OutstationC03A`, `…C03B`).
Definitions (`Dnp3.Proofs.OutstationC03`): `NoRelease db0 db` — `db` arises from `db0` by `select`,
`writeResponse`, `writeUnsolicited`, `reset` only; `ConfirmPoint pf a` — the fragment `pf` of the step
is a CONFIRM and either a solicited series awaits exactly its sequence number (`a.1.mode = .solWait sr …`,
`UNS` clear, `seq = sr.ecsn`) or a DATA unsolicited series does (`.unsolWait resp false …`, `UNS` set,
`seq = resp.ctrl.seq`); `DbEffect pf a a'` — either `NoRelease a.1.db a'.1.db` and no confirm callback is
appended, or `ConfirmPoint pf a ∧ a'.1.db = a.1.db.clearWritten.1 ∧ .cb .beginConfirm ∈ a'.2`;
`CleanContract Clean` — `reset`, `clearWritten`, `Db.new` and an unsolicited attempt that found nothing establish
`Clean`; `select`, `update`, `add` and a response that carried no event preserve it;
`OutsideSeries m` — `m` is `.idle _` or the confirm wait of a NULL unsolicited response;
`SessClean Clean s := OutsideSeries s.mode → Clean s.db`. -/
namespace Session
open Dnp3 Dnp3.Proofs.C03 Dnp3.Proofs.Skel Dnp3.Proofs.Frame

/-- (a) **`clearWritten` is applied only at the two confirm points.**  Every step that runs the session
    machinery is a chain of primitive events (`Skel.Ev`), each of which either releases nothing — the
    database changes by `select` / `writeResponse` / `writeUnsolicited` / `reset` only, and no
    `begin_confirm` / `event_cleared` / `end_confirm` callback is emitted — or happens at a confirm point
    (solicited CONFIRM with the expected sequence number while a solicited series awaits it; unsolicited
    CONFIRM with the sequence number of the DATA series that awaits it) and applies exactly `clearWritten` -/
theorem clear_only_on_confirm (env : OEnv) (s : OState) (inp : OInput) :
    (∃ f, inp = .setScript f ∧ Outstation.step env s inp = ({ s with script := f s.script }, [])) ∨
    Outstation.step env s inp = (s, []) ∨
    ∃ pf s0 o0, StepInit env s inp pf s0 o0 ∧ Star (EvDb pf) (s0, o0) (Outstation.step env s inp) :=
  Dnp3.Proofs.C03.clear_only_on_confirm env s inp

/-- the database effect of every primitive event (what `EvDb` adds to `Ev`) -/
theorem event_db_effect {pf : Option Frag} {a a' : Acc} (h : Ev pf a a') : DbEffect pf a a' :=
  Dnp3.Proofs.C03.Ev.dbEffect h

/-- (a), step-level corollary: a step whose fragment is not a CONFIRM (function code 0) releases no event —
    the database after the step arises from the database after the step's prologue (`StepInit`: the
    transaction / added point applied; `reset` for a disconnect) by non-releasing operations — and emits
    no confirm callback -/
theorem no_confirm_no_release (env : OEnv) (s : OState) (inp : OInput) :
    (∃ f, inp = .setScript f ∧ Outstation.step env s inp = ({ s with script := f s.script }, [])) ∨
    Outstation.step env s inp = (s, []) ∨
    ∃ pf s0 o0, StepInit env s inp pf s0 o0 ∧
      ((∀ f ctrl objs raw, ¬ ReqOf pf f ctrl 0 objs raw) →
        NoRelease s0.db (Outstation.step env s inp).1.db ∧
        ∀ o ∈ (Outstation.step env s inp).2, OOut.kind o ≠ .confirm) := by
  rcases step_reach env s inp with h | h | ⟨pf, s0, o0, hi, hr⟩
  · exact Or.inl h
  · exact Or.inr (Or.inl h)
  · refine Or.inr (Or.inr ⟨pf, s0, o0, hi, ?_⟩)
    intro hn
    obtain ⟨hdb, l, e, hl⟩ := Reach.noRelease hr hn
    refine ⟨hdb, ?_⟩
    intro o ho
    rw [e] at ho
    rcases List.mem_append.1 ho with h | h
    · have := hi.keep o h
      rw [this]; decide
    · exact hl o h

/-- (b) the exact sites where a series that ends WITHOUT its confirm resets the database, before anything
    else runs: solicited — `Confirm::Timeout` is `abortSeries` (so is `Confirm::NewRequest`:
    `C07.solWaitOnFragment_headerBad_aborts` and its neighbours in `Proofs/OutstationC07.lean`); … -/
theorem abortSeries_resets (a : Acc) (cont : SolCont) :
    abortSeries a cont = resumeAfterSol ({ a.1 with db := a.1.db.reset }, a.2) cont := rfl

theorem solWaitTimeout_aborts (a : Acc) (series : Series) (cont : SolCont) :
    solWaitTimeout a series cont = abortSeries (emitCb a (.solTimeout series.ecsn)) cont := rfl

/-- … unsolicited DATA series — retries exhausted, ended by DISABLE_UNSOLICITED, or cut short by a deferred
    READ: all three are `afterUnsolSeries _ false false` (D4 repaired) … -/
theorem unsol_series_end_resets (a : Acc) : (afterUnsolSeries a false false).1.1.db = a.1.db.reset :=
  by rw [afterUnsolSeries_failed]

/-- … and a disconnect, in whatever mode (D19 repaired): the state the next session starts from -/
theorem cut_resets (s : OState) : (cutState s).db = s.db.reset := rfl

/-- (b) **outside a response series the database is clean** — the invariant, one step from ANY state
    satisfying it, for ANY input: for every `Clean` meeting the contract, if `Clean s.db` whenever `s` is
    outside a series (idle, or waiting for the confirm of a NULL unsolicited response), the same holds after
    the step.  Since only `reset` and `clearWritten` ESTABLISH `Clean`, every way a series ends — confirmed
    (`clearWritten`), or without its confirm: solicited timeout / new request, unsolicited retries exhausted /
    DISABLE_UNSOLICITED / deferred READ, disconnect (`reset`) — has applied one of the two before the
    session is outside a series again, i.e. before the next response is written from the database -/
theorem step_sessClean {Clean : Db → Prop} (K : CleanContract Clean) (env : OEnv) (s : OState) (inp : OInput)
    (h : SessClean Clean s) : SessClean Clean (Outstation.step env s inp).1 :=
  Dnp3.Proofs.C03.step_sessClean K env s inp h

/-- … over all histories from construction -/
theorem reachable_sessClean {Clean : Db → Prop} (K : CleanContract Clean) {cfg : OCfg} {evMax : Nat} {env : OEnv}
    {s : OState} (hr : Outstation.Reachable cfg evMax env s) : SessClean Clean s :=
  Dnp3.Proofs.C03.reachable_sessClean K hr

/-- the three places where a response is written from the database OUTSIDE a series — a request handled
    from idle, the unsolicited check, the deferred READ — are reached with a clean database whenever the
    pass is (`clean_step` in `Dnp3.Proofs.OutstationC03B`), and leave it clean unless they open a series -/
theorem idle_request_clean {Clean : Db → Prop} (K : CleanContract Clean) {a a' : Acc} {f : Frag} {ctrl : AppCtrl}
    {func : Nat} {objs : Except Nat (List ObjHdr)} {raw : List Nat} (hc : Clean a.1.db)
    (hh : handleRequestFromIdle a f ctrl func objs raw = some (a', none)) : Clean a'.1.db :=
  Dnp3.Proofs.C03.idle_request_clean K hc hh

theorem checkUnsolicited_clean {Clean : Db → Prop} (K : CleanContract Clean) {a a' : Acc} {n : NextIdle}
    (hc : Clean a.1.db) (hh : checkUnsolicited a = some (.inr (a', n))) : Clean a'.1.db :=
  Dnp3.Proofs.C03.checkUnsolicited_clean K hc hh

theorem handleDeferredRead_clean {Clean : Db → Prop} (K : CleanContract Clean) {a a' : Acc} {n : NextIdle}
    (hc : Clean a.1.db) (hh : handleDeferredRead a n = some (.inr a')) : Clean a'.1.db :=
  Dnp3.Proofs.C03.handleDeferredRead_clean K hc hh

/-- the contract holds of the real database model with `Clean` = "no event record is `Written`" … -/
theorem noWritten_contract : CleanContract NoWritten := Dnp3.Proofs.C03.noWritten_contract

/-- … hence, closed over the whole model (session + database): in every reachable state outside a
    response series no event record is `Written` — nothing an unconfirmed response carried can be
    released by a later confirm (D4, D19), and the class bits count every buffered event -/
theorem reachable_no_written {cfg : OCfg} {evMax : Nat} {env : OEnv} {s : OState}
    (hr : Outstation.Reachable cfg evMax env s) (ho : OutsideSeries s.mode) : NoWritten s.db :=
  Dnp3.Proofs.C03.reachable_no_written hr ho

end Session

end Dnp3.Props.C03
