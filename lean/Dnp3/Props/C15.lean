import Dnp3.Model.MasterSession
import Dnp3.Proofs.Master
/-!
# C15 — A master accepts only the answer to its question and confirms what it accepts

Theorems over the model of `master/task.rs` (`validate_non_read_response`,
`process_read_response`, `handle_unsolicited`) and `association.rs`
(`handle_unsolicited_response`), for ALL responses, sequence numbers, sources and states.
The model is tied to the code by the correspondence run of engine `master`.
-/
namespace Dnp3.Props.C15
open Dnp3 Dnp3.Master

/-- a non-READ task accepts a response exactly when it is solicited, comes from the addressed
    outstation, carries the request's sequence number, is FIR and FIN and has no IIN2 request
    error -/
theorem nonread_accept_iff (dest seq src : Nat) (r : Resp) :
    validateNonRead dest seq src r = .accept ↔
      (r.unsol = false ∧ src = dest ∧ r.ctrl.seq = seq ∧ r.ctrl.fir = true ∧ r.ctrl.fin = true ∧ badIin2 r.iin2 = false) :=
  Proofs.Master.validateNonRead_accept_iff dest seq src r

/-- wrong source or wrong sequence number: the fragment is ignored (the wait continues), it
    never fails or completes the task -/
theorem nonread_stale_or_foreign_ignored (dest seq src : Nat) (r : Resp) (hs : r.unsol = false)
    (h : src ≠ dest ∨ r.ctrl.seq ≠ seq) : validateNonRead dest seq src r = .ignore := by
  unfold validateNonRead
  rcases h with h | h
  · simp [hs, h]
  · by_cases h2 : src = dest <;> simp [hs, h, h2]

/-- everything that is matched but not acceptable fails the task: nothing else completes it -/
theorem nonread_matched_not_accepted_fails (dest seq : Nat) (r : Resp) (hs : r.unsol = false)
    (hseq : r.ctrl.seq = seq) (hbad : ¬ (r.ctrl.fir = true ∧ r.ctrl.fin = true ∧ badIin2 r.iin2 = false)) :
    ∃ e, validateNonRead dest seq dest r = .fail e := by
  unfold validateNonRead
  simp only [hs, hseq]
  by_cases h1 : r.ctrl.fir = true <;> by_cases h2 : r.ctrl.fin = true <;> by_cases h3 : badIin2 r.iin2 = true <;>
    simp_all

example : validateNonRead 1024 3 1024 ⟨⟨true, true, false, false, 3⟩, false, 0, 0, [], some []⟩ = .accept := by decide

/-- fragment of a READ is accepted exactly when it is solicited, from the addressed outstation,
    has the expected sequence number, FIR exactly on the first fragment, CON on every non-final
    one, no IIN2 request error, and its objects parse; `confirm` / `final` are its CON / FIN bits -/
theorem read_accept_iff (dest seq src : Nat) (isFirst assocExists : Bool) (r : Resp) (c f : Bool) :
    processReadResponse dest seq isFirst assocExists src r = .accept c f ↔
      (r.unsol = false ∧ src = dest ∧ r.ctrl.seq = seq ∧ r.ctrl.fir = isFirst ∧ (r.ctrl.fin = true ∨ r.ctrl.con = true) ∧
       badIin2 r.iin2 = false ∧ assocExists = true ∧ r.objects.isSome = true ∧ c = r.ctrl.con ∧ f = r.ctrl.fin) :=
  Proofs.Master.processReadResponse_accept_iff dest seq src isFirst assocExists r c f

example : processReadResponse 1024 5 true true 1024 ⟨⟨true, false, true, false, 5⟩, false, 0, 0, [], some []⟩ = .accept true false := by
  decide

/-- a read never delivers or confirms a fragment it does not accept: every other verdict is
    `unsolicited` (handled separately), `ignore` or `fail` -/
theorem read_not_accepted (dest seq src : Nat) (isFirst ae : Bool) (r : Resp) :
    (∃ c f, processReadResponse dest seq isFirst ae src r = .accept c f) ∨
    processReadResponse dest seq isFirst ae src r = .unsolicited ∨
    processReadResponse dest seq isFirst ae src r = .ignore ∨
    (∃ e b, processReadResponse dest seq isFirst ae src r = .fail e b) := by
  cases processReadResponse dest seq isFirst ae src r with
  | unsolicited => exact .inr (.inl rfl)
  | ignore => exact .inr (.inr (.inl rfl))
  | fail e b => exact .inr (.inr (.inr ⟨e, b, rfl⟩))
  | accept c f => exact .inl ⟨c, f, rfl⟩

/-- an unsolicited fragment is confirmed exactly when it is accepted (start-up finished or no
    objects, and its objects parse) and asks for it — with its own sequence number and the UNS
    bit (`doUnsolicited` emits `[0xD0 + seq, 0]`, `unsolicited_confirm_exactly_when`) -/
theorem unsolicited_confirm_iff (ic : Bool) (last : Option UnsolKey) (r : Resp) :
    (handleUnsolicited ic last r).confirm = true ↔
      ((ic = true ∨ r.raw = []) ∧ r.objects.isSome = true ∧ r.ctrl.con = true) := by
  unfold handleUnsolicited
  cases ic <;> cases hr : r.raw <;> cases ho : r.objects <;> simp [List.isEmpty] <;> split <;> simp

/-- a repeated unsolicited fragment (same header, same objects) is confirmed but not delivered again -/
theorem duplicate_unsolicited (ic : Bool) (r : Resp) (h : ic = true ∨ r.raw = []) (ho : r.objects.isSome = true) :
    handleUnsolicited ic (some r.key) r = ⟨true, true, false, r.ctrl.con⟩ := by
  unfold handleUnsolicited
  have : r.objects.isNone = false := by cases hr : r.objects <;> simp_all
  rcases h with h | h <;> simp [h, this, List.isEmpty]

/-- a fragment that differs from the previous one in header or objects is not treated as a
    duplicate: it is delivered -/
theorem fresh_unsolicited_delivered (ic : Bool) (last : Option UnsolKey) (r : Resp) (h : ic = true ∨ r.raw = [])
    (ho : r.objects.isSome = true) (hne : last ≠ some r.key) :
    handleUnsolicited ic last r = ⟨true, false, true, r.ctrl.con⟩ := by
  unfold handleUnsolicited
  have : r.objects.isNone = false := by cases hr : r.objects <;> simp_all
  rcases h with h | h <;> simp [h, hne, this, List.isEmpty]

example :
    let r : Resp := ⟨⟨true, true, true, true, 1⟩, true, 0, 0, [2, 1, 0x17, 1, 5, 0x81], some [⟨2, 1, 0x17, 1, 0, [5, 0x81]⟩]⟩
    handleUnsolicited true none r = ⟨true, false, true, true⟩ := by decide

/-- an unsolicited fragment whose objects do not parse is ignored altogether: not remembered as
    the last fragment (`valid`), not delivered, not confirmed — whatever the start-up state and
    the CON bit (finding D23, repaired: the unchanged code confirmed it, so that the outstation
    discarded events that never reached the handler) -/
theorem unsolicited_unparsable_ignored (ic : Bool) (last : Option UnsolKey) (r : Resp) (h : r.objects = none) :
    handleUnsolicited ic last r = ⟨false, false, false, false⟩ := by
  unfold handleUnsolicited
  simp [h]

/-- the D23 witness (unknown group 99 with CON) is ignored -/
example :
    let r : Resp := ⟨⟨true, true, true, true, 0⟩, true, 0, 0, [0x63, 0x01, 0x00, 0x00, 0x00, 0x01], none⟩
    handleUnsolicited true none r = ⟨false, false, false, false⟩ := by decide

/-- `confirmed_contents_delivered`: whatever is confirmed was delivered to the handler, now or (a
    duplicate) by the identical previous fragment -/
theorem unsolicited_confirmed_contents_delivered (ic : Bool) (last : Option UnsolKey) (r : Resp)
    (h : (handleUnsolicited ic last r).confirm = true) :
    r.objects.isSome = true ∧
      ((handleUnsolicited ic last r).deliver = true ∨ (handleUnsolicited ic last r).duplicate = true) := by
  have h' := (unsolicited_confirm_iff ic last r).1 h
  refine ⟨h'.2.1, ?_⟩
  unfold handleUnsolicited at h ⊢
  by_cases h1 : (ic || r.raw.isEmpty) = true <;> by_cases h2 : r.objects.isNone = true <;>
    by_cases h3 : last = some r.key <;> simp_all

/-
`confirm_exactly_when`: every accepted fragment with CON is confirmed exactly once, to its sender,
with the same sequence number and UNS bit, and nothing else is confirmed.  (Finding D8 — a CON-flagged response to a
non-READ task was accepted and never confirmed — is repaired in the library; the witness is the regression
`nonread_confirm_d8_regression` and `harness/corpus/C15/master_D8.ops`.)
-/

end Dnp3.Props.C15

namespace Dnp3.Proofs.Master
open Dnp3 Dnp3.Master Dnp3.Proofs.C02Master Dnp3.Proofs.C02MasterQuiet

/-- example state: one association (address 10, default configuration) and the given mode -/
def exMaster (integrityDone : Bool) (mode : Mode) : MState :=
  { assocs := [{ addr := 10, cfg := {}, integrityDone := integrityDone }], ring := [10], mode := mode }

theorem confirmsOf_nil : confirmsOf [] = [] := rfl

theorem confirmsOf_tx_confirm (d c : Nat) : confirmsOf [MOut.tx d [c, 0]] = [(d, c)] := rfl

example : confirmsOf (sendRequest (exMaster true (.idle none), []) 10 21 [0x3c, 0x02, 0x06]).1.2 = [] :=
  (Quiet.of_eff (c := {}) (Eff.sendRequest .refl 10 21 _ (by decide)) rfl).confirms

example : validateNonRead 10 3 10 ⟨AppCtrl.ofNat 0xE3, false, 0, 0, [], some []⟩ ≠ .unsolicited :=
  mt (validateNonRead_unsolicited_iff 10 3 10 _).1 (Bool.eq_false_iff.1 rfl)

/-- READ tasks: the fragment handler emits exactly one confirm, with the fragment's sequence
    number and without the UNS bit, iff the fragment is accepted and has CON; otherwise none -/
theorem _root_.Dnp3.Props.C15.read_confirm_exactly_when (s : MState) (dest seq dl : Nat) (t : ReadTask) (isFirst : Bool)
    (src : Nat) (frag : List Nat) (r : Resp) (hm : s.mode = .waitRead dest t seq isFirst dl)
    (hp : parseResponse frag = some r) (hu : r.unsol = false) :
    confirmsOf (Step.outs (onFragment (s, []) src frag)) =
      (match processReadResponse dest seq isFirst (s.getAssoc dest).isSome src r with
       | .accept true _ => [(dest, 0xC0 + seq)]
       | _ => []) := by
  have hassoc := notify_getAssoc (s, []) src dest
  unfold onFragment
  simp only [hm, hp, hassoc]
  have hnu := mt (processReadResponse_unsolicited_iff dest seq src isFirst (s.getAssoc dest).isSome r).1 (Bool.eq_false_iff.1 hu)
  generalize hv : processReadResponse dest seq isFirst (s.getAssoc dest).isSome src r = v at hnu
  cases v with
  | unsolicited => exact absurd rfl hnu
  | ignore => simp [Step.outs, Step.acc, confirmsOf]
  | fail e b =>
    cases b <;>
      simp only [Step.outs, Step.acc, finishRead_confirms, modAssoc_outs, notify_outs, Bool.false_eq_true, if_false, if_true] <;>
      rfl
  | accept c f =>
    cases c <;> cases f <;>
      simp only [Step.outs, Bool.false_eq_true, if_false, if_true]
    · split <;> simp only [Step.acc, finishRead_confirms, deliver_confirms, modAssoc_outs, notify_outs, setMode_outs] <;>
        rfl
    · simp only [Step.acc, finishRead_confirms, deliver_confirms, modAssoc_outs, notify_outs]
      rfl
    · split <;>
        simp only [Step.acc, finishRead_confirms, deliver_confirms, modAssoc_outs, notify_outs, setMode_outs, emit_outs,
          confirmsOf_append] <;>
        rfl
    · simp only [Step.acc, finishRead_confirms, deliver_confirms, modAssoc_outs, notify_outs, emit_outs, confirmsOf_append]
      rfl

/-- non-READ tasks: exactly one confirm (request's sequence number, no UNS bit, to the addressed
    outstation) iff the response is accepted (`nonread_accept_iff`) and has CON; otherwise none —
    whatever the task then does with the response (fail on its contents, complete, or send the
    next request of a multi-step task) -/
theorem _root_.Dnp3.Props.C15.nonread_confirm_exactly_when (s : MState) (dest seq fc0 dl : Nat) (t : NonReadTask) (src : Nat)
    (frag : List Nat) (r : Resp) (hm : s.mode = .waitNonRead dest t seq fc0 dl)
    (hp : parseResponse frag = some r) (hu : r.unsol = false) :
    confirmsOf (Step.outs (onFragment (s, []) src frag)) =
      (match validateNonRead dest seq src r with
       | .accept => if r.ctrl.con then [(dest, 0xC0 + seq)] else []
       | _ => []) := by
  unfold onFragment
  simp only [hm, hp]
  have hnu := mt (validateNonRead_unsolicited_iff dest seq src r).1 (Bool.eq_false_iff.1 hu)
  generalize hv : validateNonRead dest seq src r = v at hnu
  cases v with
  | unsolicited => exact absurd rfl hnu
  | ignore => simp only [Step.outs, Step.acc, notify_outs, confirmsOf_nil]
  | fail e => simp only [Step.outs, Step.acc, taskOnError_confirms, notify_outs, confirmsOf_nil]
  | accept =>
    simp only
    have h1 : confirmsOf (if r.ctrl.con = true then emit (notifyLinkActivity (s, []) src) (MOut.tx dest [0xC0 + seq, 0])
        else notifyLinkActivity (s, []) src).2 = if r.ctrl.con then [(dest, 0xC0 + seq)] else [] := by
      cases r.ctrl.con
      · simp only [Bool.false_eq_true, if_false, notify_outs, confirmsOf_nil]
      · simp only [if_true, emit_outs, notify_outs, List.nil_append, confirmsOf_tx_confirm]
    generalize (if r.ctrl.con = true then emit (notifyLinkActivity (s, []) src) (MOut.tx dest [0xC0 + seq, 0])
        else notifyLinkActivity (s, []) src) = a at h1
    rw [← h1]
    split
    · simp only [Step.outs, Step.acc, taskOnError_confirms]
    · rename_i x hx
      refine (reported_confirms _).symm.trans (Quiet.of_eff (c := {})
        (Eff.afterResponse (a := modAssoc a dest (·.processIin r.iin1 r.iin2)) .refl dest t r seq fc0 ?_) rfl).confirms
      rw [getAssoc_modAssoc a dest _ (fun y => processIin_addr y _ _), hx]
      rfl

/-- a null response (FIR FIN CON, sequence 3) to the DISABLE_UNSOLICITED request in flight is confirmed -/
example : confirmsOf (Step.outs (onFragment (exMaster true (.waitNonRead 10 (.auto .disableUnsol 7) 3 21 5000), [])
    10 [0xE3, 129, 0, 0])) = [(10, 0xC3)] :=
  Props.C15.nonread_confirm_exactly_when _ 10 3 21 5000 (.auto .disableUnsol 7) 10 [0xE3, 129, 0, 0]
    ⟨AppCtrl.ofNat 0xE3, false, 0, 0, [], some []⟩ rfl rfl rfl

/-- the same response without CON, or with a stale sequence number, is not confirmed -/
example : confirmsOf (Step.outs (onFragment (exMaster true (.waitNonRead 10 (.auto .disableUnsol 7) 3 21 5000), [])
    10 [0xC3, 129, 0, 0])) = [] ∧
    confirmsOf (Step.outs (onFragment (exMaster true (.waitNonRead 10 (.auto .disableUnsol 7) 3 21 5000), [])
    10 [0xE2, 129, 0, 0])) = [] :=
  ⟨Props.C15.nonread_confirm_exactly_when _ 10 3 21 5000 (.auto .disableUnsol 7) 10 [0xC3, 129, 0, 0]
    ⟨AppCtrl.ofNat 0xC3, false, 0, 0, [], some []⟩ rfl rfl rfl,
   Props.C15.nonread_confirm_exactly_when _ 10 3 21 5000 (.auto .disableUnsol 7) 10 [0xE2, 129, 0, 0]
    ⟨AppCtrl.ofNat 0xE2, false, 0, 0, [], some []⟩ rfl rfl rfl⟩

example : (modAssoc (exMaster true (.idle none), []) 10 (·.onLinkActivity 7)).1.getAssoc 10 =
    ((exMaster true (.idle none)).getAssoc 10).map (·.onLinkActivity 7) :=
  getAssoc_modAssoc _ 10 _ (fun _ => rfl)

theorem onRestartObserved_onLinkActivity (x : Assoc) (n : Nat) :
    (x.onLinkActivity n).onRestartObserved = x.onRestartObserved.onLinkActivity n := by
  unfold Assoc.onRestartObserved Assoc.onLinkActivity
  dsimp only
  split <;> rfl

theorem onNeedTime_onLinkActivity (x : Assoc) (n : Nat) :
    (x.onLinkActivity n).onNeedTime = x.onNeedTime.onLinkActivity n := rfl

theorem onOverflow_onLinkActivity (x : Assoc) (n : Nat) :
    (x.onLinkActivity n).onOverflow = x.onOverflow.onLinkActivity n := by
  unfold Assoc.onOverflow Assoc.onLinkActivity
  dsimp only
  split <;> rfl

theorem setEvents_onLinkActivity (x : Assoc) (n ev : Nat) :
    (x.onLinkActivity n).setEvents ev = (x.setEvents ev).onLinkActivity n := by
  unfold Assoc.setEvents Assoc.onLinkActivity
  dsimp only
  split <;> rfl

theorem ite_onLinkActivity (c : Prop) [Decidable c] (f : Assoc → Assoc) (n : Nat)
    (hf : ∀ y, f (y.onLinkActivity n) = (f y).onLinkActivity n) (x : Assoc) :
    (if c then f (x.onLinkActivity n) else x.onLinkActivity n) = (if c then f x else x).onLinkActivity n := by
  split
  · exact hf x
  · rfl

theorem processIin_onLinkActivity (x : Assoc) (n i1 i2 : Nat) :
    (x.onLinkActivity n).processIin i1 i2 = (x.processIin i1 i2).onLinkActivity n := by
  unfold Assoc.processIin
  dsimp only
  rw [ite_onLinkActivity _ Assoc.onRestartObserved n (onRestartObserved_onLinkActivity · n),
    ite_onLinkActivity _ Assoc.onNeedTime n (onNeedTime_onLinkActivity · n),
    ite_onLinkActivity _ Assoc.onOverflow n (onOverflow_onLinkActivity · n), setEvents_onLinkActivity]

end Dnp3.Proofs.Master

namespace Dnp3.Master

/-- the decision `doUnsolicited` takes for `r` on association `x` -/
def unsolDecision (x : Assoc) (r : Resp) : UnsolDecision :=
  handleUnsolicited (x.processIin r.iin1 r.iin2).isIntegrityComplete (x.processIin r.iin1 r.iin2).lastUnsol r

end Dnp3.Master

namespace Dnp3.Proofs.Master
open Dnp3 Dnp3.Master Dnp3.Proofs.C02MasterQuiet

theorem unsolDecision_onLinkActivity (x : Assoc) (n : Nat) (r : Resp) :
    unsolDecision (x.onLinkActivity n) r = unsolDecision x r := by
  unfold unsolDecision
  rw [processIin_onLinkActivity]
  rfl

/-- unsolicited responses (`handle_unsolicited`, called from every session mode): exactly one
    confirm with the fragment's own sequence number and the UNS bit, to its source, iff the
    association exists and the decision (`unsolicited_confirm_iff`, taken after `process_iin`) says
    so; otherwise none -/
theorem _root_.Dnp3.Props.C15.unsolicited_confirm_exactly_when (a : Acc) (src : Nat) (r : Resp) :
    confirmsOf (doUnsolicited a src r).2 = confirmsOf a.2 ++
      (match a.1.getAssoc src with
       | none => []
       | some x => if (unsolDecision x r).confirm then [(src, 0xD0 + r.ctrl.seq)] else []) := by
  unfold doUnsolicited
  cases hx : a.1.getAssoc src with
  | none => simp
  | some x =>
    simp only
    rw [getAssoc_modAssoc a src _ (fun y => processIin_addr y _ _), hx]
    simp only [Option.map_some]
    have hd : handleUnsolicited (x.processIin r.iin1 r.iin2).isIntegrityComplete
        (x.processIin r.iin1 r.iin2).lastUnsol r = unsolDecision x r := rfl
    rw [hd]
    generalize unsolDecision x r = d
    obtain ⟨v, dup, dl, c⟩ := d
    have hu : ∀ b, confirmsOf [MOut.unsol src b r.ctrl.seq] = [] := fun _ => rfl
    cases v <;> cases dup <;> cases c <;> cases r.objects <;>
      simp only [Bool.false_eq_true, if_false, if_true, Bool.not_false, Bool.not_true, emit_outs, modAssoc_outs,
        confirmsOf_append, confirmsOf_tx_confirm, hu, List.append_nil, deliver_confirms]

theorem handleUnsolicited_invalid (ic : Bool) (l : Option UnsolKey) (r : Resp)
    (hv : (handleUnsolicited ic l r).valid = false) : handleUnsolicited ic l r = ⟨false, false, false, false⟩ := by
  unfold handleUnsolicited at hv ⊢
  repeat' split
  all_goals simp_all

example : handleUnsolicited true none ⟨AppCtrl.ofNat 0xF5, true, 0, 0, [99], none⟩ = ⟨false, false, false, false⟩ :=
  handleUnsolicited_invalid true none _ (by decide)

/-- a fragment the decision rejects (`valid = false`: objects do not parse, or non-empty before the integrity
    poll completed) only has its IIN processed: no delivery, no `unsol` callback, no confirm -/
theorem doUnsolicited_invalid (a : Acc) (src : Nat) (r : Resp) (x : Assoc) (hx : a.1.getAssoc src = some x)
    (hv : (unsolDecision x r).valid = false) :
    doUnsolicited a src r = modAssoc a src (·.processIin r.iin1 r.iin2) := by
  have hd := handleUnsolicited_invalid _ _ r hv
  unfold doUnsolicited
  simp only [hx]
  rw [getAssoc_modAssoc a src _ (fun y => processIin_addr y _ _), hx]
  simp only [Option.map_some, hd]
  rfl

/-- an unsolicited response whose objects do not parse (`[99]`) only has its IIN processed -/
example : doUnsolicited (exMaster true (.idle none), []) 10 ⟨AppCtrl.ofNat 0xF5, true, 0, 0, [99], none⟩ =
    modAssoc (exMaster true (.idle none), []) 10 (·.processIin 0 0) :=
  doUnsolicited_invalid _ 10 _ { addr := 10, cfg := {}, integrityDone := true } rfl (by decide)

theorem doUnsolicited_invalid_outs (a : Acc) (src : Nat) (r : Resp) (x : Assoc) (hx : a.1.getAssoc src = some x)
    (hv : (unsolDecision x r).valid = false) : (doUnsolicited a src r).2 = a.2 := by
  rw [doUnsolicited_invalid a src r x hx hv]; rfl

/-- events (g2v1, one item) before the integrity poll completed: nothing is delivered, reported or confirmed -/
example : (doUnsolicited (exMaster false (.idle none), []) 10
    ⟨AppCtrl.ofNat 0xF5, true, 0, 0, [2, 1, 0x17, 1, 0, 0x81], some [⟨2, 1, 0x17, 1, 0, [0, 0x81]⟩]⟩).2 = [] :=
  doUnsolicited_invalid_outs _ 10 _ { addr := 10, cfg := {}, integrityDone := false } rfl (by decide)

theorem doUnsolicited_invalid_assoc (a : Acc) (src : Nat) (r : Resp) (x : Assoc) (hx : a.1.getAssoc src = some x)
    (hv : (unsolDecision x r).valid = false) :
    (doUnsolicited a src r).1.getAssoc src = some (x.processIin r.iin1 r.iin2) := by
  rw [doUnsolicited_invalid a src r x hx hv, getAssoc_modAssoc a src _ (fun y => processIin_addr y _ _), hx]
  rfl

example : (doUnsolicited (exMaster true (.idle none), []) 10 ⟨AppCtrl.ofNat 0xF5, true, 0, 0, [99], none⟩).1.getAssoc 10 =
    some (Assoc.processIin { addr := 10, cfg := {}, integrityDone := true } 0 0) :=
  doUnsolicited_invalid_assoc _ 10 _ { addr := 10, cfg := {}, integrityDone := true } rfl (by decide)

theorem doUnsolicited_invalid_lastUnsol (a : Acc) (src : Nat) (r : Resp) (x : Assoc) (hx : a.1.getAssoc src = some x)
    (hv : (unsolDecision x r).valid = false) :
    ((doUnsolicited a src r).1.getAssoc src).map (·.lastUnsol) = some x.lastUnsol := by
  rw [doUnsolicited_invalid_assoc a src r x hx hv]
  simp only [Option.map_some, processIin_lastUnsol]

example : ((doUnsolicited (exMaster true (.idle none), []) 10
    ⟨AppCtrl.ofNat 0xF5, true, 0, 0, [99], none⟩).1.getAssoc 10).map (·.lastUnsol) = some none :=
  doUnsolicited_invalid_lastUnsol _ 10 _ { addr := 10, cfg := {}, integrityDone := true } rfl (by decide)

end Dnp3.Proofs.Master

namespace Dnp3.Master

/-- the confirms the property prescribes for the parsed fragment `r` received from `src` in state `s` -/
def expectedConfirms (s : MState) (src : Nat) (r : Resp) : List (Nat × Nat) :=
  match s.mode with
  | .offline | .exited => []
  | mode =>
    if r.unsol then
      match s.getAssoc src with
      | none => []
      | some x => if (unsolDecision x r).confirm then [(src, 0xD0 + r.ctrl.seq)] else []
    else
      match mode with
      | .waitRead dest _ seq isFirst _ =>
        (match processReadResponse dest seq isFirst (s.getAssoc dest).isSome src r with
         | .accept true _ => [(dest, 0xC0 + seq)]
         | _ => [])
      | .waitNonRead dest _ seq _ _ =>
        (match validateNonRead dest seq src r with
         | .accept => if r.ctrl.con then [(dest, 0xC0 + seq)] else []
         | _ => [])
      | _ => []

end Dnp3.Master

namespace Dnp3.Proofs.Master
open Dnp3 Dnp3.Master Dnp3.Proofs.C02MasterQuiet

theorem notify_getAssoc_src (s : MState) (src : Nat) :
    (notifyLinkActivity (s, []) src).1.getAssoc src = (s.getAssoc src).map (·.onLinkActivity s.now) :=
  getAssoc_modAssoc (s, []) src _ (fun _ => rfl)

theorem unsol_step_confirms (s : MState) (src : Nat) (r : Resp) :
    confirmsOf (doUnsolicited (notifyLinkActivity (s, []) src) src r).2 =
      match s.getAssoc src with
      | none => []
      | some x => if (unsolDecision x r).confirm then [(src, 0xD0 + r.ctrl.seq)] else [] := by
  rw [Props.C15.unsolicited_confirm_exactly_when, notify_getAssoc_src]
  cases s.getAssoc src with
  | none => rfl
  | some x => simp only [Option.map_some, unsolDecision_onLinkActivity, notify_outs, confirmsOf_nil, List.nil_append]

example : processReadResponse 10 3 true true 10 ⟨AppCtrl.ofNat 0xF5, true, 0, 0, [], some []⟩ = .unsolicited :=
  (processReadResponse_unsolicited_iff 10 3 10 true true _).2 rfl

example : validateNonRead 10 3 10 ⟨AppCtrl.ofNat 0xF5, true, 0, 0, [], some []⟩ = .unsolicited :=
  (validateNonRead_unsolicited_iff 10 3 10 _).2 rfl

theorem confirm_exactly_when (s : MState) (src : Nat) (frag : List Nat) (r : Resp) (hp : parseResponse frag = some r) :
    confirmsOf (Step.outs (onFragment (s, []) src frag)) = expectedConfirms s src r := by
  cases hu : r.unsol with
  | false =>
    cases hm : s.mode with
    | waitRead dest t seq isFirst dl =>
      rw [Props.C15.read_confirm_exactly_when s dest seq dl t isFirst src frag r hm hp hu]
      simp only [expectedConfirms, hm, hu, Bool.false_eq_true, if_false] <;> rfl
    | waitNonRead dest t seq fc0 dl =>
      rw [Props.C15.nonread_confirm_exactly_when s dest seq fc0 dl t src frag r hm hp hu]
      simp only [expectedConfirms, hm, hu, Bool.false_eq_true, if_false]
    | _ =>
      unfold onFragment
      simp only [expectedConfirms, hm, hp, hu, Bool.false_eq_true, if_false, Step.outs, Step.acc, notify_outs, confirmsOf_nil]
  | true =>
    have hus := unsol_step_confirms s src r
    cases hm : s.mode with
    | waitRead dest t seq isFirst dl =>
      unfold onFragment
      simp only [expectedConfirms, hm, hp, hu, if_true, Step.outs, Step.acc, (processReadResponse_unsolicited_iff _ _ _ _ _ r).2 hu, hus]
    | waitNonRead dest t seq fc0 dl =>
      unfold onFragment
      simp only [expectedConfirms, hm, hp, hu, if_true, Step.outs, Step.acc, (validateNonRead_unsolicited_iff _ _ _ r).2 hu, hus]
    | _ =>
      unfold onFragment
      simp only [expectedConfirms, hm, hp, hu, if_true, Step.outs, Step.acc, hus, confirmsOf_nil]

/-- a null unsolicited response (FIR FIN CON UNS, sequence 5) is confirmed in every online mode, also while a
    non-READ request is in flight; an unsolicited response whose objects do not parse is not -/
example : confirmsOf (Step.outs (onFragment (exMaster true (.idle none), []) 10 [0xF5, 130, 0, 0])) = [(10, 0xD5)] ∧
    confirmsOf (Step.outs (onFragment (exMaster false (.waitNonRead 10 (.auto .disableUnsol 7) 3 21 5000), [])
      10 [0xF5, 130, 0, 0])) = [(10, 0xD5)] ∧
    confirmsOf (Step.outs (onFragment (exMaster true (.idle none), []) 10 [0xF5, 130, 0, 0, 99])) = [] :=
  ⟨confirm_exactly_when _ 10 _ ⟨AppCtrl.ofNat 0xF5, true, 0, 0, [], some []⟩ rfl,
   confirm_exactly_when _ 10 _ ⟨AppCtrl.ofNat 0xF5, true, 0, 0, [], some []⟩ rfl,
   confirm_exactly_when _ 10 _ ⟨AppCtrl.ofNat 0xF5, true, 0, 0, [99], none⟩ rfl⟩

/-- a solicited response in `waitNonRead`: the confirm goes to the task's destination with the request's sequence -/
example : confirmsOf (Step.outs (onFragment (exMaster true (.waitNonRead 10 (.auto .disableUnsol 7) 3 21 5000), [])
    10 [0xE3, 129, 0, 0])) = [(10, 0xC3)] :=
  confirm_exactly_when _ 10 _ ⟨AppCtrl.ofNat 0xE3, false, 0, 0, [], some []⟩ rfl

/-- a fragment that does not parse as a response is never confirmed -/
theorem _root_.Dnp3.Props.C15.unparsed_never_confirmed (s : MState) (src : Nat) (frag : List Nat) (hp : parseResponse frag = none) :
    confirmsOf (Step.outs (onFragment (s, []) src frag)) = [] :=
  (reported_confirms _).symm.trans (Quiet.of_eff (c := {}) (Eff.onFragment_unparsed .refl src hp) rfl).confirms

end Dnp3.Proofs.Master

namespace Dnp3.Props.C15
open Dnp3 Dnp3.Master

example :
    let s : MState := { assocs := [{ addr := 1024, cfg := {}, seq := 4 }], ring := [1024],
                        mode := .waitNonRead 1024 (.restart 1 true) 3 13 5000 }
    confirmsOf (Step.outs (onFragment (s, []) 1024 [0xE3, 129, 0, 0, 0x34, 0x01, 0x07, 0x01, 0x07, 0x00])) = [(1024, 0xC3)] := by
  decide

/-- an unsolicited fragment that is not accepted (start-up not finished, or — D23 repaired — objects
    that do not parse) leaves no trace: no delivery, no callback, no confirm, and it is not
    remembered as the last fragment (so its retransmission is not taken for a duplicate) -/
theorem unsolicited_not_accepted_no_trace (a : Acc) (src : Nat) (r : Resp) (x : Assoc) (hx : a.1.getAssoc src = some x)
    (hv : (unsolDecision x r).valid = false) :
    (doUnsolicited a src r).2 = a.2 ∧ ((doUnsolicited a src r).1.getAssoc src).map (·.lastUnsol) = some x.lastUnsol :=
  ⟨Proofs.Master.doUnsolicited_invalid_outs a src r x hx hv, Proofs.Master.doUnsolicited_invalid_lastUnsol a src r x hx hv⟩

/-- in particular for unparsable objects, in any start-up state -/
theorem unsolicited_unparsable_no_trace (a : Acc) (src : Nat) (r : Resp) (x : Assoc) (hx : a.1.getAssoc src = some x)
    (h : r.objects = none) :
    (doUnsolicited a src r).2 = a.2 ∧ ((doUnsolicited a src r).1.getAssoc src).map (·.lastUnsol) = some x.lastUnsol :=
  unsolicited_not_accepted_no_trace a src r x hx (by
    unfold unsolDecision
    rw [unsolicited_unparsable_ignored _ _ r h])

example :
    let a : Acc := ({ assocs := [{ addr := 1024, cfg := {}, integrityDone := true }], ring := [1024], mode := .idle none }, [])
    (doUnsolicited a 1024 ⟨⟨true, true, true, true, 0⟩, true, 0, 0, [0x63, 0x01, 0x00, 0x00, 0x00, 0x01], none⟩).2 = [] := by
  decide

/-- `confirm_exactly_when`, full statement: for every state, source and parsed fragment the
    confirms emitted by the fragment handler are exactly `expectedConfirms` — none when no session
    runs; for an unsolicited fragment the unsolicited rule; for a solicited one the READ rule in a
    READ wait, the non-READ rule in a non-READ wait, none when idle or in a link status check -/
theorem confirm_exactly_when (s : MState) (src : Nat) (frag : List Nat) (r : Resp) (hp : parseResponse frag = some r) :
    confirmsOf (Step.outs (onFragment (s, []) src frag)) = expectedConfirms s src r :=
  Proofs.Master.confirm_exactly_when s src frag r hp

/-- regression for D8 (repaired): the master's DISABLE_UNSOLICITED (seq 0) is answered `E0 81 00 00`
    (FIR FIN CON): the response is accepted and confirmed (`C0 00`), the task succeeds and the
    integrity poll goes out.  Before the repair no confirm was sent. -/
def d8State : MState :=
  { assocs := [{ addr := 1024, cfg := {}, seq := 1 }], ring := [1024],
    mode := .waitNonRead 1024 (.auto .disableUnsol 7) 0 21 5000 }

theorem nonread_confirm_d8_regression :
    let res := Master.step d8State (.rx 1024 1 [0xE0, 0x81, 0x00, 0x00])
    res.2 = [.tx 1024 [0xC0, 0x00], .taskSuccess 1024 .disableUnsolicited 21 0, .taskStart 1024 .startupIntegrity 1 1,
             .tx 1024 [0xC1, 0x01, 0x3c, 0x02, 0x06, 0x3c, 0x03, 0x06, 0x3c, 0x04, 0x06, 0x3c, 0x01, 0x06]] ∧
    confirmsOf res.2 = [(1024, 0xC0)] := by decide

/-- the sequence number `n` requests / accepted series fragments after `s` -/
def seqAfter : Nat → Nat → Nat
  | 0, s => s
  | n+1, s => seq4Next (seqAfter n s)

/-- Arithmetic core of the monitor `request_seq_fresh` (written for the trial change `seeded/S176_…`, the sequence number of
a series written back only on its completion): the association's counter is advanced by `seq4Next`
once per request (`sendRequest`) and once per accepted non-final fragment of a read series (`onFragment`,
`.waitRead … .accept`), so a request issued after fewer than 16 such steps never carries a sequence number
that one of them used: a late fragment of an abandoned series cannot match it. -/
theorem request_seq_fresh_within_window :
    ∀ s, s < 16 → ∀ n, n < 16 → 0 < n → seqAfter n s ≠ s := by decide

example : seqAfter 3 14 = 1 := by decide

end Dnp3.Props.C15
