import Dnp3.Model.OutstationTrace
import Dnp3.Proofs.OutstationC13
import Dnp3.Proofs.OutstationC07
import Dnp3.Props.DbComponent
/-!
# C13 — Internal indication bits tell the truth

Two layers, both over ALL states / inputs / histories of the models:

* session plumbing (`Dnp3.Proofs.OutstationC13`, the database opaque): which state every IIN bit of
  every freshly built response is copied from (`iin_of_fresh_response`; `get_iin_state_effect`: what building
  it does to that state), the life of the restart
  bit (`restart_*`: set at construction, cleared only by a WRITE of g80v1 index 7 = 0, never set
  again), the broadcast bit (`broadcast_*`), the application-controlled bits (`app_bits_mirror`);
* database component (`Dnp3.Proofs.Database`, examples in `Dnp3.Props.DbComponent`; all eight point types, every per-type capacity
  configuration): the class bits equal "an unwritten event of that class is buffered" and
  `unwritten_classes` never underflows (`class_bits_exact`, `no_counter_underflow`, for every operation
  sequence and per operation; D3 repaired), the overflow bit interval (`overflow_flag_*`; "some type at
  capacity" asks every type exactly once: `is_any_full_each_type_once`, `any_full_iff`, `type_capacity`).

The definitions used in the statements (`StepWriteClears`, `StepFrag`, `BcastOf`, `IsSolConfirm`, `BcEvid`,
`Quiet`, `Quiet1`, `ReportedOk`, `QuietRun`, `clearOut`, …) are in `Dnp3.Proofs.OutstationEv` (`StepFrag`),
`OutstationFrame` (`clearOut`), `OutstationAct` (`IsSolConfirm`) and `OutstationC13`; the session proofs rest on
`OutstationAct` (a step is a chain of actions on the protocol state, `step_acts`) and one relation per bit along the
chain (`OutstationC13`); of the database statements,
`counters_exact*`, `class_bits_exact*` and `no_counter_underflow` are restated from `Dnp3.Props.DbComponent`.
D16 (an unsolicited confirm cleared a broadcast indication that was never reported) is repaired:
`OState.unsolReported` records whether the unsolicited response awaiting its confirm carried IIN1.0 with no
broadcast received since; the unsolicited confirm clears the record only then (`confirm_clears_broadcast`,
clauses 5 and 6 of `broadcast_bit_rule` = `unsol_confirm_keeps_unreported` / `unsol_confirm_keeps_mandatory`).
The flag is sound in every state (`unsolReported_sound*`, invariant `ReportedOk`), a broadcast processed
during the unsolicited wait resets it (`broadcast_in_wait_resets_reported`), and the record it leaves
survives the unsolicited confirm along every run (`broadcast_never_dropped_by_unsol_confirm`,
`mandatory_broadcast_never_dropped_by_unsol_confirm`; `unsol_confirm_keeps_broadcast_example` /
`unsol_confirm_keeps_mandatory_example` evaluate two concrete traces).
D4 (events of an unconfirmed unsolicited response stayed `Written`, under-reporting the class bits) is
repaired: outside a response series no record is `Written` (`Dnp3.Props.C03`, section Session).
-/
namespace Dnp3.Props.C13
open Dnp3 Dnp3.Proofs.Frame Dnp3.Proofs.Iin Dnp3.Proofs.Skel Dnp3.Proofs.Act Dnp3.Proofs.C13

/-- `get_response_iin` never changes the restart flag, and only clears a non-mandatory broadcast -/
theorem get_iin_state_effect (s s' : OState) (i1 i2 : Nat) (h : getResponseIin s = some (s', i1, i2)) :
    s'.restart = s.restart ∧
    (s'.lastBroadcast = s.lastBroadcast ∨ (s'.lastBroadcast = none ∧ ∃ m, s.lastBroadcast = some m ∧ m ≠ 1)) := by
  obtain ⟨_, _, _, _, rfl, _⟩ := getResponseIin_some s s' i1 i2 h
  rw [afterIin_eq]
  refine ⟨rfl, ?_⟩
  dsimp only
  by_cases h1 : s.lastBroadcast = some 1
  · left; rw [if_pos h1, h1]
  · rw [if_neg h1]
    cases hb : s.lastBroadcast with
    | none => exact .inl rfl
    | some m => exact .inr ⟨rfl, m, rfl, fun hm => h1 (by rw [hb, hm])⟩

/-- **C13.1** (`iin_of_fresh_response`): both kinds of fresh response, with the per-bit reading. -/
theorem iin_of_fresh_response (a : Acc) (dst : Nat) (r : Resp) (a' : Acc) (r' : Resp) (dst' : Nat)
    (h : writeSolicited a dst r = some (a', r') ∧ dst' = dst ∨
         writeUnsolicited a r = some (a', r') ∧ dst' = a.1.cfg.master) :
    ∃ i1 i2 bytes c1 c2 c3,
      a'.2 = a.2 ++ [.tx dst' bytes] ∧
      bytes.take 4 = [r'.ctrl.toNat, r'.func, r.iin1 ||| i1, r.iin2 ||| i2] ∧
      a.1.db.unwrittenClasses = some (c1, c2, c3) ∧
      (i1.testBit 7 = a.1.restart) ∧
      (i1.testBit 1 = c1) ∧ (i1.testBit 2 = c2) ∧ (i1.testBit 3 = c3) ∧
      (i2.testBit 3 = a.1.db.isOverflown) ∧
      (i1.testBit 0 = a.1.lastBroadcast.isSome) ∧
      (i1.testBit 4 = a.1.script.appIin.testBit 0) ∧
      (i1.testBit 5 = a.1.script.appIin.testBit 1) ∧
      (i1.testBit 6 = a.1.script.appIin.testBit 2) ∧
      (i2.testBit 5 = a.1.script.appIin.testBit 3) ∧
      i1 < 256 ∧ (∀ i, i ≠ 3 → i ≠ 5 → i2.testBit i = false) := by
  obtain ⟨s1, i1, i2, bytes, hg, ho, hb⟩ : ∃ s1 i1 i2 bytes, getResponseIin a.1 = some (s1, i1, i2) ∧
      a'.2 = a.2 ++ [.tx dst' bytes] ∧ bytes.take 4 = [r'.ctrl.toNat, r'.func, r.iin1 ||| i1, r.iin2 ||| i2] := by
    rcases h with ⟨h, rfl⟩ | ⟨h, rfl⟩
    · obtain ⟨s1, i1, i2, bytes, hg, _, _, ho, hb⟩ := iin_of_fresh_response_sol a dst' r a' r' h
      exact ⟨s1, i1, i2, bytes, hg, ho, hb⟩
    · obtain ⟨s1, i1, i2, bytes, hg, _, _, ho, hb⟩ := iin_of_fresh_response_unsol a r a' r' h
      exact ⟨s1, i1, i2, bytes, hg, ho, hb⟩
  obtain ⟨c1, c2, c3, hu, b⟩ := getResponseIin_bits _ _ _ _ hg
  exact ⟨i1, i2, bytes, c1, c2, c3, ho, hb, hu, b.1, b.2.1, b.2.2.1, b.2.2.2.1, b.2.2.2.2.2.2.2.2.2.1,
    b.2.2.2.2.1, b.2.2.2.2.2.1, b.2.2.2.2.2.2.1, b.2.2.2.2.2.2.2.1, b.2.2.2.2.2.2.2.2.2.2.1,
    b.2.2.2.2.2.2.2.2.1, b.2.2.2.2.2.2.2.2.2.2.2⟩

/-- **C13.4** (`app_bits_mirror`): need-time, local-control, device-trouble, configuration-corrupt
    in a fresh response are exactly bits 0–3 of the application's answer at that moment. -/
theorem app_bits_mirror (a : Acc) (dst : Nat) (r : Resp) (a' : Acc) (r' : Resp)
    (h : writeSolicited a dst r = some (a', r') ∨ writeUnsolicited a r = some (a', r'))
    (hr1 : r.iin1 = 0) (hr2 : r.iin2 &&& 0x20 = 0) :
    r'.iin1.testBit 4 = a.1.script.appIin.testBit 0 ∧
    r'.iin1.testBit 5 = a.1.script.appIin.testBit 1 ∧
    r'.iin1.testBit 6 = a.1.script.appIin.testBit 2 ∧
    r'.iin2.testBit 5 = a.1.script.appIin.testBit 3 :=
  @Dnp3.Proofs.C13.app_bits_mirror a dst r a' r' h hr1 hr2

/-- the per-step form all of C13.2 follows from -/
theorem restart_step (env : OEnv) (s : OState) (inp : OInput) :
    ((Outstation.step env s inp).1.restart = s.restart ∧ clearOut ∉ (Outstation.step env s inp).2) ∨
    ((Outstation.step env s inp).1.restart = false ∧ clearOut ∈ (Outstation.step env s inp).2 ∧
      StepWriteClears s inp) :=
  @Dnp3.Proofs.C13.restart_step env s inp

/-- **C13.2** (`restart_bit_interval`), per step, for every state and every input:
    * set at construction;
    * never set again;
    * unchanged by a disconnect and by a script change — and by `.tick`, `.txn`, `.add` whenever no
      fragment is left pending (always so on the reachable path, see `restart_step` for the general form);
    * it falls only in a step that emits `clearRestartIin`;
    * that callback is emitted only when the fragment handled is a WRITE (function 2) carrying a
      g80v1 / qualifier 0x00 header whose range reaches index 7 with that bit zero — and then the bit
      is clear afterwards. -/
theorem restart_bit_interval (env : OEnv) (s : OState) (inp : OInput) (cfg : OCfg) (evMax : Nat) :
    (OState.init cfg evMax).restart = true ∧
    ((Outstation.step env s inp).1.restart = true → s.restart = true) ∧
    ((inp matches .cut | .setScript _) ∨ (s.pending = none ∧ (inp matches .tick _ | .txn _ | .add ..)) →
      (Outstation.step env s inp).1.restart = s.restart) ∧
    (s.restart = true → (Outstation.step env s inp).1.restart = false →
      OOut.cb .clearRestartIin ∈ (Outstation.step env s inp).2) ∧
    (OOut.cb .clearRestartIin ∈ (Outstation.step env s inp).2 →
      (Outstation.step env s inp).1.restart = false ∧ StepWriteClears s inp) :=
  @Dnp3.Proofs.C13.restart_bit_interval env s inp cfg evMax

/-- the start-up pass leaves the bit set and emits no `clearRestartIin` -/
theorem restart_at_start (cfg : OCfg) (evMax : Nat) :
    (Outstation.start cfg evMax).1.restart = true ∧ clearOut ∉ (Outstation.start cfg evMax).2 := by
  obtain ⟨l, e, c⟩ := ActsStar.rr (Reach.acts (start_reach cfg evMax))
  rcases c with ⟨hr, hn⟩ | ⟨_, _, hw⟩
  · refine ⟨hr.trans rfl, ?_⟩
    rw [e]; simpa using hn
  · obtain ⟨f, e, _⟩ := writeClears_data hw
    cases e

/-- **C13.2, trace level**: over any input list, `restart` is set at the end iff it was set at the
    beginning and no step so far emitted `clearRestartIin` — i.e. it is true until the first such step
    and false from then on (apply to every prefix). -/
theorem restart_run (env : OEnv) (is : List OInput) (s : OState) :
    (Outstation.run env s is).1.restart = true ↔
      s.restart = true ∧ ∀ o ∈ (Outstation.run env s is).2, OOut.cb .clearRestartIin ∉ o := by
  induction is generalizing s with
  | nil => simp [Outstation.run]
  | cons i is ih =>
    simp only [Outstation.run]
    rw [ih]
    have h := restart_step env s i
    constructor
    · rintro ⟨h1, h2⟩
      rcases h with ⟨e, hn⟩ | ⟨e, _, _⟩
      · refine ⟨by rw [← e]; exact h1, ?_⟩
        intro o ho
        simp only [List.mem_cons] at ho
        rcases ho with rfl | ho
        · exact hn
        · exact h2 o ho
      · rw [e] at h1; cases h1
    · rintro ⟨h1, h2⟩
      have hn := h2 (Outstation.step env s i).2 (by simp)
      rcases h with ⟨e, _⟩ | ⟨_, hm, _⟩
      · exact ⟨by rw [e]; exact h1, fun o ho => h2 o (by simp [ho])⟩
      · exact absurd hm hn

/-- corollary for a whole history from construction -/
theorem restart_history (cfg : OCfg) (evMax : Nat) (env : OEnv) (is : List OInput) :
    (Outstation.run env (Outstation.start cfg evMax).1 is).1.restart = true ↔
      ∀ o ∈ (Outstation.run env (Outstation.start cfg evMax).1 is).2, OOut.cb .clearRestartIin ∉ o := by
  rw [restart_run]
  simp [(restart_at_start cfg evMax).1]

/-- (a) a processed broadcast fragment records its confirm mode -/
theorem broadcast_recorded (a : Acc) (f : Frag) (m : Nat) (ctrl : AppCtrl) (func : Nat)
    (objs : Except Nat (List ObjHdr)) (raw : List Nat) (a' : Acc)
    (h : processBroadcast a f m ctrl func objs raw = some a') : a'.1.lastBroadcast = some m :=
  processBroadcast_lastBroadcast h

/-- (b) `getResponseIin` reports a recorded broadcast in IIN1 bit 0 and forgets it unless it is
    confirm-mandatory (mode 1); it touches nothing else -/
theorem broadcast_reported (s s' : OState) (i1 i2 : Nat) (h : getResponseIin s = some (s', i1, i2)) :
    i1.testBit 0 = s.lastBroadcast.isSome ∧
    s' = { s with lastBroadcast := if s.lastBroadcast = some 1 then some 1 else none } := by
  obtain ⟨c1, c2, c3, hu, b⟩ := getResponseIin_bits s s' i1 i2 h
  obtain ⟨_, _, _, _, hs, _, _⟩ := getResponseIin_some s s' i1 i2 h
  exact ⟨b.2.2.2.2.1, by rw [hs, afterIin_eq]⟩

/-- (c) while a confirm-mandatory broadcast is unreported-unconfirmed, every solicited response asks for a confirm -/
theorem broadcast_forces_con (a : Acc) (dst : Nat) (r : Resp) (a' : Acc) (r' : Resp)
    (h : writeSolicited a dst r = some (a', r')) (hb : a.1.lastBroadcast = some 1) :
    r'.ctrl.con = true ∧ a'.1.lastBroadcast = some 1 := by
  obtain ⟨_, _, _, _, rfl, rfl⟩ := writeSolicited_eq h
  refine ⟨by simp [hb], ?_⟩
  show (afterIin a.1).lastBroadcast = _
  rw [afterIin_eq, hb]; rfl

/-- **C13.3** (`broadcast_bit_rule`), per step, for every state and input.  With `pf` the fragment the
    step examines:
    * `lastBroadcast` ends unchanged, or cleared, or equal to the confirm mode of the broadcast
      fragment `pf`;
    * it is *set* only in a step that processed a broadcast (`Cb.broadcast` in the outputs);
    * a confirm-mandatory record (`some 1`) persists unless the step shows an accepted solicited /
      unsolicited confirm or a new broadcast — or `pf` is a solicited CONFIRM (the silent
      "solicited confirm during the unsolicited wait" case);
    * nothing at all changes it in a step that transmits no response and shows none of those;
    * (D16 repaired) an accepted unsolicited confirm changes it only if `unsolReported` was set: from a
      state with `unsolReported = false`, a step that shows no processed broadcast, no accepted solicited
      confirm and no transmitted fragment with IIN1.0 set (`Quiet`; `pf` not a solicited CONFIRM) leaves
      `lastBroadcast` as it is and `unsolReported` clear — an `unsolConfirmed` callback, retransmissions
      of the unsolicited response and responses not reporting a broadcast are all allowed in that step;
    * (D16 repaired) likewise a confirm-mandatory record (`some 1`) with `unsolReported = false` persists
      through a step that shows no processed broadcast, no accepted solicited confirm and no new
      unsolicited series (`Quiet1`; `pf` not a solicited CONFIRM), even if the step accepts the unsolicited
      confirm and transmits responses that report the record. -/
theorem broadcast_bit_rule (env : OEnv) (s : OState) (inp : OInput) :
    ∃ pf, StepFrag env s inp pf ∧
      ((Outstation.step env s inp).1.lastBroadcast = s.lastBroadcast ∨
        (Outstation.step env s inp).1.lastBroadcast = none ∨
        ∃ m, BcastOf pf m ∧ (Outstation.step env s inp).1.lastBroadcast = some m) ∧
      ((∀ o ∈ (Outstation.step env s inp).2, OOut.kind o ≠ .bcast) →
        (Outstation.step env s inp).1.lastBroadcast = s.lastBroadcast ∨
        (Outstation.step env s inp).1.lastBroadcast = none) ∧
      (¬ IsSolConfirm pf → (∀ o ∈ (Outstation.step env s inp).2, ¬ BcEvid o) →
        s.lastBroadcast = some 1 → (Outstation.step env s inp).1.lastBroadcast = some 1) ∧
      (¬ IsSolConfirm pf → (∀ o ∈ (Outstation.step env s inp).2, ¬ BcEvid o ∧ OOut.kind o ≠ .tx) →
        (Outstation.step env s inp).1.lastBroadcast = s.lastBroadcast) ∧
      (¬ IsSolConfirm pf → (∀ o ∈ (Outstation.step env s inp).2, Quiet o) → s.unsolReported = false →
        (Outstation.step env s inp).1.unsolReported = false ∧
        (Outstation.step env s inp).1.lastBroadcast = s.lastBroadcast) ∧
      (¬ IsSolConfirm pf → (∀ o ∈ (Outstation.step env s inp).2, Quiet1 o) → s.unsolReported = false →
        s.lastBroadcast = some 1 →
        (Outstation.step env s inp).1.unsolReported = false ∧
        (Outstation.step env s inp).1.lastBroadcast = some 1) :=
  @Dnp3.Proofs.C13.broadcast_bit_rule env s inp

/-- **C13.3, D16 repaired** (`unsol_confirm_keeps_unreported`), per step, for every state and input: the fifth
    clause of `broadcast_bit_rule` on its own.  From a state with `unsolReported = false` (no broadcast
    indication was reported by the unsolicited response awaiting its confirm), a step that shows no
    processed broadcast, no accepted solicited confirm and transmits no fragment with IIN1.0 set, and
    whose fragment is not a solicited CONFIRM, keeps `lastBroadcast` — even when it accepts the
    unsolicited confirm (`Cb.unsolConfirmed` among its outputs is allowed by `Quiet`). -/
theorem unsol_confirm_keeps_unreported (env : OEnv) (s : OState) (inp : OInput)
    (hsc : ∀ pf, StepFrag env s inp pf → ¬ IsSolConfirm pf)
    (hq : ∀ o ∈ (Outstation.step env s inp).2, Quiet o) (h0 : s.unsolReported = false) :
    (Outstation.step env s inp).1.unsolReported = false ∧
    (Outstation.step env s inp).1.lastBroadcast = s.lastBroadcast := by
  obtain ⟨pf, hf, _, _, _, _, h5, _⟩ := broadcast_bit_rule env s inp
  exact h5 (hsc pf hf) hq h0

/-- the sixth clause of `broadcast_bit_rule` on its own: a confirm-mandatory record that the awaited unsolicited
    response did not report survives the step — the unsolicited confirm does not clear it, and the responses
    transmitted meanwhile report it (IIN1.0, CON forced: `broadcast_forces_con`) without clearing it -/
theorem unsol_confirm_keeps_mandatory (env : OEnv) (s : OState) (inp : OInput)
    (hsc : ∀ pf, StepFrag env s inp pf → ¬ IsSolConfirm pf)
    (hq : ∀ o ∈ (Outstation.step env s inp).2, Quiet1 o) (h0 : s.unsolReported = false)
    (h1 : s.lastBroadcast = some 1) :
    (Outstation.step env s inp).1.unsolReported = false ∧
    (Outstation.step env s inp).1.lastBroadcast = some 1 := by
  obtain ⟨pf, hf, _, _, _, _, _, h6⟩ := broadcast_bit_rule env s inp
  exact h6 (hsc pf hf) hq h0 h1

/-- (d) what the three accepted confirms do to the record: the solicited confirm (in the solicited wait)
    clears it; the unsolicited confirm clears it iff the confirmed response had reported it
    (`unsolReported`) and otherwise KEEPS it (D16 repaired: before, it was cleared unconditionally); a
    solicited confirm received in the unsolicited wait clears a confirm-mandatory record -/
theorem confirm_clears_broadcast (a : Acc) (o : List OOut) (c : Cb) (isNull : Bool) :
    (clearWrittenEvents ({ a.1 with lastBroadcast := none }, o)).1.lastBroadcast = none ∧
    (afterUnsolSeries (emitCb ({ a.1 with lastBroadcast := if a.1.unsolReported then none else a.1.lastBroadcast }, a.2) c)
      isNull true).1.1.lastBroadcast = (if a.1.unsolReported then none else a.1.lastBroadcast) ∧
    (if a.1.lastBroadcast = some 1 then (({ a.1 with lastBroadcast := none }, a.2) : Acc) else a).1.lastBroadcast ≠ some 1 := by
  refine ⟨by rw [clearWrittenEvents_eq], congrArg PState.lastBroadcast (afterConfirmed_pOf _ _), ?_⟩
  split
  · simp
  · assumption

/-- **`unsolReported_sound`** (step level, every state, every input): `ReportedOk` — "if `unsolReported` is
    set while the session waits for an unsolicited confirm, the unsolicited response awaiting that confirm
    carried IIN1.0" — is preserved by `Outstation.step`. -/
theorem unsolReported_sound (env : OEnv) (s : OState) (inp : OInput) (h : ReportedOk s) :
    ReportedOk (Outstation.step env s inp).1 := by
  obtain ⟨pf, _, he⟩ := step_acts env s inp
  obtain ⟨_, _, r, _⟩ := ActsStar.ur he
  exact r h

/-- … and it holds after construction -/
theorem unsolReported_sound_start (cfg : OCfg) (evMax : Nat) : ReportedOk (Outstation.start cfg evMax).1 := by
  obtain ⟨_, _, r, _⟩ := ActsStar.ur (Reach.acts (start_reach cfg evMax))
  exact r (ReportedOk.of_notWait (fun _ _ _ _ e => by cases e))

/-- hence in every state reachable from construction -/
theorem unsolReported_sound_reachable (cfg : OCfg) (evMax : Nat) (env : OEnv) (s : OState)
    (h : Outstation.Reachable cfg evMax env s) : ReportedOk s := by
  induction h with
  | start => exact unsolReported_sound_start cfg evMax
  | step s i _ ih => exact unsolReported_sound env s i ih

/-- **`broadcast_in_wait_resets_reported`** (step level, every state, every input): a step that starts in the
    unsolicited confirm wait and processes a broadcast (a `Cb.broadcast` among its outputs) has the broadcast
    fragment `pf` (confirm mode `m`) as its fragment, stays in the wait, records `lastBroadcast = some m`
    and ends with `unsolReported = false` — so the confirm of the unsolicited response that is being
    awaited, written before that broadcast, will not clear the record (`unsol_confirm_keeps_unreported`). -/
theorem broadcast_in_wait_resets_reported (env : OEnv) (s : OState) (inp : OInput) (resp : Resp) (isNull : Bool)
    (retries : Option Nat) (dl : Nat) (hm : s.mode = .unsolWait resp isNull retries dl)
    (hb : ∃ o ∈ (Outstation.step env s inp).2, OOut.kind o = .bcast) :
    ∃ pf m, StepFrag env s inp pf ∧ BcastOf pf m ∧
      (Outstation.step env s inp).1.mode = s.mode ∧
      (Outstation.step env s inp).1.unsolReported = false ∧
      (Outstation.step env s inp).1.lastBroadcast = some m := by
  -- a `Cb.broadcast` is shown only by a step whose fragment is a broadcast request
  have key : ∀ {pf a}, ActsStar pf (a, []) (Outstation.step env s inp) → ∃ m, BcastReq pf m := by
    intro pf a he
    obtain ⟨l, el, c⟩ := ActsStar.ko he
    obtain rfl : (Outstation.step env s inp).2 = l := el.trans (List.nil_append l)
    exact c hb
  rcases step_dispatch env s inp with ⟨f, _, e⟩ | e | hcut | ⟨pf, s0, o0, hinit, hnc, e⟩
  · rw [e] at hb; simp at hb
  · rw [e] at hb; simp at hb
  · subst hcut
    obtain ⟨pf, rfl, he⟩ := step_acts env s .cut
    obtain ⟨m, f, ctrl, func, objs, raw, hq, _, _⟩ := key he
    cases hq.1
  · have hpend := StepInit.pending hinit
    have hp : PendOk pf (s0, o0) := Or.inr hpend
    obtain ⟨m, f, ctrl, func, objs, raw, hq, h0, hbm⟩ := key (.trans (.single (StepInit.acts hinit))
      (by rw [e]; exact Reach.acts (settle_reach hp 8 _ (dispatch_reach hp _ (Star.refl _)))))
    have hmode : s0.mode = .unsolWait resp isNull retries dl := by
      rcases hinit.mode with ⟨h, _, _⟩ | ⟨h, _, _⟩
      · rw [h, hm]
      · exact absurd h hnc
    have hp0 : s0.pending = some f := by rw [hpend]; exact hq.1
    refine ⟨pf, m, hinit.frag, ⟨f, hq.1, hbm⟩, ?_⟩
    rw [dispatch_unsolWait (a := (s0, o0)) hmode (congrArg Option.isSome hp0)] at e
    rcases accepted_or_foreign s0 f.src with hsrc | hfm
    · -- the broadcast is processed on the spot and the step ends there
      obtain ⟨a', hw, hlb, hpn, hmd, hur, _⟩ := Proofs.C07app.unsolWaitOnFragment_broadcast (s0, o0) resp isNull
        f ctrl func objs raw m hp0 hq.2 hsrc hbm h0
      rw [e, hw, settle_blocked_no_pending 8 a' hpn]
      exact ⟨hmd.trans (hmode.trans hm.symm), hur, hlb⟩
    · -- a foreign master's fragment is dropped without output
      rw [e, unsolWaitOnFragment_foreign (s0, o0) resp isNull f hp0 hfm,
        settle_blocked_no_pending _ _ rfl] at hb
      obtain ⟨o, ho, hk⟩ := hb
      have := hinit.keep o ho; rw [hk] at this; cases this

/-- trace form of `unsol_confirm_keeps_unreported`: along a quiet run from a state with
    `unsolReported = false` the record stays as it is, however many unsolicited confirms are accepted -/
theorem unreported_record_kept_run (env : OEnv) (is : List OInput) (s : OState) (h0 : s.unsolReported = false)
    (hq : QuietRun Quiet env s is) :
    (Outstation.run env s is).1.unsolReported = false ∧
    (Outstation.run env s is).1.lastBroadcast = s.lastBroadcast :=
  QuietRun.keeps (fun t => t.unsolReported = false ∧ t.lastBroadcast = s.lastBroadcast)
    (fun t i hq ht => (unsol_confirm_keeps_unreported env t i hq.1 hq.2 ht.1).imp_right (·.trans ht.2))
    is s ⟨h0, rfl⟩ hq

/-- trace form of `unsol_confirm_keeps_mandatory`: a confirm-mandatory record with `unsolReported = false`
    stays along a run without processed broadcast, accepted solicited confirm or new unsolicited series -/
theorem mandatory_record_kept_run (env : OEnv) (is : List OInput) (s : OState) (h0 : s.unsolReported = false)
    (hl : s.lastBroadcast = some 1) (hq : QuietRun Quiet1 env s is) :
    (Outstation.run env s is).1.unsolReported = false ∧
    (Outstation.run env s is).1.lastBroadcast = some 1 :=
  QuietRun.keeps (fun t => t.unsolReported = false ∧ t.lastBroadcast = some 1)
    (fun t i hq ht => unsol_confirm_keeps_mandatory env t i hq.1 hq.2 ht.1 ht.2) is s ⟨h0, hl⟩ hq

/-- a recorded broadcast is reported by the next response built -/
theorem record_reported {s : OState} {m : Nat} (h : s.lastBroadcast = some m) (s' : OState) (i1 i2 : Nat)
    (hg : getResponseIin s = some (s', i1, i2)) : i1.testBit 0 = true := by
  rw [(broadcast_reported _ _ _ _ hg).1, h]; rfl

/-- **C13.3, trace level, D16 repaired** (`broadcast_never_dropped_by_unsol_confirm`): a broadcast processed
    while the session waits for an unsolicited confirm (first input `i0`: the step starts in `.unsolWait …` and
    shows a `Cb.broadcast`) leaves the record `lastBroadcast = some m` (`m` the confirm mode of that
    fragment), and the record is still there at the end of every quiet continuation `is` of the run —
    in particular after the unsolicited confirm of that wait has been accepted (`Cb.unsolConfirmed` is
    `Quiet`), after retransmissions of the unsolicited response, and after responses that do not carry
    IIN1.0.  So the next response built reports it (`broadcast_reported`, `iin_of_fresh_response`):
    `getResponseIin` of the final state returns IIN1 with bit 0 set.
    (Before the repair of D16 the unsolicited confirm dropped the record unreported.) -/
theorem broadcast_never_dropped_by_unsol_confirm (env : OEnv) (s : OState) (i0 : OInput) (is : List OInput)
    (resp : Resp) (isNull : Bool) (retries : Option Nat) (dl : Nat)
    (hm : s.mode = .unsolWait resp isNull retries dl)
    (hb : ∃ o ∈ (Outstation.step env s i0).2, OOut.kind o = .bcast)
    (hq : QuietRun Quiet env (Outstation.step env s i0).1 is) :
    ∃ pf m, StepFrag env s i0 pf ∧ BcastOf pf m ∧
      (Outstation.run env s (i0 :: is)).1.lastBroadcast = some m ∧
      (Outstation.run env s (i0 :: is)).1.unsolReported = false ∧
      ∀ s' i1 i2, getResponseIin (Outstation.run env s (i0 :: is)).1 = some (s', i1, i2) → i1.testBit 0 = true := by
  obtain ⟨pf, m, hf, hbm, _, hu, hl⟩ := broadcast_in_wait_resets_reported env s i0 resp isNull retries dl hm hb
  obtain ⟨h1, h2⟩ := unreported_record_kept_run env is _ hu hq
  exact ⟨pf, m, hf, hbm, h2.trans hl, h1, record_reported (h2.trans hl)⟩

/-- … and for a confirm-mandatory broadcast (destination 0xFFFE, mode 1) processed during the unsolicited
    wait the continuation may also transmit responses that report the record (they carry IIN1.0 and CON,
    `broadcast_forces_con`, and do not clear it): the record `some 1` is still there after the unsolicited
    confirm, as long as no solicited confirm is accepted, no new broadcast processed and no new unsolicited
    series started (`Quiet1`) -/
theorem mandatory_broadcast_never_dropped_by_unsol_confirm (env : OEnv) (s : OState) (i0 : OInput)
    (is : List OInput) (resp : Resp) (isNull : Bool) (retries : Option Nat) (dl : Nat)
    (hm : s.mode = .unsolWait resp isNull retries dl)
    (hb : ∃ o ∈ (Outstation.step env s i0).2, OOut.kind o = .bcast)
    (h1 : (Outstation.step env s i0).1.lastBroadcast = some 1)
    (hq : QuietRun Quiet1 env (Outstation.step env s i0).1 is) :
    ∃ pf, StepFrag env s i0 pf ∧ BcastOf pf 1 ∧
      (Outstation.run env s (i0 :: is)).1.lastBroadcast = some 1 ∧
      (Outstation.run env s (i0 :: is)).1.unsolReported = false ∧
      ∀ s' i1 i2, getResponseIin (Outstation.run env s (i0 :: is)).1 = some (s', i1, i2) → i1.testBit 0 = true := by
  obtain ⟨pf, m, hf, hbm, _, hu, hl⟩ := broadcast_in_wait_resets_reported env s i0 resp isNull retries dl hm hb
  have hm1 : m = 1 := by rw [hl] at h1; cases h1; rfl
  subst hm1
  obtain ⟨k1, k2⟩ := mandatory_record_kept_run env is _ hu h1 hq
  exact ⟨pf, hf, hbm, k2, k1, record_reported k2⟩

/-- the broadcast is processed in the wait, the unsolicited confirm is accepted and KEEPS the record
    (`some 0`, before the repair of D16: `none`), and the next response carries IIN1 = 0x81 -/
theorem unsol_confirm_keeps_broadcast_example :
    (Outstation.run {} d16Start d16Inputs).2.map cbs = [[.broadcast 24 .processed], [.unsolConfirmed 0], []] ∧
    (Outstation.run {} d16Start d16Inputs).2.map txFrags = [[], [], [(1, [192, 129, 129, 0, 52, 2, 7, 1, 0, 0])]] ∧
    (Outstation.run {} d16Start [d16Bcast]).1.lastBroadcast = some 0 ∧
    (Outstation.run {} d16Start [d16Bcast]).1.unsolReported = false ∧
    (Outstation.run {} d16Start [d16Bcast, d16Confirm]).1.lastBroadcast = some 0 ∧
    (Outstation.run {} d16Start d16Inputs).1.lastBroadcast = none := by
  decide +kernel

theorem unsol_confirm_keeps_mandatory_example :
    (Outstation.run {} d16Start d16Inputs1).2.map (fun l => (cbs l).filter (fun c => !Cb.isApp c)) =
      [[.broadcast 24 .processed], [], [.unsolConfirmed 0], [.solWait 1],
       [.solConfirmed 1, .beginConfirm, .endConfirm 0 0 0]] ∧
    (Outstation.run {} d16Start d16Inputs1).2.map txFrags =
      [[], [(1, [224, 129, 129, 0, 52, 2, 7, 1, 0, 0])], [], [(1, [225, 129, 129, 0, 52, 2, 7, 1, 0, 0])], []] ∧
    (List.range 6).map (fun n => (Outstation.run {} d16Start (d16Inputs1.take n)).1.lastBroadcast) =
      [none, some 1, some 1, some 1, some 1, none] := by
  decide +kernel


section Db
open Dnp3.DbM Dnp3.DbProofs

/-- `EventBuffer::is_any_full` asks every type exactly once; `EventBufferConfig::max_events` (the capacity
    of the shared event list) adds every type's maximum exactly once -/
theorem is_any_full_each_type_once (t : PtType) :
    Gen.DbT.isAnyFull.count t = 1 ∧ Gen.DbT.maxEventsSum.count t = 1 :=
  ⟨DbTables.isAnyFull_each_once t, DbTables.maxEventsSum_each_once t⟩

/-- every `impl Insertable for measurement::X` reads its own maximum and its own counter, changes its own
    counter, and names its own `Event` variant -/
theorem insertable_slots_own (t : PtType) : Gen.DbT.insertable t = ⟨t, t, t, t, t, t, t⟩ :=
  DbTables.insertable_own t

/-- `counters_exact`: `total` AND `written` counters equal the per-class / per-type counts of
    records / of `Written` records: an invariant of every operation sequence from a fresh database,
    the overflow of a `Written` record out of the buffer included (false before the repair of D3:
    `insert` left `written` too high) -/
theorem counters_exact (ev : TyVec Nat) (cz : TyVec Bool) (sel : Option Nat) (ops : List DbOpX) :
    CountersExact (runX (Db.newCfg ev cz sel) ops) :=
  @Dnp3.Props.Db.counters_exact ev cz sel ops

/-- … and it is preserved by every single operation from any state that has it -/
theorem counters_exact_preserved (db : Db) (op : DbOpX) (h : CountersExact db) : CountersExact (stepX db op) :=
  @Dnp3.Props.Db.counters_exact_preserved db op h

/-- `class_bits_exact`: after every operation sequence from a fresh database `unwritten_classes`
    does not panic and bit c is set iff the buffer holds a class-c record that is not `Written` -/
theorem class_bits_exact (ev : TyVec Nat) (cz : TyVec Bool) (sel : Option Nat) (ops : List DbOpX) :
    ∃ b1 b2 b3, (runX (Db.newCfg ev cz sel) ops).unwrittenClasses = some (b1, b2, b3) ∧
      (b1 = true ↔ ∃ r ∈ (runX (Db.newCfg ev cz sel) ops).events, r.cls = 1 ∧ r.st ≠ .written) ∧
      (b2 = true ↔ ∃ r ∈ (runX (Db.newCfg ev cz sel) ops).events, r.cls = 2 ∧ r.st ≠ .written) ∧
      (b3 = true ↔ ∃ r ∈ (runX (Db.newCfg ev cz sel) ops).events, r.cls = 3 ∧ r.st ≠ .written) :=
  @Dnp3.Props.Db.class_bits_exact ev cz sel ops

/-- … and after every single operation from any state with exact counters -/
theorem class_bits_exact_step (db : Db) (op : DbOpX) (h : CountersExact db) :
    ∃ b1 b2 b3, (stepX db op).unwrittenClasses = some (b1, b2, b3) ∧
      (b1 = true ↔ ∃ r ∈ (stepX db op).events, r.cls = 1 ∧ r.st ≠ .written) ∧
      (b2 = true ↔ ∃ r ∈ (stepX db op).events, r.cls = 2 ∧ r.st ≠ .written) ∧
      (b3 = true ↔ ∃ r ∈ (stepX db op).events, r.cls = 3 ∧ r.st ≠ .written) :=
  @Dnp3.Props.Db.class_bits_exact_step db op h

/-- `no_counter_underflow`: the checked subtraction `total - written` of `unwritten_classes`
    (`Count::subtract`) never underflows on a database reached from a fresh one by any operation
    sequence (`none` = the panic of the dev build) -/
theorem no_counter_underflow (ev : TyVec Nat) (cz : TyVec Bool) (sel : Option Nat) (ops : List DbOpX) :
    (runX (Db.newCfg ev cz sel) ops).unwrittenClasses ≠ none :=
  @Dnp3.Props.Db.no_counter_underflow ev cz sel ops

/-- … nor after any single operation from any state with exact counters -/
theorem no_counter_underflow_step (db : Db) (op : DbOpX) (h : CountersExact db) :
    (stepX db op).unwrittenClasses ≠ none := by
  obtain ⟨b1, b2, b3, h', _⟩ := class_bits_exact_step db op h
  rw [h']; simp

/-- the overflow flag: raised by every discard, never lowered by an insert, and after a clear it
    is set iff it was set and some type is still at capacity -/
theorem overflow_flag_interval (db : Db) (idx cls : Nat) (t : PtType) (m : Meas) (dv : Nat) :
    (∀ c d, (db.insert idx cls t m dv).2 = .overflow c d → (db.insert idx cls t m dv).1.isOverflown = true) ∧
    (db.isOverflown = true → (db.insert idx cls t m dv).1.isOverflown = true) ∧
    db.clearWritten.1.isOverflown = (db.isOverflown && db.clearWritten.1.isAnyFull) :=
  ⟨fun c d h => overflow_set_on_discard db idx cls t m dv c d h,
   overflow_kept_by_insert db idx cls t m dv, overflow_after_clear db⟩

/-- nothing but insert and clear changes the flag -/
theorem overflow_flag_frame (db : Db) (op : DbOp)
    (h : match op with | .update .. => False | .clear => False | _ => True) :
    (step db op).isOverflown = db.isOverflown :=
  (overflown_keep db.isOverflown).step db op ⟨fun _ _ _ _ _ e => (by subst e; exact h), fun e => (by subst e; exact h)⟩ rfl

/-- with exact totals (always, `total_exact_invariant`) "some type at capacity" is a statement
    about the records in the buffer: some type with a non-zero maximum holds at least that many records -/
theorem any_full_iff (db : Db) (h : TotalExact db) :
    db.isAnyFull = true ↔
      ∃ t, db.evCfg.get t ≠ 0 ∧ db.evCfg.get t ≤ db.events.countP (fun r => r.ty == t) := by
  unfold TotalExact at h
  have hc : ∀ t, db.total.ty t = db.events.countP (fun r => r.ty == t) := by
    intro t; rw [h, tallyBy_ty]; simp [anyRec]
  rw [isAnyFull_eq, List.any_eq_true]
  constructor
  · rintro ⟨t, _, ht⟩
    simp only [Bool.and_eq_true, bne_iff_ne, ne_eq, decide_eq_true_eq, hc] at ht
    exact ⟨t, ht.1, ht.2⟩
  · rintro ⟨t, h0, hle⟩
    refine ⟨t, DbTables.mem_isAnyFull t, ?_⟩
    simp only [Bool.and_eq_true, bne_iff_ne, ne_eq, decide_eq_true_eq, hc]
    exact ⟨h0, hle⟩

/-- an overflow is reported, raises the overflow flag, and discards the OLDEST record of the type -/
theorem overflow_reported_discards_oldest (db : Db) (idx cls : Nat) (t : PtType) (m : Meas) (dv c dId : Nat)
    (ho : Ordered db) (h : (db.insert idx cls t m dv).2 = .overflow c dId) :
    ∃ d ∈ db.events, d.id = dId ∧ d.ty = t ∧ (db.insert idx cls t m dv).1.overflown = true ∧
      ∀ r ∈ db.events, r.ty = t → r ≠ d → d.id < r.id :=
  overflow_discards_oldest db idx cls t m dv c dId ho h

/-- no type ever holds more events than its configured maximum (the shared event list never more than the
    sum of the maxima: `Props.C03.events_within_capacity`) -/
theorem type_capacity (ev : TyVec Nat) (cz : TyVec Bool) (sel : Option Nat) (ops : List DbOpX) (t : PtType) :
    (runX (Db.newCfg ev cz sel) ops).events.countP (fun r => r.ty == t) ≤ ev.get t :=
  type_capacityX ev cz sel ops t

end Db

end Dnp3.Props.C13
