import Dnp3.Model.Transport
/-!
# C08 — The transport layer delivers exactly the fragments that were segmented
-/
namespace Dnp3.Props.C08
open Dnp3

/-- transport header octet round trip: `Header::from_u8 (to_u8 h) = h` for 6-bit sequence numbers -/
theorem theader_roundtrip (fin fir : Bool) (seq : Fin 64) :
    THeader.ofNat (THeader.toNat ⟨fin, fir, seq.val⟩) = ⟨fin, fir, seq.val⟩ := by
  revert fin fir seq; decide

/-- the sequence number wraps from 63 to 0 and otherwise increments: it is `+1 mod 64` -/
theorem seqNext_mod (v : Nat) (h : v < 64) : seqNext v = (v + 1) % 64 := by
  unfold seqNext; split <;> omega

end Dnp3.Props.C08
