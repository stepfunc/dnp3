import Dnp3.Model.OutstationTrace
import Dnp3.Proofs.OutstationC04
/-!
# C04 — OPERATE actuates only after its own matching, fresh, directly preceding SELECT

Property theorems over the outstation session model for ALL states and histories, restated
verbatim from `Dnp3.Proofs.OutstationC04` (definitions `isSbo`, `isExec`, `CurFrag`, `stepNow`,
`SelectAllZero`, `rxAccept`, … live there).  Defect D9 (a byte-identical repeat of ANY last non-READ
request re-based the stored select's frame id) is repaired: only a retransmission of the stored SELECT
itself that directly follows it re-bases (`step_select_change` (b)), and the FULL trace statement holds:
`operate_needs_select` — a select-before-operate actuation at step `k` has a matching, fresh, fully
successful SELECT at a step `j < k`, no effective `.cut` in between, and every fragment delivered strictly
between `j` and `k` is a retransmission of that SELECT (unicast, function 3, same sequence number, same object
octets) that executed nothing (for runs from an empty transport reader that are shorter than 2^32 steps: the
`u32` frame counter wraps, in the model as in the Rust code).  It rests on `step_pending` (every step consumes
the fragment it works on) and `step_frameId`.  The former counterexample run is kept as the regression example
`operate_after_intervening_write_rejected`, next to `select_retransmitted_then_operate_example` (the
legitimate retransmission path still actuates) and `select_stray_retransmitted_then_operate_rejected`.
-/
namespace Dnp3.Props.C04
open Dnp3 Dnp3.Proofs.C04

/-- **C04.1** `matchOperate` accepts iff sequence, frame id, object bytes and age all match. -/
theorem match_operate_iff (sel : Sel) (timeout now seq frameId : Nat) (objs : List Nat) :
    matchOperate sel timeout now seq frameId objs = none ↔
      (seq = seq4Next sel.seq ∧ frameId = (sel.frameId + 1) % 2 ^ 32 ∧ objs = sel.objects ∧
        now - sel.time ≤ timeout) :=
  @Dnp3.Proofs.C04.match_operate_iff sel timeout now seq frameId objs

/-- the status of a rejected OPERATE: `1` (Timeout) exactly when only the age check fails,
    `2` (NoSelect) when sequence, frame id or object bytes differ. -/
theorem match_operate_status (sel : Sel) (timeout now seq frameId : Nat) (objs : List Nat) (st : Nat)
    (h : matchOperate sel timeout now seq frameId objs = some st) :
    (st = 1 ∧ seq = seq4Next sel.seq ∧ frameId = (sel.frameId + 1) % 2 ^ 32 ∧ objs = sel.objects ∧
        timeout < now - sel.time) ∨
    (st = 2 ∧ ¬ (seq = seq4Next sel.seq ∧ frameId = (sel.frameId + 1) % 2 ^ 32 ∧ objs = sel.objects)) :=
  @Dnp3.Proofs.C04.match_operate_status sel timeout now seq frameId objs st h

/-- **C04.2 (step level, every state)**: a select-before-operate actuation appears in the outputs of a
    step only if the fragment the step works on parses as a unicast function-4 request with well-formed
    objects, a SELECT is stored, and `matchOperate` accepts it (sequence, frame id, object bytes, age). -/
theorem step_sbo_needs_match (env : OEnv) (s : OState) (i : OInput) (o : OOut)
    (ho : o ∈ (Outstation.step env s i).2) (hsbo : isSbo o = true) :
    ∃ f ctrl hs raw sel, CurFrag env s i f ∧ parseRequest f.data = .request ctrl 4 (.ok hs) raw ∧
      f.broadcast = none ∧ s.select = some sel ∧
      matchOperate sel s.cfg.stimeout (stepNow s i) ctrl.seq f.id raw = none :=
  @Dnp3.Proofs.C04.step_sbo_needs_match env s i o ho hsbo

/-- **C04.2 (rejection)**: an OPERATE that is not accepted actuates nothing: no callback of any kind is
    emitted, `select` is untouched, and the reply is the echo computed by `ctlAll none st none`, i.e. by the
    branch of the loop that calls no handler and writes `withStatus obj st` for every object that fits the
    solicited buffer (D1 repaired: an echo that does not fit is truncated, not a panic), where
    `st ∈ {1, 2}` is the verdict (`operateVerdict_status`); IIN2 is clean. -/
theorem operate_rejected (a : Acc) (seq fid : Nat) (hs : List ObjHdr) (raw : List Nat) (st : Nat)
    (hall : hs.all isControlHdr = true) (hv : operateVerdict a.1 seq fid raw = some st) :
    handleControls a 4 seq fid hs raw =
      some (({ a.1 with solBuf := writeAt a.1.solBuf 4 (rejectRun a st hs).out }, a.2),
        some (singleResponse seq 0 (4 + (rejectRun a st hs).out.length))) := by
  obtain ⟨hfin, hacc⟩ := ctlAll_none st hs a (a.1.cfg.sol - 4)
  obtain ⟨x, hx, c⟩ := Dnp3.Proofs.Frame.handleControls_cases a 4 seq fid hs raw
  rw [hx]
  cases c with
  | param h => rw [hall] at h; cases h
  | select _ _ h => cases h
  | reject st' R _ _ hv' hR =>
    cases hv'.symm.trans hv
    have hst4 : ¬ ((!R.overflow) = true ∧ st = 4) := fun h => by
      rcases operateVerdict_status hv with h' | h' <;> omega
    subst hR
    rw [if_neg hst4, Dnp3.Proofs.Frame.ctlEcho, hfin, rejectRun, hacc]
  | operate k R _ hk =>
    rcases hk with ⟨-, -, hv'⟩ | ⟨h, -⟩
    · cases hv'.symm.trans hv
    · cases h
  | noAck _ _ h4 => exact absurd rfl h4

/-- at the `handleNonRead` level: nothing is emitted and `select` is kept -/
theorem operate_rejected_no_callbacks {a a' : Acc} {seq fid : Nat} {hs : List ObjHdr} {raw : List Nat}
    {r : Option Resp} (h : handleNonRead a 4 seq fid hs raw = some (a', r))
    (hno : ¬ OperateOk a.1 seq fid raw) : a'.2 = a.2 ∧ a'.1.select = a.1.select := by
  obtain ⟨ok, hsel, hok, l, hl, -, hrej⟩ := (handleNonRead_spec h).sel
  have : ok = false := by
    cases ok
    · rfl
    · exact absurd (hok rfl) (by decide)
  subst this
  rw [hrej rfl hno] at hl
  exact ⟨by simpa using hl, by simpa using hsel⟩

/-- **C04.3 (where `select` comes from, every state)**: after a step `select` is unchanged, or
    (c) cleared by `.cut`, or the fragment the step works on was a unicast request with well-formed objects and
    (a) function 3 that was new (not a repeat), every select callback of the step reported status 0:
        `select = ⟨seq, frame id, now, raw objects⟩`; or
    (b) it took the `repeatNonRead` branch (its sequence number and bytes equal the last recorded request, and
        the step executed nothing) AND it is a retransmission of the stored SELECT itself that directly follows
        it — function 3, the select's sequence number, the select's object octets, and a frame id that is the
        select's plus one (mod 2^32) — and only `frameId` was overwritten with this fragment's id
        (`update_frame_id_on_repeat`; defect D9 — a repeat of ANY last non-READ request re-based — is repaired).
    "New" / "repeat" are stated against `s.lastReq` only when no READ is deferred in `s` and the input is no `.cut`:
    both rewrite `lastReq` before the fragment is classified. -/
theorem step_select_change (env : OEnv) (s : OState) (i : OInput) :
    (Outstation.step env s i).1.select = s.select ∨
    (isCut i = true ∧ (Outstation.step env s i).1.select = none) ∨
    ∃ f ctrl func hs raw, CurFrag env s i f ∧ parseRequest f.data = .request ctrl func (.ok hs) raw ∧
      f.broadcast = none ∧ func ≠ 0 ∧ func ≠ 1 ∧
      ((func = 3 ∧
          (s.deferred = none → ¬ isCut i = true →
            ¬ ∃ last, s.lastReq = some last ∧ last.seq = ctrl.seq ∧ last.frag = f.data) ∧
          (Outstation.step env s i).1.select = some ⟨ctrl.seq, f.id, stepNow s i, raw⟩ ∧
          SelectAllZero (Outstation.step env s i).2) ∨
       ((s.deferred = none → ¬ isCut i = true →
            ∃ last, s.lastReq = some last ∧ last.seq = ctrl.seq ∧ last.frag = f.data) ∧
          (∀ o ∈ (Outstation.step env s i).2, isExec o = false) ∧
          ∃ sel, s.select = some sel ∧
            func = 3 ∧ sel.seq = ctrl.seq ∧ (sel.frameId + 1) % 2 ^ 32 = f.id ∧ sel.objects = raw ∧
            (Outstation.step env s i).1.select = some { sel with frameId := f.id })) :=
  @Dnp3.Proofs.C04.step_select_change env s i

/-- **C04.4**: the transport frame counter increases by exactly 1 (mod 2^32) for every delivered fragment
    and is unchanged by every other input (including `.cut` and rejected `.rx`). -/
theorem step_frameId (env : OEnv) (s : OState) (i : OInput) :
    (Outstation.step env s i).1.frameId =
      match i with
      | .rx src dst data =>
        if (rxAccept env s src dst data).isSome then (s.frameId + 1) % 2 ^ 32 else s.frameId
      | _ => s.frameId :=
  @Dnp3.Proofs.C04.step_frameId env s i

/-- the state after construction has no SELECT stored -/
theorem start_select (cfg : OCfg) (evMax : Nat) : (Outstation.start cfg evMax).1.select = none :=
  @Dnp3.Proofs.C04.start_select cfg evMax

/-- **C04.6 (every step consumes the fragment it works on)**: no fragment is left over for a later step — if the
    transport reader was empty before a step (`pending = none`) or the task dead, the same holds after it.  (The
    confirm waits may retain a fragment — `Confirm::NewRequest` — but the wait entered next, or the idle pass,
    handles it within the same step: `settle`.) -/
theorem step_pending (env : OEnv) (s : OState) (i : OInput) (h : s.pending = none ∨ isDead s = true) :
    (Outstation.step env s i).1.pending = none ∨ isDead (Outstation.step env s i).1 = true :=
  @Dnp3.Proofs.C04.step_pending env s i h

/-- the state after construction has no fragment pending -/
theorem start_pending (cfg : OCfg) (evMax : Nat) : (Outstation.start cfg evMax).1.pending = none :=
  @Dnp3.Proofs.C04.start_pending cfg evMax

/-- **C04.5 (`operate_needs_select`, full trace statement)**: along EVERY input list, from any state without a
    stored SELECT (in particular `Outstation.start`), a select-before-operate actuation at step `k` implies a step
    `j < k` that handled a unicast, well-formed function-3 request whose handler statuses were all 0,
    with byte-identical raw objects and sequence number one less (mod 16), no effective `.cut` in between,
    and the clock advanced by at most `stimeout` between the two requests; AND every fragment delivered strictly between `j` and `k` is a
    retransmission of that SELECT that executed nothing: for every `j < m < k` and every fragment `f` step `m`
    works on, `f` is unicast, parses as a well-formed function-3 request with the SELECT's object octets and the
    SELECT's sequence number, and no executing callback (`isExec`: control / write / freeze / time / restart,
    begin/end fragment) appears in the outputs of step `m`.

    Hypotheses of the last conjunct (stated inside, the first ten conjuncts are unconditional):
    * `s0.pending = none`: the transport reader is empty in the initial state (true after construction,
      `start_pending`; afterwards it is empty before every step, `step_pending`).  A fragment left in the reader
      of an arbitrary `s0` carries an arbitrary frame id, unrelated to the frame counter.
    * `k < 2 ^ 32`: the frame counter is a `u32` that wraps (`step_frameId`; Rust `u32::wrapping_add`), so
      after exactly 2^32 delivered fragments the id "select's id + 1" comes round again — in the model as in the
      Rust code.  Runs shorter than 2^32 inputs cannot alias. -/
theorem operate_needs_select (env : OEnv) (s0 : OState) (h0 : s0.select = none) (inputs : List OInput)
    (k : Nat) (hk : k < inputs.length) (o : OOut) (ho : o ∈ outsAt env s0 inputs k hk) (hsbo : isSbo o = true) :
    ∃ (j : Nat) (hj : j < inputs.length), j < k ∧ ∃ fj cj hsj fk ck hsk raw,
      CurFrag env (stateAt env s0 inputs j) inputs[j] fj ∧
      parseRequest fj.data = .request cj 3 (.ok hsj) raw ∧ fj.broadcast = none ∧
      SelectAllZero (outsAt env s0 inputs j hj) ∧
      CurFrag env (stateAt env s0 inputs k) inputs[k] fk ∧
      parseRequest fk.data = .request ck 4 (.ok hsk) raw ∧ fk.broadcast = none ∧
      ck.seq = seq4Next cj.seq ∧
      stepNow (stateAt env s0 inputs k) inputs[k] - stepNow (stateAt env s0 inputs j) inputs[j] ≤
        s0.cfg.stimeout ∧
      (∀ (m : Nat) (hm : m < inputs.length), j < m → m < k → isCut inputs[m] = true →
        isDead (stateAt env s0 inputs m) = true) ∧
      (s0.pending = none → k < 2 ^ 32 →
        ∀ (m : Nat) (hm : m < inputs.length), j < m → m < k →
          ∀ f, CurFrag env (stateAt env s0 inputs m) inputs[m] f →
            ∃ cm hsm, parseRequest f.data = .request cm 3 (.ok hsm) raw ∧ f.broadcast = none ∧
              cm.seq = cj.seq ∧ ∀ o ∈ outsAt env s0 inputs m hm, isExec o = false) :=
  @Dnp3.Proofs.C04.operate_needs_select env s0 h0 inputs k hk o ho hsbo

/-- `operate_needs_select` applies to every run from the state after construction (`start_select`,
    `start_pending`); stated here for the SELECT step and the fragments in between only, the full conclusion is
    obtained by `operate_needs_select env _ (start_select cfg evMax) …` -/
theorem operate_needs_select_start (env : OEnv) (cfg : OCfg) (evMax : Nat) (inputs : List OInput)
    (k : Nat) (hk : k < inputs.length) (o : OOut)
    (ho : o ∈ outsAt env (Outstation.start cfg evMax).1 inputs k hk) (hsbo : isSbo o = true) :
    ∃ (j : Nat) (hj : j < inputs.length), j < k ∧ ∃ fj cj hsj raw,
      CurFrag env (stateAt env (Outstation.start cfg evMax).1 inputs j) inputs[j] fj ∧
      parseRequest fj.data = .request cj 3 (.ok hsj) raw ∧
      SelectAllZero (outsAt env (Outstation.start cfg evMax).1 inputs j hj) ∧
      (inputs.length < 2 ^ 32 →
        ∀ (m : Nat) (hm : m < inputs.length), j < m → m < k →
          ∀ f, CurFrag env (stateAt env (Outstation.start cfg evMax).1 inputs m) inputs[m] f →
            ∃ cm hsm, parseRequest f.data = .request cm 3 (.ok hsm) raw ∧ f.broadcast = none ∧
              cm.seq = cj.seq ∧ ∀ o ∈ outsAt env (Outstation.start cfg evMax).1 inputs m hm, isExec o = false) :=
  let ⟨j, hj, hjk, fj, cj, hsj, _, _, _, raw, h1, h2, _, h4, _, _, _, _, _, _, h11⟩ :=
    operate_needs_select env _ (start_select cfg evMax) inputs k hk o ho hsbo
  ⟨j, hj, hjk, fj, cj, hsj, raw, h1, h2, h4, fun hlen => h11 (start_pending cfg evMax) (by omega)⟩

-- what follows evaluates the model, including the current `Db` component
/-- **D9 regression** (the former counterexample run): the OPERATE after a WRITE and its retransmission is NOT
    executed any more — the retransmitted WRITE takes the `repeatNonRead` branch, which no longer re-bases the
    stored SELECT's frame id (only a retransmission of the SELECT itself does). -/
theorem operate_after_intervening_write_rejected :
    sboCount (Outstation.run {} (Outstation.start {} 10).1 cexInputs).2 = 0 := by
  decide +kernel

/-- without the retransmission the OPERATE is rejected as well -/
theorem operate_after_single_write_rejected :
    sboCount (Outstation.run {} (Outstation.start {} 10).1
      [.rx 1 1024 cexSelect, .rx 1 1024 cexWrite, .rx 1 1024 cexOperate]).2 = 0 := by
  decide +kernel

/-- and SELECT directly followed by OPERATE (seq 1) is executed exactly once -/
theorem select_operate_executed_once_example :
    sboCount (Outstation.run {} (Outstation.start {} 10).1
      [.rx 1 1024 cexSelect, .rx 1 1024 cexOperate]).2 = 1 := by
  decide +kernel

/-- the legitimate path still works: SELECT, its byte-identical retransmission (which re-bases the select's frame
    id), OPERATE — executed exactly once -/
theorem select_retransmitted_then_operate_example :
    sboCount (Outstation.run {} (Outstation.start {} 10).1
      [.rx 1 1024 cexSelect, .rx 1 1024 cexSelect, .rx 1 1024 cexOperate]).2 = 1 := by
  decide +kernel

/-- a stray fragment (here a solicited CONFIRM) between the SELECT and its retransmission breaks the chain: the
    retransmission does not directly follow the SELECT, the select is not re-based, the OPERATE is rejected -/
theorem select_stray_retransmitted_then_operate_rejected :
    sboCount (Outstation.run {} (Outstation.start {} 10).1
      [.rx 1 1024 cexSelect, .rx 1 1024 cexConfirm, .rx 1 1024 cexSelect, .rx 1 1024 cexOperate]).2 = 0 := by
  decide +kernel

end Dnp3.Props.C04
