import Dnp3.Props.C07Base
import Dnp3.Proofs.LinkLayerHist
import Dnp3.Props.C07App
/-!
# C07 — history-level theorems (every list of link headers)
-/
namespace Dnp3.Props.C07
open Dnp3 Dnp3.Proofs.LinkLayerHist

/-- the secondary-station state changes only through an accepted reset (to "expect 1") or a
    delivered confirmed-data frame (toggle); both only for frames addressed to this endpoint -/
theorem sec_changes_only_by_reset_or_delivery (cfg : LinkCfg) (sec : SecState) (h : LHeader)
    (hne : (processHeader cfg sec h).1 ≠ sec) :
    Addressed cfg h ∧
    (((Control.ofNat h.ctrl).func = .priResetLinkStates ∧ (Control.ofNat h.ctrl).fcv = false ∧
        ∃ s, processHeader cfg sec h = (.reset true, none, some ⟨s, .secAck⟩)) ∨
     ((Control.ofNat h.ctrl).func = .priConfirmedUserData ∧ (Control.ofNat h.ctrl).fcv = true ∧
        ∃ s b, sec = .reset (Control.ofNat h.ctrl).fcb ∧
          (processHeader cfg sec h).1 = .reset (!(Control.ofNat h.ctrl).fcb) ∧
          (processHeader cfg sec h).2.1 = some ⟨s, b, .data⟩)) := by
  refine ⟨acts_only_if_addressed cfg sec h (fun he => hne (by rw [he])), ?_⟩
  rcases processHeader_trichotomy cfg sec h with h1 | h2 | h3
  · exact absurd h1.1 hne
  · exact Or.inl h2
  · exact Or.inr h3

/-- **confirmed user data is delivered at most once per frame-count-bit toggle**: over ANY
    history of confirmed-data frames from state `reset e`, the frame count bits of the
    delivered frames are exactly e, !e, e, ….  (Any headers, any start state, resets in between:
    `Proofs.LinkLayerHist.delivered_fcbs_alternate`, of which this is the case without resets.) -/
theorem confirmed_once_per_toggle (cfg : LinkCfg) (hs : List LHeader)
    (hc : ∀ h ∈ hs, (Control.ofNat h.ctrl).func = .priConfirmedUserData) :
    ∀ e, deliveredFcbs cfg (.reset e) hs = alt e (deliveredFcbs cfg (.reset e) hs).length := by
  intro e
  have h := delivered_fcbs_alternate cfg (.reset e) hs
  obtain ⟨h1, h2⟩ := track_confirmed cfg hs hc ⟨.reset e, false, []⟩
  simp only [Proofs.LinkLayerHist.Inv, h1, h2, List.nil_append] at h
  exact h.1

/-- … and nothing is delivered before a link reset -/
theorem confirmed_needs_reset (cfg : LinkCfg) (hs : List LHeader)
    (hc : ∀ h ∈ hs, (Control.ofNat h.ctrl).func = .priConfirmedUserData) :
    deliveredFcbs cfg .notReset hs = [] := by
  have h := delivered_fcbs_alternate cfg .notReset hs
  obtain ⟨h1, h2⟩ := track_confirmed cfg hs hc ⟨.notReset, false, []⟩
  simp only [Proofs.LinkLayerHist.Inv, h1, h2, List.nil_append] at h
  exact h.1

/-- consecutive entries of `alt b n` differ; with `confirmed_once_per_toggle`: consecutive delivered
    frames never carry the same frame count bit -/
theorem no_repeated_fcb_delivered (b : Bool) (n i : Nat) (h : i + 1 < n) :
    (alt b n)[i]'(by rw [alt_length]; omega) ≠ (alt b n)[i+1]'(by rw [alt_length]; omega) := by
  induction n generalizing b i with
  | zero => omega
  | succ n ih =>
    cases i with
    | zero =>
      cases n with
      | zero => omega
      | succ n => simp [alt]
    | succ i => simp only [alt, List.getElem_cons_succ]; exact ih (!b) i (by omega)

end Dnp3.Props.C07
