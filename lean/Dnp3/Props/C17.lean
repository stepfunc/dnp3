import Dnp3.Model.MasterSession
import Dnp3.Proofs.Master
import Dnp3.Props.C17Trace
/-!
# C17 — Master start-up and restart handling runs in order and gates unsolicited data

`TaskStates.next` (model of `association.rs::TaskStates::next`), `AutoTaskState` and
`ExponentialBackOff` (`app/retry.rs`), the restart / need-time / overflow reactions of
`process_iin`, and the unsolicited gate of `handle_unsolicited_response`.
-/
namespace Dnp3.Props.C17
open Dnp3 Dnp3.Master Dnp3.Proofs.MasterC17Trace Dnp3.Proofs.MasterC17Trace.Ord

/-- the automatic tasks in their fixed order, with "is configured" and the choice they produce -/
def slots (t : TaskStates) (cfg : ACfg) (_evAvail : Nat) : List (Bool × AutoState × AutoChoice) :=
  [ (true, t.clearRestart, .clearRestart),
    (cfg.dis ≠ 0, t.disable, .disableUnsol),
    (cfg.int ≠ 0, t.integrity, .integrity),
    (cfg.ts.isSome, t.timeSync, .timeSync (cfg.ts.getD .lan)),
    (cfg.en ≠ 0, t.enable, .enableUnsol) ]

/-- the first configured slot that is not idle decides — whether it can run now or not -/
def firstDue : List (Bool × AutoState × AutoChoice) → Option (AutoState × AutoChoice)
  | [] => none
  | (conf, st, c) :: rest => if conf && !st.isIdle then some (st, c) else firstDue rest

/-- `auto_priority`: `TaskStates.next` returns the first due task in the order clear-restart,
    disable-unsolicited, integrity, time-sync, enable-unsolicited (each subject to configuration);
    a due task that is in back-off yields its retry time and thereby BLOCKS the lower ones; only
    when none of the five is due does the event scan get its turn -/
theorem auto_priority (t : TaskStates) (cfg : ACfg) (ev now : Nat) :
    t.next cfg ev now =
      (match firstDue (slots t cfg ev) with
       | some (st, c) => st.createNext now c
       | none =>
         if ev &&& cfg.evscan ≠ 0 then t.eventScan.createNext now (.eventScan (ev &&& cfg.evscan)) else .none) := by
  unfold TaskStates.next slots
  simp only [firstDue, Bool.and_eq_true, decide_eq_true_eq, Bool.true_and]
  -- slot by slot both sides take the same decision
  by_cases h1 : (!t.clearRestart.isIdle) = true
  · rw [if_pos h1, if_pos h1]
  rw [if_neg h1, if_neg h1]
  by_cases h2 : cfg.dis ≠ 0 ∧ (!t.disable.isIdle) = true
  · rw [if_pos h2, if_pos h2]
  rw [if_neg h2, if_neg h2]
  by_cases h3 : cfg.int ≠ 0 ∧ (!t.integrity.isIdle) = true
  · rw [if_pos h3, if_pos h3]
  rw [if_neg h3, if_neg h3]
  by_cases h4 : cfg.ts.isSome = true ∧ (!t.timeSync.isIdle) = true
  · obtain ⟨p, hp⟩ := Option.isSome_iff_exists.1 h4.1
    rw [if_pos h4, if_pos h4.2, hp]
    rfl
  have hts : (if (!t.timeSync.isIdle) = true then cfg.ts else none) = none := by
    split
    · cases hc : cfg.ts with
      | none => rfl
      | some p => exact absurd ⟨by rw [hc]; rfl, ‹_›⟩ h4
    · rfl
  rw [if_neg h4, hts]
  by_cases h5 : cfg.en ≠ 0 ∧ (!t.enable.isIdle) = true
  · rw [if_pos h5, if_pos h5]
  · rw [if_neg h5, if_neg h5]

/-- what `createNext` hands out: a pending task runs now, a failed one not before its retry time -/
theorem createNext_cases {α : Type} (st : AutoState) (now : Nat) (x : α) :
    (st = .idle ∧ st.createNext now x = .none) ∨
    (st = .pending ∧ st.createNext now x = .now x) ∨
    (∃ l nb, st = .failed l nb ∧ nb ≤ now ∧ st.createNext now x = .now x) ∨
    (∃ l nb, st = .failed l nb ∧ now < nb ∧ st.createNext now x = .notBefore nb) := by
  cases st with
  | idle => simp [AutoState.createNext]
  | pending => simp [AutoState.createNext]
  | failed l nb =>
    by_cases h : nb ≤ now
    · right; right; left
      exact ⟨l, nb, rfl, h, by simp [AutoState.createNext, h]⟩
    · right; right; right
      exact ⟨l, nb, rfl, by omega, by simp [AutoState.createNext, h]⟩

/-- a failed higher task blocks the lower ones until its retry time: e.g. a failed
    DISABLE_UNSOLICITED keeps the integrity poll and ENABLE_UNSOLICITED back -/
theorem failed_disable_blocks_lower (t : TaskStates) (cfg : ACfg) (ev now l nb : Nat)
    (h0 : t.clearRestart = .idle) (h1 : cfg.dis ≠ 0) (h2 : t.disable = .failed l nb) (h3 : now < nb) :
    t.next cfg ev now = .notBefore nb := by
  unfold TaskStates.next
  have : ¬ now ≥ nb := by omega
  simp [h0, h1, h2, AutoState.isIdle, AutoState.createNext, this]

/-- clear-restart comes first whenever it is due -/
theorem clear_restart_first (t : TaskStates) (cfg : ACfg) (ev now : Nat) (h : t.clearRestart = .pending) :
    t.next cfg ev now = .now .clearRestart := by
  unfold TaskStates.next
  simp [h, AutoState.isIdle, AutoState.createNext]

example : ({} : TaskStates).next {} 0 0 = .now .disableUnsol := by decide
example : ({ disable := .idle } : TaskStates).next {} 0 0 = .now .integrity := by decide
example : ({ disable := .idle, integrity := .idle } : TaskStates).next {} 0 0 = .now .enableUnsol := by decide
example : ({ disable := .idle, integrity := .idle, timeSync := .pending } : TaskStates).next { ts := some .lan } 0 0 =
    .now (.timeSync .lan) := by decide

/-- periodic polls and the keep-alive run only when no automatic task is due
    (`Association::get_next_task`) -/
theorem polls_after_auto_tasks (a : Assoc) (now : Nat) (h : a.auto.next a.cfg a.evAvail now ≠ .none) :
    a.getNextTask now = (match a.auto.next a.cfg a.evAvail now with
      | .now c => .now (c.toTask a.cfg)
      | .notBefore t => .notBefore t
      | .none => .none) := by
  unfold Assoc.getNextTask
  cases hn : a.auto.next a.cfg a.evAvail now <;> simp_all

/-- a response showing the restart indication re-arms clear-restart (first), integrity and
    enable — when clear-restart is not already under way -/
theorem restart_rearms (a : Assoc) (iin1 iin2 : Nat) (h : iin1 &&& 0x80 ≠ 0) (hi : a.auto.clearRestart = .idle) :
    (a.processIin iin1 iin2).auto.clearRestart = .pending ∧ (a.processIin iin1 iin2).auto.integrity.isIdle = false ∧
    (a.processIin iin1 iin2).auto.enable.isIdle = false ∧ (a.processIin iin1 iin2).integrityDone = false := by
  obtain ⟨au, d, ev, he, hd, hau⟩ := Proofs.Master.iinFrame_processIin_tail a iin1 iin2
  have hr : a.onRestartObserved = { a with
      auto := { a.auto with
        clearRestart := .pending, integrity := a.auto.integrity.demand, enable := a.auto.enable.demand },
      integrityDone := false } := by
    unfold Assoc.onRestartObserved
    rw [hi]
    rfl
  rw [if_pos h, hr] at he hd hau
  rw [he]
  refine ⟨?_, ?_, ?_, ?_⟩
  · rcases hau .clearRestart with e | e <;> exact e
  · rcases hau .integrity with e | e <;> exact (congrArg AutoState.isIdle e).trans (Proofs.Master.demand_isIdle _)
  · rcases hau .enable with e | e <;> exact (congrArg AutoState.isIdle e).trans (Proofs.Master.demand_isIdle _)
  · cases d
    · rfl
    · exact (hd rfl).symm

/-- `unsolicited_gated`: before the integrity poll has completed an unsolicited fragment with
    objects is neither delivered nor confirmed -/
theorem unsolicited_gated (last : Option UnsolKey) (r : Resp) (h : r.raw ≠ []) :
    handleUnsolicited false last r = ⟨false, false, false, false⟩ := by
  unfold handleUnsolicited
  cases hr : r.raw with
  | nil => exact absurd hr h
  | cons x xs => simp [List.isEmpty]

/-- a null unsolicited response (no objects; the object parse of a received fragment without
    objects always succeeds, `parseResponse_null_objects`) passes the gate -/
theorem unsolicited_null_confirmed (last : Option UnsolKey) (frag : List Nat) (r : Resp)
    (hp : parseResponse frag = some r) (h : r.raw = []) :
    (handleUnsolicited false last r).valid = true ∧ (handleUnsolicited false last r).confirm = r.ctrl.con := by
  have ho := Proofs.Master.parseResponse_null_objects frag r hp h
  unfold handleUnsolicited
  simp only [h, ho, List.isEmpty, Bool.false_or, if_true, Option.isNone_some, Bool.false_eq_true, if_false]
  split <;> simp

example : (parseResponse [0xF0, 0x82, 0x80, 0x00]).map (fun r => (r.unsol, r.raw, r.ctrl.con)) = some (true, [], true) := by decide

/-- the integrity poll counts as completed when none is configured, or when it has succeeded since
    the last (re)connect / restart indication -/
theorem integrity_complete_iff (a : Assoc) : a.isIntegrityComplete = true ↔ (a.cfg.int = 0 ∨ a.integrityDone = true) := by
  simp [Assoc.isIntegrityComplete]

/-- delay of the (k+1)-th consecutive failure -/
def nthDelay (rmin rmax : Nat) : Nat → Nat
  | 0 => Backoff.onFailure rmin rmax none
  | k+1 => Backoff.onFailure rmin rmax (some (nthDelay rmin rmax k))

/-- `backoff_law`: for `min ≤ max` the k-th consecutive failure is retried after
    `min(min · 2ᵏ, max)` (k counted from 0) -/
theorem backoff_law (rmin rmax : Nat) (h : rmin ≤ rmax) (k : Nat) :
    nthDelay rmin rmax k = min (rmin * 2 ^ k) rmax := by
  induction k with
  | zero => simp [nthDelay, Backoff.onFailure, Nat.min_eq_left h]
  | succ k ih =>
    simp only [nthDelay, Backoff.onFailure, ih, Nat.pow_succ]
    have h2 : rmin * (2 ^ k * 2) = 2 * (rmin * 2 ^ k) := by
      rw [Nat.mul_comm (2 ^ k) 2, ← Nat.mul_assoc, Nat.mul_comm rmin 2, Nat.mul_assoc]
    rw [h2]
    omega

/-- the delays never exceed the maximum when `min ≤ max` -/
theorem backoff_bounded (rmin rmax : Nat) (h : rmin ≤ rmax) (k : Nat) : nthDelay rmin rmax k ≤ rmax := by
  rw [backoff_law rmin rmax h k]
  exact Nat.min_le_right _ _

/-- remark: `RetryStrategy::new` accepts `min > max`; the first delay then exceeds the maximum
    (configuration validation, not a protocol finding) -/
theorem backoff_first_exceeds_max (rmin rmax : Nat) (h : rmax < rmin) : rmax < nthDelay rmin rmax 0 := by
  simp [nthDelay, Backoff.onFailure, h]

def failTimes (cfg : ACfg) (now : Nat) : Nat → AutoState → AutoState
  | 0, s => s
  | k+1, s => (failTimes cfg now k s).failure cfg now

/-- the state machine follows the law: after k+1 consecutive failures the task is in back-off
    with the k-th delay, not before `now + delay` -/
theorem failure_sequence (cfg : ACfg) (now : Nat) (k : Nat) :
    failTimes cfg now (k + 1) .pending = .failed (nthDelay cfg.rmin cfg.rmax k) (now + nthDelay cfg.rmin cfg.rmax k) := by
  induction k with
  | zero => simp [failTimes, AutoState.failure, nthDelay]
  | succ k ih =>
    rw [failTimes, ih]
    simp [AutoState.failure, nthDelay]

/-- success resets the back-off: the next failure starts again at the minimum -/
theorem success_resets (x : Assoc) (id : AutoId) (now : Nat) :
    ((x.doneAuto id).failAuto id now).auto.get id = .failed x.cfg.rmin (now + x.cfg.rmin) := by
  cases id <;> simp [Assoc.doneAuto, Assoc.failAuto, TaskStates.set, TaskStates.get, AutoState.failure, Backoff.onFailure]

example : nthDelay 1000 10000 0 = 1000 ∧ nthDelay 1000 10000 1 = 2000 ∧ nthDelay 1000 10000 3 = 8000 ∧
    nthDelay 1000 10000 4 = 10000 ∧ nthDelay 1000 10000 9 = 10000 := by decide

/-- a reconnect starts the sequence again: disable, integrity, enable pending; nothing else -/
theorem reset_restarts_startup : ({} : TaskStates) =
    { disable := .pending, integrity := .pending, enable := .pending, clearRestart := .idle, timeSync := .idle, eventScan := .idle } := rfl

/-! ## Whole-trace theorems (`Master.run`)

Definitions, the inductive invariants and the general forms (`run_gated`, `step_gated_inv`, `closed_after_eof`, `run_ordered`,
`step_ordered_inv`, `pend_after_eof`) are in `Dnp3/Props/C17Trace.lean`. -/

/-- GATING, trace theorem from the start state: in ANY run of the master from its start state — any inputs: associations
    added / removed, connects, disconnects, responses with any IIN bits, failures, timeouts, user requests —
    in which `addr` is only ever configured with an integrity poll (`cfg.int ≠ 0`), every unsolicited delivery for
    `addr` that is not preceded by a `taskSuccess addr .startupIntegrity` output is EMPTY: its `deliverBegin` is
    directly followed by its `deliverEnd`, no object header reaches the handler -/
theorem startup_unsolicited_gated (txSize addr : Nat) (ins : List MInput)
    (hi : ∀ cfg, MInput.msg (.addAssoc addr cfg) ∈ ins → cfg.int ≠ 0) :
    ∀ pre o post, (run (start txSize) ins).2.flatten = pre ++ o :: post →
      (∃ c i1 i2, o = .deliverBegin (.assoc addr) .unsolicited c i1 i2) →
      (∀ o' ∈ pre, ¬ ∃ fc seq, o' = .taskSuccess addr .startupIntegrity fc seq) →
      ∃ post', post = .deliverEnd (.assoc addr) .unsolicited :: post' :=
  run_gated addr (start txSize) ins (closed_start addr txSize) (inputOk_of_cfg addr ins hi)

/-- ORDERING 1, trace theorem from the start state: in ANY run of the master from its start state in which `addr` is only
    ever configured with DISABLE_UNSOLICITED (`cfg.dis ≠ 0`) and no user request is itself a start-up integrity poll,
    every `taskStart addr .startupIntegrity` is preceded by the completion of DISABLE_UNSOLICITED for `addr`:
    its `taskSuccess`, or its `taskFail` with an IIN2 rejection (an outstation that does not support the function;
    `AutoTask::on_task_error` treats this as the response) -/
theorem startup_integrity_after_disable (txSize addr : Nat) (ins : List MInput)
    (hcfg : ∀ cfg, MInput.msg (.addAssoc addr cfg) ∈ ins → cfg.dis ≠ 0)
    (huser : ∀ t, (MInput.user addr t ∈ ins ∨ MInput.msg (.queueTask addr t) ∈ ins) → ∀ c, t ≠ .read (.integrity c)) :
    ∀ pre o post, (run (start txSize) ins).2.flatten = pre ++ o :: post →
      (∃ fc seq, o = .taskStart addr .startupIntegrity fc seq) →
      ∃ o' ∈ pre, (∃ fc seq, o' = .taskSuccess addr .disableUnsolicited fc seq) ∨
                  (∃ i1 i2, o' = .taskFail addr .disableUnsolicited (.rejectedIin2 i1 i2)) :=
  run_ordered .disInt addr (start txSize) ins (qOk_start _ _ _) (pend_start _ _ _)
    (inputOk_of .disInt addr ins hcfg (by
      intro t ht
      have := huser t ht
      cases t with
      | read rt => cases rt <;> first | rfl | exact absurd rfl (this _)
      | _ => rfl))

/-- ORDERING 2, trace theorem from the start state: in ANY run of the master from its start state in which `addr` is only
    ever configured with an integrity poll (`cfg.int ≠ 0`) and no user request is itself an automatic
    ENABLE_UNSOLICITED, every `taskStart addr .enableUnsolicited` is preceded by `taskSuccess addr .startupIntegrity` -/
theorem startup_enable_after_integrity (txSize addr : Nat) (ins : List MInput)
    (hcfg : ∀ cfg, MInput.msg (.addAssoc addr cfg) ∈ ins → cfg.int ≠ 0)
    (huser : ∀ t, (MInput.user addr t ∈ ins ∨ MInput.msg (.queueTask addr t) ∈ ins) → ∀ c, t ≠ .nonRead (.auto .enableUnsol c)) :
    ∀ pre o post, (run (start txSize) ins).2.flatten = pre ++ o :: post →
      (∃ fc seq, o = .taskStart addr .enableUnsolicited fc seq) →
      ∃ o' ∈ pre, ∃ fc seq, o' = .taskSuccess addr .startupIntegrity fc seq :=
  run_ordered .intEn addr (start txSize) ins (qOk_start _ _ _) (pend_start _ _ _)
    (inputOk_of .intEn addr ins hcfg (by
      intro t ht
      have := huser t ht
      cases t with
      | nonRead nt =>
        cases nt with
        | auto k c => cases k <;> first | rfl | exact absurd rfl (this _)
        | _ => rfl
      | _ => rfl))

/-! concrete instances (the runs `exRun`, `exState` are evaluated in `Dnp3/Props/C17Trace.lean`) -/

example : Gated 10 (run (start 2048) exRun).2.flatten := startup_unsolicited_gated 2048 10 exRun exRun_cfg

example : Ordered .disInt 10 (run (start 2048) exRun).2.flatten :=
  startup_integrity_after_disable 2048 10 exRun
    (by intro cfg h; simp [exRun, exUnsolData, exUnsolNull, exResp] at h; subst h; decide)
    (fun t ht => (exRun_noUser t ht).elim)

example : Ordered .intEn 10 (run (start 2048) exRun).2.flatten :=
  startup_enable_after_integrity 2048 10 exRun exRun_cfg (fun t ht => (exRun_noUser t ht).elim)

/-- after a disconnect in `exState` (integrity done, gate open) everything is re-armed -/
example : ¬ Closed 10 exState ∧ Closed 10 (step exState .eof).1 ∧ Pend .disInt 10 (step exState .eof).1 ∧
    Pend .intEn 10 (step exState .eof).1 :=
  ⟨by unfold Closed; decide +kernel, closed_after_eof 10 exState exState_cfg exState_online,
   (pend_after_eof .disInt 10 exState (exState_cfgOn _) exState_online).2,
   (pend_after_eof .intEn 10 exState (exState_cfgOn _) exState_online).2⟩

example (w : Which) : Ordered w 10 (run (step exState .eof).1 [.connect, exUnsolData 6, exResp 3, exUnsolData 7]).2.flatten :=
  run_ordered w 10 _ _ (pend_after_eof w 10 exState (exState_cfgOn w) exState_online).1
    (pend_after_eof w 10 exState (exState_cfgOn w) exState_online).2
    (inputOk_of w 10 _ (by intro cfg h; simp [exUnsolData, exResp] at h)
      (by intro t h; simp [exUnsolData, exResp] at h))

example : Gated 10 (run (step exState .eof).1 [.connect, exUnsolData 6, exResp 3, exUnsolData 7]).2.flatten :=
  run_gated 10 _ _ (closed_after_eof 10 exState exState_cfg exState_online)
    (inputOk_of_cfg 10 _ (by intro cfg h; simp [exUnsolData, exResp] at h))

example : Inv 10 (step (step exState .eof).1 .connect) :=
  step_gated_inv 10 _ .connect (fun _ => Or.inl (by intro h; cases h)) (closed_after_eof 10 exState exState_cfg exState_online)

example (w : Which) : OInv w 10 (step (step exState .eof).1 .connect) :=
  step_ordered_inv w 10 _ .connect trivial (pend_after_eof w 10 exState (exState_cfgOn w) exState_online).1
    (pend_after_eof w 10 exState (exState_cfgOn w) exState_online).2

end Dnp3.Props.C17
