import Dnp3.Proofs.MeasurementSpec
/-!
# C10 — Measurement values survive the trip from outstation database to master handler

Theorems about `Dnp3.Model.Measurement` (tied to the code by the regenerated tables of
`Dnp3.Gen.Conv` -- the 138 `ToVariation` / `From` impls of conversion.rs AND the branch lists of
`AnalogConversions::{to_i16,to_i32,to_f32}` -- and by the `convert` correspondence engine).  All
statements are for ALL values.

Defect D11 (DESIGN.md §7; repaired in the library): an analog NaN written through an integer
variation arrived as 0 WITHOUT the OVER_RANGE flag.  `to_i16` / `to_i32` as repaired test `is_nan()` first;
the generated rows carry that branch, and `analog_saturates_all_values`, `analog_nan_flagged` and
`roundtrip_representable` are stated for every value, NaN included.  A source without the NaN branch
regenerates rows for which `Dnp3.Meas.analogConvs_eq` (and with it this module) no longer compiles.
-/
namespace Dnp3.Props.C10
open Dnp3.Meas Dnp3.Gen.Conv

/-- `flags ||| OVER_RANGE` sets bit 5 and leaves every other bit as it was -/
theorem over_range_other_bits_untouched (flags i : Nat) :
    (setOverRange flags).testBit i = (flags.testBit i || i == 5) := by
  unfold setOverRange OVER_RANGE overRangeMask
  rw [Nat.testBit_or, show (32 : Nat) = 2 ^ 5 from rfl, Nat.testBit_two_pow]
  by_cases h : i = 5
  · subst h; simp
  · have h' : ¬ (5 = i) := fun hh => h hh.symm
    simp [h, h']

/-- finite values, both integer widths (`N = -MIN`, `P = MAX`):
the delivered integer is the truncation toward zero clamped into `[MIN, MAX]`; OVER_RANGE is
added exactly when the exact value lies outside `[MIN, MAX]`, otherwise the flags are returned
unchanged; the result is inside the range (never wrapped) and never has the opposite sign. -/
theorem analog_saturates (N P : Nat) (hNP : P ≤ N) (neg : Bool) (m : Nat) (e : Int) (flags : Nat) :
    let r := toInt N P (.fin neg m e) flags
    r.2 = max (-(N : Int)) (min (P : Int) (truncInt neg m e)) ∧
    r.1 = (if (neg && magGt m e N) || (!neg && magGt m e P) then setOverRange flags else flags) ∧
    (-(N : Int) ≤ r.2 ∧ r.2 ≤ (P : Int)) ∧
    (r.2 < 0 → neg = true) ∧ (0 < r.2 → neg = false) := by
  intro r
  have h := toInt_spec N P (.fin neg m e) flags
  have h1 : r.1 = _ := congrArg Prod.fst h
  have h2 : r.2 = _ := congrArg Prod.snd h
  simp only [outOfRange, clampTrunc] at h1 h2
  refine ⟨h2, h1, ?_, ?_, ?_⟩
  · rw [h2]; omega
  · rw [h2]; intro hlt; cases neg
    · exfalso; simp only [truncInt, Bool.false_eq_true, if_false] at hlt; omega
    · rfl
  · rw [h2]; intro hgt; cases neg
    · rfl
    · exfalso; simp only [truncInt, if_true] at hgt; omega

example : toI16 (AVal.ofBits 0x40E0001FFFFFFFFF) 1 = (33, 32767) := by decide   -- 32768.99.. saturates
example : toI16 (AVal.ofBits 0xC0E0000000000000) 1 = (1, -32768) := by decide   -- -32768.0 is in range
example : toI16 (AVal.ofBits 0xBFE0000000000000) 1 = (1, 0) := by decide        -- -0.5 truncates to 0
example : toI16 (AVal.ofBits 0x7FF8000000000000) 1 = (33, 0) := by decide       -- NaN: 0, flagged

/-- the tie of the analog conversion methods: the rows regenerated from `trait AnalogConversions`
on this run are one per method, with the target types of the variations they feed; the integer
methods test `is_nan()`, `< MIN`, `> MAX` in this order, each returning OVER_RANGE-flagged flags
with 0 / MIN / MAX, and end in `(flags, value as T)`; the float method has the two bound tests only;
`Self::OVER_RANGE` is bit 5 (0x20), the standard's OVER_RANGE bit of an analog flag octet. -/
theorem analog_conversions_as_generated :
    analogConvs = [intRow .toI16 .i16, intRow .toI32 .i32, f32Row] ∧ overRangeMask = 0x20 :=
  ⟨analogConvs_eq, rfl⟩

/-- the generated rows compute the closed form `toInt` (NaN, then `< MIN`, then `> MAX`, then the
cast), for both integer widths -/
theorem analog_conversions_closed_form (v : AVal) (flags : Nat) :
    toI16 v flags = toInt 32768 32767 v flags ∧ toI32 v flags = toInt 2147483648 2147483647 v flags :=
  ⟨toI16_eq_toInt v flags, toI32_eq_toInt v flags⟩

/-- `analog_saturates` for EVERY value, NaN included (FULL STATEMENT; `outOfRange` counts NaN and
±infinity as not representable): what `to_i16` / `to_i32` deliver is the truncation toward zero
clamped into `[MIN, MAX]` (0 for NaN), and OVER_RANGE is added exactly when the value is not
representable in `[MIN, MAX]`; otherwise the flags are returned unchanged. -/
theorem analog_saturates_all_values (v : AVal) (flags : Nat) :
    toI16 v flags =
      (if outOfRange 32768 32767 v then setOverRange flags else flags, clampTrunc 32768 32767 v) ∧
    toI32 v flags =
      (if outOfRange 2147483648 2147483647 v then setOverRange flags else flags,
       clampTrunc 2147483648 2147483647 v) :=
  ⟨(toI16_eq_toInt v flags).trans (toInt_spec 32768 32767 v flags),
   (toI32_eq_toInt v flags).trans (toInt_spec 2147483648 2147483647 v flags)⟩

/-- consequence: whatever the value, a result other than the plain in-range truncation is flagged,
and the delivered integer is always inside `[MIN, MAX]` (never wrapped) -/
theorem analog_never_silently_changed (v : AVal) (flags : Nat) :
    (-32768 ≤ (toI16 v flags).2 ∧ (toI16 v flags).2 ≤ 32767) ∧
    (-2147483648 ≤ (toI32 v flags).2 ∧ (toI32 v flags).2 ≤ 2147483647) ∧
    (outOfRange 32768 32767 v = true → (toI16 v flags).1 = setOverRange flags) ∧
    (outOfRange 2147483648 2147483647 v = true → (toI32 v flags).1 = setOverRange flags) ∧
    (outOfRange 32768 32767 v = false → (toI16 v flags).1 = flags) ∧
    (outOfRange 2147483648 2147483647 v = false → (toI32 v flags).1 = flags) := by
  obtain ⟨h16, h32⟩ := analog_saturates_all_values v flags
  rw [h16, h32]
  exact ⟨clampTrunc_mem .., clampTrunc_mem .., fun h => by simp [h], fun h => by simp [h], fun h => by simp [h],
    fun h => by simp [h]⟩

/-- D11 repaired: NaN through an integer conversion gives 0 WITH
OVER_RANGE, whatever the recorded flags.  (`0x7FF8000000000000` is the canonical quiet NaN;
ONLINE = 1, ONLINE|OVER_RANGE = 33.) -/
theorem analog_nan_flagged :
    AVal.ofBits 0x7FF8000000000000 = .nan ∧
    toI16 .nan 1 = (33, 0) ∧ toI32 .nan 1 = (33, 0) ∧
    (∀ flags, toI16 .nan flags = (setOverRange flags, 0) ∧ toI32 .nan flags = (setOverRange flags, 0)) := by
  refine ⟨by decide, by decide, by decide, fun flags => ?_⟩
  have h := analog_saturates_all_values .nan flags
  simpa [outOfRange, clampTrunc] using h

/-- every NaN bit pattern (any sign, any payload, quiet or signalling) decodes to `.nan` -/
theorem nan_patterns_decode (b : Nat) (hex : b / 2 ^ 52 % 2048 = 2047) (hm : b % 2 ^ 52 ≠ 0) :
    AVal.ofBits b = .nan := by
  simp [AVal.ofBits, hex, hm]

example : 0xFFF0000000000001 / 2 ^ 52 % 2048 = 2047 ∧ 0xFFF0000000000001 % 2 ^ 52 ≠ 0 := by decide

/-- the same end to end through the generated rows of g30v1 (ONLINE NaN in, ONLINE|OVER_RANGE 0 out) -/
theorem analog_nan_flagged_g30v1 :
    (do let e ← lookupTo .ai 30 1
        let f ← lookupFrom .ai 30 1
        pure (fromVariation f (toVariation e ⟨0x7FF8000000000000, 1, none⟩ 0x7FC00000)))
      = some ⟨0, 33, none⟩ := by decide

/-- representable values arrive unchanged: a finite value that IS an integer `±k` of the range
(`isInteger m e k`: its exact value `m·2^e` equals `k`) is delivered as exactly that integer with
the flags untouched, by both integer conversions -/
theorem analog_representable_unchanged (neg : Bool) (m : Nat) (e : Int) (k : Nat) (flags : Nat)
    (hk : isInteger m e k) :
    ((if neg then k ≤ 32768 else k ≤ 32767) →
      toI16 (.fin neg m e) flags = (flags, if neg then -((k : Nat) : Int) else ((k : Nat) : Int))) ∧
    ((if neg then k ≤ 2147483648 else k ≤ 2147483647) →
      toI32 (.fin neg m e) flags = (flags, if neg then -((k : Nat) : Int) else ((k : Nat) : Int))) :=
  ⟨fun hin => (toI16_eq_toInt _ flags).trans (toInt_integer 32768 32767 neg m e k flags hk hin),
   fun hin => (toI32_eq_toInt _ flags).trans (toInt_integer 2147483648 2147483647 neg m e k flags hk hin)⟩

-- -32768.0 = -(2^52 · 2^-37): m = 2^52, e = -37, k = 32768
example : AVal.ofBits 0xC0E0000000000000 = .fin true (2 ^ 52) (-37) ∧ isInteger (2 ^ 52) (-37) 32768 := by
  refine ⟨by decide, ?_⟩
  unfold isInteger
  decide

/-- the float conversion: saturation to ±`f32::MAX` with OVER_RANGE exactly when the magnitude
exceeds `f32::MAX`; otherwise the flags are unchanged and the value is the supplied rounding -/
theorem analog_f32_saturates (neg : Bool) (m : Nat) (e : Int) (flags r32 : Nat) :
    toF32 (.fin neg m e) flags r32 =
      if magGt m e F32_MAX then
        (setOverRange flags, if neg then F32_MIN_BITS else F32_MAX_BITS)
      else (flags, r32) := toF32_fin neg m e flags r32

/-- every row of the generated table whose value is a 16-bit counter field takes `self.value as u16`,
i.e. the low 16 bits, and passes the flags (if the variation has any) through untouched -/
theorem counter_low16 :
    ∀ e ∈ toTable, (e.ty = .ct ∨ e.ty = .fc) → e.vty = .u16 →
      ∀ (m : Meas) (r32 : Nat),
        (toVariation e m r32).value = .u16 (m.val % 65536) ∧
        ((toVariation e m r32).flags = some m.flags ∨ (toVariation e m r32).flags = none) := by
  intro e he _ hv m r32
  obtain ⟨s, _, rfl⟩ := spec_of_to he
  have hk := kind_of_vty_u16 hv
  cases hf : s.hasFlags <;> simp [toVariation, expectedTo, hk, hf]

/-- and the master widens it back without change: what arrives is `value % 65536` -/
theorem counter_low16_delivered :
    ∀ e ∈ toTable, ∀ f ∈ fromTable, f.ty = e.ty → f.group = e.group → f.var = e.var →
      (e.ty = .ct ∨ e.ty = .fc) → e.vty = .u16 →
      ∀ (m : Meas) (r32 : Nat), (fromVariation f (toVariation e m r32)).val = m.val % 65536 := by
  intro e he f hf h1 h2 h3 _ hv m r32
  obtain ⟨s, hs, rfl⟩ := spec_of_to he
  rw [pair_roundtrip hs hf h2 h3]
  simp [carry, kind_of_vty_u16 hv]

example : (⟨.ct, 22, 6, none, .selfFlags, .selfValueAsU16, .selfTimeInto, .u16, .ts48⟩ : ToVar) ∈ toTable := by decide

/-- g1v1 / g3v1 / g10v1 (variation 1 of the binary types) is written only if the flags, value
bit(s) aside, are exactly ONLINE; otherwise variation 2 is used; no other variation is ever
changed by `promote` -/
theorem packed_only_if_online (ty : MTy) (svar : Nat) (m : Meas) :
    (ty = .bi ∨ ty = .bo ∨ ty = .db →
      (promote ty svar m = 1 ↔ svar = 1 ∧ flagsWithoutState ty m.flags = 1) ∧
      (svar = 1 → flagsWithoutState ty m.flags ≠ 1 → promote ty svar m = 2) ∧
      (svar ≠ 1 → promote ty svar m = svar)) ∧
    (¬ (ty = .bi ∨ ty = .bo ∨ ty = .db) → promote ty svar m = svar) := by
  constructor
  · intro hty
    by_cases hs : svar = 1 <;> by_cases hf : flagsWithoutState ty m.flags = 1 <;>
      rcases hty with h | h | h <;> subst h <;> simp [promote, hs, hf]
  · intro hty
    cases ty <;> simp_all [promote]

set_option linter.unusedVariables false in
/-- the flagged variation used instead carries all eight bits of the flag octet: the six / seven
quality bits unchanged and the value in the state bit(s); the master reads the value back from there
(`hf` is not used) -/
theorem flagged_variation_carries_octet (m : Meas) (r32 : Nat) (hf : m.flags < 256) :
    (∀ e ∈ toTable, ∀ f ∈ fromTable, e.ty = .bi ∨ e.ty = .bo → f.ty = e.ty → f.group = e.group → f.var = e.var →
      let d := fromVariation f (toVariation e m r32)
      d.flags % 128 = m.flags % 128 ∧ d.flags / 128 = m.val % 2 ∧ d.val = m.val % 2) ∧
    (∀ e ∈ toTable, ∀ f ∈ fromTable, e.ty = .db → f.ty = e.ty → f.group = e.group → f.var = e.var →
      let d := fromVariation f (toVariation e m r32)
      d.flags % 64 = m.flags % 64 ∧ d.flags / 64 = m.val % 4 ∧ d.val = m.val % 4) := by
  -- what arrives is `carry s` for the specification row `s`, which for a binary type is a flag-octet variation
  constructor <;> intro e he f hff hty h1 h2 h3 <;> obtain ⟨s, hs, rfl⟩ := spec_of_to he <;>
    simp only [pair_roundtrip hs hff h2 h3]
  · obtain ⟨hk, hfl⟩ := spec_binary s hs (hty.elim .inl (.inr ∘ .inl))
    have hdb : s.ty ≠ .db := fun h => by simp [show (expectedTo s).ty = s.ty from rfl, h] at hty
    obtain ⟨hm, hd⟩ := wireFlags_state (ty := s.ty) hty m
    simp [carry, hk, hfl, hdb, hm, hd]
  · obtain ⟨hk, hfl⟩ := spec_binary s hs (.inr (.inr hty))
    have hdb : s.ty = .db := hty
    obtain ⟨hm, hd⟩ := wireFlags_doubleBit m
    simp [carry, hk, hfl, hdb, hm, hd]

/-- a new common-time header is started before an event exactly when the header in progress
cannot take it: the count is exhausted, the quality differs, the time is earlier than the
header's common time, or the gap exceeds 65535 ms -/
theorem cto_header_switch_iff (c : Time) (count : Nat) (e : TEv) (es : List (Bool × TEv)) :
    (writeCtoEvents (some (c, count)) ((false, e) :: es)).head? = some (.cto e.time) ↔
      ¬ (count < 65535 ∧ c.sync = e.time.sync ∧ c.ms ≤ e.time.ms ∧ e.time.ms - c.ms ≤ 65535) := by
  simp only [writeCtoEvents, Bool.false_eq_true, if_false]
  by_cases h : (decide (count < 65535) && ctoFits c e.time) = true
  · simp only [h, if_true, List.head?_cons]
    simp only [ctoFits, Bool.and_eq_true, decide_eq_true_eq, beq_iff_eq] at h
    simp [h.1, h.2.1.1, h.2.1.2, h.2.2]
  · simp only [h, if_false, Bool.false_eq_true, List.head?_cons, true_iff]
    intro hh
    apply h
    simp [ctoFits, hh.1, hh.2.1, hh.2.2.1, hh.2.2.2]

/-- for EVERY list of timed events in ANY order (decreasing times, gaps
below / at / above 65535 ms, mixed synchronised / unsynchronised, forced header breaks anywhere),
the master-side fold over what the event writer produced returns, for every event, exactly its
index, flag octet, recorded time and quality, in order — whatever common time the master held
before. -/
theorem cto_reconstructs (evs : List (Bool × TEv)) (h : ∀ p ∈ evs, p.2.time.ms ≤ TS_MAX)
    (c0 : Option Time) :
    masterFold c0 (writeCtoEvents none evs) =
      evs.map fun p => (p.2.idx, p.2.flags, some p.2.time) :=
  masterFold_write evs h none c0 (by intro t n hh; cases hh)

example : ∀ p ∈ [(false, (⟨7, 1, ⟨true, 70000⟩⟩ : TEv)), (false, ⟨8, 129, ⟨true, 4465⟩⟩), (false, ⟨7, 1, ⟨false, 4466⟩⟩)],
    p.2.time.ms ≤ TS_MAX := by decide

/-- relative times really are 16-bit: every `.ev` item the writer emits has `rel ≤ 65535` -/
theorem cto_relative_fits_u16 (evs : List (Bool × TEv)) :
    ∀ st, ∀ it ∈ writeCtoEvents st evs, ∀ i f d, it = .ev i f d → d ≤ 65535 := by
  induction evs with
  | nil => intro st it h; simp [writeCtoEvents] at h
  | cons p es ih =>
    intro st it hit i f d hd
    obtain ⟨brk, e⟩ := p
    rcases writeCtoEvents_cons st brk e es with ⟨c, count, -, hfit, h⟩ | h <;>
      simp only [h, List.mem_cons] at hit
    · rcases hit with rfl | hit
      · cases hd
        simp only [ctoFits, Bool.and_eq_true, decide_eq_true_eq] at hfit
        exact hfit.2
      · exact ih _ it hit i f d hd
    · rcases hit with rfl | rfl | hit
      · cases hd
      · cases hd; omega
      · exact ih _ it hit i f d hd

/-- the generated tables are exactly the realisation of the specification rows: every generated
row has its specification row and vice versa -/
theorem tables_realise_spec :
    (∀ e ∈ toTable, ∃ s ∈ specTable, expectedTo s = e) ∧
    (∀ f ∈ fromTable, ∃ s ∈ specTable, expectedFrom s = normFrom f) ∧
    (∀ s ∈ specTable, expectedTo s ∈ toTable ∧ ∃ f ∈ fromTable, expectedFrom s = normFrom f) ∧
    toTable.length = 69 ∧ fromTable.length = 69 ∧ implCount = 138 :=
  ⟨fun _ => spec_of_to, fun _ => spec_of_from,
    fun _ hs => ⟨toTable_perm.mem_iff.2 (List.mem_map_of_mem hs), from_of_spec hs⟩, by decide, by decide, by decide⟩

/-- without exception (for NaN into an integer variation `carry` demands 0 and OVER_RANGE): for EVERY (type, variation) pair of the generated conversions
table and EVERY measurement, converting to the variation on the outstation and back on the master
yields exactly what the variation can carry.  (Field level; the octet encoding of fields is C09's
subject.  Index preservation is part of the correspondence engine.) -/
theorem roundtrip_representable :
    ∀ e ∈ toTable, ∃ s ∈ specTable, ∃ f ∈ fromTable,
      s.ty = e.ty ∧ s.group = e.group ∧ s.var = e.var ∧ f.ty = e.ty ∧ f.group = e.group ∧ f.var = e.var ∧
      ∀ (m : Meas) (r32 : Nat),
        fromVariation f (toVariation e m r32) = carry s m r32 := by
  intro e he
  obtain ⟨s, hs, rfl⟩ := spec_of_to he
  obtain ⟨f, hf, hsf⟩ := from_of_spec hs
  have hk : s.ty = f.ty ∧ s.group = f.group ∧ s.var = f.var := by
    simpa [expectedFrom, normFrom] using congrArg (fun x => (x.ty, x.group, x.var)) hsf
  exact ⟨s, hs, f, hf, rfl, rfl, rfl, hk.1.symm, hk.2.1.symm, hk.2.2.symm,
    pair_roundtrip hs hf hk.2.1.symm hk.2.2.symm⟩

example : (⟨.ai, 30, 2, .i16, true, false⟩ : VSpec) ∈ specTable := by decide

/-- consequence, spelled out for one row: g30v2 of an ONLINE 40000.0 arrives as 32767.0 with
ONLINE|OVER_RANGE -/
example : carry ⟨.ai, 30, 2, .i16, true, false⟩ ⟨0x40E3880000000000, 1, none⟩ 0 = ⟨0x40DFFFC000000000, 33, none⟩ := by
  decide

/-- and for the input of D11: g30v2 of an ONLINE NaN must arrive as 0.0 with ONLINE|OVER_RANGE -/
example : carry ⟨.ai, 30, 2, .i16, true, false⟩ ⟨0x7FF8000000000000, 1, none⟩ 0x7FC00000 = ⟨0, 33, none⟩ := by
  decide

end Dnp3.Props.C10
