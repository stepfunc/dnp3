import Dnp3.Model.OutstationTrace
import Dnp3.Proofs.OutstationC05
import Dnp3.Proofs.OutstationC05Trace
/-!
# C05 — A retransmitted request is answered from memory and never executed twice

Restated verbatim from `Dnp3.Proofs.OutstationC05` where the proof is a term `@Dnp3.Proofs.C05.…` (`IsRepeat`,
`rebased` live there, `isExec`, `rxAccept` in `Dnp3.Proofs.OutstationC04`); the other statements are proved here.
Defect D14 (the idle-path echo of a repeated non-READ request re-ORed the CURRENT IIN, and possibly the CON bit,
into the stored header) is repaired: the stored response goes out verbatim through `repeatSolicited`, as in the
unsolicited confirm wait.  Full C05.2 for the idle path: `repeat_nonread_idle` (exact new state and outputs: no
IIN evaluation, `lastReq` / `lastBroadcast` / `restart` / `db` untouched, nothing executed, the stored confirm
wait is returned) and `repeat_nonread_same_bytes_idle` (byte-for-byte the original octets provided the solicited
buffer was not overwritten since — same proviso as `repeat_nonread_same_bytes_unsolwait`); the former D14 run is
kept as the regression example `repeat_nonread_idle_verbatim_example` (same octets in steps 0 and 2).
Known finding D31 (residue of D14, outside `IsRepeat`): a repeated request whose OBJECTS do not parse is classified
`.malformed` before the duplicate check and answered afresh with the current IIN
(`repeat_malformed_not_classified`, `repeat_malformed_reanswered_counterexample`).
Defect D5 (echo of a READ repeated during the confirm wait of a later fragment spliced two fragments) is
repaired: the continuation fragment becomes the stored response (`continuation_is_stored`), so C05.4 holds
for every fragment of a series at handler level (`resend_is_stored_fragment`; `resend_is_awaited_fragment` for any
later accumulator that still has that fragment's buffer and stored request — a hypothesis, no trace-level theorem
discharges it for READ).
-/
namespace Dnp3.Props.C05
open Dnp3 Dnp3.Proofs.C05 Dnp3.Proofs.C04

/-- a unicast fragment with the sequence number and the exact octets of the last processed request
    is classified as a repeat (for every function code but CONFIRM) and carries the stored response -/
theorem repeat_is_classified (s : OState) (f : Frag) (ctrl : AppCtrl) (func : Nat) (hs : List ObjHdr)
    (last : LastReq) (hl : s.lastReq = some last) (hseq : last.seq = ctrl.seq) (hfrag : last.frag = f.data)
    (hf : func ≠ 0) (hb : f.broadcast = none) :
    (func = 1 → ∃ r, classify s f ctrl func (.ok hs) = .repeatRead r hs ∧ r = last.response) ∧
    (func ≠ 1 → ∃ r, classify s f ctrl func (.ok hs) = .repeatNonRead r ∧ r = last.response) := by
  rw [Dnp3.Proofs.Frame.classify_ok s f ctrl hs hf hb, hl]
  dsimp only
  rw [if_pos ⟨hseq, hfrag⟩]
  exact ⟨fun h => ⟨_, if_pos h, rfl⟩, fun h => ⟨_, if_neg h, rfl⟩⟩

/-- **C05.1 (step level)**: in EVERY state with no deferred read (idle, confirm waits, …), receiving
    again the last recorded non-READ request (same sequence number, identical bytes, unicast, objects
    well-formed) fires no control / write / freeze / time / restart callback. -/
theorem repeat_nonread_not_executed (env : OEnv) (s : OState) (src dst : Nat) (data : List Nat) (f : Frag)
    {ctrl : AppCtrl} {func : Nat} {objects : Except Nat (List ObjHdr)} {raw : List Nat} {last : LastReq}
    (hacc : rxAccept env s src dst data = some f)
    (hq : parseRequest data = .request ctrl func objects raw)
    (hd : s.deferred = none)
    (hr : IsRepeat s f ctrl func objects last) :
    ∀ o ∈ (Outstation.step env s (.rx src dst data)).2, isExec o = false :=
  @Dnp3.Proofs.C05.repeat_nonread_not_executed env s src dst data f ctrl func objects raw last hacc hq hd hr

/-- **C05.1 (unsolicited confirm wait)**: no executing callback -/
theorem repeat_nonread_not_executed_unsolwait {a : Acc} {f : Frag} {ctrl : AppCtrl} {func : Nat}
    {objects : Except Nat (List ObjHdr)} {raw : List Nat} {last : LastReq} (resp : Resp) (isNull : Bool)
    (hp : a.1.pending = some f) (hq : parseRequest f.data = .request ctrl func objects raw)
    (hm : a.1.cfg.anymaster = true ∨ f.src = a.1.cfg.master)
    (hr : IsRepeat a.1 f ctrl func objects last) :
    ∃ l, (accOf (unsolWaitOnFragment a resp isNull)).2 = a.2 ++ l ∧ ∀ o ∈ l, isExec o = false := by
  rw [repeat_nonread_unsolwait resp isNull hp hq hm hr]
  cases last.response with
  | none => exact ⟨[], by simp [accOf], by simp⟩
  | some r => exact ⟨[_], rfl, by simp [isExec]⟩

/-- **C05.1 / C05.2 (unsolicited confirm wait)**: a retransmitted non-READ request arriving during the
    unsolicited confirm wait is not executed; the model blocks again having transmitted exactly
    `repeatSolicited` of the stored response (nothing if no response was stored), i.e. the stored header
    written over the current solicited buffer, cut to the stored size. -/
theorem repeat_nonread_unsolwait {a : Acc} {f : Frag} {ctrl : AppCtrl} {func : Nat}
    {objects : Except Nat (List ObjHdr)} {raw : List Nat} {last : LastReq} (resp : Resp) (isNull : Bool)
    (hp : a.1.pending = some f) (hq : parseRequest f.data = .request ctrl func objects raw)
    (hm : a.1.cfg.anymaster = true ∨ f.src = a.1.cfg.master)
    (hr : IsRepeat a.1 f ctrl func objects last) :
    unsolWaitOnFragment a resp isNull = .blocked
      (match last.response with
       | some r =>
         ({ (popped a).1 with deferred := none, solBuf := writeAt a.1.solBuf 0 (respHeader r) },
           a.2 ++ [.tx f.src ((writeAt a.1.solBuf 0 (respHeader r)).take (max 4 r.size))])
       | none => ({ (popped a).1 with deferred := none }, a.2)) :=
  @Dnp3.Proofs.C05.repeat_nonread_unsolwait a f ctrl func objects raw last resp isNull hp hq hm hr

/-- **C05.2 (`repeat_nonread_same_bytes_unsolwait`)**: PROVIDED the solicited buffer still is what the
    original transmission left (`solBuf = writeAt b0 0 (respHeader r)`, `b0` the buffer the response `r`
    was originally sent from by `repeatSolicited`/`writeSolicited`), the octets re-sent during the
    unsolicited confirm wait are byte-for-byte the octets sent originally. -/
theorem repeat_nonread_same_bytes_unsolwait {a : Acc} {f : Frag} {ctrl : AppCtrl} {func : Nat}
    {objects : Except Nat (List ObjHdr)} {raw : List Nat} {last : LastReq} (resp : Resp) (isNull : Bool) (r : Resp)
    (b0 : List Nat) (a00 : Acc) (dst0 : Nat)
    (hp : a.1.pending = some f) (hq : parseRequest f.data = .request ctrl func objects raw)
    (hm : a.1.cfg.anymaster = true ∨ f.src = a.1.cfg.master)
    (hr : IsRepeat a.1 f ctrl func objects last) (hresp : last.response = some r)
    (horig : a00.1.solBuf = b0)                                
    (hbuf : a.1.solBuf = (repeatSolicited a00 dst0 r).1.solBuf) : ∃ bytes, (repeatSolicited a00 dst0 r).2 = a00.2 ++ [.tx dst0 bytes] ∧
        (accOf (unsolWaitOnFragment a resp isNull)).2 = a.2 ++ [.tx f.src bytes] := by
  rw [repeat_nonread_unsolwait resp isNull hp hq hm hr, hresp]
  refine ⟨(writeAt b0 0 (respHeader r)).take (max 4 r.size), by rw [Proofs.Frame.repeatSolicited_eq, horig], ?_⟩
  simp only [accOf]
  rw [hbuf, Proofs.Frame.repeatSolicited_eq, horig]
  dsimp only
  rw [Proofs.Frame.writeAt_zero_idem]

/-- **C05.2 (`repeat_nonread_idle`, idle path; defect D14 is repaired)**: a retransmitted non-READ request handled
    from idle is answered by `repeatSolicited` of the STORED response — the stored header written over the current
    solicited buffer, cut to the stored size; nothing if no response was stored — and NOT through
    `writeSolicited`: no IIN is evaluated (so `lastBroadcast`, `restart`, `db` are untouched and no current IIN
    bit or CON bit is OR-ed in), the record of the request (`lastReq`: sequence number, octets, response, and
    the confirm wait its response opened, which is returned as the series to wait on) stays exactly as it is,
    and nothing is executed.  The state afterwards is `rebased …` (only a retransmission of the stored SELECT
    moves that select's frame id, see `Dnp3.Proofs.C04.step_select_change`) with the header written into
    `solBuf`. -/
theorem repeat_nonread_idle {a : Acc} {f : Frag} {ctrl : AppCtrl} {func : Nat}
    {objects : Except Nat (List ObjHdr)} {raw : List Nat} {last : LastReq}
    (hr : IsRepeat a.1 f ctrl func objects last) :
    ∃ a', handleRequestFromIdle a f ctrl func objects raw = some (a', last.series) ∧
      a'.2 = a.2 ++ (match last.response with
        | some r => [.tx f.src ((writeAt a.1.solBuf 0 (respHeader r)).take (max 4 r.size))]
        | none => []) ∧
      a'.1 = { rebased a.1 f ctrl func raw with
                solBuf := match last.response with
                  | some r => writeAt a.1.solBuf 0 (respHeader r)
                  | none => a.1.solBuf } ∧
      a'.1.lastReq = a.1.lastReq ∧ a'.1.lastBroadcast = a.1.lastBroadcast ∧ a'.1.restart = a.1.restart ∧
      a'.1.db = a.1.db ∧ a'.1.deferred = a.1.deferred ∧ a'.1.mode = a.1.mode ∧
      ∀ o ∈ a'.2, o ∈ a.2 ∨ isExec o = false :=
  @Dnp3.Proofs.C05.repeat_nonread_idle a f ctrl func objects raw last hr

/-- **C05.2 (`repeat_nonread_same_bytes_idle`)**: PROVIDED the solicited buffer still is what the original
    transmission left (`solBuf = writeAt b0 0 (respHeader r)`, `b0` the buffer the response `r` was originally sent
    from by `repeatSolicited`/`writeSolicited`), the octets re-sent from idle are byte-for-byte the octets sent
    originally; the buffer and the stored request are left as they were, so the statement applies again to a
    further repeat. -/
theorem repeat_nonread_same_bytes_idle {a : Acc} {f : Frag} {ctrl : AppCtrl} {func : Nat}
    {objects : Except Nat (List ObjHdr)} {raw : List Nat} {last : LastReq} (r : Resp)
    (b0 : List Nat) (a00 : Acc) (dst0 : Nat)
    (hr : IsRepeat a.1 f ctrl func objects last) (hresp : last.response = some r)
    (horig : a00.1.solBuf = b0)                                
    (hbuf : a.1.solBuf = (repeatSolicited a00 dst0 r).1.solBuf) : ∃ bytes a', (repeatSolicited a00 dst0 r).2 = a00.2 ++ [.tx dst0 bytes] ∧
        handleRequestFromIdle a f ctrl func objects raw = some (a', last.series) ∧
        a'.2 = a.2 ++ [.tx f.src bytes] ∧ a'.1.solBuf = a.1.solBuf ∧ a'.1.lastReq = a.1.lastReq :=
  @Dnp3.Proofs.C05.repeat_nonread_same_bytes_idle a f ctrl func objects raw last r b0 a00 dst0 hr hresp horig hbuf

/-- **D14 regression** (this EVALUATES the model including the current `Db` component): the repeat is answered
    with the SAME octets as the original request (IIN1 = 0x80 both times; before the repair the broadcast bit
    IIN1.0 was OR-ed into the repeated response, 0x81), and nothing is executed. -/
theorem repeat_nonread_idle_verbatim_example :
    (Outstation.run {} (Outstation.start {} 10).1 d14Inputs).2.map txFrags =
      [[(1, [192, 129, 128, 0, 52, 2, 7, 1, 0, 0])], [], [(1, [192, 129, 128, 0, 52, 2, 7, 1, 0, 0])]] ∧
    (Outstation.run {} (Outstation.start {} 10).1 d14Inputs).2.map (fun l => (l.filter isExec).length) = [0, 0, 0] := by
  decide +kernel

/-- **`repeat_malformed_reanswered_counterexample` (finding D31)**: the C05.2 statements above are about repeats
    whose objects parse (`IsRepeat.objectsOk`).  A byte-identical repeat of a request whose OBJECTS do not parse is
    classified `.malformed` before the duplicate check (`repeat_malformed_not_classified`), so it is answered
    afresh: the second reply carries the CURRENT IIN1 (0x81: the broadcast bit) where the original carried 0x80.
    Nothing is executed either time. -/
theorem repeat_malformed_reanswered_counterexample :
    (Outstation.run {} (Outstation.start {} 10).1 d27Inputs).2.map txFrags =
      [[(1, [192, 129, 128, 4])], [], [(1, [192, 129, 129, 4])]] ∧
    (Outstation.run {} (Outstation.start {} 10).1 d27Inputs).2.map (fun l => (l.filter isExec).length) = [0, 0, 0] := by
  decide +kernel

/-- exact characterisation of finding D31: whatever the last recorded request is, a unicast non-CONFIRM fragment
    whose objects do not parse is classified `.malformed` — never as a repeat -/
theorem repeat_malformed_not_classified (s : OState) (f : Frag) (ctrl : AppCtrl) (func : Nat) (e : Nat)
    (hf : func ≠ 0) (hb : f.broadcast = none) :
    classify s f ctrl func (.error e) = .malformed e :=
  Dnp3.Proofs.Frame.classify_malformed hf hb

/-- **C05.3 (`unsol_retry_identical`)**: a retry after the unsolicited confirm timeout transmits the stored
    header over the current unsolicited buffer; PROVIDED `unsolBuf` still is what the original
    transmission (`repeatUnsolicited a00 resp`) left, the retry is byte-for-byte the original fragment. -/
theorem unsol_retry_identical (a : Acc) (resp : Resp) (isNull : Bool) (n : Option Nat) (a00 : Acc)
    (hretry : n ≠ some 0) (hd : a.1.deferred = none)
    (hbuf : a.1.unsolBuf = (repeatUnsolicited a00 resp).1.unsolBuf) :
    ∃ bytes a', (repeatUnsolicited a00 resp).2 = a00.2 ++ [.tx a00.1.cfg.master bytes] ∧
      unsolWaitTimeout a resp isNull n = .blocked a' ∧
      a'.2 = a.2 ++ [.cb (.unsolTimeout resp.ctrl.seq true), .tx a.1.cfg.master bytes] ∧
      a'.1.unsolBuf = a.1.unsolBuf := by
  refine ⟨(writeAt a00.1.unsolBuf 0 (respHeader resp)).take (max 4 resp.size), ?_⟩
  unfold unsolWaitTimeout
  rcases n with _ | _ | n
  · simp [hd, repeatUnsolicited_eq, emitCb, emit, hbuf, Proofs.Frame.writeAt_zero_idem]
  · exact absurd rfl hretry
  · simp [hd, repeatUnsolicited_eq, emitCb, emit, hbuf, Proofs.Frame.writeAt_zero_idem]

/-- **C05.3 (invariant)**: a fragment handled during the unsolicited confirm wait never touches `unsolBuf`:
    either the series ends (`finishUnsol`, entered with `unsolBuf` unchanged) or the task blocks again (or
    dies) with `unsolBuf` — and, unless it died, the wait mode — unchanged. -/
theorem unsolWaitOnFragment_keeps_unsolBuf (a : Acc) (resp : Resp) (isNull : Bool) :
    (∃ a1 c, unsolWaitOnFragment a resp isNull = finishUnsol a1 isNull c ∧ a1.1.unsolBuf = a.1.unsolBuf) ∨
    KeepsUnsol a (accOf (unsolWaitOnFragment a resp isNull)) := by
  obtain ⟨y, hy, e⟩ := Proofs.Skel.unsolWaitOnFragment_cases a resp isNull
  rw [e]
  cases uwfCase_end hy with
  | blocked _ _ hu hm => exact .inr ⟨hu, .inl hm⟩
  | died _ hu => exact .inr ⟨hu, .inr rfl⟩
  | finished c _ _ hu => exact .inl ⟨_, c, rfl, hu⟩

/-- **C05.4 (`resend_is_stored_fragment`)**: a READ repeated during the solicited confirm wait
    (same sequence number and bytes as the last recorded request) is answered by `repeatSolicited` of the
    STORED response header over the CURRENT solicited buffer.  PROVIDED the buffer still is what the
    transmission of that stored response left, the echo is byte-for-byte that fragment; the buffer and the
    stored request are left as they were, so the statement applies again to a further repeat.

    (Since the repair of defect D5 the stored response is the fragment awaiting confirmation for EVERY
    fragment of a series — `continuation_is_stored` — so the proviso holds when the confirm wait of a
    continuation fragment is entered; `resend_is_awaited_fragment` carries it, as a hypothesis, to every later
    accumulator with the same buffer and stored request.  That no step inside the wait overwrites them is not
    proved.) -/
theorem resend_is_stored_fragment {a : Acc} {f : Frag} {ctrl : AppCtrl}
    {objects : Except Nat (List ObjHdr)} {raw : List Nat} {last : LastReq} {hs : List ObjHdr} {r : Resp}
    (series : Series) (deadline : Nat) (cont : SolCont) (a00 : Acc) (dst0 : Nat)
    (hp : a.1.pending = some f) (hq : parseRequest f.data = .request ctrl 1 objects raw)
    (hm : a.1.cfg.anymaster = true ∨ f.src = a.1.cfg.master)
    (hl : a.1.lastReq = some last) (hseq : last.seq = ctrl.seq) (hfrag : last.frag = f.data)
    (hu : f.broadcast = none) (hobj : objects = .ok hs) (hresp : last.response = some r)
    (hbuf : a.1.solBuf = (repeatSolicited a00 dst0 r).1.solBuf) :
    ∃ bytes a', (repeatSolicited a00 dst0 r).2 = a00.2 ++ [.tx dst0 bytes] ∧
      solWaitOnFragment a series deadline cont = .blocked a' ∧
      a'.2 = a.2 ++ [.tx f.src bytes] ∧ a'.1.solBuf = a.1.solBuf ∧ a'.1.lastReq = a.1.lastReq :=
  @Dnp3.Proofs.C05.resend_is_stored_fragment a f ctrl objects raw last hs r series deadline cont a00 dst0 hp hq hm hl hseq hfrag hu hobj hresp hbuf

/-- **C05.4 (`continuation_is_stored`, the D5 repair)**: a matching CONFIRM on a non-final fragment of a
    response series: either the IIN cannot be computed and the task dies (`writeSolicited … = none`, i.e.
    `unwrittenClasses = none`, defect D3 — nothing to do with D5), or the next fragment is transmitted exactly
    as `repeatSolicited a00 f.src r2` would for some accumulator `a00` and response record `r2`, and the
    session continues (resumes the idle pass if no confirmation is needed, else blocks in the confirm wait of
    that fragment) from an accumulator `a2` whose stored response is `r2` and whose solicited buffer is what
    that transmission left. -/
theorem continuation_is_stored {a : Acc} {f : Frag} {ctrl : AppCtrl} {objects : Except Nat (List ObjHdr)}
    {raw : List Nat} (series : Series) (dl : Nat) (cont : SolCont)
    (hp : a.1.pending = some f) (hq : parseRequest f.data = .request ctrl 0 objects raw)
    (hm : a.1.cfg.anymaster = true ∨ f.src = a.1.cfg.master)
    (hu : ctrl.uns = false) (hs : ctrl.seq = series.ecsn) (hfin : series.fin = false) :
    (∃ a1, solWaitOnFragment a series dl cont = die a1) ∨
    ∃ (a00 : Acc) (r2 : Resp) (bytes : List Nat) (a2 : Acc) (next : Option Series),
      (repeatSolicited a00 f.src r2).2 = a00.2 ++ [.tx f.src bytes] ∧
      a2.2 = a00.2 ++ [.tx f.src bytes] ∧
      a2.1.solBuf = (repeatSolicited a00 f.src r2).1.solBuf ∧
      a2.1.lastReq = a.1.lastReq.map (fun lr => { lr with response := some r2 }) ∧
      solWaitOnFragment a series dl cont =
        (match next with
         | none => resumeAfterSol a2 cont
         | some sr => .blocked ({ a2.1 with mode := .solWait sr (a2.1.now + a2.1.cfg.ctimeout) cont }, a2.2)) :=
  @Dnp3.Proofs.C05.continuation_is_stored a f ctrl objects raw series dl cont hp hq hm hu hs hfin

/-- **C05.4 (`resend_is_awaited_fragment`, full statement)**: a READ repeated during the confirm wait of ANY
    fragment of a response series re-sends exactly that fragment's octets.  After a matching CONFIRM on a
    non-final fragment (and unless the task died, as in `continuation_is_stored`) the pass up to `a2` emitted
    callbacks only (`l`) and then transmitted the continuation fragment `bytes`; the session continues from `a2`
    as in `continuation_is_stored` (with `next = some sr` it blocks in the confirm wait of that fragment); and in
    EVERY later accumulator `b` that still has `a2`'s solicited buffer and stored request, a READ `f'` that
    repeats the last recorded request is answered — whatever series/deadline/continuation the wait carries —
    by re-transmitting exactly `bytes`, leaving buffer and stored request untouched (so the same holds for the
    next repeat). -/
theorem resend_is_awaited_fragment {a : Acc} {f : Frag} {ctrl : AppCtrl} {objects : Except Nat (List ObjHdr)}
    {raw : List Nat} {last : LastReq} (series : Series) (dl : Nat) (cont : SolCont)
    (hp : a.1.pending = some f) (hq : parseRequest f.data = .request ctrl 0 objects raw)
    (hm : a.1.cfg.anymaster = true ∨ f.src = a.1.cfg.master)
    (hu : ctrl.uns = false) (hs : ctrl.seq = series.ecsn) (hfin : series.fin = false)
    (hl : a.1.lastReq = some last) :
    (∃ a1, solWaitOnFragment a series dl cont = die a1) ∨
    ∃ (bytes : List Nat) (a2 : Acc) (next : Option Series),
      (∃ l, a2.2 = a.2 ++ l ++ [.tx f.src bytes] ∧ ∀ o ∈ l, ∃ c, o = OOut.cb c) ∧
      solWaitOnFragment a series dl cont =
        (match next with
         | none => resumeAfterSol a2 cont
         | some sr => .blocked ({ a2.1 with mode := .solWait sr (a2.1.now + a2.1.cfg.ctimeout) cont }, a2.2)) ∧
      ∀ (b : Acc) (f' : Frag) (ctrl' : AppCtrl) (hs' : List ObjHdr) (raw' : List Nat)
        (series' : Series) (deadline' : Nat) (cont' : SolCont),
        b.1.solBuf = a2.1.solBuf → b.1.lastReq = a2.1.lastReq →
        b.1.pending = some f' → parseRequest f'.data = .request ctrl' 1 (.ok hs') raw' →
        (b.1.cfg.anymaster = true ∨ f'.src = b.1.cfg.master) → f'.broadcast = none →
        last.seq = ctrl'.seq → last.frag = f'.data →
        ∃ b', solWaitOnFragment b series' deadline' cont' = .blocked b' ∧
          b'.2 = b.2 ++ [.tx f'.src bytes] ∧ b'.1.solBuf = b.1.solBuf ∧ b'.1.lastReq = b.1.lastReq :=
  @Dnp3.Proofs.C05.resend_is_awaited_fragment a f ctrl objects raw last series dl cont hp hq hm hu hs hfin hl

end Dnp3.Props.C05

/-! ## C05 at TRACE level (`Dnp3.Proofs.OutstationC05Trace`)

`repeat_never_executes_twice`: over every run from `Outstation.start`, a byte-identical non-READ request delivered
again — with only clock ticks, CONFIRM fragments and undelivered frames in between — is not executed a second time
and is answered with exactly the solicited octets sent for it the first time (or the task died: `OOut.panic`).
Supporting statements: the per-step lemmas `nr_step` (the step that receives the request: it establishes the
"echo-ready" state `ER`, and from an `ER` state reproduces record and octets) and `between_step` (ticks / CONFIRMs
keep `ER`), and the two trace invariants they rest on (`deferred_only_in_unsolWait`, `nonfinal_wait_is_read`).
`solTx`, `Unicast`, `Between`, `ER`, `StepPost`, `StepKeep`, `DefInv`, `LRInv` are defined in
`Dnp3.Proofs.OutstationC05Trace`.  Requests whose objects do not parse are excluded (finding D31, see
`repeat_malformed_reanswered_counterexample` above). -/
namespace Dnp3.Props.C05
open Dnp3 Dnp3.Proofs Dnp3.Proofs.C04 Dnp3.Proofs.C05T

/-- **C05 (trace level) `repeat_never_executes_twice`**.  In EVERY run of the outstation from construction
    (`Outstation.start cfg evMax`, any input list, any configuration, any transmit buffer sizes): let inputs `i < j`
    both deliver the byte-identical request fragment `data` — a unicast frame for this outstation (`Unicast`:
    destination its address or the enabled self address, valid source, neither empty nor longer than the receive
    buffer) from the accepted master, which parses as a request with function code other than CONFIRM (0) and
    READ (1) and whose OBJECTS PARSE (`.ok hs`; finding D31, `repeat_malformed_reanswered_counterexample`: a
    repeated request whose objects do not parse is answered afresh, so that case is excluded here) — and let every
    input strictly between them be a clock tick, a CONFIRM fragment (solicited or unsolicited, any sequence number,
    from anyone, to any address) or a frame the transport layer does not deliver (`Between`).  Then

    1. step `j` fires NO executing callback (`isExec`: control / write / freeze / time / restart, begin/end
       fragment): the request is not executed a second time; and
    2. the solicited responses step `j` transmits (`solTx`: the transmitted application fragments with function
       octet 0x81, with their destination) are EXACTLY those step `i` transmitted — the same octets to the same
       address, and none at all if the request has no response (functions 6, 8, 10, 12) — unless the task died
       on the way: `OOut.panic` is among the outputs of some step `k` with `i ≤ k ≤ j` (with the opaque `Db`
       the IIN computation may fail at any time: defect D3).  If the task was dead already before step `i`, both
       steps output nothing, so the equation holds.

    The state the session is in at step `i` is arbitrary (idle, waiting for the confirm of any fragment of a
    solicited series, waiting for an unsolicited confirm with or without a deferred READ), as is the state at step
    `j` (idle, the confirm wait the response itself opened, an unsolicited confirm wait started in between);
    the request at step `i` may itself be new or a retransmission. -/
theorem repeat_never_executes_twice (cfg : OCfg) (evMax : Nat) (env : OEnv) (inputs : List OInput)
    (i j : Nat) (hij : i < j) (hj : j < inputs.length)
    (src dst : Nat) (data : List Nat) (ctrl : AppCtrl) (func : Nat) (hs : List ObjHdr) (raw : List Nat)
    (hi : inputs[i]'(Nat.lt_trans hij hj) = .rx src dst data) (hjj : inputs[j] = .rx src dst data)
    (hq : parseRequest data = .request ctrl func (.ok hs) raw) (hf0 : func ≠ 0) (hf1 : func ≠ 1)
    (hu : Unicast env src dst data) (hm : cfg.anymaster = true ∨ src = cfg.master)
    (hbetween : ∀ (k : Nat) (hk : k < inputs.length), i < k → k < j → Between env inputs[k]) :
    (∀ o ∈ outsAt env (Outstation.start cfg evMax).1 inputs j hj, isExec o = false) ∧
    (solTx (outsAt env (Outstation.start cfg evMax).1 inputs j hj) =
        solTx (outsAt env (Outstation.start cfg evMax).1 inputs i (Nat.lt_trans hij hj)) ∨
      ∃ (k : Nat) (hk : k < inputs.length), i ≤ k ∧ k ≤ j ∧
        OOut.panic ∈ outsAt env (Outstation.start cfg evMax).1 inputs k hk) :=
  @Dnp3.Proofs.C05T.repeat_never_executes_twice cfg evMax env inputs i j hij hj src dst data ctrl func hs raw hi hjj hq hf0 hf1 hu hm hbetween

/-- the step that receives the non-READ request (the first copy or a later one), from any state of a run -/
theorem nr_step (env : OEnv) (s : OState) (src dst : Nat) (data : List Nat) {ctrl : AppCtrl} {func : Nat}
    {hs : List ObjHdr} {raw : List Nat} (hu : Unicast env src dst data)
    (hq : parseRequest data = .request ctrl func (.ok hs) raw) (hf0 : func ≠ 0) (hf1 : func ≠ 1)
    (hm : s.cfg.anymaster = true ∨ src = s.cfg.master) (halive : s.mode ≠ .dead)
    (hD : DefInv s) (hJ : LRInv s) :
    StepPost ctrl.seq data src s (Outstation.step env s (.rx src dst data)) :=
  @Dnp3.Proofs.C05T.nr_step env s src dst data ctrl func hs raw hu hq hf0 hf1 hm halive hD hJ

/-- a step between the two copies keeps `ER` (or the task dies in it) -/
theorem between_step (env : OEnv) (s : OState) (inp : OInput) (hb : Between env inp) {seq : Nat} {data : List Nat}
    {resp : Option Resp} {bytes : List Nat} (h : ER seq data resp bytes s) :
    StepKeep seq data resp bytes (Outstation.step env s inp) :=
  @Dnp3.Proofs.C05T.between_step env s inp hb seq data resp bytes h

/-- along every run from construction a READ is deferred only while the task waits for an unsolicited confirm
    (or the task is dead) -/
theorem deferred_only_in_unsolWait (cfg : OCfg) (evMax : Nat) (env : OEnv) (inputs : List OInput) (n : Nat)
    (h : n ≤ inputs.length) : DefInv (C04.stateAt env (Outstation.start cfg evMax).1 inputs n) :=
  Dnp3.Proofs.C05T.S_defInv cfg evMax env inputs n h

/-- along every run from construction: if the stored request waits on a NON-final fragment it is a READ, and a
    deferred request is a READ -/
theorem nonfinal_wait_is_read (cfg : OCfg) (evMax : Nat) (env : OEnv) (inputs : List OInput) (n : Nat)
    (h : n ≤ inputs.length) : LRInv (C04.stateAt env (Outstation.start cfg evMax).1 inputs n) :=
  Dnp3.Proofs.C05T.S_lrInv cfg evMax env inputs n h

theorem rxAccept_unicast {env : OEnv} {src dst : Nat} {data : List Nat} (hu : Unicast env src dst data)
    (s : OState) (ha : s.mode ≠ .dead) :
    C04.rxAccept env s src dst data = some ⟨s.frameId, src, none, data⟩ :=
  @Dnp3.Proofs.C05T.rxAccept_unicast env src dst data hu s ha


/-- evaluated instances (`exInputs`: idle; `exInputsU`: first handled in the unsolicited confirm wait; `exInputsW`: a
    WRITE, executed once) -/
theorem repeat_never_executes_twice_examples :
    (Outstation.run {} (Outstation.start {} 10).1 exInputs).2.map solTx =
      [[(1, [192, 129, 128, 0, 52, 2, 7, 1, 0, 0])], [], [], [(1, [192, 129, 128, 0, 52, 2, 7, 1, 0, 0])]] ∧
    (Outstation.run {} (Outstation.start { unsolicited := true } 10).1 exInputsU).2.map solTx =
      [[(1, [192, 129, 128, 0, 52, 2, 7, 1, 0, 0])], [], [], [], [(1, [192, 129, 128, 0, 52, 2, 7, 1, 0, 0])]] ∧
    (Outstation.run {} (Outstation.start {} 10).1 exInputsW).2.map solTx =
      [[(1, [193, 129, 128, 0])], [], [(1, [193, 129, 128, 0])]] ∧
    (Outstation.run {} (Outstation.start {} 10).1 exInputsW).2.map (fun l => (l.filter isExec).length) = [1, 0, 0] := by
  decide +kernel

-- the hypotheses of `repeat_never_executes_twice` hold for the run `exInputs`, steps 0 and 3
example := repeat_never_executes_twice {} 10 {} exInputs 0 3 (by decide) (by decide) 1 1024 [0xC0, 23]
  (AppCtrl.ofNat 0xC0) 23 [] [] rfl rfl (by rfl) (by decide) (by decide)
  ⟨.inl rfl, by decide, by decide, by decide⟩ (.inr rfl)
  (by
    intro k hk h1 h2
    have : k = 1 ∨ k = 2 := by omega
    rcases this with rfl | rfl
    · exact trivial
    · exact .inl ⟨_, _, _, rfl⟩)
-- `between_step` / `nr_step` apply to the state `exER` (it remembers the request `C0 0C`)
example := between_step {} exER (.tick 10) trivial exER_er
example := nr_step {} exER 1 1024 [0xC0, 12] (ctrl := AppCtrl.ofNat 0xC0) (func := 12) (hs := []) (raw := [])
  ⟨.inl rfl, by decide, by decide, by decide⟩ (by rfl) (by decide) (by decide) (.inr rfl)
  (fun e => (by cases e)) (.inr (.inl rfl))
  ⟨fun lr sr e es => (by cases e; cases es), fun d e => (by cases e)⟩
example := deferred_only_in_unsolWait {} 10 {} exInputs 4 (by decide)
example := nonfinal_wait_is_read {} 10 {} exInputs 4 (by decide)
example : Unicast {} 1 1024 [0xC0, 23] := ⟨.inl rfl, by decide, by decide, by decide⟩

end Dnp3.Props.C05
