import Dnp3.Props.DbComponent
import Dnp3.Proofs.OutstationC12
/-!
# C11 — A READ is answered with a complete, consistent snapshot as an orderly series

Database-component theorems (`Dnp3.Model.Database`) for EVERY database (points of all eight point
types), selection, capacity and series (proofs in `Dnp3.Proofs.Database*`; the satisfiability `example`s are
in `Dnp3.Props.DbComponent`, namespace `Dnp3.Props.Db`):

* `read_arms_well_formed`, `header_dispatch_own`: every arm of the generated `ReadHeader::from_all_objects /
  from_count / from_range` tables maps its variation to the type whose group it is, requests exactly that
  variation and keeps the request's count / range; every queued header reads the map of its own type;

* `series_covers_exactly_once`, `series_conserves`, `selected_header_is_range`, `response_octets`:
  over any series of response writes (any capacities) the concatenation of the static objects
  written is exactly the selected points of each header, once, ascending;
* `series_is_snapshot_partial`: values are the ones frozen at selection, for any series with updates
  and confirms in between but no `add`; the full statement is FALSE on the unchanged tree (D12,
  `series_is_snapshot_counterexample`: a point added inside a selected range while the series is
  open is reported with the constructor default it never had outside the adding transaction);
* `progress` (every single object fits: `FitsCap`; an octet string that does not fit is D15),
  `progress_fixed` (no octet strings: 22 octets suffice), `response_within_capacity`: every non-final
  fragment makes progress and fits.

The series discipline (FIR on the first fragment only, FIN on the last only, consecutive sequence
numbers, next fragment only after the matching confirm, new request / timeout / disconnect end the
series) is the session model's: `solWait_confirm_continues`, `continuation_correlated`, restated below from `Dnp3.Proofs.OutstationC12`.
-/
namespace Dnp3.Props.C11
open Dnp3 Dnp3.DbM Dnp3.DbProofs Dnp3.Props.Db

/-- every arm of `ReadHeader::from_all_objects / from_count / from_range` maps the variation to the type
    whose group it is, requests exactly that variation (none for variation 0) and keeps the request's
    count / range (`from_all_objects` has none to keep) -/
theorem read_arms_well_formed :
    Gen.DbT.readAllObjects.all (DbTables.armOk false) = true ∧ Gen.DbT.readCount.all (DbTables.armOk true) = true ∧
    Gen.DbT.readRange.all (DbTables.armOk true) = true :=
  ⟨DbTables.readAllObjects_wf, DbTables.readCount_wf, DbTables.readRange_wf⟩

/-- the statement of `Props.C03.header_dispatch_own` (described there), of which C11 needs the static headers and
    `select_class_zero` -/
theorem header_dispatch_own (t : PtType) :
    Gen.DbT.eventHdrTy t = t ∧ Gen.DbT.staticHdrTy t = t ∧ Gen.DbT.writeRangeTy t = t ∧
    Gen.DbT.updatable t = ⟨t, t, t, decide (t ≠ .octetString), t⟩ ∧ Gen.DbT.classZeroOrder = Gen.DbT.Ty.all :=
  ⟨DbTables.eventHdrTy_own t, DbTables.staticHdrTy_own t, DbTables.writeRangeTy_own t, DbTables.updatable_own t,
   DbTables.classZeroOrder_all⟩

/-- the point maps are sorted by index (the `BTreeMap` order) in every reachable state -/
theorem static_sorted_invariant (ev : TyVec Nat) (cz : TyVec Bool) (sel : Option Nat) (ops : List DbOpX) :
    StaticSorted (runX (Db.newCfg ev cz sel) ops) :=
  sorted_runX _ ops (newCfg_sorted ev cz sel)

/-- what a queued READ header stands for: every existing point of its range exactly once, in
    ascending index order, with the point's `selected` (snapshot) cell -/
theorem selected_header_is_range (db : Db) (hs : StaticSorted db) (it : SelItem) :
    (itemObjs db it).Pairwise (fun a b => a.idx < b.idx) ∧
    (itemObjs db it).map (·.idx) = ((mapOf db it).filter (fun p => inRange it p.1)).map (·.1) ∧
    (∀ k var, it.kind = .typed k var →
      (itemObjs db it).map (fun o => (o.idx, o.m)) =
        ((mapOf db it).filter (fun p => inRange it p.1)).map (fun p => (p.1, p.2.selected))) := by
  have hsm : KeysSorted (mapOf db it) := mapOf_sorted db hs it
  refine ⟨?_, ?_, fun k var hk => ?_⟩
  · rw [itemObjs_eq, List.pairwise_map]
    simp only [objOf_idx]
    exact hsm.sublist List.filter_sublist
  · rw [itemObjs_eq, List.map_map]
    apply List.map_congr_left
    intro p _; simp [objOf_idx]
  · rw [mapOf_typed db it k var hk]
    exact itemObjs_typed db it k var hk

/-- `series_covers_exactly_once`: in a series of writes (any capacities), interleaved with
    updates and confirms, concatenating the static objects of the successive responses until the
    selection is exhausted (`complete`) yields exactly the objects the request selected — header by
    header, each existing selected point exactly once in ascending index order
    (`selected_header_is_range`): resumption never repeats or skips -/
theorem series_covers_exactly_once (db : Db) (hs : StaticSorted db) (ops : List SOp)
    (hend : (seriesEnd db ops).queue = []) :
    seriesObjs db ops = (db.queue.map (itemObjs db)).flatten :=
  @Dnp3.Props.Db.series_covers_exactly_once db hs ops hend

/-- … and at every intermediate point of the series: emitted so far ++ still selected = selected -/
theorem series_conserves (db : Db) (hs : StaticSorted db) (ops : List SOp) :
    seriesObjs db ops ++ ((seriesEnd db ops).queue.map (itemObjs (seriesEnd db ops))).flatten =
      (db.queue.map (itemObjs db)).flatten :=
  DbProofs.series_conserves ops db hs

/-- the octets of one response are the event encodings followed by the encodings of the static
    objects counted above (one range-header run per queue entry) -/
theorem response_octets (db : Db) (hs : StaticSorted db) (cap : Nat) :
    (db.writeResponse cap).2.1 =
      encodeEvents none (db.writeEvents cap).2.1 ++ (writeStaticObjs db cap).flatMap (encodeStatic none) :=
  (writeResponse_static db hs cap).1

/-
FULL STATEMENT (false on the unchanged tree, D12): for every operation sequence between the
request and the last fragment — `add` included — the series reports, for each point that existed
when the request was processed, the value it had then, and nothing else.
-/
/-- `series_is_snapshot`, partial (no `add` during the series): a READ of one static range on an
    idle database, answered over any number of fragments with updates / confirms in between,
    reports exactly the points that existed in the range when the request was processed, ascending,
    each once, with the value / flags they had at that moment -/
theorem series_is_snapshot_partial (db : Db) (hs : StaticSorted db) (hidle : db.queue = [])
    (hroom : db.queue.length ≠ db.selCap)
    (t : PtType) (var : Option Nat) (a b : Nat) (ops : List SOp)
    (hend : (seriesEnd (db.selectStatic t var (some (a, b))).1 ops).queue = []) :
    (seriesObjs (db.selectStatic t var (some (a, b))).1 ops).map (fun o => (o.idx, o.m)) =
      ((db.map t).filter (fun p => decide (a ≤ p.1) && decide (p.1 ≤ b))).map (fun p => (p.1, p.2.current)) := by
  obtain ⟨hq, hsnap⟩ := selectStatic_snapshot db t var a b hroom
  have hs' := KeysSame.sorted (selectStatic_frame (fun _ _ _ => rfl) db t var (some (a, b))).maps hs
  rw [series_covers_exactly_once _ hs' ops hend, hq, hidle]
  simp only [List.nil_append, List.map_cons, List.map_nil, List.flatten_cons, List.flatten_nil, List.append_nil]
  exact hsnap

/-- D12: the series reports index 3 with value 0 / flags RESTART — a value the point never
    had outside the adding transaction, for a point that did not exist when the request was processed -/
theorem series_is_snapshot_counterexample :
    let db0 := run (Db.new 0 none) d12Setup
    let db1 := step db0 (.write 12)
    let db2 := run db1 [.add .analog 3 0, .update .analog 3 99 1 4]
    (writeStaticObjs db0 12).flatten ++ (writeStaticObjs db2 300).flatten ≠ (db0.queue.map (itemObjs db0)).flatten ∧
    ({ idx := 3, g := 30, v := 1, m := { value := 0, flags := 2, time := 0 } } : SObj) ∈ (writeStaticObjs db2 300).flatten ∧
    (db2.writeResponse 300).2.2.2 = true := by
  decide

/-- `progress`: when every single object with its header fits the buffer (`FitsCap`: 22 octets suffice for
    every fixed-size variation of the seven fixed-size types; an octet string needs its length + 7), a
    response that is not complete carries at least one object.  This is ONE response: that a series terminates needs in
    addition that what is left selected gets less and that `FitsCap` holds again after the confirm, neither of which is
    proved.  An octet string that does not fit makes the series an endless run of empty fragments (D15) -/
theorem progress (db : Db) (cap : Nat) (hfit : FitsCap db cap) (hinc : (db.writeResponse cap).2.2.2 = false) :
    (db.writeEvents cap).2.1 ≠ [] ∨ (writeStaticObjs db cap).flatten ≠ [] :=
  @Dnp3.Props.Db.progress db cap hfit hinc

/-- … for a database without octet strings 22 octets are enough -/
theorem progress_fixed (db : Db) (cap : Nat) (hcap : 22 ≤ cap) (hev : ∀ r ∈ db.events, r.ty ≠ .octetString)
    (hpt : db.map .octetString = []) (hinc : (db.writeResponse cap).2.2.2 = false) :
    (db.writeEvents cap).2.1 ≠ [] ∨ (writeStaticObjs db cap).flatten ≠ [] :=
  write_progress db cap
    ⟨hcap, fun r hr ho => absurd ho (hev r hr), fun p hp => by rw [hpt] at hp; cases hp⟩ hinc

/-- a response never exceeds the space left in the transmit buffer (the incremental cost the
    writers charge is exactly the length of the octets they produce) -/
theorem response_within_capacity (db : Db) (cap : Nat) :
    (db.writeResponse cap).2.1.length ≤ cap ∧
    ∀ c1 c2 c3, (db.writeUnsolicited c1 c2 c3 cap).2.1.length ≤ cap :=
  ⟨DbProofs.response_within_capacity db cap, fun c1 c2 c3 => unsolicited_within_capacity db c1 c2 c3 cap⟩

/-! ## Series discipline (session model; restated from `Dnp3.Proofs.OutstationC12`) -/

section Session
open Dnp3.Proofs.C12

/-- a CONFIRM from the accepted master in a solicited confirm wait, with the expected sequence number, on a
    non-final fragment: the series continues with `solContinuation` -/
theorem solWait_confirm_continues (a : Acc) (series : Series) (dl : Nat) (cont : SolCont) (f : Frag) (ctrl : AppCtrl)
    (objects : Except Nat (List ObjHdr)) (raw : List Nat)
    (hp : a.1.pending = some f) (hreq : parseRequest f.data = .request ctrl 0 objects raw)
    (hm : a.1.cfg.anymaster = true ∨ f.src = a.1.cfg.master) (hu : ctrl.uns = false)
    (hs : ctrl.seq = series.ecsn) (hfin : series.fin = false) :
    solWaitOnFragment a series dl cont = solContinuation a f series cont :=
  @Dnp3.Proofs.C12.solWait_confirm_continues a series dl cont f ctrl objects raw hp hreq hm hu hs hfin

/-- **continuation fragments are correlated**: the fragment `solContinuation` transmits carries
    `seq4Next` of the confirmed sequence number, FIR clear, UNS clear, function 0x81, to the confirmer -/
theorem continuation_correlated {s : OState} {out : List OOut} {ecsn dst : Nat} {a2 : Acc} {r2 : Resp}
    (hw : writeSolicited ((formatReadResponse s false (seq4Next ecsn) 0).1, out) dst
            (formatReadResponse s false (seq4Next ecsn) 0).2.1 = some (a2, r2)) :
    SentOne out a2.2 dst r2 ∧ r2.func = 0x81 ∧ r2.ctrl.seq = seq4Next ecsn ∧ r2.ctrl.fir = false ∧
      r2.ctrl.uns = false :=
  @Dnp3.Proofs.C12.continuation_correlated s out ecsn dst a2 r2 hw


end Session

end Dnp3.Props.C11
