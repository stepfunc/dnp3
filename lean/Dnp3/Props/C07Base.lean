import Dnp3.Gen.Link
import Dnp3.Model.LinkLayer
/-!
# C07 — Endpoints act only on traffic addressed to them; broadcasts are never answered

Link-layer part: theorems about `processHeader` (the transcription of `Layer::process_header`)
for every control octet, every address and every secondary state.
-/
namespace Dnp3.Props.C07
open Dnp3

/-- the masks / function codes / special addresses the model transcribes are the source's -/
theorem link_layer_constants_as_modelled :
    Gen.Link.maskDir = 0x80 ∧ Gen.Link.maskPrm = 0x40 ∧ Gen.Link.maskFcb = 0x20 ∧
    Gen.Link.maskFcv = 0x10 ∧ Gen.Link.maskFunc = 0x0F ∧ Gen.Link.maskFuncOrPrm = 0x4F ∧
    Gen.Link.broadcastConfirmOptional = 0xFFFF ∧ Gen.Link.broadcastConfirmMandatory = 0xFFFE ∧
    Gen.Link.broadcastConfirmNotRequired = 0xFFFD ∧ Gen.Link.selfAddress = 0xFFFC ∧
    Gen.Link.reservedStart = 0xFFF0 ∧ Gen.Link.priResetLinkStates = 0x40 ∧
    Gen.Link.priTestLinkStates = 0x42 ∧ Gen.Link.priConfirmedUserData = 0x43 ∧
    Gen.Link.priUnconfirmedUserData = 0x44 ∧ Gen.Link.priRequestLinkStatus = 0x49 ∧
    Gen.Link.secAck = 0x00 ∧ Gen.Link.secNack = 0x01 ∧ Gen.Link.secLinkStatus = 0x0B ∧
    Gen.Link.secNotSupported = 0x0F := by decide

/-- the frame is addressed to this endpoint -/
def Addressed (cfg : LinkCfg) (h : LHeader) : Prop :=
  (Control.ofNat h.ctrl).master ≠ cfg.isMaster ∧
  (∃ s, Addr.ofNat h.src = .endpoint s) ∧
  (Addr.ofNat h.dst = .endpoint cfg.localAddr ∨
   (Addr.ofNat h.dst = .selfAddr ∧ cfg.selfAddress = true) ∨
   (∃ m, Addr.ofNat h.dst = .broadcast m ∧ cfg.isMaster = false ∧
      ((Control.ofNat h.ctrl).func = .priUnconfirmedUserData ∨
       (Control.ofNat h.ctrl).func = .priConfirmedUserData)))

/-- the function-code arms of `Layer::process_header`, reached once a frame from `source` has been
    accepted with broadcast mode `broadcast` -/
def respond (c : Control) (sec : SecState) (source : Nat) (broadcast : Option Nat) :
    SecState × Option FrameInfo × Option Reply :=
  match c.func with
  | .priUnconfirmedUserData =>
    if c.fcv then (sec, none, none) else (sec, some ⟨source, broadcast, .data⟩, none)
  | .priResetLinkStates =>
    if c.fcv then (sec, none, none) else (.reset true, none, some ⟨source, .secAck⟩)
  | .priConfirmedUserData =>
    if ¬ c.fcv then (sec, none, none) else
    match sec with
    | .notReset => (sec, none, none)
    | .reset expected =>
      let response := if broadcast.isNone then some (Reply.mk source .secAck) else none
      if c.fcb = expected then (.reset (!expected), some ⟨source, broadcast, .data⟩, response)
      else (sec, none, response)
  | .priRequestLinkStatus =>
    if c.fcv then (sec, none, none)
    else (sec, some ⟨source, broadcast, .linkStatusRequest⟩, some ⟨source, .secLinkStatus⟩)
  | .secLinkStatus => (sec, some ⟨source, broadcast, .linkStatusResponse⟩, none)
  | _ => (sec, none, none)

/-- `processHeader` is its address filter followed by `respond` -/
theorem processHeader_eq (cfg : LinkCfg) (sec : SecState) (h : LHeader) :
    processHeader cfg sec h =
      if (Control.ofNat h.ctrl).master = cfg.isMaster then (sec, none, none) else
      match Addr.ofNat h.src with
      | .endpoint source =>
        match (match Addr.ofNat h.dst with
          | .endpoint x => if x = cfg.localAddr then some none else none
          | .selfAddr => if cfg.selfAddress then some none else none
          | .reserved _ => none
          | .broadcast m => if cfg.isMaster then none else some (some m) : Option (Option Nat)) with
        | none => (sec, none, none)
        | some broadcast =>
          if broadcast.isSome ∧ ¬ ((Control.ofNat h.ctrl).func = .priUnconfirmedUserData ∨
              (Control.ofNat h.ctrl).func = .priConfirmedUserData) then (sec, none, none)
          else respond (Control.ofNat h.ctrl) sec source broadcast
      | _ => (sec, none, none) := rfl

/-- the broadcast mode of a destination address -/
def bcastOf (dst : Nat) : Option Nat :=
  match Addr.ofNat dst with | .broadcast m => some m | _ => none

theorem processHeader_accepted (cfg : LinkCfg) (sec : SecState) (h : LHeader) (s : Nat)
    (hA : Addressed cfg h) (hsrc : Addr.ofNat h.src = .endpoint s) :
    processHeader cfg sec h = respond (Control.ofNat h.ctrl) sec s (bcastOf h.dst) := by
  obtain ⟨hdir, _, hd | ⟨hd, hs⟩ | ⟨m, hd, hm, hf⟩⟩ := hA
  all_goals rw [processHeader_eq, if_neg hdir, hsrc, bcastOf, hd]
  · simp
  · simp [hs]
  · simp [hm, hf]

/-- an endpoint acts on (delivers, replies to, or changes state because of) a frame only when
    it comes from the opposite station type, from a non-reserved source, and is addressed to it -/
theorem acts_only_if_addressed (cfg : LinkCfg) (sec : SecState) (h : LHeader) :
    processHeader cfg sec h ≠ (sec, none, none) → Addressed cfg h := by
  intro hne
  rw [processHeader_eq] at hne
  generalize respond (Control.ofNat h.ctrl) sec = r at hne
  split at hne
  · exact absurd rfl hne
  · rename_i hdir
    split at hne
    · rename_i s hsrc
      refine ⟨hdir, ⟨s, hsrc⟩, ?_⟩
      split at hne
      · exact absurd rfl hne
      · rename_i b hdest
        split at hne
        · exact absurd rfl hne
        · rename_i hfun
          split at hdest
          · rename_i x hx
            split at hdest
            · rename_i hxl; left; rw [hx, hxl]
            · cases hdest
          · rename_i hx
            split at hdest
            · rename_i hs; right; left; exact ⟨hx, hs⟩
            · cases hdest
          · cases hdest
          · rename_i m hx
            split at hdest
            · cases hdest
            · rename_i hm
              injection hdest with hb
              subst hb
              right; right
              refine ⟨m, hx, by simpa using hm, ?_⟩
              simp at hfun
              by_cases hu : (Control.ofNat h.ctrl).func = LFunc.priUnconfirmedUserData
              · exact Or.inl hu
              · exact Or.inr (hfun hu)
    · exact absurd rfl hne

/-- nothing is ever transmitted in reply to a frame sent to a broadcast address -/
theorem broadcast_never_acked (cfg : LinkCfg) (sec : SecState) (h : LHeader) (m : Nat)
    (hb : Addr.ofNat h.dst = .broadcast m) : (processHeader cfg sec h).2.2 = none := by
  by_cases hi : processHeader cfg sec h = (sec, none, none)
  · rw [hi]
  · have hA := acts_only_if_addressed cfg sec h hi
    obtain ⟨s, hsrc⟩ := hA.2.1
    rcases hA.2.2 with hd | ⟨hd, _⟩ | ⟨_, _, _, hf⟩
    · rw [hb] at hd; cases hd
    · rw [hb] at hd; cases hd
    · rw [processHeader_accepted cfg sec h s hA hsrc, bcastOf, hb]
      rcases hf with hf | hf
      · simp only [respond, hf]
        split <;> rfl
      · simp only [respond, hf]
        split
        · rfl
        · split
          · rfl
          · split <;> rfl

/-- a link status request addressed to this endpoint (not by broadcast, FCV clear) is always
    answered with LINK_STATUS to its source, in every secondary state -/
theorem link_status_answered (cfg : LinkCfg) (sec : SecState) (h : LHeader) (s : Nat)
    (hdir : (Control.ofNat h.ctrl).master ≠ cfg.isMaster)
    (hsrc : Addr.ofNat h.src = .endpoint s)
    (hdst : Addr.ofNat h.dst = .endpoint cfg.localAddr ∨ (Addr.ofNat h.dst = .selfAddr ∧ cfg.selfAddress = true))
    (hf : (Control.ofNat h.ctrl).func = .priRequestLinkStatus)
    (hfcv : (Control.ofNat h.ctrl).fcv = false) :
    processHeader cfg sec h = (sec, some ⟨s, none, .linkStatusRequest⟩, some ⟨s, .secLinkStatus⟩) := by
  rw [processHeader_accepted cfg sec h s ⟨hdir, ⟨s, hsrc⟩, hdst.elim Or.inl (Or.inr ∘ Or.inl)⟩ hsrc]
  rcases hdst with hd | ⟨hd, _⟩ <;> simp [respond, bcastOf, hf, hfcv, hd]

/-- confirmed user data is delivered exactly when the secondary station has been reset and the
    frame count bit equals the expected one, which then toggles; a repeated bit is not delivered -/
theorem confirmed_delivered_iff (cfg : LinkCfg) (sec : SecState) (h : LHeader) (s : Nat)
    (hdir : (Control.ofNat h.ctrl).master ≠ cfg.isMaster)
    (hsrc : Addr.ofNat h.src = .endpoint s)
    (hdst : Addr.ofNat h.dst = .endpoint cfg.localAddr)
    (hf : (Control.ofNat h.ctrl).func = .priConfirmedUserData)
    (hfcv : (Control.ofNat h.ctrl).fcv = true) :
    (match sec with
     | .notReset => processHeader cfg sec h = (sec, none, none)
     | .reset e =>
        if (Control.ofNat h.ctrl).fcb = e then
          processHeader cfg sec h = (.reset (!e), some ⟨s, none, .data⟩, some ⟨s, .secAck⟩)
        else processHeader cfg sec h = (sec, none, some ⟨s, .secAck⟩)) := by
  rw [processHeader_accepted cfg sec h s ⟨hdir, ⟨s, hsrc⟩, Or.inl hdst⟩ hsrc, bcastOf, hdst]
  unfold respond
  simp only [hf, hfcv]
  cases sec with
  | notReset => simp
  | reset e => by_cases hb : (Control.ofNat h.ctrl).fcb = e <;> simp [hb]

/-- the frame count bits of the headers of a history that `processHeader` delivers, threading the
    secondary state (`Props/C07.lean`: after a reset they alternate, starting from 1) -/
def deliveredFcbs (cfg : LinkCfg) : SecState → List LHeader → List Bool
  | _, [] => []
  | sec, h :: hs =>
    match processHeader cfg sec h with
    | (sec', some _, _) => (Control.ofNat h.ctrl).fcb :: deliveredFcbs cfg sec' hs
    | (sec', none, _) => deliveredFcbs cfg sec' hs

example : Addressed ⟨false, false, 1024⟩ ⟨0xC4, 1024, 1⟩ := by
  unfold Addressed; refine ⟨by decide, ⟨1, by decide⟩, Or.inl (by decide)⟩

end Dnp3.Props.C07
