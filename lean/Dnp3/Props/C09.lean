import Dnp3.Model.AppHeader
import Dnp3.Model.ObjectIter
import Dnp3.Model.Fields
import Dnp3.Proofs.C09Fields
import Dnp3.Proofs.C09Walk
import Dnp3.Proofs.C09Iter
import Dnp3.Proofs.C09Builder
import Dnp3.Proofs.C09Attr
import Dnp3.Proofs.C09AttrOrder
import Dnp3.Proofs.C09File70
/-!
# C09 — What one side encodes, the other side's parser decodes to the same objects
-/
namespace Dnp3.Props.C09
open Dnp3 Dnp3.App Dnp3.Gen Dnp3.Gen.App

/-- `SIZE` is the sum of the field widths, for every `impl FixedSize` of app/variations.rs -/
theorem size_is_sum_of_fields : ∀ f ∈ fixedVars, f.size = fieldsWidth f.readFields := by decide +kernel

/-- `read` and `write` handle the same fields (names and wire types) in the same order -/
theorem read_write_same_fields : ∀ f ∈ fixedVars, f.readFields = f.writeFields := by decide +kernel

/-- no fixed-size variation is empty (a zero-size `T::read` would make `RangeIterator` / `CountIterator` spin) -/
theorem sizes_positive : ∀ f ∈ fixedVars, 0 < f.size := by decide +kernel

def increasing : List Nat → Bool
  | a :: b :: r => a < b && increasing (b :: r)
  | _ => true

theorem lt_of_increasing {a : Nat} {l : List Nat} (h : increasing (a :: l) = true) : ∀ b ∈ l, a < b := by
  induction l generalizing a with
  | nil => nofun
  | cons c r ih =>
    simp only [increasing, Bool.and_eq_true, decide_eq_true_eq] at h
    intro b hb
    rcases List.mem_cons.mp hb with rfl | hb
    · exact h.1
    · exact Nat.lt_trans h.1 (ih h.2 b hb)

theorem nodup_of_increasing {α : Type} (key : α → Nat) (l : List α) (h : increasing (l.map key) = true) : l.Nodup := by
  induction l with
  | nil => exact List.nodup_nil
  | cons a r ih =>
    refine List.nodup_cons.mpr ⟨fun ha => ?_, ih ?_⟩
    · exact Nat.lt_irrefl _ (lt_of_increasing h (key a) (List.mem_map_of_mem ha))
    · cases r with
      | nil => rfl
      | cons b r => simp only [List.map_cons, increasing, Bool.and_eq_true] at h; exact h.2

/-- no two `impl FixedSize` blocks claim the same group / variation: the table is in ascending order of
    (group, variation), checked in one pass -/
theorem fixed_vars_distinct : (fixedVars.map fun f => (f.group, f.var)).Nodup :=
  nodup_of_increasing (fun p => 1000 * p.1 + p.2) _ (by decide +kernel)

def payloadKindsOk (t : List (Pat × Payload)) (allowed : Payload → Bool) : Bool := t.all fun a => allowed a.2

/-- the kind a table hands out for a variation passes the check made on every arm -/
theorem payloadKindsOk_get {t : List (Pat × Payload)} {allowed : Payload → Bool} (h : payloadKindsOk t allowed = true)
    {var : Variation} {k : Payload} (hk : tableGet t var = some k) : allowed k = true := by
  obtain ⟨a, ha, rfl⟩ := Option.map_eq_some_iff.1 hk
  exact List.all_eq_true.1 h a (List.mem_of_find?_eq_some ha)

def fixedKnown (g v : Nat) : Bool := fixedVars.any fun f => f.group == g && f.var == v

/-- every table only uses the payload kinds the model handles for it, and every `fixed g v` / `prefFixed g v`
    refers to a variation with a `FixedSize` impl: `ParseErr.modelGap` is unreachable -/
theorem tables_well_kinded :
    payloadKindsOk allObjects (· == .none) = true ∧
    payloadKindsOk countTable (fun k => match k with | .none => true | .fixed g v => fixedKnown g v | _ => false) = true ∧
    payloadKindsOk rangedNonRead (fun k => match k with
      | .none | .bits | .dbits | .octets | .attr => true | .fixed g v => fixedKnown g v | _ => false) = true ∧
    payloadKindsOk rangedRead (fun k => match k with | .none | .emptySeq | .attrNone => true | _ => false) = true ∧
    payloadKindsOk prefixedTable (fun k => match k with
      | .prefOctets | .prefAttr => true | .prefFixed g v => fixedKnown g v | _ => false) = true ∧
    payloadKindsOk freeFormat (fun k => match k with | .file v => 2 ≤ v && v ≤ 8 | _ => false) = true := by
  decide +kernel

/-- what the translator checked about the shape of the hand-transcribed functions -/
theorem translator_shape_checks :
    toGroupAndVarMatchesNames = true ∧ rangedDispatchOnReadOnly = true ∧ zeroLengthGuards = 2 ∧
    controlFieldShapeOk = true := by decide

/-- reading the fields that `writeFields` wrote gives them back and leaves exactly the rest -/
theorem fields_roundtrip (fs : List Field) (vs rest : List Nat) (h : wellTyped fs vs) :
    readFields fs (writeFields fs vs ++ rest) = some (vs, rest) ∧ (writeFields fs vs).length = fieldsWidth fs :=
  ⟨readFields_writeFields fs vs rest h, writeFields_length fs vs h⟩

example : wellTyped [⟨"flags", .u8⟩, ⟨"value", .i32⟩] [0x81, 0xFFFFFFFE] := ⟨by decide, by decide, trivial⟩

/-- instantiated for every generated variation: `read (write x) = x`, consuming exactly `SIZE` octets -/
theorem variation_roundtrip (f : FixedVar) (hf : f ∈ fixedVars) (vs rest : List Nat) (h : wellTyped f.writeFields vs) :
    readFields f.readFields (writeFields f.writeFields vs ++ rest) = some (vs, rest) ∧
    (writeFields f.writeFields vs).length = f.size := by
  rw [read_write_same_fields f hf, size_is_sum_of_fields f hf, read_write_same_fields f hf]
  exact fields_roundtrip _ vs rest h

/-- the control octet decodes to the flags and sequence number that were encoded -/
theorem control_roundtrip (fir fin con uns : Bool) (seq : Fin 16) :
    Control.ofByte (Control.toByte ⟨fir, fin, con, uns, seq.val⟩) = ⟨fir, fin, con, uns, seq.val⟩ := by
  revert fir fin con uns seq; decide

/-- and every octet is the encoding of what it decodes to -/
theorem control_byte_roundtrip : ∀ x, x < 256 → (Control.ofByte x).toByte = x := by decide +kernel

/-- a request header written by `RequestHeader::write`, followed by any object octets, parses back to
    the same control field and function, and hands exactly those octets to the object parser -/
theorem request_header_roundtrip (fir fin con uns : Bool) (seq : Fin 16) (f : Nat) (objs : List Nat)
    (hf : knownFunction f = true) (hr : isResponseFn f = false) :
    parseHeader (writeRequestHeader ⟨fir, fin, con, uns, seq.val⟩ f ++ objs) =
      .ok ⟨⟨fir, fin, con, uns, seq.val⟩, f, none, objs⟩ := by
  simp only [writeRequestHeader, List.cons_append, List.nil_append, parseHeader, control_roundtrip, hf, hr]
  simp

example : knownFunction 1 = true ∧ isResponseFn 1 = false := by decide

/-- the same for `ResponseHeader::write` (function RESPONSE or UNSOLICITED_RESPONSE), including both IIN octets -/
theorem response_header_roundtrip (fir fin con uns : Bool) (seq : Fin 16) (f iin1 iin2 : Nat) (objs : List Nat)
    (hr : isResponseFn f = true) :
    parseHeader (writeResponseHeader ⟨fir, fin, con, uns, seq.val⟩ f iin1 iin2 ++ objs) =
      .ok ⟨⟨fir, fin, con, uns, seq.val⟩, f, some (iin1, iin2), objs⟩ := by
  have hk : knownFunction f = true := by
    simp only [isResponseFn, Bool.or_eq_true, beq_iff_eq] at hr
    rcases hr with h | h <;> subst h <;> decide
  simp only [writeResponseHeader, List.cons_append, List.nil_append, parseHeader, control_roundtrip, hk, hr]
  simp

example : isResponseFn 129 = true := by decide

/-- **walk exactness.** If the validating pass accepts, the input is exactly the concatenation of the
    header images — every octet consumed — and every record is what its group, variation, qualifier and
    count / range imply (`RecOk`: known variation, payload kind from the regenerated table for this qualifier
    and READ / non-READ, payload length = the implied length, stop ≥ start, zero-length strings only with the
    option, free-format count 1 with the sub-cursor consumed exactly). -/
theorem walk_exact (isRead zls : Bool) (bs : List Nat) (recs : List HeaderRec)
    (h : walk isRead zls bs = .ok recs) (ok : bytesOk bs) :
    bs = (recs.map HeaderRec.image).flatten ∧ ∀ r ∈ recs, RecOk isRead zls r := by
  fun_induction walk isRead zls bs generalizing recs with
  | case1 bs hempty =>
    injection h with h; subst h
    cases bs <;> simp_all
  | case2 bs hne e he => cases h
  | case3 bs hne r rest hp e hw ih => cases h
  | case4 bs hne r rest hp rs hw ih =>
    injection h with h; subst h
    obtain ⟨e1, rok⟩ := parseOne_exact hp ok
    have okr : bytesOk rest := by rw [e1] at ok; exact (bytesOk_append.1 ok).2
    obtain ⟨e2, rsok⟩ := ih rs hw okr
    refine ⟨?_, List.forall_mem_cons.2 ⟨rok, rsok⟩⟩
    simp only [List.map_cons, List.flatten_cons]; rw [← e2]; exact e1

example : parseOne false false [1, 2, 0, 3, 4, 0x81, 0x01] =
    .ok (⟨.fixed 1 2, .range false 3 4, .fixed 1 2, [0x81, 0x01]⟩, []) ∧ bytesOk [1, 2, 0, 3, 4, 0x81, 0x01] := by
  constructor
  · rfl
  · intro b hb; simp at hb; omega

/-- READ requests carry no object data: every accepted ranged header of a READ has an empty payload -/
theorem read_carries_no_range_data (zls : Bool) (bs : List Nat) (recs : List HeaderRec)
    (h : walk true zls bs = .ok recs) (ok : bytesOk bs) :
    ∀ r ∈ recs, ∀ w a b, r.spec = .range w a b → r.payload = [] := by
  intro r hr w a b hs
  have rok := (walk_exact true zls bs recs h ok).2 r hr
  have ht := rok.inTable
  rw [hs] at ht
  have hk : r.kind = .none ∨ r.kind = .emptySeq ∨ r.kind = .attrNone := by
    have := payloadKindsOk_get tables_well_kinded.2.2.2.1 ht
    split at this
    · exact .inl ‹_›
    · exact .inr (.inl ‹_›)
    · exact .inr (.inr ‹_›)
    · cases this
  rcases hk with hk | hk | hk <;> exact List.eq_nil_of_length_eq_zero (rok.len 0 (by rw [hk]; rfl))

/-! ## the lazy iterators agree with the validating pass

Full statement:

  `iter_agrees`: for every header record `r` accepted by `walk` (`RecOk`), `iterate r` is never
  `some (.error _)`, yields exactly `r.spec.nobj` items whose octets concatenate to `r.payload`, with
  indices `start, start+1, …, stop`.

Proved below: the statement for octet strings under a range qualifier, for ALL ranges including those that
end at index 65535 (`iter_agrees_octets`, `ranged_bytes_iter_never_panics`), and for fixed-size objects under
range, count and count-and-prefix qualifiers (`iter_agrees_partial`).  NOT proved in Lean (tied by the `parse`
correspondence only): the packed bit / double-bit iterators and `PrefixedBytesIterator`.

Defect D2 (repaired in the library): `RangedBytesIterator::next` incremented its u16 index unguarded after
every item, so the octet-string part failed exactly for ranges with stop index 65535.  The repaired increment is
guarded as in the bit iterators; the D2 witness is the regression theorem `ranged_bytes_iter_end_of_index_space`
and a corpus case of the `parse` engine (harness/corpus/C09/parse_D2.ops). -/

/-- the D2 witness: the response fragment `… 6E 01 01 FF FF FF FF 41` is accepted by the validating pass … -/
theorem ranged_bytes_header_accepted :
    parseOne false false [110, 1, 1, 255, 255, 255, 255, 0x41] =
      .ok (⟨.wild 110 1, .range true 65535 65535, .octets, [0x41]⟩, []) := by rfl

/-- … and iterating the accepted header yields its one object, index 65535 (before the repair: u16 overflow) -/
theorem ranged_bytes_iter_end_of_index_space :
    iterate ⟨.wild 110 1, .range true 65535 65535, .octets, [0x41]⟩ = some (.ok [⟨some 65535, [0x41]⟩]) ∧
    iterate ⟨.wild 110 2, .range true 65534 65535, .octets, [1, 2, 3, 4]⟩ =
      some (.ok [⟨some 65534, [1, 2]⟩, ⟨some 65535, [3, 4]⟩]) := by
  constructor <;> rfl

/-- **no panic.** Iterating an octet-string range header whose stop index is a u16 never panics — for every
    variation octet, every range `a ≤ b ≤ 65535` and every payload (of the validated length or not) -/
theorem ranged_bytes_iter_never_panics (var : Variation) (w : Bool) (a b : Nat) (payload : List Nat)
    (hab : a ≤ b) (hb : b ≤ 65535) :
    (∃ items, iterate ⟨var, .range w a b, .octets, payload⟩ = some (.ok items)) ∧
    iterPanics ⟨var, .range w a b, .octets, payload⟩ = false := by
  obtain ⟨items, hi⟩ := iterRangedBytes_no_panic var.var (b - a + 1) payload a (by omega)
  have h : iterate ⟨var, .range w a b, .octets, payload⟩ = some (.ok items) := by
    simp only [iterate, Spec.start, Spec.nobj, hi]
  exact ⟨⟨items, h⟩, by simp only [iterPanics, h]⟩

example : (65534 : Nat) ≤ 65535 ∧ (65535 : Nat) ≤ 65535 := by decide

/-- **`iter_agrees` for octet strings**, all ranges including stop = 65535: an accepted header (payload of exactly
    `variation * count` octets) iterates to exactly the announced `b - a + 1` objects, indices `a, a+1, …, b`,
    `variation` octets each, concatenating to the payload the first pass validated; no iterator step fails -/
theorem iter_agrees_octets (var : Variation) (w : Bool) (a b : Nat) (payload : List Nat)
    (hab : a ≤ b) (hb : b ≤ 65535) (hl : payload.length = var.var * (b - a + 1)) :
    ∃ items, iterate ⟨var, .range w a b, .octets, payload⟩ = some (.ok items) ∧ items.length = b - a + 1 ∧
        items.map (·.index) = (List.range (b - a + 1)).map (fun i => some (a + i)) ∧
        (items.map (·.bytes)).flatten = payload ∧ ∀ it ∈ items, it.bytes.length = var.var := by
  obtain ⟨items, hi, rest⟩ := iterRangedBytes_spec var.var (b - a + 1) payload a hl (by omega)
  exact ⟨items, by simp only [iterate, Spec.start, Spec.nobj, hi], rest⟩

example : (0 : Nat) ≤ 65535 ∧ (65535 : Nat) ≤ 65535 ∧
    ([0x41, 0x42] : List Nat).length = (Variation.wild 110 2).var * (65535 - 65535 + 1) := by decide

set_option linter.unusedVariables false in
/-- `iter_agrees` for fixed-size objects: an accepted header (payload of exactly `SIZE * count` octets) iterates to
    exactly `count` objects of `SIZE` octets each, whose concatenation is the payload the first pass validated;
    under a range qualifier the indices are `a, a+1, …, b`; no iterator step fails.  (`f`, `hf`, `hg` are not
    used: all the proof needs of the variation is `hsz`.) -/
theorem iter_agrees_partial (var : Variation) (g v : Nat) (payload : List Nat) (f : FixedVar)
    (hf : f ∈ fixedVars) (hg : f.group = g ∧ f.var = v) (spec : Spec)
    (hl : payload.length = fixedSize g v * spec.nobj) (hsz : 0 < fixedSize g v) :
    (∀ w a b, spec = .range w a b → a ≤ b → b ≤ 65535 →
      ∃ items, iterate ⟨var, spec, .fixed g v, payload⟩ = some (.ok items) ∧ items.length = b - a + 1 ∧
        items.map (·.bytes) = chunks (fixedSize g v) payload ∧
        (items.map (·.bytes)).flatten = payload ∧ (∀ it ∈ items, it.bytes.length = fixedSize g v) ∧
        items.map (·.index) = (List.range (b - a + 1)).map (fun i => some (a + i))) ∧
    (∀ w n, spec = .count w n →
      ∃ items, iterate ⟨var, spec, .fixed g v, payload⟩ = some (.ok items) ∧ items.length = n ∧
        (items.map (·.bytes)).flatten = payload ∧ (∀ it ∈ items, it.bytes.length = fixedSize g v)) ∧
    (∀ w n, spec = .countPrefix w n → payload.length = (idxSize w + fixedSize g v) * n →
      ∃ items, iterate ⟨var, spec, .prefFixed g v, payload⟩ = some (.ok items) ∧ items.length = n ∧
        (items.map (·.bytes)).flatten = payload ∧ (∀ it ∈ items, it.bytes.length = idxSize w + fixedSize g v)) := by
  refine ⟨?_, ?_, ?_⟩
  · rintro w a b rfl hab hb
    have hlen := (chunks_spec (fixedSize g v) (b - a + 1) hsz payload hl).1
    obtain ⟨w1, w2⟩ := withIndices_spec (chunks (fixedSize g v) payload) a (by rw [hlen]; omega)
    obtain ⟨i1, i2, i3⟩ := items_of_chunks hsz hl w1
    exact ⟨_, rfl, i1, w1, i2, i3, by rw [← hlen]; exact w2⟩
  · rintro w n rfl
    exact ⟨_, rfl, items_of_chunks hsz hl
      (by simp only [iterCount, List.map_map]; exact List.map_id'' (fun _ => rfl) _)⟩
  · rintro w n rfl hl2
    exact ⟨_, rfl, items_of_chunks (by omega) hl2
      (by simp only [iterPrefixed, List.map_map]; exact List.map_id'' (fun _ => rfl) _)⟩
example : (⟨1, 2, 1, [⟨"flags", .u8⟩], [⟨"flags", .u8⟩]⟩ : FixedVar).group = 1 ∧ fixedSize 1 2 = 1 ∧
    ([0x81, 0x01] : List Nat).length = fixedSize 1 2 * (Spec.range false 3 4).nobj := by decide

/-- every `fixed g v` payload kind of the tables has a positive `SIZE`, so `iter_agrees_partial` applies to it -/
theorem fixed_size_positive (g v : Nat) (h : fixedKnown g v = true) : 0 < fixedSize g v := by
  unfold fixedKnown at h
  rw [List.any_eq_true] at h
  obtain ⟨f, hf, hgv⟩ := h
  unfold fixedSize
  cases hfind : fixedVars.find? (fun f => f.group == g && f.var == v) with
  | none =>
    have := List.find?_eq_none.mp hfind f hf
    simp_all
  | some f' =>
    simp only
    exact sizes_positive f' (List.mem_of_find?_eq_some hfind)

/-! ## the master's count-and-prefix header writer (`CommandBuilder` → `HeaderWriter::write_prefixed_items`)

A header built by the master is either written completely — exactly its image after what was already in the
buffer, and that image parses back to the items that were built — or the write fails with a `WriteError`
(`TaskError::WriteError` to the user of the master API); `writePrefixedItems` has no third outcome.

Defect D17 (repaired in the library): the count was advanced with `count.increment()` (`self + 1` in the
index type): 256 commands added through `add_u8` (1 KB of g41v2 objects, well inside the 2048-octet buffer)
overflowed the u8 count on the 256th item — a panic with overflow checks, a count of 0 in front of 256 objects
without.  The repaired library advances the count with `checked_next` and the overflow is
`WriteError::NumericOverflow` (`count_overflow_is_write_error`; witness `harness/corpus/C09/parse_D17.ops`). -/

/-- the variations `CommandBuilder` writes (`CommandHeader::write`) -/
def commandVariations : List (Nat × Nat) := [(12, 1), (41, 1), (41, 2), (41, 3), (41, 4)]

/-- they are known to `Variation::lookup`, and the count-and-prefix table hands them to the prefixed fixed-size parser -/
theorem command_variations_prefixed : ∀ gv ∈ commandVariations,
    lookup gv.1 gv.2 = some (.fixed gv.1 gv.2) ∧
    tableGet prefixedTable (.fixed gv.1 gv.2) = some (.prefFixed gv.1 gv.2) ∧ 0 < fixedSize gv.1 gv.2 := by
  decide +kernel

/-- **written completely, or a write error — nothing else.**  For every buffer capacity, every content already
    in the buffer, every variation, both index widths and every list of items (values of the variation's size):
    `write_prefixed_items` succeeds exactly when the count is expressible in the index type and header + items
    fit the rest of the buffer, and then it has appended exactly the header image; otherwise it returns a
    `WriteError`. -/
theorem prefixed_header_written_or_write_error (cap : Nat) (acc : List Nat) (g v : Nat) (wide : Bool)
    (items : List CmdItem) (hsz : ∀ it ∈ items, it.2.length = fixedSize g v) :
    writePrefixedItems cap acc g v wide items =
      if items.length ≤ maxCount wide ∧
          acc.length + 3 + idxSize wide + (idxSize wide + fixedSize g v) * items.length ≤ cap
      then some (acc ++ prefixedImage g v wide items) else none := by
  rw [writePrefixedItems_spec, itemOctets_length wide _ items hsz]

example : ∀ it ∈ ([(7, [1, 0, 0]), (255, [0xFF, 0x7F, 4])] : List CmdItem), it.2.length = fixedSize 41 2 := by decide

/-- more items than the count field can express is a write error, whatever the items, the capacity and the
    buffer content (the D17 overflow: 256 items with a one-octet count) -/
theorem count_overflow_is_write_error (cap : Nat) (acc : List Nat) (g v : Nat) (wide : Bool) (items : List CmdItem)
    (h : maxCount wide < items.length) : writePrefixedItems cap acc g v wide items = none := by
  rw [writePrefixedItems_spec]; exact if_neg (by omega)

/-- the D17 witness shape: 256 g41v2 commands with one-octet indices into a 2048-octet buffer (1024 + 6
    octets would fit) is a write error; 255 of them are written, with count octet 255 -/
theorem d17_witness_is_write_error :
    writeCommands 2048 [0xC5, 5] 41 2 false ((List.range 256).map fun i => (i % 256, [i % 256, 0, 0])) = none ∧
    (writeCommands 2048 [0xC5, 5] 41 2 false ((List.range 255).map fun i => (i, [i, 0, 0]))).map (·.take 6) =
      some [0xC5, 5, 41, 2, 0x17, 255] := by
  decide +kernel

/-- **what was written parses back to what was built.**  For every variation the count-and-prefix table lists
    as a prefixed fixed-size object (in particular every command variation), the image of a header — followed by
    anything — is parsed as that header: same variation, same count, the item octets as payload, the rest
    untouched; and iterating the parsed header yields exactly the items that were built, index and octets, in
    order. -/
theorem prefixed_header_parses_back (isRead zls : Bool) (g v : Nat) (wide : Bool) (items : List CmdItem)
    (rest : List Nat) (hl : lookup g v = some (.fixed g v))
    (ht : tableGet prefixedTable (.fixed g v) = some (.prefFixed g v))
    (hsz : ∀ it ∈ items, it.2.length = fixedSize g v) :
    parseOne isRead zls (prefixedImage g v wide items ++ rest) =
      .ok (⟨.fixed g v, .countPrefix wide items.length, .prefFixed g v, itemOctets wide items⟩, rest) ∧
    iterate ⟨.fixed g v, .countPrefix wide items.length, .prefFixed g v, itemOctets wide items⟩ =
      some (.ok (items.map fun it => ⟨some it.1, leIdx wide it.1 ++ it.2⟩)) := by
  refine ⟨parseOne_prefixedImage isRead zls g v wide items rest hl ht hsz, ?_⟩
  simp only [iterate, Spec.wide, iterPrefixed_itemOctets wide (fixedSize g v) items hsz]

example : lookup 41 2 = some (.fixed 41 2) ∧ tableGet prefixedTable (.fixed 41 2) = some (.prefFixed 41 2) :=
  ⟨(command_variations_prefixed (41, 2) (by decide)).1, (command_variations_prefixed (41, 2) (by decide)).2.1⟩

/-- the image consists of octets when the count and the indices are expressible in the index type and the
    values are octets (this is where the bound on the count matters: a count of 256 has no one-octet image) -/
theorem prefixed_image_is_octets (g v : Nat) (wide : Bool) (items : List CmdItem)
    (hg : g < 256) (hv : v < 256) (hn : items.length ≤ maxCount wide)
    (hi : ∀ it ∈ items, it.1 ≤ maxCount wide ∧ bytesOk it.2) : bytesOk (prefixedImage g v wide items) := by
  have hidx : ∀ n, n ≤ maxCount wide → bytesOk (leIdx wide n) := by
    intro n hn b hb
    cases wide
    · simp only [leIdx, Bool.false_eq_true, ↓reduceIte, List.mem_singleton] at hb
      simp only [maxCount, Bool.false_eq_true, ↓reduceIte] at hn; omega
    · simp only [leIdx, ↓reduceIte, le16, List.mem_cons, List.not_mem_nil, or_false] at hb
      simp only [maxCount, ↓reduceIte] at hn
      rcases hb with hb | hb <;> omega
  have hq : prefixQualifier wide < 256 := by cases wide <;> decide
  intro b hb
  simp only [prefixedImage, itemOctets, List.cons_append, List.nil_append, List.mem_cons, List.mem_append,
    List.mem_flatten, List.mem_map] at hb
  rcases hb with hb | hb | hb | hb | ⟨l, ⟨it, hit, rfl⟩, hb⟩
  · omega
  · omega
  · omega
  · exact hidx _ hn b hb
  · rcases List.mem_append.mp hb with hb | hb
    · exact hidx _ (hi it hit).1 b hb
    · exact (hi it hit).2 b hb

/-- **a command request is written completely and parses back to what was built, or the write fails cleanly.**
    `CommandBuilder` with the commands `items` (at least one; one variation, one index width) written after the
    request header into a `cap`-octet buffer: either the write fails (exactly when the count is not expressible
    or header + objects do not fit), or the result fits the buffer, its application header parses back to the
    control field and function that were written, its object section is exactly one header, and iterating that
    header yields exactly the commands that were built. -/
theorem command_request_roundtrip_or_write_error (cap : Nat) (fir fin con uns : Bool) (seq : Fin 16) (f : Nat)
    (g v : Nat) (wide : Bool) (items : List CmdItem)
    (hf : knownFunction f = true) (hr : isResponseFn f = false) (hgv : (g, v) ∈ commandVariations)
    (hne : items ≠ []) (hsz : ∀ it ∈ items, it.2.length = fixedSize g v) :
    let ctl : Control := ⟨fir, fin, con, uns, seq.val⟩
    let hrec : HeaderRec := ⟨.fixed g v, .countPrefix wide items.length, .prefFixed g v, itemOctets wide items⟩
    (writeCommands cap (writeRequestHeader ctl f) g v wide items = none ∧
      (maxCount wide < items.length ∨ cap < 2 + 3 + idxSize wide + (idxSize wide + fixedSize g v) * items.length)) ∨
    (∃ bytes, writeCommands cap (writeRequestHeader ctl f) g v wide items = some bytes ∧ bytes.length ≤ cap ∧
      parseHeader bytes = .ok ⟨ctl, f, none, hrec.image⟩ ∧
      walk (f == fnRead) false hrec.image = .ok [hrec] ∧
      iterate hrec = some (.ok (items.map fun it => ⟨some it.1, leIdx wide it.1 ++ it.2⟩))) := by
  intro ctl hrec
  obtain ⟨hl, ht, _⟩ := command_variations_prefixed (g, v) hgv
  have hw : writeCommands cap (writeRequestHeader ctl f) g v wide items =
      writePrefixedItems cap (writeRequestHeader ctl f) g v wide items := by
    cases items with
    | nil => exact absurd rfl hne
    | cons _ _ => rfl
  have himg : hrec.image = prefixedImage g v wide items := by
    cases wide <;> simp [hrec, HeaderRec.image, prefixedImage, Variation.group, Variation.var, Spec.qualifier,
      Spec.bytes, prefixQualifier]
  have hlen : (writeRequestHeader ctl f).length = 2 := rfl
  rw [hw, prefixed_header_written_or_write_error cap _ g v wide items hsz, hlen]
  by_cases hc : items.length ≤ maxCount wide ∧ 2 + 3 + idxSize wide + (idxSize wide + fixedSize g v) * items.length ≤ cap
  · right
    have hpb := prefixed_header_parses_back (f == fnRead) false g v wide items [] hl ht hsz
    rw [List.append_nil] at hpb
    refine ⟨writeRequestHeader ctl f ++ prefixedImage g v wide items, by simp only [hc, and_self, ↓reduceIte], ?_, ?_, ?_, hpb.2⟩
    · have := itemOctets_length wide (fixedSize g v) items hsz
      simp only [List.length_append, hlen, prefixedImage, List.length_cons, List.length_nil, leIdx_length, this]
      omega
    · rw [himg]; exact request_header_roundtrip fir fin con uns seq f _ hf hr
    · rw [himg]; exact walk_single hpb.1
  · left
    refine ⟨by simp only [hc, ↓reduceIte], ?_⟩
    omega

example : knownFunction 5 = true ∧ isResponseFn 5 = false ∧ (41, 2) ∈ commandVariations ∧
    ([(7, [1, 0, 0])] : List CmdItem) ≠ [] := by decide

/-! ## device attributes (group 0): values, lists, objects, the outstation's READ response, the master's WRITE request

Model `Dnp3.Model.Attr` (tied to the code by the regenerated `Gen/Attrs` and by differential execution, engine
`attr`).  Findings: D27 (single-attribute write without a cursor transaction) and D29 (one-octet INT read back
zero-extended) are repaired in the library and the statements below hold in full; D30 (the master's builder takes
the variations 0 and 254) is open: `build_request_parses_back_partial` + `build_request_parses_back_counterexample`. -/
section Attr
open Dnp3.Attr Dnp3.Gen.Attrs
/- `Denotes m o` (Proofs/C09Attr): the decoded object `o` is what the database `m` holds: set and variation are
   octets, the variation is neither 0 nor 254, and either (variation 255) the value is a list whose iteration gives
   the set's (variation, writable) pairs in the database's order, or the value is the value stored under
   (set, variation). -/
open Dnp3.Proofs.C09Attr (Denotes)

/-- the regenerated type-code tables are each other's inverse and agree with the constants the object walk uses -/
theorem attr_type_codes_consistent :
    (∀ dt : DataType, typeOfCode dt.code = some dt) ∧ (∀ p ∈ codeTable, p.2.code = p.1) ∧
    DataType.visibleString.code = attrVisibleString ∧ DataType.unsignedInt.code = attrUnsignedInt ∧
    DataType.signedInt.code = attrSignedInt ∧ DataType.floatingPoint.code = attrFloatingPoint ∧
    DataType.octetString.code = attrOctetString ∧ DataType.bitString.code = attrBitString ∧
    DataType.dnp3Time.code = attrDnp3Time ∧ DataType.attrList.code = attrAttrList ∧
    DataType.extAttrList.code = attrExtAttrList := by
  refine ⟨Dnp3.Proofs.C09AttrValue.typeOfCode_code, by decide, ?_⟩
  decide

/-- what the translator read out of `get_list_encoding`, `AttrValue::parse`, `parse_attr_list`, `VariationListIter`,
    `Selected::all`, `Variation::create`, `UInt::new` / `Int::new`: writer and parser use the same list constants -/
theorem attr_translator_shape_checks :
    listEntryOctets = 2 ∧ extListBias = 256 ∧ parseExtListBias = extListBias ∧ parseListModulus = listEntryOctets ∧
    iterEntryOctets = listEntryOctets ∧ propWritableBit = 1 ∧ listVariation = 255 ∧ reservedVars = [0, 254, 255] ∧
    selectAllFirst = 0 ∧ selectAllLast = 253 ∧ maxSelected = 32 ∧
    uintWidthsShapeOk = true ∧ intWidthsShapeOk = true := by decide

/-- the default set: every typed variation of `AnyAttribute::try_from` is the `variation()` of a variant of the
    per-kind enum whose `extract` demands that type; the variations that may be defined writable are strings -/
theorem default_set_table_consistent :
    (∀ p ∈ defaultSetTypes, ∃ q ∈ kindVariations, q.2.2 = p.1 ∧ (q.1, p.2) ∈ kindType) ∧
    (∀ v ∈ writableVars, (v, DataType.visibleString) ∈ defaultSetTypes) ∧
    (defaultSetTypes.map (·.1)).Nodup ∧ (∀ p ∈ defaultSetTypes, p.1 < 256) := by decide +kernel

/-! ### attribute values (`OwnedAttrValue::write`, `AttrValue::parse`) -/

/-- parse (encode v) = v, consuming exactly the encoded octets: for every value an `OwnedAttrValue` can hold -/
theorem attr_roundtrip (v : Value) (img rest : List Nat) (hv : v.WellFormed) (h : v.image = some img) :
    parseValue (img ++ rest) = .ok (v, rest) :=
  @Dnp3.Proofs.C09AttrValue.attr_roundtrip v img rest hv h

/-- an owned value has no encoding exactly when it is a string / octet string / bit string longer than 255 octets -/
theorem attr_image_none_iff (v : Value) (hv : v.WellFormed) : v.image = none ↔ 255 < valueLen v := by
  cases v with
  | vstr bs | ostr bs | bstr bs => simp only [Value.image, valueLen]; split <;> simp <;> omega
  | list _ => exact hv.elim
  | _ => simp [Value.image, valueLen]

/-- the list of variations round-trips for EVERY length the encoding can express (0..255 entries), across the
    127/128 boundary between the plain and the extended list; the decoded `raw` does not depend on what follows -/
theorem attr_list_roundtrip (items : List (Nat × Bool)) (hn : items.length ≤ 255) :
    ∃ img raw, listImage items = some img ∧ img.length = 2 + 2 * items.length ∧
      (∀ rest : List Nat, parseValue (img ++ rest) = .ok (.list raw, rest)) ∧ iterList raw = items :=
  @Dnp3.Proofs.C09AttrValue.attr_list_roundtrip items hn

/-- beyond 255 entries there is no encoding (`get_list_encoding` = None: nothing is written) -/
theorem attr_list_unencodable (items : List (Nat × Bool)) (h : 255 < items.length) : listImage items = none :=
  @Dnp3.Proofs.C09AttrValue.attr_list_unencodable items h

/-- the boundaries of `get_list_encoding` -/
theorem list_encoding_boundaries :
    listEncoding 0 = some (0, .attrList) ∧ listEncoding 127 = some (254, .attrList) ∧
    listEncoding 128 = some (0, .extAttrList) ∧ listEncoding 129 = some (2, .extAttrList) ∧
    listEncoding 255 = some (254, .extAttrList) ∧ listEncoding 256 = none := by
  decide

open Dnp3.Proofs.C09AttrValue in
/-- for every n: the length octet written is what the parser turns back into 2n octets -/
theorem list_encoding_exact (n len : Nat) (dt : DataType) (h : listEncoding n = some (len, dt)) :
    len ≤ 255 ∧ ((dt = .attrList ∧ len = 2 * n) ∨ (dt = .extAttrList ∧ len + parseExtListBias = 2 * n)) := by
  simp only [parseExtListBias]
  by_cases h1 : n ≤ 127
  · rw [listEncoding_small h1] at h
    simp only [Option.some.injEq, Prod.mk.injEq] at h
    obtain ⟨rfl, rfl⟩ := h
    exact ⟨by omega, .inl ⟨rfl, rfl⟩⟩
  · by_cases h2 : n ≤ 255
    · rw [listEncoding_ext (by omega) h2] at h
      simp only [Option.some.injEq, Prod.mk.injEq] at h
      obtain ⟨rfl, rfl⟩ := h
      exact ⟨by omega, .inr ⟨rfl, by omega⟩⟩
    · rw [listEncoding_none (by omega)] at h
      cases h

/-- the parser accepts a value only if the octets present are exactly what the type code and the length octet
    imply, and conversely accepts every such octet string; the decoded value is a function of those octets -/
theorem attr_parse_accepts_only_exact (bs rest : List Nat) (v : Value) :
    parseValue bs = .ok (v, rest) ↔
      ∃ t len dt d, bs = t :: len :: (d ++ rest) ∧ typeOfCode t = some dt ∧ impliedLen dt len = some d.length ∧
        (dt = .visibleString → validUtf8 d = true) ∧ v = decodePayload dt len d :=
  @Dnp3.Proofs.C09AttrValue.attr_parse_accepts_only_exact bs rest v

/-- the typed value parser and the value-less `attrValue` of the object walk (Model/ObjectGrammar) accept the same
    octet strings, consume the same octets and report the same error -/
theorem parseValue_agrees_with_walk (bs : List Nat) : (parseValue bs).map (·.2) = attrValue bs :=
  @Dnp3.Proofs.C09AttrValue.parseValue_agrees_with_walk bs

example : (Value.int (-1)).WellFormed ∧ (Value.int (-1)).image = some [3, 1, 255] ∧
    parseValue [3, 1, 255] = .ok (.int (-1), []) := ⟨by simp [Value.WellFormed], by decide, rfl⟩
example : (Value.ostr (List.replicate 256 0)).image = none := by
  simp only [Value.image, List.length_replicate, show ¬ (256 ≤ 255) by omega, if_false]
example : parseValue [255, 1, 0] = .error (.badAttrListLength 257) ∧ parseValue [2, 3, 1, 2, 3] = .error (.badIntegerLength 3) :=
  ⟨rfl, rfl⟩

/-- the parser model of Model/Attr for one group-0 object (`parseObj`) is the real header walk restricted to that
    header form: whenever the typed value parser accepts the value, `parseOne` yields the record whose payload is exactly
    the value's octets -/
theorem parseOne_attr_object (zls : Bool) (set var : Nat) (img rest : List Nat) (v : Value)
    (hs : set < 256) (hvar : var < 256) (h0 : var ≠ 0) (h254 : var ≠ 254)
    (hv : parseValue (img ++ rest) = .ok (v, rest)) :
    parseOne false zls (objHeader set var ++ img ++ rest) =
      .ok (⟨.wild 0 var, .range false set set, .attr, img⟩, rest) ∧
    parseObj (objHeader set var ++ img ++ rest) = .ok (⟨set, var, v⟩, rest) :=
  @Dnp3.Proofs.C09AttrWalk.parseOne_attr_object zls set var img rest v hs hvar h0 h254 hv

/-- a sequence of attribute objects: the real walk accepts the concatenation and yields one record per object -/
theorem walk_attr_objects (zls : Bool) (objs : List (Obj × List Nat))
    (h : ∀ p ∈ objs, p.1.set < 256 ∧ p.1.var < 256 ∧ p.1.var ≠ 0 ∧ p.1.var ≠ 254 ∧
          ∀ rest, parseValue (p.2 ++ rest) = .ok (p.1.value, rest)) :
    walk false zls (objs.flatMap fun p => objHeader p.1.set p.1.var ++ p.2) =
      .ok (objs.map fun p => ⟨.wild 0 p.1.var, .range false p.1.set p.1.set, .attr, p.2⟩) ∧
    parseObjs (objs.flatMap fun p => objHeader p.1.set p.1.var ++ p.2) = .ok (objs.map (·.1)) :=
  @Dnp3.Proofs.C09AttrWalk.walk_attr_objects zls objs h

/-! ### the outstation's READ response (`Selection::write_all`, `write_attr_list`, `HeaderWriter::write_attribute`)

`writeAll m cap sel buf` is one call of `write_all` into a cursor of capacity `cap` already holding `buf`;
`Dnp3.Attr.allObjects m sel` is what the READ denotes, independent of any capacity. -/

/-- `write_all`: for every database, capacity, selection queue and prior cursor content, the fragment is the prior
    content plus whole objects: a prefix of what the READ denotes; the remaining queue denotes exactly the rest
    (nothing lost, nothing duplicated, nothing reordered, no partial object) -/
theorem writeAll_exact (m : SetMap) (cap : Nat) (sel : List Selected) (buf : List Nat) :
    ∃ objs : List (List Nat), (writeAll m cap sel buf).1 = buf ++ objs.flatten ∧
      Dnp3.Attr.allObjects m sel = objs ++ Dnp3.Attr.allObjects m (writeAll m cap sel buf).2 :=
  @Dnp3.Proofs.C09AttrWriter.writeAll_exact m cap sel buf

/-- the cursor never exceeds its capacity -/
theorem writeAll_within_capacity (m : SetMap) (cap : Nat) (sel : List Selected) (buf : List Nat)
    (h : buf.length ≤ cap) : (writeAll m cap sel buf).1.length ≤ cap :=
  (Dnp3.Proofs.C09AttrWriter.writeAll_run m cap sel buf).elim fun _ r => r.1.fits h

/-- the writer stops only because the next step does not fit: if something remains, the step for the head of the
    remaining queue is `blocked` at the final cursor position -/
theorem writeAll_stops_only_when_blocked (m : SetMap) (cap : Nat) (sel : List Selected) (buf : List Nat)
    (s' : Selected) (rest' : List Selected) (h : (writeAll m cap sel buf).2 = s' :: rest') :
    stepFor m cap (writeAll m cap sel buf).1.length s'.set s'.cur = .blocked :=
  (Dnp3.Proofs.C09AttrWriter.writeAll_run m cap sel buf).elim fun _ r => r.1.stop s' (by rw [h]; rfl)

/-- a series of fragments (any capacities): the fragments are whole objects, their concatenation is a prefix of what
    the READ denotes, and the final queue denotes exactly what has not been sent -/
theorem series_exact (m : SetMap) (caps : List Nat) (sel : List Selected) :
    ∃ objss : List (List (List Nat)), (series m caps sel).1 = objss.map List.flatten ∧
      Dnp3.Attr.allObjects m sel = objss.flatten ++ Dnp3.Attr.allObjects m (series m caps sel).2 := by
  induction caps generalizing sel with
  | nil => exact ⟨[], by simp [series], by simp [series]⟩
  | cons cap caps ih =>
    obtain ⟨o1, h1, h2⟩ := writeAll_exact m cap sel []
    obtain ⟨os, h3, h4⟩ := ih (writeAll m cap sel []).2
    refine ⟨o1 :: os, ?_, ?_⟩
    · simp only [series, List.map_cons, h3]
      rw [h1]; simp
    · simp only [series, List.flatten_cons]
      rw [h2, h4]; simp

open Dnp3.Proofs.C09AttrWriter in
/-- progress: with a capacity that can hold any single object (517 octets), a fragment written into an empty cursor
    either completes the READ or carries at least one object -/
theorem writeAll_progress (m : SetMap) (cap : Nat) (sel : List Selected) (hcap : 517 ≤ cap)
    (h : (writeAll m cap sel []).2 ≠ []) : (writeAll m cap sel []).1 ≠ [] := by
  intro hempty
  cases hq : (writeAll m cap sel []).2 with
  | nil => exact h hq
  | cons s' rest' =>
    have hb := writeAll_stops_only_when_blocked m cap sel [] s' rest' hq
    rw [hempty] at hb
    have hs := stepFor_is m cap ([] : List Nat).length s'.set s'.cur
    rw [hb] at hs
    cases hs with
    | blocked hs =>
      rcases hs with h5 | ⟨img, himg, hlen⟩
      · simp at h5; omega
      · have := objectFor_length m _ _ img himg
        simp at hlen; omega

open Dnp3.Proofs.C09AttrWriter in
/-- `define` keeps the database well-formed and records exactly the new attribute -/
theorem define_preserves_wf (m m' : SetMap) (set var : Nat) (w : Bool) (v : Value)
    (hm : m.WF) (hs : set < 256) (hvar : var < 256) (hv : v.WellFormed) (h : define m set var w v = .ok m') :
    m'.WF ∧ m'.get set var = some ⟨var, w, v⟩ ∧
      ∀ s x, (s, x) ≠ (set, var) → m'.get s x = m.get s x := by
  obtain ⟨hr, hg, rfl⟩ := define_ok h
  have hno := get_none_entries hr hg
  refine ⟨insertSet_wf hm hs ⟨hvar, hr, hv⟩ hno, ?_, fun s x hsx => ?_⟩ <;> rw [get_insertSet hm hno]
  · simp only [hr, Bool.false_eq_true, if_false, and_self, if_true]
  · split
    · exact (if_pos ‹_›).symm
    · exact if_neg fun h => hsx (by rw [h.1, h.2])

/-- `define` refuses a variation that is already there: a defined attribute is never overwritten -/
theorem define_never_overwrites (m : SetMap) (set var : Nat) (w : Bool) (v : Value) (e : Entry)
    (h : m.get set var = some e) : ∃ err, define m set var w v = .error err := by
  cases hd : define m set var w v with
  | error err => exact ⟨err, rfl⟩
  | ok m' => rw [(Dnp3.Proofs.C09AttrWriter.define_ok hd).2.1] at h; cases h

open Dnp3.Proofs.C09AttrOrder in
/-- `Selected::all(set)` (variations 0..=253 visited with `get`) denotes exactly the set's entries, in the database's
    (ascending) order, each once; entries whose value has no encoding are left out -/
theorem selObjects_all (m : SetMap) (hm : m.WF) (set : Nat) :
    selObjects m (Selected.all set) =
      ((m.entries set).getD []).filterMap fun e => e.value.image.map (objHeader set e.var ++ ·) := by
  show selObjects m ⟨set, 0, 253⟩ = _
  cases hes : m.entries set with
  | none =>
    refine (if_neg (by decide)).symm.trans (selObjects_range m set 0 [] (Nat.zero_le _) .nil (fun _ h => nomatch h) fun k _ _ => ?_)
    unfold SetMap.get
    rw [hes]
    split <;> rfl
  | some es =>
    obtain ⟨_, hwf, hsorted⟩ := hm.1 _ (Dnp3.Proofs.C09AttrWriter.entries_mem hes)
    have hvars : ∀ e ∈ es, 1 ≤ e.var ∧ e.var ≤ 253 := by
      intro e he
      obtain ⟨h1, h2, _⟩ := hwf e he
      have : ¬ (e.var = 0 ∨ e.var = 254 ∨ e.var = 255) := fun hh => by
        have := (reserved_iff e.var).2 hh
        rw [h2] at this; cases this
      omega
    refine (if_neg (by decide)).symm.trans (selObjects_range m set 0 es (Nat.zero_le _) hsorted
      (fun e he => ⟨Nat.zero_le _, (hvars e he).2⟩) fun k _ _ => ?_)
    unfold SetMap.get
    rw [hes]
    split
    · rename_i hres
      have hk := (reserved_iff k).1 hres
      symm
      rw [List.find?_eq_none]
      intro x hx
      have := hvars x hx
      simp only [beq_iff_eq]; omega
    · rfl

/-- the list object (g0v255) enumerates the same entries in the same order -/
theorem objectFor_list (m : SetMap) (set : Nat) (es : List Entry) (h : m.entries set = some es) :
    objectFor m set listVariation =
      (listImage (es.map fun e => (e.var, e.writable))).map (objHeader set listVariation ++ ·) := by
  unfold objectFor
  simp only [if_true, h]

open Dnp3.Proofs.C09Attr in
/-- ONE FRAGMENT.  For every well-formed attribute database, every selection queue and every
    capacity, the fragment `write_all` produces into an empty cursor is accepted by the library's
    parser, consuming every octet, as a sequence of group-0 objects each of which is what the
    database holds (`Denotes`): no fragment ends inside an object. -/
theorem response_fragment_parses_back (m : SetMap) (hm : m.WF) (cap : Nat) (sel : List Selected) (zls : Bool)
    (hsel : ∀ s ∈ sel, s.set < 256 ∧ s.cur < 256) :
    ∃ objs : List Obj, parseObjs (writeAll m cap sel []).1 = .ok objs ∧ (∀ o ∈ objs, Denotes m o) ∧
      ∃ recs, walk false zls (writeAll m cap sel []).1 = .ok recs ∧ recs.length = objs.length := by
  obtain ⟨imgs, h1, h2⟩ := writeAll_exact m cap sel []
  have hg : ∀ img ∈ imgs, Good m img := fun img hi =>
    allObjects_good m hm sel hsel img (by rw [h2]; exact List.mem_append_left _ hi)
  obtain ⟨objs, hp, hl, hd, recs, hw, hrl⟩ := good_images_parse m zls imgs hg
  rw [List.nil_append] at h1
  rw [h1]
  exact ⟨objs, hp, hd, recs, hw, by omega⟩

open Dnp3.Proofs.C09Attr in
/-- A SERIES of fragments at any capacities: every fragment is accepted by the parser as whole
    objects the database denotes, the object images of the fragments concatenated are a prefix of
    what the READ denotes, and when the series is complete they are all of it. -/
theorem response_series_parses_back (m : SetMap) (hm : m.WF) (caps : List Nat) (sel : List Selected) (zls : Bool)
    (hsel : ∀ s ∈ sel, s.set < 256 ∧ s.cur < 256) :
    (∀ frag ∈ (series m caps sel).1, ∃ objs : List Obj, parseObjs frag = .ok objs ∧ (∀ o ∈ objs, Denotes m o) ∧
        ∃ recs, walk false zls frag = .ok recs ∧ recs.length = objs.length) ∧
    (∃ rest, (Dnp3.Attr.allObjects m sel).flatten = ((series m caps sel).1).flatten ++ rest) ∧
    ((series m caps sel).2 = [] → ((series m caps sel).1).flatten = (Dnp3.Attr.allObjects m sel).flatten) := by
  obtain ⟨objss, h1, h2⟩ := series_exact m caps sel
  refine ⟨?_, ?_, ?_⟩
  · intro frag hf
    rw [h1, List.mem_map] at hf
    obtain ⟨imgs, hi, rfl⟩ := hf
    have hg : ∀ img ∈ imgs, Good m img := fun img him =>
      allObjects_good m hm sel hsel img (by
        rw [h2]; exact List.mem_append_left _ (List.mem_flatten.mpr ⟨imgs, hi, him⟩))
    obtain ⟨objs, hp, hl, hd, recs, hw, hrl⟩ := good_images_parse m zls imgs hg
    exact ⟨objs, hp, hd, recs, hw, by omega⟩
  · refine ⟨(Dnp3.Attr.allObjects m (series m caps sel).2).flatten, ?_⟩
    rw [h2, h1, List.flatten_append]
    congr 1
    simp [List.flatten_flatten]
  · intro hc
    rw [h2, h1, hc]
    simp [Attr.allObjects, List.flatten_flatten]

example : Dnp3.Proofs.C09AttrWriter.exMap.WF ∧
    (∀ s ∈ [Selected.all 1, Selected.single 1 255], s.set < 256 ∧ s.cur < 256) ∧
    (writeAll Dnp3.Proofs.C09AttrWriter.exMap 12 [Selected.all 1, Selected.single 1 255] []).1 = [0, 5, 0, 1, 1, 2, 1, 42] := by
  refine ⟨by simp [Dnp3.Proofs.C09AttrWriter.exMap, SetMap.WF, Entry.WF, Value.WellFormed, reservedVars], by decide, by decide +kernel⟩

/-- THE MASTER'S REQUEST.  FULL statement (false for the unchanged code, finding D30: `Headers::add_attribute`
    takes the variations 0 and 254, see `build_request_parses_back_counterexample`):
      ∀ cap attrs body, (∀ o ∈ attrs, o.set < 256 ∧ o.var < 256 ∧ o.value.WellFormed) →
        buildWrite cap attrs = .ok body → parseObjs body = .ok attrs
    proved for attributes whose variation is neither 0 nor 254: a request that was built is accepted by the
    parser, consuming every octet, as exactly the attributes given, in order. -/
theorem build_request_parses_back_partial (cap : Nat) (attrs : List Obj) (body : List Nat)
    (hw : ∀ o ∈ attrs, o.set < 256 ∧ o.var < 256 ∧ o.var ≠ 0 ∧ o.var ≠ 254 ∧ o.value.WellFormed)
    (h : buildWrite cap attrs = .ok body) :
    2 + body.length ≤ cap ∧ parseObjs body = .ok attrs ∧
    ∃ recs, walk false false body = .ok recs ∧ recs.length = attrs.length :=
  Proofs.C09AttrWalk.build_request_parses_back_partial cap attrs body
    (fun o ho => ⟨(hw o ho).1, (hw o ho).2.1, (hw o ho).2.2.1, (hw o ho).2.2.2.1,
      fun img rest hi => Proofs.C09AttrValue.attr_roundtrip o.value img rest (hw o ho).2.2.2.2 hi⟩) h

/-- the counterexample (replayed on the real code by engine `attr`, witness findings/D30.ops): variation 0 is built
    but the parser rejects it as an unknown object … -/
theorem build_request_parses_back_counterexample :
    buildWrite 2048 [⟨1, 0, .uint 42⟩] = .ok [0, 0, 0, 1, 1, 2, 1, 42] ∧
    parseObj [0, 0, 0, 1, 1, 2, 1, 42] = .error (.unknownGroupVariation 0 0) ∧
    parseOne false false [0, 0, 0, 1, 1, 2, 1, 42] = .error (.unknownGroupVariation 0 0) ∧
    -- … and variation 254 is built, but the parser reads a value-less g0v254 header and takes the value for the next header
    buildWrite 2048 [⟨1, 254, .uint 42⟩] = .ok [0, 254, 0, 1, 1, 2, 1, 42] ∧
    parseOne false false [0, 254, 0, 1, 1, 2, 1, 42] = .ok (⟨.fixed 0 254, .range false 1 1, .none, []⟩, [2, 1, 42]) :=
  ⟨rfl, rfl, rfl, rfl, rfl⟩

end Attr

/-! ## file-transfer objects (group 70, free-format qualifier 0x5B): the seven objects, the free-format header, the master's file requests

Model `Dnp3.Model.File70` (tied to the code by the regenerated `Gen/File70` — field order and widths of every `write` /
`read`, offset constants, `byte_length`, enum codes, permission bits, the struct literals of the master's builders,
the steps of `write_free_format` — and by differential execution, engine `file70`).  Strings are their UTF-8 octets:
a name whose octet length differs from its character count is an ordinary value here.  Enumerations (`FileStatus`,
`FileType`, `FileMode`) are their wire codes: `Other(x)` / `Reserved(x)` with a named code is a second in-memory
spelling of the same wire value (e.g. `GetFileInfoTask` writes `FileType::Other(0)`, which reads back as `Directory`).
`Group70Var6::write` and `Group70Var8::write` exist only under `#[cfg(test)]`; the outstation of this library version
emits no group-70 object at all.  No statement of this section fails on the unchanged code. -/
section File70
open Dnp3.File70 Dnp3.Gen.File70
/- `ExactObj v bs rest o` (Proofs/C09File70): `o` has variation `v`, is a value its struct can hold (`o.WF`), every size /
   offset field is expressible (`o.Encodable`), and there is a raw 16-bit permission field `raw` with
   `o.withPerm (permOf raw) = o` and `bs = encodeRaw raw o ++ rest` — the octets are exactly the encoding of `o` (offsets
   the constants, size fields the octet lengths of the strings) followed by `rest`.
   `freeRec o`: the record ⟨g70 v, free-format count 1 length |encode o|, file v, encode o⟩ of the object walk. -/
open Dnp3.Proofs.C09File70 (ExactObj freeRec)

/-- what each `write` function writes, in order, with which width: the model's field list is the regenerated one -/
theorem layout_tied : ∀ o : FileObj, writeLayout.lookup o.variation = some o.layout := by
  intro o; cases o <;> rfl

/-- every `read` function reads the widths its `write` function writes, in the same order -/
theorem read_layout_tied : ∀ v ∈ [2, 3, 4, 5, 6, 7, 8],
    (readLayout.lookup v).map (·.map (·.2)) = (writeLayout.lookup v).map (·.map (·.2)) :=
  by decide

/-- the early returns of the `read` functions are the ones the model transcribes: the offset comparisons against the
    constants, the checked sum of g70v2, one `from_utf8` per string; each `read_bytes` takes the size read for it -/
theorem read_checks_tied :
    readChecks = [
      (2, ["user_name_offset!=USER_NAME_OFFSET", "password_offset!=implied_password_offset",
           "implied_password_offset=USER_NAME_OFFSET+user_name_length", "utf8*2",
           "u16binds:user_name_offset,user_name_length,password_offset,password_length"]),
      (3, ["file_name_offset!=FILE_NAME_OFFSET", "utf8*1", "u16binds:file_name_offset,file_name_length,max_block_size,request_id"]),
      (4, ["utf8*1", "u16binds:max_block_size,request_id"]),
      (5, ["utf8*0", "u16binds:"]),
      (6, ["utf8*1", "u16binds:"]),
      (7, ["file_name_offset!=FILE_NAME_OFFSET", "utf8*1", "u16binds:file_name_offset,file_name_length,request_id"]),
      (8, ["utf8*1", "u16binds:"])] ∧
    (readLayout.lookup 2).map (·.filterMap fun r => if r.2 = "bytes" then some r.1 else none) = some ["user_name_length", "password_length"] ∧
    (readLayout.lookup 3).map (·.filterMap fun r => if r.2 = "bytes" then some r.1 else none) = some ["file_name_length"] ∧
    (readLayout.lookup 7).map (·.filterMap fun r => if r.2 = "bytes" then some r.1 else none) = some ["file_name_length"] ∧
    offsetConsts = [(2, "USER_NAME_OFFSET", g70v2UserNameOffset), (3, "FILE_NAME_OFFSET", g70v3FileNameOffset),
      (7, "FILE_NAME_OFFSET", g70v7FileNameOffset)] :=
  ⟨rfl, rfl, rfl, rfl, rfl⟩

/-- **the size fields count octets**: `byte_length` hands `s.len()` — the length of the string in octets — to `to_u16` -/
theorem byte_length_counts_octets : byteLengthExpr = "s.len()" :=
  rfl

/-- the enumerations are coded injectively (`new` and `to_u8` / `to_u16` were checked to be mutually inverse by the
    translator), so a wire code stands for one value -/
theorem enum_codes_distinct :
    (fileStatusCodes.map (·.1)).Nodup ∧ (fileStatusCodes.map (·.2)).Nodup ∧ (∀ p ∈ fileStatusCodes, p.1 < 256) ∧
    (fileTypeCodes.map (·.1)).Nodup ∧ (fileTypeCodes.map (·.2)).Nodup ∧
    (fileModeCodes.map (·.1)).Nodup ∧ (fileModeCodes.map (·.2)).Nodup ∧ blockTopBit = 2 ^ 31 :=
  by decide

/-- the permission bits: the bit `Permissions::read` tests for (who, what) is the bit `Permissions::value` sets for it,
    and the nine bits are exactly bits 0..8 (`permOf` keeps them, the seven others are ignored) -/
theorem permission_bits_consistent :
    (∀ r ∈ permReadBits, ∃ s ∈ permShifts, ∃ b ∈ permSetBits, s.1 = r.1 ∧ b.1 = r.2.1 ∧ 2 ^ r.2.2 = b.2 * 2 ^ s.2) ∧
    permReadBits.map (·.2.2) = [0, 1, 2, 3, 4, 5, 6, 7, 8] ∧ permReadBits.length = permShifts.length * permSetBits.length :=
  by decide

/-- the struct literals of the master's request builders are the ones the model's `authRequest` … `readBlockRequest`
    transcribe, the function codes are the ones `RTask.request` and the driver use, `write_free_format` has the
    steps `writeFreeFormat` models, and only g70v2 / v3 / v4 / v5 / v7 have a writer -/
theorem builders_tied :
    builders = [
      ("mod::write_auth", 2, [("auth_key", "0"), ("user_name", "&credentials.user_name"), ("password", "&credentials.password")]),
      ("mod::write_close", 4, [("file_handle", "handle.into()"), ("file_size", "0"), ("max_block_size", "0"),
        ("request_id", "REQUEST_ID"), ("status_code", "FileStatus::Success"), ("text", "\"\"")]),
      ("authenticate::write", 2, [("auth_key", "0"), ("user_name", "&self.credentials.user_name"), ("password", "&self.credentials.password")]),
      ("open::write", 3, [("time_of_creation", "Timestamp::zero()"), ("permissions", "self.request.permissions"),
        ("auth_key", "self.request.auth_key.into()"), ("file_size", "self.request.file_size"), ("mode", "self.request.file_mode"),
        ("max_block_size", "self.request.max_block_size"), ("request_id", "REQUEST_ID"), ("file_name", "&self.request.file_name")]),
      ("close::write", 4, [("file_handle", "self.handle.into()"), ("file_size", "0"), ("max_block_size", "0"),
        ("request_id", "REQUEST_ID"), ("status_code", "FileStatus::Success"), ("text", "\"\"")]),
      ("get_info::write", 7, [("file_type", "FileType::Other(0)"), ("file_size", "0"), ("time_of_creation", "Timestamp::zero()"),
        ("permissions", "Default::default()"), ("request_id", "0xCAFE"), ("file_name", "self.file_name.as_str()")]),
      ("write_block::write", 5, [("file_handle", "self.request.handle.into()"), ("block_number", "self.request.block_number.wire_value()"),
        ("file_data", "&self.request.block_data")]),
      ("read::write_open", 3, [("time_of_creation", "Timestamp::zero()"), ("permissions", "Permissions::default()"),
        ("auth_key", "key.into()"), ("file_size", "0"), ("mode", "FileMode::Read"), ("max_block_size", "settings.config.max_block_size"),
        ("request_id", "REQUEST_ID"), ("file_name", "&settings.name.0")]),
      ("read::write_read", 5, [("file_handle", "rs.handle.into()"), ("block_number", "rs.block.wire_value()"), ("file_data", "&[]")])] ∧
    taskFunctions = [("authenticate", ["AuthenticateFile"]), ("open", ["OpenFile"]), ("close", ["CloseFile"]),
      ("get_info", ["GetFileInfo"]), ("write_block", ["Write"]), ("read", ["AuthenticateFile", "CloseFile", "OpenFile", "Read"])] ∧
    (("AuthenticateFile", fnAuthenticateFile) ∈ functionCodes ∧ ("OpenFile", fnOpenFile) ∈ functionCodes ∧
      ("CloseFile", fnCloseFile) ∈ functionCodes ∧ ("GetFileInfo", fnGetFileInfo) ∈ functionCodes ∧
      ("Write", File70.fnWrite) ∈ functionCodes ∧ ("Read", fnRead) ∈ functionCodes) ∧
    (fileModeCodes.lookup 1 = some "Read" ∧ fileStatusCodes.lookup 0 = some "Success") ∧
    freeFormatWriters = [2, 3, 4, 5, 7] ∧
    writeFreeFormatSteps = ["variation", "qualifier:FreeFormat16", "count:1", "skip:2", "object", "length:u16:checked", "patch:length"] ∧
    Dnp3.Gen.File70.requestId < 2 ^ 16 :=
  ⟨rfl, rfl, by decide, by decide, rfl, rfl, Dnp3.Proofs.C09File70.requestId_lt⟩

/-- **parse (encode o) = o**, consuming exactly the encoded octets: every variation, every field value, every
    string (as its UTF-8 octets) whose sizes the 16-bit size / offset fields can express -/
theorem file_object_roundtrip (o : FileObj) (hwf : o.WF) (he : o.Encodable) :
    parseObj o.variation (encode o) = .ok (o, []) := by
  simpa only [List.append_nil] using Dnp3.Proofs.C09File70.roundtrip_rest o [] hwf he (.inl rfl)

/-- the objects that carry their own sizes (g70v2, v3, v7) are parsed back whatever follows them: the size
    fields alone decide how many octets are consumed (a directory listing is a concatenation of g70v7 objects) -/
theorem file_object_roundtrip_sized (o : FileObj) (rest : List Nat) (hwf : o.WF) (he : o.Encodable)
    (hv : o.variation = 2 ∨ o.variation = 3 ∨ o.variation = 7) :
    parseObj o.variation (encode o ++ rest) = .ok (o, rest) :=
  Dnp3.Proofs.C09File70.roundtrip_rest o rest hwf he (.inr hv)

/-- **the parser accepts an object only if the octets are exactly what it implies**: an accepted object has the
    variation asked for, is a value the struct can hold, its offsets are the constants and its size fields the
    lengths of its strings (the octets are `encodeRaw raw o`: the encoding of `o`, the seven reserved bits of a
    permission field being whatever `raw` holds), nothing is skipped, and the objects without size fields
    (g70v4, v5, v6, v8) take everything -/
theorem file_parse_accepts_only_exact (v : Nat) (bs rest : List Nat) (o : FileObj) (hb : allOctets bs)
    (h : parseObj v bs = .ok (o, rest)) :
    ExactObj v bs rest o ∧ ((v = 4 ∨ v = 5 ∨ v = 6 ∨ v = 8) → rest = []) :=
  @Dnp3.Proofs.C09File70.file_parse_accepts_only_exact v bs rest o hb h

/-- the raw permission field of an object is its nine bits when the struct wrote it -/
theorem encodeRaw_canonical (o : FileObj) (pm : Nat) (h : o.withPerm pm = o) : encodeRaw pm o = encode o := by
  cases o <;> simp_all [FileObj.withPerm, encodeRaw, encode, FileObj.fields, Fld.image, Kind.width, File70.le16, List.append_assoc]

/-- the typed parser and the value-less `fileRead` of the object walk (Model/ObjectGrammar) accept the same octet
    strings, leave the same remainder of the sub-cursor and report the same error, for every variation -/
theorem parseObj_agrees_with_fileRead (v : Nat) (bs : List Nat) : (parseObj v bs).map (·.2) = fileRead v bs := by
  open Dnp3.Proofs.C09File70 in
  unfold parseObj
  by_cases h2 : v = 2
  · subst h2; exact agree_auth bs
  by_cases h3 : v = 3
  · subst h3; exact sized_agree _ _ _ bs
  by_cases h4 : v = 4
  · subst h4; exact tail_agree _ _ _ bs
  by_cases h5 : v = 5
  · subst h5; exact tail_agree [4, 4] (fun _ => true) _ bs
  by_cases h6 : v = 6
  · subst h6; exact tail_agree _ _ _ bs
  by_cases h7 : v = 7
  · subst h7; exact sized_agree _ _ _ bs
  by_cases h8 : v = 8
  · subst h8; exact tail_agree [] validUtf8 (fun _ s => .spec s) bs
  simp only [h2, h3, h4, h5, h6, h7, h8, ↓reduceIte, fileRead, Except.map]

/-- `write_free_format` succeeds exactly when no size overflows and header + object fit; then it has written
    exactly the six header octets (count 1, the length of the object) and the object -/
theorem writeFreeFormat_ok_iff (room : Nat) (o : FileObj) (img : List Nat) :
    writeFreeFormat room o = .ok img ↔
      o.Encodable ∧ (encode o).length ≤ 65535 ∧ 6 + (encode o).length ≤ room ∧
      img = freeHeader o.variation (encode o).length ++ encode o :=
  @Dnp3.Proofs.C09File70.writeFreeFormat_ok_iff room o img

open Dnp3.Proofs.C09File70 in
theorem free_header_parses_back (isRead zls : Bool) (o : FileObj) (rest : List Nat) (hwf : o.WF) (he : o.Encodable)
    (hl : (encode o).length ≤ 65535) :
    parseOne isRead zls (freeHeader o.variation (encode o).length ++ encode o ++ rest) = .ok (freeRec o, rest) := by
  obtain ⟨hlk, htab⟩ := lookup70 _ (variation_mem o)
  have hfr : fileRead o.variation (encode o) = .ok [] := by
    rw [← parseObj_agrees_with_fileRead, file_object_roundtrip o hwf he]; rfl
  have hs := parseSpec_qualifier (.free 1 (encode o).length) (1 :: (File70.le16 (encode o).length ++ (encode o ++ rest)))
  simp only [parseFree, readU8, ne_eq, not_true_eq_false, if_false, readU16_le16 _ hl] at hs
  simp only [freeHeader, List.cons_append, List.nil_append, List.append_assoc, parseOne, hlk,
    show qFreeFormat16 = (Spec.free 1 (encode o).length).qualifier from rfl, hs, parseBody, takeE_iff.2 ⟨rfl, rfl⟩, htab, hfr,
    List.isEmpty_nil, freeRec, if_true]

/-- **a free-format header is accepted only if the octets present are exactly what it implies**: the count is 1,
    the 16-bit length is the length of the object, the input is the header image followed by the rest, and the
    object inside is an exact encoding (offsets the constants, size fields the string lengths, nothing left over) -/
theorem free_header_accepts_only_exact (isRead zls : Bool) (bs rest : List Nat) (rec : HeaderRec) (c len : Nat)
    (h : parseOne isRead zls bs = .ok (rec, rest)) (ok : bytesOk bs) (hs : rec.spec = .free c len) :
    c = 1 ∧ len = rec.payload.length ∧ bs = rec.image ++ rest ∧
      ∃ v o, rec.kind = .file v ∧ parseObj v rec.payload = .ok (o, []) ∧ ExactObj v rec.payload [] o := by
  obtain ⟨himg, hrec⟩ := parseOne_exact h ok
  obtain ⟨hc, v, hk, hfr⟩ := hrec.free c len hs
  have hlen : rec.payload.length = len := hrec.len len (by rw [hk, hs]; rfl)
  have hpay : allOctets rec.payload := Dnp3.Proofs.C09File70.payload_octets himg ok
  have hag := parseObj_agrees_with_fileRead v rec.payload
  rw [hfr] at hag
  cases hp : parseObj v rec.payload with
  | error e => rw [hp] at hag; cases hag
  | ok x =>
    obtain ⟨o, r⟩ := x
    rw [hp] at hag
    simp only [Except.map] at hag
    injection hag with hag; subst hag
    exact ⟨hc, hlen.symm, himg, v, o, hk, hp, (file_parse_accepts_only_exact v _ _ o hpay hp).1⟩

open Dnp3.Proofs.C09File70 in
/-- **a file request is written completely and parses back to the object that was built, or the write fails.**
    `start_request(control, function)` + `write_free_format(o)` into `cap` octets: either the write fails —
    exactly when a size field overflows, the object is longer than 65535 octets or header + object do not fit — or
    the fragment fits the buffer, its application header parses back to the control field and function written,
    its object section is exactly one free-format header (count 1, length = the object's length), and the object
    in it parses back to `o`, every octet consumed. -/
theorem file_request_roundtrip_or_write_error (cap : Nat) (fir fin con uns : Bool) (seq : Fin 16) (fn : Nat) (o : FileObj)
    (hf : knownFunction fn = true) (hr : isResponseFn fn = false) (hwf : o.WF) :
    let ctl : Control := ⟨fir, fin, con, uns, seq.val⟩
    ((∃ e, buildRequest cap ctl.toByte fn o = .error e) ∧
      (¬ o.Encodable ∨ 65535 < (encode o).length ∨ cap < 8 + (encode o).length)) ∨
    (∃ frag, buildRequest cap ctl.toByte fn o = .ok frag ∧ frag.length = 8 + (encode o).length ∧ frag.length ≤ cap ∧
      parseHeader frag = .ok ⟨ctl, fn, none, (freeRec o).image⟩ ∧
      walk (fn == fnRead) false (freeRec o).image = .ok [freeRec o] ∧
      (freeRec o).spec = .free 1 (encode o).length ∧
      parseObj o.variation (freeRec o).payload = .ok (o, [])) := by
  intro ctl
  cases hb : buildRequest cap ctl.toByte fn o with
  | error e =>
    left
    refine ⟨⟨e, rfl⟩, ?_⟩
    by_cases h1 : o.Encodable
    · by_cases h2 : 65535 < (encode o).length
      · exact Or.inr (Or.inl h2)
      · by_cases h3 : cap < 8 + (encode o).length
        · exact Or.inr (Or.inr h3)
        · have := (buildRequest_ok_iff cap ctl.toByte fn o _).mpr ⟨h1, by omega, by omega, rfl⟩
          rw [hb] at this; cases this
    · exact Or.inl h1
  | ok frag =>
    right
    obtain ⟨he, h5, hc, hfr⟩ := (buildRequest_ok_iff _ _ _ _ _).mp hb
    have himg := freeRec_image o h5
    have hpo := free_header_parses_back (fn == fnRead) false o [] hwf he h5
    rw [List.append_nil, ← himg] at hpo
    have hlen : frag.length = 8 + (encode o).length := by
      rw [hfr]; simp only [List.length_append, freeHeader_length, List.length_cons, List.length_nil]
    refine ⟨frag, rfl, hlen, by omega, ?_, walk_single hpo, rfl, file_object_roundtrip o hwf he⟩
    have : frag = writeRequestHeader ctl fn ++ (freeRec o).image := by
      rw [hfr, himg]; simp [writeRequestHeader]
    rw [this]
    exact request_header_roundtrip fir fin con uns seq fn _ hf hr

open Dnp3.Proofs.C09File70 in
/-- every object the master's file tasks build is a value of its struct whenever the arguments are values of their
    Rust types (strings UTF-8, `u32` / `u16` numbers, nine permission bits) -/
theorem master_request_objects_wf (name user pass data : List Nat) (key size mode perm maxBlock handle block : Nat)
    (hn : isStr name) (hu : isStr user) (hp : isStr pass) (hd : allOctets data)
    (hk : key < 2 ^ 32) (hs : size < 2 ^ 32) (hm : mode < 2 ^ 16) (hpm : perm < 512) (hmb : maxBlock < 2 ^ 16)
    (hh : handle < 2 ^ 32) (hb : block < 2 ^ 32) :
    (authRequest user pass).WF ∧ (openRequest name key size mode perm maxBlock).WF ∧ (closeRequest handle).WF ∧
    (infoRequest name).WF ∧ (writeBlockRequest handle block data).WF ∧ (readOpenRequest name key maxBlock).WF ∧
    (readBlockRequest handle block).WF := by
  have hr := requestId_lt
  refine ⟨⟨by omega, hu, hp⟩, ⟨by omega, hpm, hk, hs, hm, hmb, hr, hn⟩, ⟨hh, by omega, by omega, hr, by omega, isStr_nil⟩,
    ⟨by omega, by omega, by omega, by omega, by omega, hn⟩, ⟨hh, hb, hd⟩, ⟨by omega, by omega, hk, by omega, by omega, hmb, hr, hn⟩,
    ⟨hh, hb, (fun _ h => nomatch h)⟩⟩

/-- a directory listing made of well-formed file descriptors is read back as exactly those descriptors -/
theorem directory_roundtrip (objs : List FileObj) (h : ∀ o ∈ objs, o.variation = 7 ∧ o.WF ∧ o.Encodable) :
    parseDir (objs.flatMap encode) = some objs :=
  Dnp3.Proofs.C09File70.parseDirFuel_roundtrip objs _ (Nat.le_refl _) h

/-! ### the file read task (`master/tasks/file/read.rs`): AUTHENTICATE, OPEN, READ …, CLOSE

`RTaskWF t` (Proofs/C09File70): the task holds values of its Rust types — file name (and credentials) UTF-8, block size
a `u16`, auth key / file handle / block number `u32`.  `runResponses t rs`: the task after the responses `rs` (each the
object octets of a response fragment), `none` once a response ended it. -/
open Dnp3.Proofs.C09File70 (RTaskWF runResponses)

open Dnp3.Proofs.C09File70 in
/-- whatever response arrives, the follow-up task again holds values of its Rust types -/
theorem rtask_handle_wf (t t' : RTask) (objs : List Nat) (cbs : List RCb) (h : RTaskWF t) (hb : allOctets objs)
    (hh : t.handle objs = (some t', cbs)) : RTaskWF t' := by
  obtain ⟨hn, hmb, hs⟩ := h
  unfold RTask.handle at hh
  cases hst : t.state <;> rw [hst] at hh hs <;> simp only at hh
  case close => cases hh
  -- the three other states: one header `r`, whose object `o` parses, hence is a value of its struct
  all_goals
    split at hh
    · cases hh
    rename_i r hhdr
    split at hhdr
    case h_2 => cases hhdr
    rename_i hw
    cases hhdr
    split at hh
    case h_2 => cases hh
    rename_i ho
    split at ho
    case h_2 => cases ho
    split at ho
    case h_2 => cases ho
    rename_i hp
    cases ho
    have hwf := response_object_wf hb hw hp
  · -- `getAuth`: the key of the g70v2 reply
    split at hh <;> cases hh
    exact ⟨hn, hmb, hwf.1⟩
  · -- `openFile`: the handle of the g70v4 reply
    split at hh <;> cases hh
    exact ⟨hn, hmb, hwf.1, by omega⟩
  · -- `read`: the next block number stays below `blockTop`, or the task goes on to CLOSE
    have hbt := blockTop_eq
    split at hh
    · cases hh
    split at hh
    · cases hh
    split at hh
    · cases hh; exact ⟨hn, hmb, hs.1⟩
    split at hh <;> cases hh
    exact ⟨hn, hmb, hs.1, by have := hwf.2.1; omega⟩

open Dnp3.Proofs.C09File70 in
/-- **every request the file read task ever sends parses back.**  From a task started with a UTF-8 file name (and
    credentials), after ANY sequence of responses (octet strings), the request of the state reached — AUTHENTICATE
    g70v2, OPEN g70v3, READ g70v5, CLOSE g70v4 — is an object of its struct; so by
    `file_request_roundtrip_or_write_error` it is written completely and parsed back to what was built, or the write
    fails -/
theorem read_task_requests_wf (t t' : RTask) (responses : List (List Nat)) (h : RTaskWF t)
    (hb : ∀ objs ∈ responses, allOctets objs) (hr : runResponses t responses = some t') :
    RTaskWF t' ∧ t'.request.2.WF := by
  induction responses generalizing t with
  | nil => simp only [runResponses] at hr; injection hr with hr; subst hr; exact ⟨h, rtask_request_wf t h⟩
  | cons objs rest ih =>
    simp only [runResponses] at hr
    cases hh : t.handle objs with
    | mk nx cbs =>
      rw [hh] at hr
      cases nx with
      | none => simp at hr
      | some t1 =>
        simp only at hr
        exact ih t1 (rtask_handle_wf t t1 objs cbs h (hb objs List.mem_cons_self) hh)
          (fun o ho => hb o (List.mem_cons_of_mem _ ho)) hr

example : RTaskWF ⟨[0x64, 0xC3, 0xA9], 1024, 4096, .openFile 0⟩ ∧
    runResponses ⟨[0x64, 0xC3, 0xA9], 1024, 4096, .openFile 0⟩ [[70, 4, 0x5B, 1, 13, 0, 9, 0, 0, 0, 100, 0, 0, 0, 0, 2, 0x53, 0x46, 0]] =
      some ⟨[0x64, 0xC3, 0xA9], 1024, 4096, .read 9 0 0⟩ := by
  refine ⟨⟨?_, by decide, (by show (0 : Nat) < 2 ^ 32; decide)⟩, ?_⟩
  · simp only [isStr, allOctets]; decide
  · have hw : walk false false [70, 4, 0x5B, 1, 13, 0, 9, 0, 0, 0, 100, 0, 0, 0, 0, 2, 0x53, 0x46, 0] =
        .ok [⟨.fixed 70 4, .free 1 13, .file 4, [9, 0, 0, 0, 100, 0, 0, 0, 0, 2, 0x53, 0x46, 0]⟩] :=
      Dnp3.App.walk_single rfl
    have hp : parseObj 4 [9, 0, 0, 0, 100, 0, 0, 0, 0, 2, 0x53, 0x46, 0] = .ok (.commandStatus 9 100 512 18003 0 [], []) := rfl
    simp only [runResponses, RTask.handle, hw, hp]
    rfl

/-! ### non-vacuity: names whose octet length is not their character count -/

/-- "dé" (3 octets, 2 characters) as the name of a file descriptor -/
example : (FileObj.descriptor 1 0 0 0x1FF 7 [0x64, 0xC3, 0xA9]).WF ∧ (FileObj.descriptor 1 0 0 0x1FF 7 [0x64, 0xC3, 0xA9]).Encodable ∧
    encode (.descriptor 1 0 0 0x1FF 7 [0x64, 0xC3, 0xA9]) = [20, 0, 3, 0, 1, 0, 0, 0, 0, 0, 0, 0, 0, 0, 0, 0, 0xFF, 1, 7, 0, 0x64, 0xC3, 0xA9] ∧
    parseObj 7 [20, 0, 3, 0, 1, 0, 0, 0, 0, 0, 0, 0, 0, 0, 0, 0, 0xFF, 1, 7, 0, 0x64, 0xC3, 0xA9] = .ok (.descriptor 1 0 0 0x1FF 7 [0x64, 0xC3, 0xA9], []) := by
  refine ⟨?_, ?_, rfl, rfl⟩
  · simp only [FileObj.WF, isStr, allOctets]; decide
  · simp only [FileObj.Encodable, FileObj.fields]; decide
/-- the same octets with the size field holding the character count (2) are rejected: an octet is left in the sub-cursor -/
example : parseOne false false ([70, 7, 0x5B, 1, 23, 0] ++ [20, 0, 2, 0, 1, 0, 0, 0, 0, 0, 0, 0, 0, 0, 0, 0, 0xFF, 1, 7, 0, 0x64, 0xC3, 0xA9]) = .error .badEncoding := by
  rfl
/-- a four-octet character as a password -/
example : (FileObj.auth 0 [0x72] [0xF0, 0x9F, 0x93, 0x84]).WF ∧ (FileObj.auth 0 [0x72] [0xF0, 0x9F, 0x93, 0x84]).Encodable ∧
    parseObj 2 (encode (.auth 0 [0x72] [0xF0, 0x9F, 0x93, 0x84])) = .ok (.auth 0 [0x72] [0xF0, 0x9F, 0x93, 0x84], []) := by
  refine ⟨?_, ?_, rfl⟩
  · simp only [FileObj.WF, isStr, allOctets]; decide
  · simp only [FileObj.Encodable, FileObj.fields]; decide
example : knownFunction fnAuthenticateFile = true ∧ isResponseFn fnAuthenticateFile = false ∧ isStr [0x64, 0xC3, 0xA9] := by
  refine ⟨by decide, by decide, ?_⟩
  simp only [isStr, allOctets]; decide
/-- a size the 16-bit field cannot express: `write` fails with `Overflow`, nothing is sent -/
example : ∀ n : List Nat, 65535 < n.length → ¬ (FileObj.descriptor 0 0 0 0 0 n).Encodable := by
  intro n hn he
  have := (Dnp3.Proofs.C09File70.encodable_iff _).mp he
  omega

end File70

end Dnp3.Props.C09
