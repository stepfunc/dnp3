import Dnp3.Model.OutstationTrace
import Dnp3.Proofs.OutstationC12Db
/-!
# C12 — Outstation replies are well-formed, correlated, bounded, and report rejections

Property theorems over the outstation session model for ALL states / requests / histories.
Definitions used in the statements (`Inv`, `DbContract`, `TxShape`, `SolResp`, `UnsolResp`,
`SentOne`, `HasBits`, `Correlated`, `CbOnly`, `Good`) and the lemmas used are in `Dnp3.Proofs.OutstationC12`.
Known defect (kept as an exact characterisation + counterexamples): D13 (SELECT / OPERATE / DIRECT_OPERATE
echo silently truncated).  D1 (an OPERATE whose echo overflows panicked the task) is repaired:
`handleControls_total`, `operate_echo_overflow_clean`.  D7 (WRITE reported only the last
header's result) is repaired: `write_rejection_flagged` is the full statement.
-/
namespace Dnp3.Props.C12
open Dnp3 Dnp3.Proofs.C12
open Dnp3.Proofs.Frame (nonReadRes handleNonRead_eq classify_repeat parseRequest_func txFrags_append txFrags_cbs)
open Dnp3.Proofs.Skel (idleStage1 idleStage2 handleRequestFromIdle_eq)

/-- every unsolicited response header has UNS, FIR, FIN and CON and function 0x82 -/
theorem unsolicited_header_shape (seq size : Nat) (h : seq < 16) :
    (unsolHeader seq size).func = 0x82 ∧ ((unsolHeader seq size).ctrl.toNat &&& 0xF0) = 0xF0 ∧
    ((unsolHeader seq size).ctrl.toNat &&& 0x0F) = seq := by
  have : ∀ s : Fin 16, ((AppCtrl.mk true true true true s.val).toNat &&& 0xF0) = 0xF0 ∧
      ((AppCtrl.mk true true true true s.val).toNat &&& 0x0F) = s.val := by decide
  exact ⟨rfl, this ⟨seq, h⟩⟩

/-- an empty solicited response has UNS clear, FIR and FIN set, the request's sequence number
    and carries the given IIN2 -/
theorem empty_solicited_shape (seq iin2 : Nat) (h : seq < 16) :
    (emptySolicited seq iin2).func = 0x81 ∧ ((emptySolicited seq iin2).ctrl.toNat &&& 0x10) = 0 ∧
    ((emptySolicited seq iin2).ctrl.toNat &&& 0xC0) = 0xC0 ∧
    ((emptySolicited seq iin2).ctrl.toNat &&& 0x0F) = seq ∧ (emptySolicited seq iin2).iin2 = iin2 := by
  have : ∀ s : Fin 16, ((AppCtrl.mk true true false false s.val).toNat &&& 0x10) = 0 ∧
      ((AppCtrl.mk true true false false s.val).toNat &&& 0xC0) = 0xC0 ∧
      ((AppCtrl.mk true true false false s.val).toNat &&& 0x0F) = s.val := by decide
  exact ⟨rfl, (this ⟨seq, h⟩).1, (this ⟨seq, h⟩).2.1, (this ⟨seq, h⟩).2.2, rfl⟩

/-- the invariant is preserved by every step, from ANY state satisfying it -/
theorem step_preserves_inv {cfg : OCfg} (hdb : DbContract) (env : OEnv) {s : OState} (h : Inv cfg s) (inp : OInput) :
    Inv cfg (Outstation.step env s inp).1 :=
  @Dnp3.Proofs.C12.step_preserves_inv cfg hdb env s h inp

/-- **tx_shape**: every `.tx` output of a step from a state satisfying the invariant is well-formed -/
theorem step_tx_shape {cfg : OCfg} (hdb : DbContract) (env : OEnv) {s : OState} (h : Inv cfg s) (inp : OInput)
    (dst : Nat) (b : List Nat) (hb : OOut.tx dst b ∈ (Outstation.step env s inp).2) : TxShape cfg dst b :=
  @Dnp3.Proofs.C12.step_tx_shape cfg hdb env s h inp dst b hb

theorem reachable_inv {cfg : OCfg} (hdb : DbContract) {evMax : Nat} {env : OEnv} (hsol : 10 ≤ cfg.sol)
    (hunsol : 4 ≤ cfg.unsol) {s : OState} (hr : Outstation.Reachable cfg evMax env s) : Inv cfg s :=
  @Dnp3.Proofs.C12.reachable_inv cfg hdb evMax env hsol hunsol s hr

/-- `trace_tx_shape` with the database contract discharged (`dbContract`: the response writers of
    `Dnp3.Model.Database` never exceed the capacity they are given): unconditional over the whole model -/
theorem trace_tx_shape_closed {cfg : OCfg} (env : OEnv) (evMax : Nat) (hsol : 10 ≤ cfg.sol)
    (hunsol : 4 ≤ cfg.unsol) (inputs : List OInput) :
    ∀ outs ∈ (Outstation.start cfg evMax).2 :: (Outstation.run env (Outstation.start cfg evMax).1 inputs).2,
      ∀ dst b, OOut.tx dst b ∈ outs → TxShape cfg dst b :=
  trace_tx_shape dbContract env evMax hsol hunsol inputs

/-- **solicited_correlated** (idle path): whatever `handle_one_request_from_idle` appends to the
    output is callbacks plus at most one transmission, and that transmission is correlated with
    the request (this includes the echo of a stored response for a repeated request, by the invariant) -/
theorem solicited_correlated_idle {cfg : OCfg} (hdb : DbContract) {a a' : Acc} (h : Good cfg a) {f : Frag}
    {ctrl : AppCtrl} {func : Nat} {objects : Except Nat (List ObjHdr)} {raw : List Nat}
    (hreq : parseRequest f.data = .request ctrl func objects raw) {series : Option Series}
    (hh : handleRequestFromIdle a f ctrl func objects raw = some (a', series)) :
    ∃ l, a'.2 = a.2 ++ l ∧ (∀ o ∈ l, Correlated f.src ctrl func o) ∧ (txFrags l).length ≤ 1 := by
  have hseq := parseRequest_seq_lt hreq
  have hfn := parseRequest_func hreq
  cases hi : idleStage1 a f ctrl func objects raw with
  | none => rw [handleRequestFromIdle_eq, hi] at hh; unfold idleStage2 at hh; simp at hh
  | some p =>
    obtain ⟨a1, olr⟩ := p
    obtain ⟨l1, e1, c1⟩ := (idleStage1_frame hi).1
    have hpre := (h.idleStage1 hdb hseq hfn hi).2
    have cbCorr : ∀ o ∈ l1, Correlated f.src ctrl func o := fun o ho => by
      obtain ⟨c, rfl⟩ := c1 o ho; trivial
    -- nothing is transmitted unless a response record is handed to the writer
    have silent : (∀ lr e, olr = some (lr, e) → lr.response = none) →
        ∃ l, a'.2 = a.2 ++ l ∧ (∀ o ∈ l, Correlated f.src ctrl func o) ∧ (txFrags l).length ≤ 1 := fun hsil =>
      ⟨l1, idle_silent hi hsil hh ▸ e1, cbCorr, by rw [txFrags_cbs l1 c1]; simp⟩
    rcases olr with _ | ⟨lr, e⟩
    · exact silent fun _ _ hl => nomatch hl
    cases hr : lr.response with
    | none => exact silent fun _ _ hl => by cases hl; exact hr
    | some r =>
      obtain ⟨r', ⟨rest, hs⟩, h1, h2, h3, h4, h5, _, _⟩ := idle_sends hi hr hh
      obtain ⟨p1, p2, p3, p4⟩ := (hpre lr e rfl).1.2.2 r hr
      refine ⟨l1 ++ [.tx f.src (respHeader r' ++ rest)], by rw [hs, e1, List.append_assoc], fun o ho => ?_, ?_⟩
      · simp only [List.mem_append, List.mem_singleton] at ho
        rcases ho with ho | rfl
        · exact cbCorr o ho
        · exact ⟨rfl, r', rest, rfl, h1.trans p1.1, h5.trans p1.2.1, h2.trans p2, h3.trans p3,
            fun hne => h4.trans (p4 hne)⟩
      · rw [txFrags_append, txFrags_cbs l1 c1]; simp [txFrags]

/-- D14 repaired: a repeat of the last non-READ request (same sequence number, same octets) handled from idle
    is answered with the STORED response record verbatim (`repeat_solicited`: no IIN re-OR, no forced CON) —
    exactly one transmission, to the requester; nothing is executed again; the record of the request stays as it
    is, and the series recorded with it is the confirm wait that is entered again -/
theorem idle_repeat_echo_verbatim {a a' : Acc} {f : Frag} {ctrl : AppCtrl} {func : Nat}
    {objects : Except Nat (List ObjHdr)} {raw : List Nat} {series : Option Series} {r : Resp}
    (hc : classify a.1 f ctrl func objects = .repeatNonRead (some r))
    (hh : handleRequestFromIdle a f ctrl func objects raw = some (a', series)) :
    SentOne a.2 a'.2 f.src r ∧ a'.1.lastReq = a.1.lastReq ∧ series = a.1.lastReq.bind (·.series) := by
  obtain ⟨lr0, hl0, hs0, hf0, hr0⟩ := classify_repeat (Or.inr hc)
  obtain ⟨s1, hl, hi⟩ := idleStage1_echo (raw := raw) hc
  obtain ⟨r', hs, _, _, _, _, _, _, hlr, he⟩ := idle_sends hi rfl hh
  obtain ⟨rfl, rfl⟩ := he rfl
  refine ⟨hs, ?_, by rw [hl]⟩
  rw [hlr, hl, hl0]
  cases lr0
  simp only at hs0 hf0 hr0
  subst hs0 hf0 hr0
  rfl

/-- **continuation fragments are correlated**: the fragment `solContinuation` transmits carries
    `seq4Next` of the confirmed sequence number, FIR clear, UNS clear, function 0x81, to the confirmer -/
theorem continuation_correlated {s : OState} {out : List OOut} {ecsn dst : Nat} {a2 : Acc} {r2 : Resp}
    (hw : writeSolicited ((formatReadResponse s false (seq4Next ecsn) 0).1, out) dst
            (formatReadResponse s false (seq4Next ecsn) 0).2.1 = some (a2, r2)) :
    SentOne out a2.2 dst r2 ∧ r2.func = 0x81 ∧ r2.ctrl.seq = seq4Next ecsn ∧ r2.ctrl.fir = false ∧
      r2.ctrl.uns = false :=
  @Dnp3.Proofs.C12.continuation_correlated s out ecsn dst a2 r2 hw

/-- **unsolicited_numbering** (new responses): when `check_unsolicited` starts a series it sends one
    unsolicited response (0x82, FIR FIN CON UNS) numbered with the current `unsolSeq`, to the
    configured master, and advances `unsolSeq` by `seq4Next`; when it starts none, nothing is
    transmitted and the counter is unchanged -/
theorem unsolicited_numbering {a : Acc} {x : Acc ⊕ (Acc × NextIdle)} (hc : checkUnsolicited a = some x) :
    match x with
    | .inl a' => ∃ r rest isNull retries,
        a'.2 = a.2 ++ [.tx a.1.cfg.master (respHeader r ++ rest), .cb (.unsolWait a.1.unsolSeq)] ∧
        r.ctrl = ⟨true, true, true, true, a.1.unsolSeq⟩ ∧ r.func = 0x82 ∧
        a'.1.unsolSeq = seq4Next a.1.unsolSeq ∧
        a'.1.mode = .unsolWait r isNull retries (a.1.now + a.1.cfg.ctimeout)
    | .inr (a', _) => a'.2 = a.2 ∧ a'.1.unsolSeq = a.1.unsolSeq := by
  cases Dnp3.Proofs.Frame.checkUnsolicited_cases a x hc with
  | unsupported => exact ⟨rfl, rfl⟩
  | null a' _ _ hs =>
    obtain ⟨r', rest, retries, h1, h2, h3, _, h5, h6⟩ := startUnsolSeries_out hs
    exact ⟨r', rest, _, retries, h1, h2, h3, h5, h6⟩
  | tooEarly => exact ⟨rfl, rfl⟩
  | disabled => exact ⟨rfl, rfl⟩
  | noEvents => exact ⟨rfl, rfl⟩
  | data dl a' _ _ _ _ _ hs =>
    obtain ⟨r', rest, retries, h1, h2, h3, _, h5, h6⟩ := startUnsolSeries_out hs
    exact ⟨r', rest, _, retries, h1, h2, h3, h5, h6⟩

/-- **unsolicited retries are verbatim**: a retry after a confirm timeout re-sends the stored
    response record unchanged (same control octet, same function, same size) to the configured
    master, keeps it stored, and does not touch the numbering -/
theorem unsolicited_retry_verbatim (a : Acc) (resp : Resp) (isNull : Bool) (retries : Option Nat)
    (hd : a.1.deferred = none) (hr : retries ≠ some 0) :
    ∃ a' rest retries', unsolWaitTimeout a resp isNull retries = .blocked a' ∧
      a'.2 = a.2 ++ [.cb (.unsolTimeout resp.ctrl.seq true), .tx a.1.cfg.master (respHeader resp ++ rest)] ∧
      a'.1.mode = .unsolWait resp isNull retries' (a.1.now + a.1.cfg.ctimeout) ∧
      a'.1.unsolSeq = a.1.unsolSeq := by
  obtain ⟨rest, hrest⟩ := repeatUnsolicited_out (emitCb a (.unsolTimeout resp.ctrl.seq true)) resp
  obtain ⟨y, hc, e⟩ := Dnp3.Proofs.Skel.unsolWaitTimeout_cases a resp isNull retries
  rw [e]
  cases hc with
  | finish hf =>
    rcases hf with hf | hf
    · rw [hd] at hf; cases hf
    · exact absurd hf hr
  | retry rt =>
    refine ⟨_, rest, rt, rfl, ?_, rfl, rfl⟩
    show (repeatUnsolicited (emitCb a (.unsolTimeout resp.ctrl.seq true)) resp).2 = _
    rw [hrest]; simp [Dnp3.emitCb, emit]

/-- for the no-response functions (6, 8, 10, 12) `handle_non_read` always returns, and returns no response record -/
theorem silent_functions_nonread_total (a : Acc) (func seq frameId : Nat) (hs : List ObjHdr) (raw : List Nat)
    (hf : func = 6 ∨ func = 8 ∨ func = 10 ∨ func = 12) :
    ∃ a', handleNonRead a func seq frameId hs raw = some (a', none) := by
  have : ∃ a', nonReadRes a func seq frameId hs raw = some (a', none) := by
    unfold nonReadRes
    rcases hf with rfl | rfl | rfl | rfl
    · simp only [show (6 : Nat) ≠ 2 by decide, show (6 : Nat) ≠ 23 by decide, show (6 : Nat) ≠ 24 by decide,
        show (6 : Nat) ≠ 13 by decide, show (6 : Nat) ≠ 14 by decide, if_false, or_true, if_true]
      obtain ⟨x, hx, c⟩ := Dnp3.Proofs.Frame.handleControls_cases a 6 seq frameId hs raw
      cases c with
      | param | noAck => exact ⟨_, hx⟩
      | select _ _ h | reject _ _ _ h => exact absurd h (by decide)
      | operate _ _ _ h => rcases h with ⟨h, -⟩ | ⟨h, -⟩ <;> exact absurd h (by decide)
    · exact ⟨(handleFreeze a seq FreezeKind.immediate hs).1, by simp⟩
    · exact ⟨(handleFreeze a seq FreezeKind.clear hs).1, by simp⟩
    · exact ⟨(handleFreezeAtTime a seq hs).1, by simp⟩
  obtain ⟨a', h⟩ := this
  exact ⟨a', by rw [handleNonRead_eq, h]⟩

/-- **silent_functions** (idle path, `_partial`: the request is not byte-identical and
    same-sequence with the stored previous request): a unicast request with a no-response function
    code whose objects parse transmits nothing — only application callbacks are emitted — and no
    confirm wait is entered.
    Missing for the full statement: for a *repeat* of the previous request the session echoes the
    stored response record; that record is `none` when the previous identical fragment was handled
    as a no-response function, but proving it needs an extra invariant tying `lastReq.response` to
    the function code inside `lastReq.frag` (the stored record can be `some` only if the identical
    earlier fragment was answered, which for these function codes happens only on the malformed
    path, and malformed fragments are classified before the repeat check). -/
theorem silent_functions_partial {a a' : Acc} {f : Frag} {ctrl : AppCtrl} {func : Nat} {hs : List ObjHdr}
    {raw : List Nat} {series : Option Series} (hf : func = 6 ∨ func = 8 ∨ func = 10 ∨ func = 12)
    (hb : f.broadcast = none)
    (hnodup : ∀ lr, a.1.lastReq = some lr → ¬ (lr.seq = ctrl.seq ∧ lr.frag = f.data))
    (hh : handleRequestFromIdle a f ctrl func (.ok hs) raw = some (a', series)) :
    series = none ∧ CbOnly a.2 a' ∧ txFrags a'.2 = txFrags a.2 := by
  have hc : classify a.1 f ctrl func (.ok hs) = .newNonRead hs :=
    Dnp3.Proofs.Frame.classify_newNonRead (by rcases hf with rfl | rfl | rfl | rfl <;> decide)
      (by rcases hf with rfl | rfl | rfl | rfl <;> decide) hb hnodup
  obtain ⟨a1, hn⟩ := silent_functions_nonread_total a func ctrl.seq f.id hs raw hf
  obtain ⟨e1, e2⟩ := idle_newNonRead_silent hc hn hh
  have hcb : CbOnly a.2 a' := by
    obtain ⟨l, hl, hc⟩ := CbOnly.handleNonRead (CbOnly.refl a) hn
    exact ⟨l, e1 ▸ hl, hc⟩
  exact ⟨e2, hcb, hcb.noTx⟩

/-- (a) a unicast fragment (`broadcast = false`, the third argument: `f.broadcast.isSome` of the fragment,
    `popRequest_headerError`) whose application header is rejected (unknown function code, a response
    function code, FIR/FIN not both set, UNS on a non-confirm) is answered — when the IIN can be
    computed at all — with exactly one solicited response carrying the request's sequence number
    and IIN2.0 NO_FUNC_CODE_SUPPORT -/
theorem rejection_flagged_header {a : Acc} {dst seq : Nat} {x : OState × Nat × Nat}
    (hg : getResponseIin a.1 = some x) :
    ∃ a' r, writeErrorResponse a dst false (some seq) = some a' ∧ SentOne a.2 a'.2 dst r ∧
      r.func = 0x81 ∧ r.ctrl.seq = seq ∧ r.ctrl.fir = true ∧ r.ctrl.fin = true ∧ r.ctrl.uns = false ∧
      HasBits r.iin2 iin2NoFunc := by
  have hw : _ = some (_, _) := Proofs.Frame.writeSolicited_of_iin (s := x.1) (i1 := x.2.1) (i2 := x.2.2) hg dst
    (emptySolicited seq iin2NoFunc)
  obtain ⟨hs, h1, _, h5, h6, h7, h8, h3⟩ := writeSolicited_out hw
  exact ⟨_, _, by simp only [Proofs.Frame.writeErrorResponse_eq, hw, Option.map_some], hs, h1, h5, h6, h7, h8, h3 _ (HasBits.self _)⟩

/-- (a, complement; D6 repaired) a BROADCAST fragment whose application header is rejected is never answered:
    nothing is transmitted, nothing changes, and the session does not panic -/
theorem rejection_header_broadcast_silent (a : Acc) (dst : Nat) (seq : Option Nat) :
    writeErrorResponse a dst true seq = some a := by
  rw [Proofs.Frame.writeErrorResponse_eq]

/-- the header-error path is taken exactly for `parseRequest = .headerError` of a fragment from an accepted
    master (`hm`; D6 repaired: the fragments of any other master are dropped whatever they contain,
    `popRequest_foreign`); the `Bool` handed on says whether the fragment was a broadcast -/
theorem popRequest_headerError {s : OState} {f : Frag} {seq : Nat} (hp : s.pending = some f)
    (hm : s.cfg.anymaster = true ∨ f.src = s.cfg.master)
    (he : parseRequest f.data = .headerError seq) :
    popRequest s = (s, .error f.src f.broadcast.isSome (some seq)) :=
  Dnp3.Proofs.Skel.popRequest_iff.2 (.headerError f seq hp hm he)

/-- (complement; D6 repaired) a pending fragment of a foreign master — well-formed request or header-level
    error alike — is dropped: nothing is handed to the session, so nothing is answered -/
theorem popRequest_foreign {s : OState} {f : Frag} (hp : s.pending = some f)
    (ha : s.cfg.anymaster = false) (hm : f.src ≠ s.cfg.master) :
    popRequest s = ({ s with pending := none }, .nothing) :=
  Dnp3.Proofs.Skel.popRequest_iff.2 (.foreign f hp ha hm)

theorem parseObjects_error (isRead : Bool) (fuel : Nat) (d : List Nat) (e : Nat)
    (h : parseObjects isRead fuel d = .error e) :
    (e = iin2NoFunc ∨ e = iin2ObjUnknown ∨ e = iin2ParamError) ∧ e ≠ 0 := by
  have := parseObjects_okErr isRead fuel d e h
  refine ⟨this, ?_⟩
  rcases this with rfl | rfl | rfl <;> decide

/-- (b) a unicast request whose object headers do not parse is answered with the parse error's
    IIN2 bit (`e ∈ {1,2,4}`, nonzero by `parseObjects_error`) and the request's sequence number -/
theorem rejection_flagged_objects {a a' : Acc} {f : Frag} {ctrl : AppCtrl} {func : Nat} {e : Nat}
    {raw : List Nat} {series : Option Series} (hf : func ≠ 0) (hb : f.broadcast = none)
    (hh : handleRequestFromIdle a f ctrl func (.error e) raw = some (a', series)) :
    ∃ r, SentOne a.2 a'.2 f.src r ∧ r.func = 0x81 ∧ r.ctrl.seq = ctrl.seq ∧ r.ctrl.fir = true ∧
      r.ctrl.fin = true ∧ r.ctrl.uns = false ∧ HasBits r.iin2 e := by
  obtain ⟨r', hs, h1, h2, h3, h4, h5, h6, _⟩ := idle_sends (idleStage1_malformed hf hb) rfl hh
  exact ⟨r', hs, h1, h2, h3, h4, h5, h6 e (HasBits.self e)⟩

/-- (c) a function code the session does not implement (default branch of `handle_non_read`:
    anything but 2–14, 20, 21, 23, 24) yields NO_FUNC_CODE_SUPPORT -/
theorem rejection_flagged_unsupported (a : Acc) (func seq frameId : Nat) (hs : List ObjHdr) (raw : List Nat)
    (hf : func ∉ [2, 3, 4, 5, 6, 7, 8, 9, 10, 11, 12, 13, 14, 20, 21, 23, 24]) :
    ∃ r, handleNonRead a func seq frameId hs raw = some (a, some r) ∧ r.ctrl.seq = seq ∧
      HasBits r.iin2 iin2NoFunc := by
  have h : nonReadRes a func seq frameId hs raw = some (a, some (emptySolicited seq iin2NoFunc)) := by
    simp only [List.mem_cons, List.not_mem_nil, or_false, not_or] at hf
    unfold nonReadRes
    simp [hf]
  rw [handleNonRead_eq, h]
  exact ⟨_, rfl, rfl, (HasBits.self _).or_left _⟩

/-- (d) SELECT / OPERATE / DIRECT_OPERATE containing a header that is not a control header:
    nothing is executed, PARAMETER_ERROR -/
theorem rejection_flagged_controls (a : Acc) (func seq frameId : Nat) (hs : List ObjHdr) (raw : List Nat)
    (hf : func = 3 ∨ func = 4 ∨ func = 5) (hbad : hs.all isControlHdr = false) :
    ∃ r, handleNonRead a func seq frameId hs raw = some (a, some r) ∧ r.ctrl.seq = seq ∧
      HasBits r.iin2 iin2ParamError := by
  have h : nonReadRes a func seq frameId hs raw = some (a, some (emptySolicited seq iin2ParamError)) := by
    unfold nonReadRes handleControls
    rcases hf with rfl | rfl | rfl <;> simp [hbad]
  rw [handleNonRead_eq, h]
  exact ⟨_, rfl, rfl, (HasBits.self _).or_left _⟩

/-- exact characterisation of `handle_write` (D7 repaired, `iin2 |= …`): every further header ORs its
    result into the response IIN2 -/
theorem write_accumulates (a : Acc) (seq : Nat) (pre : List ObjHdr) (h : ObjHdr) :
    (handleWrite a seq (pre ++ [h])).2.iin2 =
      (handleWrite a seq pre).2.iin2 ||| (handleWriteHeader (handleWrite a seq pre).1 h).2 :=
  @Dnp3.Proofs.C12.write_accumulates a seq pre h

/-- (f) **write_rejection_flagged** (full statement, D7 repaired):
    for ANY header `h` of a WRITE — at any position, whatever precedes and follows it — every IIN2
    bit that handling `h` returns (PARAMETER_ERROR, NO_FUNC_CODE_SUPPORT; in the state the preceding
    headers left) is set in the IIN2 of the response record -/
theorem write_rejection_flagged (a : Acc) (seq : Nat) (pre : List ObjHdr) (h : ObjHdr) (post : List ObjHdr)
    (m : Nat) (hrej : HasBits (handleWriteHeader (handleWrite a seq pre).1 h).2 m) :
    HasBits (handleWrite a seq (pre ++ h :: post)).2.iin2 m :=
  @Dnp3.Proofs.C12.write_rejection_flagged a seq pre h post m hrej

/-- (f) at the level of `handle_non_read`: the response record of a WRITE request carries the
    request's sequence number and every IIN2 bit any of its headers returned -/
theorem rejection_flagged_write (a : Acc) (seq frameId : Nat) (pre : List ObjHdr) (h : ObjHdr) (post : List ObjHdr)
    (raw : List Nat) (m : Nat) (hrej : HasBits (handleWriteHeader (handleWrite a seq pre).1 h).2 m) :
    ∃ a' r, handleNonRead a 2 seq frameId (pre ++ h :: post) raw = some (a', some r) ∧ r.ctrl.seq = seq ∧
      HasBits r.iin2 m := by
  have hn : nonReadRes a 2 seq frameId (pre ++ h :: post) raw =
      some ((handleWrite a seq (pre ++ h :: post)).1, some (handleWrite a seq (pre ++ h :: post)).2) := by
    simp [nonReadRes]
  rw [handleNonRead_eq, hn]
  exact ⟨_, _, rfl, rfl, (write_rejection_flagged a seq pre h post m hrej).or_left _⟩

/-- regression instance (the former D7 counterexample `c1 02 | 50 01 00 04 04 00 | 50 01 00 07 07 00`):
    the first header (write IIN1.4) is rejected with PARAMETER_ERROR, the second (clear RESTART)
    succeeds, and the response record has PARAMETER_ERROR set — in ANY state -/
theorem write_rejection_flagged_d7 (a : Acc) :
    HasBits (handleWrite a 1 [d7Hdr1, d7Hdr2]).2.iin2 iin2ParamError := by
  have := write_rejection_flagged a 1 [] d7Hdr1 [d7Hdr2] iin2ParamError
    (by rw [show (handleWrite a 1 []).1 = a from rfl, d7Hdr1_rejected]; exact HasBits.self _)
  exact this

/-- the control functions always return (no `unwrap` on a `WriteError` is left: D1 repaired) -/
theorem handleControls_total (a : Acc) (func seq frameId : Nat) (hs : List ObjHdr) (raw : List Nat) :
    ∃ a' ro, handleControls a func seq frameId hs raw = some (a', ro) :=
  @Dnp3.Proofs.C12.handleControls_total a func seq frameId hs raw

/-- **D1 repaired**: an OPERATE
    whose headers are all control headers and whose echo does not fit the solicited transmit buffer is answered
    like a SELECT / DIRECT_OPERATE in the same situation (`select_echo_overflow_clean`, D13): the truncated echo
    (`size = 4 + out.length`), the request's sequence number and a clean IIN2; the select state is the one the
    control run left (the session does not touch it) -/
theorem operate_echo_overflow_clean (a : Acc) (seq frameId : Nat) (hs : List ObjHdr) (raw : List Nat)
    (hall : hs.all isControlHdr = true)
    (hov : (operateRun a seq frameId hs raw).overflow = true) :
    ∃ a' r, handleControls a 4 seq frameId hs raw = some (a', some r) ∧ r.iin2 = 0 ∧ r.ctrl.seq = seq ∧
      r.size = 4 + (operateRun a seq frameId hs raw).out.length ∧
      a'.1.select = (ctlFinish (operateRun a seq frameId hs raw)).acc.1.select :=
  @Dnp3.Proofs.C12.operate_echo_overflow_clean a seq frameId hs raw hall hov

/-- regression instance (the former D1 counterexample): with the minimum transmit buffer (249 octets) an OPERATE carrying 62
    g41v2 commands (echo 4 + 62·4 = 252 > 245 octets), here without a SELECT, used to panic the task; it is
    answered with the NO_SELECT echo of 60 of the 62 objects (4 + 4 + 60·4 = 248 octets) and IIN2 = 0.
    An instance of `operate_echo_overflow_clean`; the control run itself (`d1_operateRun`) is evaluated and
    involves no database function. -/
theorem operate_echo_truncated_d1 :
    (handleControls (OState.init { sol := 249 } 0, []) 4 1 0 [d1Header] []).map
        (fun p => p.2.map (fun r => (r.iin2, r.size))) = some (some (0, 248)) := by
  obtain ⟨a', r, h, hi, _, hs, _⟩ := operate_echo_overflow_clean (OState.init { sol := 249 } 0, []) 1 0 [d1Header] []
    (by decide) (Prod.mk.inj d1_operateRun).1
  simp only [h, Option.map_some, hi, hs, (Prod.mk.inj d1_operateRun).2]

/-- **D13**: SELECT and DIRECT_OPERATE whose echo does not fit do not fail: they answer with the
    truncated echo (`size = 4 + out.length`) and a clean IIN2 from the handler (0), even when a
    status was PARAMETER-worthy; SELECT does not arm the select state -/
theorem select_echo_overflow_clean (a : Acc) (func seq frameId : Nat) (hs : List ObjHdr) (raw : List Nat)
    (hf : func = 3 ∨ func = 5) (hall : hs.all isControlHdr = true)
    (hov : (ctlAll (some (if func = 3 then CtlKind.select else CtlKind.dop)) 0 a.1.cfg.maxctl hs
              { acc := a, cap := a.1.cfg.sol - 4 }).overflow = true) :
    ∃ a' r, handleControls a func seq frameId hs raw = some (a', some r) ∧ r.iin2 = 0 ∧ r.ctrl.seq = seq ∧
      r.size = 4 + (ctlAll (some (if func = 3 then CtlKind.select else CtlKind.dop)) 0 a.1.cfg.maxctl hs
              { acc := a, cap := a.1.cfg.sol - 4 }).out.length ∧
      (func = 3 → a'.1.select = (ctlFinish (ctlAll (some CtlKind.select) 0 a.1.cfg.maxctl hs
              { acc := a, cap := a.1.cfg.sol - 4 })).acc.1.select) :=
  @Dnp3.Proofs.C12.select_echo_overflow_clean a func seq frameId hs raw hf hall hov

/-- **freeze_at_time_rejection_flagged**: the response of FREEZE_AT_TIME (function 11) carries the request's
    sequence number and every IIN2 bit with which ANY of its headers was rejected — at any position, whatever
    follows it (`freezeAtRej`: PARAMETER_ERROR for a time-and-interval object g50v2 whose count is not 1 and for a
    header with no valid g50v2 before it, the freeze verdict of the header otherwise) -/
theorem freeze_at_time_rejection_flagged (a : Acc) (seq frameId : Nat) (pre : List ObjHdr) (h : ObjHdr)
    (post : List ObjHdr) (raw : List Nat) (m : Nat) (hrej : HasBits (freezeAtRej (pre.any isFreezeTiming) h) m) :
    ∃ a' r, handleNonRead a 11 seq frameId (pre ++ h :: post) raw = some (a', some r) ∧ r.ctrl.seq = seq ∧
      HasBits r.iin2 m := by
  have hn : nonReadRes a 11 seq frameId (pre ++ h :: post) raw =
      some ((handleFreezeAtTime a seq (pre ++ h :: post)).1, some (handleFreezeAtTime a seq (pre ++ h :: post)).2) := by
    simp [nonReadRes]
  rw [handleNonRead_eq, hn]
  exact ⟨_, _, rfl, rfl, (rejection_flagged_freeze_at_time a seq pre h post m hrej).or_left _⟩

-- the hypothesis is satisfiable: a rejected analog header between a valid g50v2 and an accepted counter header
example : freezeAtRej (([⟨50, 2, 7, 1, 0, []⟩] : List ObjHdr).any isFreezeTiming) ⟨30, 0, 6, 0, 0, []⟩ = iin2NoFunc := by decide

end Dnp3.Props.C12
