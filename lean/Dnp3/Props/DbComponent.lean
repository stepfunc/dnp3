import Dnp3.Proofs.Database
/-!
# Outstation database — component-level theorems behind C03, C11 and C13, with their examples

The component statements that other modules use as lemmas, and satisfiability `example`s for the
hypotheses of the database theorems of `Dnp3.Props.C03`, `C11` and `C13`.

Model: `Dnp3.Model.Database` (event buffer + static database + response writing of
`outstation/database/**` for all eight point types), tied to the code by the generated per-type tables
(`Dnp3.Gen.DbT`, well-formedness: `Dnp3.Proofs.DbTables`) and by the `db` correspondence engine.
All statements quantify over EVERY database state / operation / operation sequence, every point type
(`PtType` = the generated enumeration of `enum Event`), every event-buffer configuration
(`ev : TyVec Nat`, the per-type maxima of `EventBufferConfig`) and class-zero configuration.

Operations (`DbOp`, the session model's vocabulary): add, update, select (one READ header), write (cap),
unsol (classes, cap), clear (= confirm: `clear_written_events`), reset; `run db ops` folds `step`.
`DbOpX` = `DbOp` + `addCfg` (any configured static / event variation and dead-band) + `updateOpt` (any
measurement of any type, any `UpdateOptions`); `runX db ops` folds `stepX`.  The invariants are stated
over `runX` (they specialise to `run`: `runX_base`).
-/
namespace Dnp3.Props.Db
open Dnp3 Dnp3.DbM Dnp3.DbProofs

/-! ## C03 — the event buffer -/

example : Ordered (run (Db.new 2 none) [.add .binary 0 1, .update .binary 0 1 1 5, .update .binary 0 0 1 6]) := by
  decide

/-- … for a mix of types with their own capacities (frozen counters 1, octet strings 2) -/
example : Ordered (run (Db.newCfg ⟨0, 0, 0, 0, 1, 0, 0, 2⟩ (TyVec.const true) none)
    [.add .frozenCounter 7 1, .add .octetString 0 2, .update .frozenCounter 7 5 1 5,
     .update .octetString (encodeIdx .octetString 0) (natOfOctets [1, 2]) 0 0, .update .frozenCounter 7 6 1 6]) := by
  decide

/-- stated for the property, and described, as `Props.C03.counters_exact` -/
theorem counters_exact (ev : TyVec Nat) (cz : TyVec Bool) (sel : Option Nat) (ops : List DbOpX) :
    CountersExact (runX (Db.newCfg ev cz sel) ops) :=
  counters_inv.runX _ ops (newCfg_counters ev cz sel)

/-- `Props.C03.counters_exact_preserved` -/
theorem counters_exact_preserved (db : Db) (op : DbOpX) (h : CountersExact db) : CountersExact (stepX db op) :=
  counters_inv.stepX db op h

/-- `Props.C03.written_exact_preserved` -/
theorem written_exact_preserved (db : Db) (op : DbOpX) (h : WrittenExact db) : WrittenExact (stepX db op) :=
  written_inv.stepX db op h

/-- the witness of D3: binary max 1, a class-1 event carried by an unsolicited response
    (`Written`), then a class-2 event of the same type overflows it out -/
def d3Witness : List DbOp :=
  [.add .binary 0 1, .add .binary 1 2, .update .binary 0 1 1 100, .unsol true false false 300,
   .update .binary 1 1 1 200]

/-- the hypotheses are satisfiable by a state in which the next update discards a `Written` record -/
example : CountersExact (run (Db.new 1 none) (d3Witness.take 4)) ∧
    (run (Db.new 1 none) (d3Witness.take 4)).events.map (·.st) = [.written] := by
  decide

/-- `Props.C03.counters_exact_former_witness`: the witness history of D3 leaves exact counters -/
theorem counters_exact_former_witness :
    CountersExact (run (Db.new 1 none) d3Witness) ∧
    (run (Db.new 1 none) d3Witness).unwrittenClasses = some (false, true, false) ∧
    (run (Db.new 1 none) d3Witness).written.c1 = 0 ∧ (run (Db.new 1 none) d3Witness).total.c1 = 0 := by
  decide

example : removeFirstTy .binary (run (Db.new 1 none) (d3Witness.take 4)).events =
    some ({ id := 0, index := 0, cls := 1, ty := .binary, m := { value := 1, flags := 1, time := 100 },
            defVar := 1, selVar := 1, st := .written }, []) := by
  decide

/-- `Props.C03.unsol_marks_prefix` -/
theorem unsol_marks_prefix (db : Db) (c1 c2 c3 : Bool) (cap : Nat) :
    ∃ dbs n, EbSel db.reset dbs ∧
      (db.writeUnsolicited c1 c2 c3 cap).1.events = markFirst n dbs.events ∧
      (db.writeUnsolicited c1 c2 c3 cap).2.1 = encodeEvents none ((dbs.events.filter isSelected).take n) ∧
      (db.writeUnsolicited c1 c2 c3 cap).2.2 = ((dbs.events.filter isSelected).take n).length := by
  obtain ⟨evs, hp, h⟩ := writeUnsolicited_cases db c1 c2 c3 cap
  have hs : EbSel db.reset { db.reset with events := evs } := ⟨hp, rfl, rfl, rfl, rfl, rfl⟩
  rcases h _ rfl with he | he <;> rw [he]
  · exact ⟨_, 0, hs, (markFirst_zero evs).symm, rfl, rfl⟩
  · obtain ⟨n, _, h1⟩ := writeEvents_spec { db.reset with events := evs } cap
    rw [h1]; exact ⟨_, n, hs, rfl, rfl, rfl⟩

example : (((((Db.new 1 none).add .binary 0 1).1.update .binary 0 1 1 5).1).insert 0 1 .binary {} 1).2
    = .overflow 1 0 := by decide

/-! ## C13 — internal indications -/

/-- `class_bits_exact`: after every operation sequence from a fresh database `unwritten_classes`
    does not panic and bit c is set iff the buffer holds a class-c record that is not `Written` -/
theorem class_bits_exact (ev : TyVec Nat) (cz : TyVec Bool) (sel : Option Nat) (ops : List DbOpX) :
    ∃ b1 b2 b3, (runX (Db.newCfg ev cz sel) ops).unwrittenClasses = some (b1, b2, b3) ∧
      (b1 = true ↔ ∃ r ∈ (runX (Db.newCfg ev cz sel) ops).events, r.cls = 1 ∧ r.st ≠ .written) ∧
      (b2 = true ↔ ∃ r ∈ (runX (Db.newCfg ev cz sel) ops).events, r.cls = 2 ∧ r.st ≠ .written) ∧
      (b3 = true ↔ ∃ r ∈ (runX (Db.newCfg ev cz sel) ops).events, r.cls = 3 ∧ r.st ≠ .written) :=
  class_bits_exact_of_counters _ (counters_exact ev cz sel ops)

/-- … and after every single operation from any state with exact counters -/
theorem class_bits_exact_step (db : Db) (op : DbOpX) (h : CountersExact db) :
    ∃ b1 b2 b3, (stepX db op).unwrittenClasses = some (b1, b2, b3) ∧
      (b1 = true ↔ ∃ r ∈ (stepX db op).events, r.cls = 1 ∧ r.st ≠ .written) ∧
      (b2 = true ↔ ∃ r ∈ (stepX db op).events, r.cls = 2 ∧ r.st ≠ .written) ∧
      (b3 = true ↔ ∃ r ∈ (stepX db op).events, r.cls = 3 ∧ r.st ≠ .written) :=
  class_bits_exact_of_counters _ (counters_inv.stepX db op h)

/-- `no_counter_underflow`: the checked subtraction `total - written` of `unwritten_classes`
    (`Count::subtract`) never underflows on a database reached from a fresh one by any operation
    sequence (`none` = the panic of the dev build) -/
theorem no_counter_underflow (ev : TyVec Nat) (cz : TyVec Bool) (sel : Option Nat) (ops : List DbOpX) :
    (runX (Db.newCfg ev cz sel) ops).unwrittenClasses ≠ none := by
  obtain ⟨b1, b2, b3, h, _⟩ := class_bits_exact ev cz sel ops
  rw [h]; simp

/-- frozen counters 1, counters 3: the second frozen-counter event discards the first although the
    counter type has room (each type is bounded by ITS OWN maximum) -/
example : ((runX (Db.newCfg ⟨0, 0, 0, 3, 1, 0, 0, 0⟩ (TyVec.const true) none)
    [.addCfg .frozenCounter 0 1 1 1 0, .updateOpt .frozenCounter 0 (mkMeas .frozenCounter 5 1 10) {},
     .updateOpt .frozenCounter 0 (mkMeas .frozenCounter 6 1 11) {}]).events.map (·.id)) = [1] := by decide

/-! ## C03 / C02 — the event rule (dead-band) -/

/-- the drift of the property's example: dead-band 5, values 0 → 3 → 6: Created, NoEvent, Created — the third
    value is 6 away from the value last REPORTED (0), although only 3 away from the previous update -/
example :
    let db0 := (((Db.newCfg (TyVec.const 10) (TyVec.const true) none).addCfg .analog 0 1 1 1 5).1.updateOpt .analog 0
      (mkMeas .analog 0 1 100) {}).1
    (db0.updateOpt .analog 0 (mkMeas .analog 3 1 101) {}).2 = .noEvent ∧
    ((db0.updateOpt .analog 0 (mkMeas .analog 3 1 101) {}).1.updateOpt .analog 0 (mkMeas .analog 6 1 102) {}).2 =
      .created 1 := by decide

/-! ## C11 — the static database: READ series -/

/-- stated for the property, and described, as `Props.C11.series_covers_exactly_once` -/
theorem series_covers_exactly_once (db : Db) (hs : StaticSorted db) (ops : List SOp)
    (hend : (seriesEnd db ops).queue = []) :
    seriesObjs db ops = (db.queue.map (itemObjs db)).flatten := by
  have := series_conserves ops db hs
  rw [hend] at this
  simpa [pending] using this

/-- a two-fragment series with an update in between satisfies the hypotheses (and ends complete) -/
example :
    let db := run (Db.new 0 none) [.add .analog 0 0, .add .analog 2 0, .add .analog 4 0,
      .update .analog 2 20 1 2, .select { group := 60, var := 1, qual := 6 }]
    StaticSorted db ∧ (seriesEnd db [.write 12, .update .analog 4 7 1 9, .write 300]).queue = [] ∧
    (seriesObjs db [.write 12, .update .analog 4 7 1 9, .write 300]).map (fun o => (o.idx, o.m.value)) =
      [(0, 0), (2, 20), (4, 0)] := by
  decide

example : StaticSorted ((Db.new 0 none).add .analog 3 0).1 ∧ ((Db.new 0 none).add .analog 3 0).1.queue = [] := by
  decide

/-- the start of the D12 history: analogs 0, 2, 4; READ class 0.  `C11.series_is_snapshot_counterexample`
    continues it: the first fragment (12 octets) carries index 0; then analog 3 is added and updated to
    99 / ONLINE; the second fragment follows -/
def d12Setup : List DbOp :=
  [.add .analog 0 0, .add .analog 2 0, .add .analog 4 0, .update .analog 0 10 1 1,
   .update .analog 2 20 1 2, .update .analog 4 40 1 3, .select { group := 60, var := 1, qual := 6 }]

/-- `Props.C11.progress` -/
theorem progress (db : Db) (cap : Nat) (hfit : FitsCap db cap) (hinc : (db.writeResponse cap).2.2.2 = false) :
    (db.writeEvents cap).2.1 ≠ [] ∨ (writeStaticObjs db cap).flatten ≠ [] :=
  write_progress db cap hfit hinc

/-- the hypothesis matters: with 5 octets nothing fits and the response is empty and incomplete -/
example : ((((Db.new 0 none).add .analog 0 0).1.select { group := 60, var := 1, qual := 6 }).1.writeResponse 5).2
    = ([], false, false) := by
  decide

end Dnp3.Props.Db
