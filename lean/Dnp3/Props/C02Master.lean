import Dnp3.Proofs.C02Overflow
import Dnp3.Props.C15
/-!
# C02 — the master session model, step level (§ master and §(iv) of C02)

The theorems of `Props.C02` about `Master.step` / `onFragment` alone; the text of the property, its division into (i)–(v)
and how these theorems fit into it is in the header of `Props/C02.lean`.  Those of §(iv) are proved in
`Proofs/C02Overflow` and stated here under the property's namespace; the others are proved where they stand.
-/
namespace Dnp3.Proofs.C02SeriesMaster
open Dnp3 Dnp3.Master Dnp3.Proofs.Master Dnp3.Proofs.C02Overflow Dnp3.Proofs.C02Master Dnp3.Proofs.C02MasterQuiet

/-- a fragment of the answer to the READ in flight that `process_read_response` accepts: FIR exactly on the
    first one, the expected sequence number, FIN or CON, acceptable IIN2, parsable objects -/
theorem onFragment_read_accept (a : Acc) (dest : Nat) (t : ReadTask) (seq dl : Nat) (isFirst : Bool)
    (c i1 i2 : Nat) (objs : List Nat) (hs : List ObjHdr) (fin con : Bool) (x : Assoc)
    (hmode : a.1.mode = .waitRead dest t seq isFirst dl)
    (hx : a.1.getAssoc dest = some x)
    (hctrl : AppCtrl.ofNat c = ⟨isFirst, fin, con, false, seq⟩)
    (hfc : fin = true ∨ con = true)
    (hi2 : i2 &&& 7 = 0)
    (hparse : parseRespObjects objs.length objs = some hs) :
    onFragment a dest ([c, 0x81, i1, i2] ++ objs) =
      if fin = true then
        .appDone (finishRead (acceptedAcc a dest t seq ⟨AppCtrl.ofNat c, false, i1, i2, objs, some hs⟩ hs) dest t (.ok seq))
          dest t.taskType 1 (.ok seq)
      else
        .waiting (setMode (modAssoc (acceptedAcc a dest t seq ⟨AppCtrl.ofNat c, false, i1, i2, objs, some hs⟩ hs) dest
            fun y => { y with seq := seq4Next y.seq })
          (.waitRead dest t x.seq false (a.1.now + x.cfg.rto))) := by
  have hp : parseResponse ([c, 0x81, i1, i2] ++ objs) = some ⟨AppCtrl.ofNat c, false, i1, i2, objs, some hs⟩ := by
    simp [parseResponse, hctrl, hparse]
  refine (onFragment_accept a dest t seq dl isFirst dest _ _ con fin x hmode hp hx ?_).2.2
  rw [processReadResponse_accept_iff, hctrl]
  exact ⟨rfl, rfl, rfl, rfl, hfc, by simp [badIin2, hi2], rfl, rfl, rfl, rfl⟩

/-- what an accepted fragment makes the master emit: the delivery bracket with one group of handler calls per
    parsed header, then the CONFIRM iff the fragment asks for one -/
theorem acceptedAcc_outs (a : Acc) (dest : Nat) (t : ReadTask) (seq : Nat) (r : Resp) (hs : List ObjHdr) :
    (acceptedAcc a dest t seq r hs).2 = a.2 ++ ([.deliverBegin (whoOf dest t) (rtOf t) r.ctrl.toNat r.iin1 r.iin2] ++
      hs.flatMap (headerCalls (whoOf dest t)) ++ [.deliverEnd (whoOf dest t) (rtOf t)] ++
      (if r.ctrl.con then [.tx dest [0xC0 + seq, 0]] else [])) := by
  unfold acceptedAcc
  split <;> simp [deliver_eq, emit, modAssoc, notifyLinkActivity]

/-- the master waits for a fragment (the first one iff `isFirst`) of the answer to the READ `t` it sent to
    `dest`, with sequence number `seq`; the association's counter is one ahead; the channel has a live handle -/
structure MWait (s : MState) (dest : Nat) (t : ReadTask) (seq : Nat) (isFirst : Bool) : Prop where
  mode : ∃ dl, s.mode = .waitRead dest t seq isFirst dl
  assoc : ∃ x, s.getAssoc dest = some x ∧ x.seq = seq4Next seq
  live : ¬ (s.shutdownReq = true ∧ s.live = 0)

/-- the fragment handler on a fragment `process_read_response` accepts: everything after the confirm is quiet -/
theorem read_accept_quiet (s : MState) (dest : Nat) (t : ReadTask) (seq dl : Nat) (isFirst : Bool) (src : Nat)
    (frag : List Nat) (r : Resp) (con fin : Bool)
    (hm : s.mode = .waitRead dest t seq isFirst dl) (hp : parseResponse frag = some r)
    (hv : processReadResponse dest seq isFirst (s.getAssoc dest).isSome src r = .accept con fin) :
    src = dest ∧ con = r.ctrl.con ∧
    Quiet (acceptedAcc (s, []) dest t seq r (r.objects.getD [])) (onFragment (s, []) src frag).acc := by
  have hae := ((processReadResponse_accept_iff ..).mp hv).2.2.2.2.2.2.1
  obtain ⟨x, hx⟩ := Option.isSome_iff_exists.mp hae
  rw [hae] at hv
  obtain ⟨rfl, rfl, he⟩ := onFragment_accept (s, []) dest t seq dl isFirst src frag r con fin x hm hp hx hv
  refine ⟨rfl, rfl, ?_⟩
  rw [he]
  split
  · exact Quiet.finishRead _ src t (.ok seq)
  · exact (Quiet.modAssoc ..).trans (Quiet.setMode ..)

end Dnp3.Proofs.C02SeriesMaster

namespace Dnp3.Props.C02
open Dnp3 Dnp3.Master Dnp3.Proofs.Master Dnp3.Proofs.C02Master Dnp3.Proofs.C02Overflow Dnp3.Proofs.C02SeriesMaster
open Dnp3.Proofs.C02MasterQuiet

/-- **one step of the master session model on a NON-FINAL fragment of the answer** (FIR iff first, CON, the
    expected sequence number, acceptable IIN2, parsable objects): exactly the delivery bracket and the CONFIRM
    are emitted, and the master waits for the next fragment with the next sequence number -/
theorem step_read_nonfinal (s : MState) (dest : Nat) (t : ReadTask) (seq : Nat) (isFirst : Bool)
    (c i1 i2 : Nat) (objs : List Nat) (hs : List ObjHdr)
    (hw : MWait s dest t seq isFirst)
    (hctrl : AppCtrl.ofNat c = ⟨isFirst, false, true, false, seq⟩)
    (hi2 : i2 &&& 7 = 0)
    (hparse : parseRespObjects objs.length objs = some hs)
    (hsrc : dest < 0xFFF0) (hlen : 4 + objs.length ≤ 2048) :
    ∃ s', Master.step s (.rx dest masterAddr ([c, 0x81, i1, i2] ++ objs)) =
        (s', [.deliverBegin (whoOf dest t) (rtOf t) (AppCtrl.ofNat c).toNat i1 i2] ++
          hs.flatMap (headerCalls (whoOf dest t)) ++ [.deliverEnd (whoOf dest t) (rtOf t), .tx dest [0xC0 + seq, 0]]) ∧
      MWait s' dest t (seq4Next seq) false := by
  obtain ⟨⟨dl, hmode⟩, ⟨x, hx, hxs⟩, hlive⟩ := hw
  have hfrag := onFragment_read_accept (s, []) dest t seq dl isFirst c i1 i2 objs hs false true x hmode hx hctrl
    (.inr rfl) hi2 hparse
  simp only [Bool.false_eq_true, if_false] at hfrag
  have hA := acceptedAcc_assoc (s, []) dest t seq ⟨AppCtrl.ofNat c, false, i1, i2, objs, some hs⟩ hs x hx
  have hS := acceptedAcc_state (s, []) dest t seq ⟨AppCtrl.ofNat c, false, i1, i2, objs, some hs⟩ hs
  have houts := acceptedAcc_outs (s, []) dest t seq ⟨AppCtrl.ofNat c, false, i1, i2, objs, some hs⟩ hs
  generalize acceptedAcc (s, []) dest t seq ⟨AppCtrl.ofNat c, false, i1, i2, objs, some hs⟩ hs = A at *
  have hlive' : ¬ (A.1.shutdownReq = true ∧ A.1.live = 0) := by rw [hS]; exact hlive
  rw [step_rx_waiting s dest _ _ hsrc rfl (by simpa using (by omega : objs.length + 4 ≤ 2048)) hfrag hlive']
  refine ⟨_, Prod.ext rfl ?_, ⟨_, congrArg (Mode.waitRead dest t · false _) hxs⟩,
    ⟨_, getAssoc_mod A dest (fun y => { y with seq := seq4Next y.seq }) (fun _ => rfl) _ hA, ?_⟩, hlive'⟩
  · show A.2 = _
    rw [houts, hctrl]
    simp
  · show seq4Next ((x.onLinkActivity s.now).processIin i1 i2).seq = _
    rw [processIin_seq]
    exact congrArg seq4Next hxs

/-- **one step of the master session model on anything but a received application fragment emits neither a
    delivery nor a CONFIRM** -/
theorem master_step_quiet (s : MState) (inp : MInput) (hin : ∀ src dst data, inp ≠ .rx src dst data) :
    Quiet (s, []) (Master.step s inp) := by
  refine .of_eff (step_eff s inp) ?_
  cases inp with
  | rx src dst data => exact absurd rfl (hin src dst data)
  | _ => rfl

/-- … and it is not dropped when it is addressed to the master, comes from a unicast address, is not empty and
    fits the receive buffer -/
theorem master_step_rx_quiet (s : MState) (src : Nat) (frag : List Nat)
    (hsrc : src < 0xFFF0) (hne : frag.isEmpty = false) (hlen : frag.length ≤ 2048) :
    Quiet (onFragment (s, []) src frag).acc (Master.step s (.rx src masterAddr frag)) := by
  rw [step_rx_not_dropped s src frag hsrc hne hlen]
  exact (Quiet.resolve _ _).trans (Quiet.checkShutdown _)

/-- **the confirms of one step of the master session model**: none, unless the input is an application fragment
    that reaches the session and parses as a response — then exactly `expectedConfirms` (the READ rule, the
    non-READ rule or the unsolicited rule of C15 `confirm_exactly_when`) -/
theorem master_step_confirms (s : MState) (inp : MInput) :
    confirmsOf (Master.step s inp).2 =
      (match inp with
       | .rx src dst frag =>
         if dst ≠ masterAddr ∨ src ≥ 0xFFF0 ∨ frag.isEmpty = true ∨ frag.length > 2048 then []
         else (match parseResponse frag with
           | some r => expectedConfirms s src r
           | none => [])
       | _ => []) := by
  cases inp with
  | rx src dst frag =>
    simp only
    split
    · rename_i hg
      unfold Master.step
      simp only [hg, if_true]
      rfl
    · rename_i hg
      have hq : Quiet (onFragment (s, []) src frag).acc (Master.step s (.rx src dst frag)) := by
        unfold Master.step
        simp only [hg, if_false]
        exact (Quiet.resolve _ _).trans (Quiet.checkShutdown _)
      rw [hq.confirms]
      cases hp : parseResponse frag with
      | some r => exact confirm_exactly_when s src frag r hp
      | none =>
        simp only
        exact Props.C15.unparsed_never_confirmed s src frag hp
  | _ => exact (master_step_quiet s _ (fun _ _ _ => by nofun)).confirms

/-- a CONFIRM emitted by one step of the master session model answers the application fragment received in that step -/
theorem master_confirm_means_accepted (s : MState) (inp : MInput) (d c : Nat)
    (h : (d, c) ∈ confirmsOf (Master.step s inp).2) :
    ∃ src frag r, inp = .rx src masterAddr frag ∧ src < 0xFFF0 ∧ frag.isEmpty = false ∧ frag.length ≤ 2048 ∧
      parseResponse frag = some r ∧ (d, c) ∈ expectedConfirms s src r := by
  rw [master_step_confirms] at h
  cases inp with
  | rx src dst frag =>
    simp only at h
    split at h
    · cases h
    · rename_i hg
      simp only [ne_eq, ge_iff_le, gt_iff_lt, not_or, Decidable.not_not, Nat.not_le, Nat.not_lt, Bool.not_eq_true] at hg
      obtain ⟨rfl, h2, h3, h4⟩ := hg
      cases hp : parseResponse frag with
      | none => rw [hp] at h; cases h
      | some r => rw [hp] at h; exact ⟨src, frag, r, rfl, h2, h3, h4, hp, h⟩
  | _ => cases h

/-- **a solicited CONFIRM during a READ means: accepted, delivered, then confirmed.**  The master waits for a
    fragment of the answer to a READ; one step emits the solicited confirm `[0xC0 + seq, 0]` to `dest`.  Then the
    input was a fragment from `dest` that parses as a solicited response with CON which `process_read_response`
    accepted, and the outputs of the step are: `deliverBegin`, the handler calls of EVERY parsed object header of
    that fragment (`headerCalls`, in order), `deliverEnd`, the CONFIRM, followed by outputs that are neither
    deliveries nor confirms. -/
theorem read_confirm_delivered (s : MState) (dest : Nat) (t : ReadTask) (seq dl : Nat) (isFirst : Bool) (inp : MInput)
    (hm : s.mode = .waitRead dest t seq isFirst dl)
    (h : (dest, 0xC0 + seq) ∈ confirmsOf (Master.step s inp).2) (hseq : seq < 16) :
    ∃ frag r hs fin l, inp = .rx dest masterAddr frag ∧ parseResponse frag = some r ∧ r.unsol = false ∧
      r.ctrl.con = true ∧ r.ctrl.seq = seq ∧ r.objects = some hs ∧
      processReadResponse dest seq isFirst (s.getAssoc dest).isSome dest r = .accept true fin ∧
      (Master.step s inp).2 = [.deliverBegin (whoOf dest t) (rtOf t) r.ctrl.toNat r.iin1 r.iin2] ++
        hs.flatMap (headerCalls (whoOf dest t)) ++ [.deliverEnd (whoOf dest t) (rtOf t), .tx dest [0xC0 + seq, 0]] ++ l ∧
      ∀ o ∈ l, QuietOut o := by
  obtain ⟨src, frag, r, rfl, h2, h3, h4, hp, hc⟩ := master_confirm_means_accepted s inp _ _ h
  -- the confirm is a solicited one: the unsolicited rule gives 0xD0 + _
  have hu : r.unsol = false := by
    cases hu : r.unsol with
    | false => rfl
    | true =>
      exfalso
      simp only [expectedConfirms, hm, hu, if_true] at hc
      split at hc
      · cases hc
      · split at hc
        · simp only [List.mem_singleton, Prod.mk.injEq] at hc
          omega
        · cases hc
  simp only [expectedConfirms, hm, hu, Bool.false_eq_true, if_false] at hc
  cases hv : processReadResponse dest seq isFirst (s.getAssoc dest).isSome src r with
  | unsolicited => rw [hv] at hc; cases hc
  | ignore => rw [hv] at hc; cases hc
  | fail e b => rw [hv] at hc; cases hc
  | accept con fin =>
    rw [hv] at hc
    cases con with
    | false => cases hc
    | true =>
      obtain ⟨hsrc, hcon, hq⟩ := read_accept_quiet s dest t seq dl isFirst src frag r true fin hm hp hv
      subst hsrc
      have hacc := (processReadResponse_accept_iff ..).mp hv
      obtain ⟨hs, hobj⟩ : ∃ hs, r.objects = some hs := by
        cases ho : r.objects with
        | none => rw [ho] at hacc; simp at hacc
        | some hs => exact ⟨hs, rfl⟩
      have hq2 := hq.trans (master_step_rx_quiet s src frag h2 h3 h4)
      obtain ⟨l, hl, hql⟩ := hq2
      rw [acceptedAcc_outs, ← hcon, hobj] at hl
      refine ⟨frag, r, hs, fin, l, rfl, hp, hu, hcon.symm, hacc.2.2.1, hobj, hv, ?_, hql⟩
      rw [hl]
      simp

/-- `Association::process_iin` with IIN2.3 set and `auto_integrity_scan_on_buffer_overflow`: whatever the
    other IIN bits and the state of the automatic tasks, the integrity task is not idle afterwards -/
theorem process_iin_overflow (x : Assoc) (i1 i2 : Nat) (hovf : x.cfg.ovf = true) (hb : i2 &&& 0x08 ≠ 0) :
    (x.processIin i1 i2).auto.integrity.isIdle = false :=
  Dnp3.Proofs.C02Overflow.processIin_overflow_integrity x i1 i2 hovf hb

/-- … and without IIN2.3 and IIN1.7 it leaves the integrity task as it was (the demand comes from
    these two bits only) -/
theorem process_iin_no_trigger (x : Assoc) (i1 i2 : Nat) (h7 : i1 &&& 0x80 = 0) (hb : i2 &&& 0x08 = 0) :
    (x.processIin i1 i2).auto.integrity = x.auto.integrity := by
  unfold Assoc.processIin
  simp only [h7, hb, ne_eq, not_true_eq_false, if_false, Proofs.C02Overflow.setEvents_integrity]
  split <;> rfl

/-- **an accepted response fragment with IIN2.3 set, final or not, demands the integrity task.**
    The master waits for (a fragment of) the response to a READ `t` polled from `dest` (any READ:
    periodic poll, automatic event scan, user read, integrity poll); the association has
    `auto_integrity_scan_on_buffer_overflow`; the fragment is accepted by `process_read_response`
    (with or without CON, FIN or not) and carries IIN2.3.  When the fragment has been handled (IIN
    processed, measurements delivered, confirm sent and, for a final fragment, the READ task completed)
    the association's integrity task is not idle: it is pending or waits for its retry instant.  The one
    exception is in the statement: the FINAL fragment of the integrity poll itself completes that very task
    (`on_integrity_scan_complete`). -/
theorem overflow_iin_demands_integrity (s : MState) (dest seq dl : Nat) (t : ReadTask) (isFirst : Bool)
    (src : Nat) (frag : List Nat) (r : Master.Resp) (x : Assoc) (confirm final : Bool)
    (hm : s.mode = .waitRead dest t seq isFirst dl)
    (hp : parseResponse frag = some r)
    (hx : s.getAssoc dest = some x) (hovf : x.cfg.ovf = true)
    (hv : processReadResponse dest seq isFirst true src r = .accept confirm final)
    (hiin : r.iin2 &&& 0x08 ≠ 0)
    (hni : final = true → ∀ c, t ≠ .integrity c) :
    ∃ y, (onFragment (s, []) src frag).acc.1.getAssoc dest = some y ∧ y.auto.integrity.isIdle = false :=
  Dnp3.Proofs.C02Overflow.overflow_iin_demands_integrity s dest seq dl t isFirst src frag r x confirm final
    hm hp hx hovf hv hiin hni

/-- the same through the whole `Master.step` for a NON-FINAL fragment (the shape in which the outstation
    reports an overflow that the confirm of this very fragment clears): afterwards the master still
    waits for the next fragment of the READ and the integrity task of the polled association is not
    idle.  `hlive`: the channel has not been dropped by all its handles (otherwise the step goes on to shut the
    task down). -/
theorem nonfinal_overflow_fragment_step (s : MState) (dest seq dl : Nat) (t : ReadTask) (isFirst : Bool)
    (src dst : Nat) (frag : List Nat) (r : Master.Resp) (x : Assoc) (confirm : Bool)
    (hdst : dst = Master.masterAddr) (hsrc : src < 0xFFF0) (hne : frag.isEmpty = false) (hlen : frag.length ≤ 2048)
    (hlive : ¬ (s.shutdownReq = true ∧ s.live = 0))
    (hm : s.mode = .waitRead dest t seq isFirst dl)
    (hp : parseResponse frag = some r)
    (hx : s.getAssoc dest = some x) (hovf : x.cfg.ovf = true)
    (hv : processReadResponse dest seq isFirst true src r = .accept confirm false)
    (hiin : r.iin2 &&& 0x08 ≠ 0) :
    ∃ y seq' dl', (Master.step s (.rx src dst frag)).1.getAssoc dest = some y ∧ y.auto.integrity.isIdle = false ∧
      (Master.step s (.rx src dst frag)).1.mode = .waitRead dest t seq' false dl' :=
  Dnp3.Proofs.C02Overflow.nonfinal_overflow_fragment_step s dest seq dl t isFirst src dst frag r x confirm
    hdst hsrc hne hlen hlive hm hp hx hovf hv hiin

/-- a master whose start-up sequence is complete (integrity task idle) runs periodic event poll 0
    (classes 1-3) and waits for the first fragment of its response with sequence number 0 -/
def ovfDemo : MState :=
  { assocs := [{ addr := 1024, cfg := {}, seq := 1, integrityDone := true,
                 auto := { disable := .idle, integrity := .idle, enable := .idle } }],
    ring := [1024], mode := .waitRead 1024 (.poll 0 7) 0 true 5000, live := 1 }

/-- FIR, not FIN, CON, sequence 0, RESPONSE, IIN2.3, one g32v1 event (index 0, ONLINE, value 1) -/
def ovfFrag : List Nat := [0xA0, 0x81, 0x00, 0x08, 32, 1, 0x28, 1, 0, 0, 0, 1, 1, 0, 0, 0]

/-- every hypothesis of `overflow_iin_demands_integrity` / `nonfinal_overflow_fragment_step` holds for
    this non-final fragment, the integrity task was idle before, and it is pending after the step;
    the fragment was delivered to the handler and confirmed -/
example :
    ∃ r x, parseResponse ovfFrag = some r ∧ ovfDemo.getAssoc 1024 = some x ∧ x.cfg.ovf = true ∧
      x.auto.integrity = .idle ∧
      processReadResponse 1024 0 true true 1024 r = .accept true false ∧ r.iin2 &&& 0x08 ≠ 0 ∧
      ((Master.step ovfDemo (.rx 1024 1 ovfFrag)).1.getAssoc 1024).map (·.auto.integrity) = some .pending ∧
      MOut.tx 1024 [0xC0, 0] ∈ (Master.step ovfDemo (.rx 1024 1 ovfFrag)).2 ∧
      MOut.deliverHdr (.assoc 1024) 32 1 0x28 [(0, [1, 1, 0, 0, 0])] ∈ (Master.step ovfDemo (.rx 1024 1 ovfFrag)).2 := by
  refine ⟨_, _, rfl, rfl, rfl, rfl, ?_, ?_, ?_, ?_, ?_⟩ <;> decide +kernel

/-- the same indication in the FINAL fragment of that poll: the poll completes and the integrity poll
    is started at once (the next request on the wire is READ class 1, 2, 3, 0) -/
example :
    MOut.tx 1024 [0xC1, 1, 0x3c, 0x02, 0x06, 0x3c, 0x03, 0x06, 0x3c, 0x04, 0x06, 0x3c, 0x01, 0x06] ∈
      (Master.step ovfDemo (.rx 1024 1 ([0xC0] ++ ovfFrag.drop 1))).2 := by
  decide +kernel
/-- hypotheses of `read_confirm_delivered`: the master of `ovfDemo` waits for the first fragment of a READ with
    sequence number 0; on the non-final fragment `ovfFrag` the step emits the confirm `C0 00` -/
example : ovfDemo.mode = .waitRead 1024 (.poll 0 7) 0 true 5000 ∧
    (1024, 0xC0 + 0) ∈ confirmsOf (Master.step ovfDemo (.rx 1024 1 ovfFrag)).2 := by
  refine ⟨rfl, ?_⟩
  decide +kernel

/-- hypothesis of `step_read_nonfinal`: `MWait` for that state -/
example : MWait ovfDemo 1024 (.poll 0 7) 0 true := ⟨⟨5000, rfl⟩, ⟨_, rfl, rfl⟩, by decide⟩

example : ∀ src dst data, MInput.tick 5000 ≠ .rx src dst data := by intro _ _ _ h; cases h

/-- hypotheses of `master_step_rx_quiet`: a unicast source, a non-empty fragment that fits -/
example : (1024 : Nat) < 0xFFF0 ∧ ovfFrag.isEmpty = false ∧ ovfFrag.length ≤ 2048 := by decide
end Dnp3.Props.C02
