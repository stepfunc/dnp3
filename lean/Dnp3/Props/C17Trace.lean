import Dnp3.Model.MasterTrace
import Dnp3.Proofs.Master
/-!
# C17 — trace theorems for the master start-up

Gating: in the flattened output list of a run that starts in a state where the integrity poll of the association
`addr` has not completed, every `deliverBegin (.assoc addr) .unsolicited ..` that is not preceded by a
`taskSuccess addr .startupIntegrity ..` is IMMEDIATELY followed by its `deliverEnd`: no object header of an unsolicited
response reaches the handler before the integrity poll succeeded.

Ordering (namespace `Ord`): integrity starts only after DISABLE_UNSOLICITED completed, ENABLE_UNSOLICITED only after the
integrity success.

Both are invariants of `Master.step`, lifted to `Master.run` (`run_guarded`); each is kept by every effect of the session
(`inv_eff`, `oinv_eff`: induction over `Proofs.Master.Eff`).  The general forms are stated here under their `Props.C17` names;
`Props/C17.lean` has the instances from the start state.
-/
namespace Dnp3.Proofs.MasterC17Trace
open Dnp3 Dnp3.Master Dnp3.Proofs.Master

/-! ## Guarded output lists

Both trace properties say of a list of outputs: wherever an output of one kind (`B`) sits, something (`P`) holds of what
precedes it and what follows it — an output of another kind precedes it, or what follows begins as it should.  `P`
survives more outputs after and before, and holds outright once the outputs before satisfy `Tr` (`Mono`). -/

def Guarded (B : MOut → Prop) (P : List MOut → List MOut → Prop) (l : List MOut) : Prop :=
  ∀ pre o post, l = pre ++ o :: post → B o → P pre post

structure Mono (P : List MOut → List MOut → Prop) (Tr : List MOut → Prop) : Prop where
  post : ∀ pre p m, P pre p → P pre (p ++ m)
  pre : ∀ l pre p, P pre p → P (l ++ pre) p
  trig : ∀ l c p, Tr l → P (l ++ c) p

section
variable {B : MOut → Prop} {P : List MOut → List MOut → Prop} {Tr : List MOut → Prop}

theorem guarded_nil : Guarded B P [] := by
  intro pre o post h
  cases pre <;> cases h

/-- where does `o` sit when `l ++ m = pre ++ o :: post` -/
theorem split_append {α : Type} (l m pre post : List α) (o : α) (h : l ++ m = pre ++ o :: post) :
    (∃ c, l = pre ++ o :: c ∧ post = c ++ m) ∨ (∃ c, pre = l ++ c ∧ m = c ++ o :: post) := by
  rcases List.append_eq_append_iff.1 h with ⟨c, h1, h2⟩ | ⟨c, h1, h2⟩
  · right; exact ⟨c, h1, h2⟩
  · cases c with
    | nil =>
      right
      refine ⟨[], by simpa using h1.symm, by simpa using h2.symm⟩
    | cons x c =>
      left
      simp only [List.cons_append, List.cons.injEq] at h2
      obtain ⟨rfl, rfl⟩ := h2
      exact ⟨c, h1, rfl⟩

theorem guarded_append {l m : List MOut} (M : Mono P Tr) (hl : Guarded B P l) (hm : Guarded B P m) : Guarded B P (l ++ m) := by
  intro pre o post h hb
  rcases split_append l m pre post o h with ⟨c, h1, h2⟩ | ⟨c, h1, h2⟩
  · rw [h2]
    exact M.post pre c m (hl pre o c h1 hb)
  · rw [h1]
    exact M.pre l c post (hm c o post h2 hb)

theorem guarded_append_trig {l : List MOut} (m : List MOut) (M : Mono P Tr) (hl : Guarded B P l) (ht : Tr l) :
    Guarded B P (l ++ m) := by
  intro pre o post h hb
  rcases split_append l m pre post o h with ⟨c, h1, h2⟩ | ⟨c, h1, _⟩
  · rw [h2]
    exact M.post pre c m (hl pre o c h1 hb)
  · rw [h1]
    exact M.trig l c post ht

theorem guarded_single {o : MOut} (h : ¬ B o) : Guarded B P [o] := by
  intro pre o' post he hb
  cases pre with
  | nil => cases he; exact absurd hb h
  | cons x pre => cases pre <;> simp at he

theorem exists_mem_append_left {Q : MOut → Prop} {l : List MOut} (m : List MOut) (h : ∃ o ∈ l, Q o) : ∃ o ∈ l ++ m, Q o := by
  obtain ⟨o, ho, hs⟩ := h
  exact ⟨o, List.mem_append_left _ ho, hs⟩

theorem exists_mem_append_right {Q : MOut → Prop} (l : List MOut) {m : List MOut} (h : ∃ o ∈ m, Q o) : ∃ o ∈ l ++ m, Q o := by
  obtain ⟨o, ho, hs⟩ := h
  exact ⟨o, List.mem_append_right _ ho, hs⟩

theorem run_cons (s : MState) (i : MInput) (is : List MInput) :
    run s (i :: is) = ((run (step s i).1 is).1, (step s i).2 :: (run (step s i).1 is).2) := rfl

theorem run_guarded (M : Mono P Tr) (S : MState → Prop) (ok : MInput → Prop)
    (hstep : ∀ s i, ok i → S s → Guarded B P (step s i).2 ∧ (Tr (step s i).2 ∨ S (step s i).1))
    (s : MState) (ins : List MInput) (hs : S s) (hi : ∀ i ∈ ins, ok i) : Guarded B P (run s ins).2.flatten := by
  induction ins generalizing s with
  | nil => exact guarded_nil
  | cons i is ih =>
    rw [run_cons]
    simp only [List.flatten_cons]
    obtain ⟨hg, ht | hs'⟩ := hstep s i (hi i (List.mem_cons_self ..)) hs
    · exact guarded_append_trig _ M hg ht
    · exact guarded_append M hg (ih _ hs' (fun j hj => hi j (List.mem_cons_of_mem _ hj)))

end

theorem autoResponse_addr (y : Assoc) (k : AutoKind) (i now : Nat) : (y.autoResponse k i now).addr = y.addr := by
  unfold Assoc.autoResponse
  cases k
  · dsimp only; split <;> rfl
  · rfl
  · rfl

theorem mem_insertSorted (x y : Assoc) (l : List Assoc) (h : y ∈ insertSorted x l) : y = x ∨ y ∈ l := by
  induction l with
  | nil => simp [insertSorted] at h; exact Or.inl h
  | cons z zs ih =>
    unfold insertSorted at h
    split at h
    · simp only [List.mem_cons] at h ⊢
      exact h
    · simp only [List.mem_cons] at h ⊢
      rcases h with h | h
      · exact Or.inr (Or.inl h)
      · rcases ih h with h | h
        · exact Or.inl h
        · exact Or.inr (Or.inr h)

/-- the handler is told that an unsolicited response of `addr` begins -/
def UBegin (addr : Nat) (o : MOut) : Prop := ∃ c i1 i2, o = .deliverBegin (.assoc addr) .unsolicited c i1 i2

/-- the start-up integrity poll of `addr` is reported as successful -/
def ISucc (addr : Nat) (o : MOut) : Prop := ∃ fc seq, o = .taskSuccess addr .startupIntegrity fc seq

def HasSucc (addr : Nat) (l : List MOut) : Prop := ∃ o ∈ l, ISucc addr o

/-- every unsolicited delivery for `addr` that no integrity success precedes is empty: `deliverBegin` is
    directly followed by `deliverEnd` (no `deliverHdr` / `deliverAbsTime` in between) -/
def Gated (addr : Nat) (l : List MOut) : Prop :=
  ∀ pre o post, l = pre ++ o :: post → UBegin addr o → (∀ o' ∈ pre, ¬ ISucc addr o') →
    ∃ post', post = .deliverEnd (.assoc addr) .unsolicited :: post'

theorem gated_mono (addr : Nat) : Mono (fun pre post => (∀ o' ∈ pre, ¬ ISucc addr o') →
    ∃ post', post = .deliverEnd (.assoc addr) .unsolicited :: post') (HasSucc addr) where
  post := fun _ _ m h hn => by
    obtain ⟨p', rfl⟩ := h hn
    exact ⟨p' ++ m, rfl⟩
  pre := fun _ _ _ h hn => h fun o' ho' => hn o' (List.mem_append_right _ ho')
  trig := fun _ _ _ ⟨o, ho, hs⟩ hn => absurd hs (hn o (List.mem_append_left _ ho))

theorem gated_empty_delivery (addr c i1 i2 : Nat) :
    Gated addr [.deliverBegin (.assoc addr) .unsolicited c i1 i2, .deliverEnd (.assoc addr) .unsolicited] := by
  intro pre o post he hb _
  cases pre with
  | nil =>
    simp only [List.nil_append, List.cons.injEq] at he
    exact ⟨[], he.2.symm⟩
  | cons x pre =>
    simp only [List.cons_append, List.cons.injEq] at he
    obtain ⟨_, he⟩ := he
    cases pre with
    | nil =>
      simp only [List.nil_append, List.cons.injEq] at he
      obtain ⟨c', i1', i2', hb⟩ := hb
      rw [hb] at he
      exact absurd he.1 (by simp)
    | cons y pre =>
      simp only [List.cons_append, List.cons.injEq] at he
      cases pre <;> simp at he

/-- the gate of `addr` is closed: the integrity poll of (every entry for) `addr` has not completed -/
def Closed (addr : Nat) (s : MState) : Prop := ∀ x ∈ s.assocs, x.addr = addr → x.isIntegrityComplete = false

/-- the invariant of an accumulator: the outputs so far are gated, and the gate is closed unless the
    integrity success has been reported -/
def Inv (addr : Nat) (a : Acc) : Prop := Gated addr a.2 ∧ (HasSucc addr a.2 ∨ Closed addr a.1)

theorem getAssoc_mem (s : MState) (d : Nat) (x : Assoc) (hx : s.getAssoc d = some x) : x ∈ s.assocs ∧ x.addr = d := by
  unfold MState.getAssoc at hx
  exact ⟨List.mem_of_find?_eq_some hx, by simpa using List.find?_some hx⟩

theorem inv_emit (addr : Nat) (a : Acc) (o : MOut) (ho : ¬ UBegin addr o) (h : Inv addr a) : Inv addr (emit a o) := by
  obtain ⟨hg, hs⟩ := h
  refine ⟨?_, ?_⟩
  · exact guarded_append (gated_mono addr) hg (guarded_single ho)
  · rcases hs with hs | hs
    · exact Or.inl (exists_mem_append_left [o] hs)
    · exact Or.inr hs

theorem inv_state (addr : Nat) (a : Acc) (s' : MState) (hc : Closed addr a.1 → Closed addr s') (h : Inv addr a) :
    Inv addr (s', a.2) := by
  obtain ⟨hg, hs⟩ := h
  exact ⟨hg, hs.imp id hc⟩

theorem at_modAssoc (addr : Nat) (P : Assoc → Prop) (a : Acc) (d : Nat) (f : Assoc → Assoc)
    (hfa : ∀ y, (f y).addr = y.addr) (hf : ∀ y ∈ a.1.assocs, y.addr = addr → d = addr → P y → P (f y))
    (h : ∀ x ∈ a.1.assocs, x.addr = addr → P x) : ∀ x ∈ (modAssoc a d f).1.assocs, x.addr = addr → P x := by
  intro x hx hxa
  simp only [modAssoc, List.mem_map] at hx
  obtain ⟨y, hy, rfl⟩ := hx
  by_cases hd : y.addr = d
  · simp only [hd, if_true] at hxa ⊢
    rw [hfa y] at hxa
    exact hf y hy hxa (hd.symm.trans hxa) (h y hy hxa)
  · simp only [hd, if_false] at hxa ⊢
    exact h y hy hxa

theorem closed_modAssoc (addr : Nat) (a : Acc) (d : Nat) (f : Assoc → Assoc) (hfa : ∀ y, (f y).addr = y.addr)
    (hf : d = addr → ∀ y, (f y).isIntegrityComplete = true → y.isIntegrityComplete = true) (hc : Closed addr a.1) :
    Closed addr (modAssoc a d f).1 :=
  at_modAssoc addr _ a d f hfa (fun y _ _ hd hy => by
    cases hic : (f y).isIntegrityComplete with
    | false => rfl
    | true => rw [hf hd y hic] at hy; exact hy) hc

theorem ic_of_book (y y' : Assoc) (h : Book y y') (hic : y'.isIntegrityComplete = true) : y.isIntegrityComplete = true := by
  obtain ⟨_, hc, _, _, hd, _⟩ := h
  simp only [Assoc.isIntegrityComplete, Bool.or_eq_true, hc] at hic ⊢
  exact hic.imp_right hd

theorem inv_emit_succ (addr : Nat) (a : Acc) (o : MOut) (hs : HasSucc addr a.2) (h : Inv addr a) : Inv addr (emit a o) :=
  ⟨guarded_append_trig [o] (gated_mono addr) h.1 hs, Or.inl (exists_mem_append_left [o] hs)⟩

theorem inv_deliver (addr : Nat) (a : Acc) (who : Who) (rt : ReadType) (r : Resp) (hs : List ObjHdr)
    (hb : Inv addr (emit a (.deliverBegin who rt r.ctrl.toNat r.iin1 r.iin2))) : Inv addr (deliver a who rt r hs) :=
  deliver_rule (Inv addr) a who rt r hs hb fun b o ho _ => inv_emit addr b o (by rintro ⟨_, _, _, rfl⟩; exact ho _ _ _ _ _ rfl)

theorem inv_deliver_nil (addr : Nat) (a : Acc) (r : Resp) (h : Inv addr a) :
    Inv addr (deliver a (.assoc addr) .unsolicited r []) := by
  have he : (deliver a (.assoc addr) .unsolicited r []).2 = a.2 ++
      [.deliverBegin (.assoc addr) .unsolicited r.ctrl.toNat r.iin1 r.iin2, .deliverEnd (.assoc addr) .unsolicited] := by
    simp [deliver, emit]
  refine ⟨?_, ?_⟩
  · rw [he]
    exact guarded_append (gated_mono addr) h.1 (gated_empty_delivery addr _ _ _)
  · rcases h.2 with hs | hc
    · left; rw [he]; exact exists_mem_append_left _ hs
    · right; exact hc

theorem inv_mod (addr : Nat) (a : Acc) (d : Nat) (f : Assoc → Assoc) (hfa : ∀ y, (f y).addr = y.addr)
    (hf : d = addr → ∀ y, (f y).isIntegrityComplete = true → y.isIntegrityComplete = true) (h : Inv addr a) :
    Inv addr (modAssoc a d f) :=
  inv_state addr a _ (closed_modAssoc addr a d f hfa hf) h

/-- GATING along the effects of the session.  The two effects the invariant turns on: a delivery of an unsolicited
    response — with the gate closed only an empty one is accepted, and `parseResponse` gives such a response the empty
    list of objects (`hnull`) — and the completion of the integrity poll, which opens the gate together with its report. -/
theorem inv_eff (addr : Nat) {c : Cause} {a b : Acc} (h : Eff c a b)
    (hadd : ∀ cfg, c.msg = some (.addAssoc addr cfg) → cfg.int ≠ 0)
    (hnull : ∀ src r, c.rx = some (src, r) → r.raw = [] → r.objects = some []) (h0 : Inv addr a) : Inv addr b := by
  induction h with
  | refl => exact h0
  | out o _ ho ih => exact inv_emit addr _ o (by rintro ⟨_, _, _, rfl⟩; exact ho) ih
  | request d seq fc objs _ _ ih => exact inv_emit addr _ _ nofun ih
  | start d t tt fc seq _ _ _ _ _ ih => exact inv_emit addr _ _ nofun ih
  | confirm src r d k _ _ ih => exact inv_emit addr _ _ nofun ih
  | @deliver b src r who rt _ hr hg ih =>
    by_cases hu : rt = .unsolicited ∧ who = .assoc addr
    · obtain ⟨rfl, rfl⟩ := hu
      obtain ⟨hw, x, hx, hgate⟩ := hg rfl
      cases hw
      rcases ih.2 with hsucc | hcl
      · exact inv_deliver addr _ _ _ r _ (inv_emit_succ addr _ _ hsucc ih)
      · have hraw : r.raw = [] := hgate.resolve_left (by
          rw [hcl x (getAssoc_mem b.1 addr x hx).1 (getAssoc_mem b.1 addr x hx).2]; exact nofun)
        rw [hnull addr r hr hraw]
        exact inv_deliver_nil addr b r ih
    · refine inv_deliver addr _ _ _ r _ (inv_emit addr _ _ ?_ ih)
      rintro ⟨_, _, _, e⟩
      cases e
      exact hu ⟨rfl, rfl⟩
  | session s' _ hs ih => exact inv_state addr _ s' (fun hc x hx => hc x (hs ▸ hx)) ih
  | book d f _ hf ih => exact inv_mod addr _ d f (fun y => (hf y).1) (fun _ y => ic_of_book y _ (hf y)) ih
  | pop d x q _ _ _ ih => exact inv_mod addr _ d _ (fun _ => rfl) (fun _ _ h => h) ih
  | reset d _ ih =>
    refine inv_mod addr _ d _ (fun _ => rfl) (fun _ y hic => ?_) ih
    simp only [Assoc.isIntegrityComplete, Bool.or_false] at hic ⊢
    rw [hic]; rfl
  | @done b d i f o _ hf ho ih =>
    by_cases hi : d = addr ∧ i = .integrity
    · obtain ⟨rfl, rfl⟩ := hi
      obtain ⟨fc, seq, rfl⟩ : ∃ fc seq, o = .taskSuccess d .startupIntegrity fc seq := by
        rcases ho with ho | ⟨k, _, _, hk, _⟩
        · exact ho
        · cases k <;> cases hk
      exact ⟨guarded_append (gated_mono d) ih.1 (guarded_single nofun),
        Or.inl (exists_mem_append_right _ ⟨_, List.mem_singleton.2 rfl, ⟨fc, seq, rfl⟩⟩)⟩
    · refine inv_emit addr _ o (by rcases ho with ⟨_, _, rfl⟩ | ⟨_, _, _, _, rfl⟩ <;> exact nofun) ?_
      rcases hf with rfl | ⟨rfl, rfl⟩
      · exact inv_mod addr _ d _ (fun _ => rfl) (fun _ _ h => h) ih
      · exact inv_mod addr _ d _ (fun _ => rfl) (fun hd => (hi ⟨hd, rfl⟩).elim) ih
  | heard src _ _ ih => exact inv_mod addr _ src _ (fun _ => rfl) (fun _ _ h => h) ih
  | push d t _ _ ih => exact inv_mod addr _ d _ (fun _ => rfl) (fun _ _ h => h) ih
  | addAssoc d cfg _ hm ih =>
    refine inv_state addr _ _ (fun hc x hx hxa => ?_) ih
    rcases mem_insertSorted _ _ _ hx with rfl | hx
    · cases hxa
      simp [Assoc.isIntegrityComplete, Assoc.new, hadd cfg hm]
    · exact hc x hx hxa
  | removeAssoc d _ _ ih => exact inv_state addr _ _ (fun hc x hx => hc x (List.mem_filter.1 hx).1) ih

/-- the constraint on an input: an association for `addr` is configured with an integrity poll -/
def InputOk (addr : Nat) (i : MInput) : Prop := ∀ cfg, i ≠ .msg (.addAssoc addr cfg) ∨ cfg.int ≠ 0

theorem inv_nil (addr : Nat) (s : MState) (h : Closed addr s) : Inv addr (s, []) := ⟨guarded_nil, Or.inr h⟩

/-- one step from a state with the gate closed -/
theorem _root_.Dnp3.Props.C17.step_gated_inv (addr : Nat) (s : MState) (i : MInput) (hi : InputOk addr i) (h : Closed addr s) : Inv addr (step s i) := by
  refine inv_eff addr (step_eff s i) (fun cfg hm => (hi cfg).resolve_left fun hne => ?_) ?_ (inv_nil addr s h)
  · rcases causeOf_msg hm with rfl | ⟨_, _, e, _⟩
    · exact hne rfl
    · cases e
  · intro src r hr
    obtain ⟨_, data, _, hp⟩ := causeOf_rx hr
    exact parseResponse_null_objects data r hp

/-- GATING, general form: from ANY state in which the integrity poll of `addr` has not completed (initially, after a
    (re)connect, after a restart indication, after the association was added) and for ANY inputs (that do not
    configure `addr` without an integrity poll), every unsolicited delivery for `addr` in the whole run that is not
    preceded by `taskSuccess addr .startupIntegrity` is empty -/
theorem _root_.Dnp3.Props.C17.run_gated (addr : Nat) (s : MState) (ins : List MInput) (hs : Closed addr s) (hi : ∀ i ∈ ins, InputOk addr i) :
    Gated addr (run s ins).2.flatten :=
  run_guarded (gated_mono addr) (Closed addr) (InputOk addr) (fun s i hi h => Props.C17.step_gated_inv addr s i hi h) s ins hs hi

theorem closed_start (addr txSize : Nat) : Closed addr (start txSize) := by
  intro x hx
  cases hx

theorem inputOk_of_cfg (addr : Nat) (ins : List MInput)
    (hi : ∀ cfg, MInput.msg (.addAssoc addr cfg) ∈ ins → cfg.int ≠ 0) : ∀ i ∈ ins, InputOk addr i := by
  intro i hmem cfg
  by_cases h : i = .msg (.addAssoc addr cfg)
  · right; exact hi cfg (h ▸ hmem)
  · left; exact h

/-- unsolicited response (FIR FIN CON UNS, sequence `seq`) with one g2v1 event -/
def exUnsolData (seq : Nat) : MInput := .rx 10 1 [0xF0 + seq, 130, 0, 0, 2, 1, 0x17, 1, 0, 0x81]
/-- null unsolicited response -/
def exUnsolNull (seq : Nat) : MInput := .rx 10 1 [0xF0 + seq, 130, 0, 0]
/-- empty solicited response (FIR FIN) with sequence `seq` -/
def exResp (seq : Nat) : MInput := .rx 10 1 [0xC0 + seq, 129, 0, 0]

/-- add association 10 (default configuration: disable, integrity, enable all on), connect; unsolicited data and a
    null unsolicited response arrive before the DISABLE_UNSOLICITED response; data again before and after the
    integrity response -/
def exRun : List MInput :=
  [.msg (.addAssoc 10 {}), .connect, exUnsolData 1, exUnsolNull 2, exResp 0, exUnsolData 3, exResp 1, exUnsolData 4]

theorem exRun_cfg : ∀ cfg, MInput.msg (.addAssoc 10 cfg) ∈ exRun → cfg.int ≠ 0 := by
  intro cfg h
  simp [exRun, exUnsolData, exUnsolNull, exResp] at h
  subst h
  decide

example : Gated 10 (run (start 2048) exRun).2.flatten :=
  Props.C17.run_gated 10 _ exRun (closed_start 10 2048) (inputOk_of_cfg 10 exRun exRun_cfg)

/-- what the run does: the data before the integrity success produce NO output at all (steps 3 and 6), the null
    response is delivered empty and confirmed (step 4), the data after the success are delivered (step 8) -/
example : (run (start 2048) exRun).2 =
    [[.line "assoc ok"],
     [.taskStart 10 .disableUnsolicited 21 0, .tx 10 [192, 21, 60, 2, 6, 60, 3, 6, 60, 4, 6]],
     [],
     [.deliverBegin (.assoc 10) .unsolicited 242 0 0, .deliverEnd (.assoc 10) .unsolicited, .unsol 10 false 2, .tx 10 [210, 0]],
     [.taskSuccess 10 .disableUnsolicited 21 0, .taskStart 10 .startupIntegrity 1 1,
      .tx 10 [193, 1, 60, 2, 6, 60, 3, 6, 60, 4, 6, 60, 1, 6]],
     [],
     [.deliverBegin (.assoc 10) .integrity 193 0 0, .deliverEnd (.assoc 10) .integrity,
      .taskSuccess 10 .startupIntegrity 1 1, .taskStart 10 .enableUnsolicited 20 2,
      .tx 10 [194, 20, 60, 2, 6, 60, 3, 6, 60, 4, 6]],
     [.deliverBegin (.assoc 10) .unsolicited 244 0 0, .deliverHdr (.assoc 10) 2 1 23 [(0, [129])],
      .deliverEnd (.assoc 10) .unsolicited, .unsol 10 false 4, .tx 10 [212, 0]]] := by
  decide +kernel

/-- `y` has the address and the configuration of an association of `a` -/
def CfgFrom (a : Acc) (y : Assoc) : Prop := ∃ y0 ∈ a.1.assocs, y0.addr = y.addr ∧ y0.cfg = y.cfg

/-- address and configuration of every association stay, unless a message from a handle or link activity is the cause -/
theorem cfg_eff {c : Cause} {a b : Acc} (h : Eff c a b) (hm : c.msg = none) (hh : c.heard = none) :
    ∀ y ∈ b.1.assocs, CfgFrom a y := by
  intro y hy
  have hv := h.view (fun x => (x.addr, x.cfg)) (fun _ _ ha hc _ => by rw [ha, hc]) hm hh
  obtain ⟨y0, hy0, e⟩ := List.mem_map.1 (hv ▸ List.mem_map.2 ⟨y, hy, rfl⟩)
  exact ⟨y0, hy0, congrArg Prod.fst e, congrArg Prod.snd e⟩

/-- `b` has no association at an address other than `d` that `a` does not have -/
def OnlyAt (d : Nat) (a b : Acc) : Prop := ∀ y ∈ b.1.assocs, y.addr ≠ d → y ∈ a.1.assocs

theorem onlyAt_modAssoc (a : Acc) (d : Nat) (f : Assoc → Assoc) (hf : ∀ y, (f y).addr = y.addr) :
    OnlyAt d a (modAssoc a d f) := by
  intro y' hy' hne
  simp only [modAssoc, List.mem_map] at hy'
  obtain ⟨y, hy, rfl⟩ := hy'
  by_cases hd : y.addr = d
  · rw [if_pos hd, hf y] at hne
    exact absurd hd hne
  · rw [if_neg hd]
    exact hy

theorem onlyAt_taskOnError (a : Acc) (d : Nat) (t : Task) (e : TaskErr) : OnlyAt d a (taskOnError a d t e) :=
  taskOnError_rule (OnlyAt d a) a d t e (fun _ h _ => h) (fun _ _ h _ => h)
    (fun _ => onlyAt_modAssoc a d _ (fun _ => rfl)) (fun _ => onlyAt_modAssoc a d _ (fun _ => rfl))
    (fun _ _ _ _ _ _ => onlyAt_modAssoc a d _ (fun y => autoResponse_addr y _ _ _))

/-- one turn of the reset loop of `endSession` -/
def resetOne (why : StopWhy) (a : Acc) (x : Assoc) : Acc :=
  modAssoc (x.queue.foldl (fun a t => taskOnError a x.addr t why.err) a) x.addr
    fun y => { y with queue := [], auto := {}, integrityDone := false, lastUnsol := none }

theorem endSession_assocs (a : Acc) (why : StopWhy) :
    (endSession a why).1.assocs = (a.1.assocs.foldl (resetOne why) a).1.assocs := by
  unfold endSession
  cases why <;> rfl

/-- an association as `Association::reset` leaves it -/
def Fresh (y : Assoc) : Prop := y.queue = [] ∧ y.auto = {} ∧ y.integrityDone = false

/-- one turn: the entries at the address of `x` are fresh, the others are those of `a` -/
theorem resetOne_fresh (why : StopWhy) (a : Acc) (x : Assoc) :
    ∀ y ∈ (resetOne why a x).1.assocs, Fresh y ∨ (y.addr ≠ x.addr ∧ y ∈ a.1.assocs) := by
  have hq : OnlyAt x.addr a (x.queue.foldl (fun a t => taskOnError a x.addr t why.err) a) :=
    foldl_keeps (I := OnlyAt x.addr a) _ (fun b t hb y hy hne => hb y (onlyAt_taskOnError b x.addr t why.err y hy hne) hne)
      x.queue (fun _ h _ => h)
  intro y' hy'
  simp only [resetOne, modAssoc, List.mem_map] at hy'
  obtain ⟨y, hy, rfl⟩ := hy'
  by_cases hd : y.addr = x.addr
  · rw [if_pos hd]
    exact .inl ⟨rfl, rfl, rfl⟩
  · rw [if_neg hd]
    exact .inr ⟨hd, hq y hy hd⟩

/-- the reset loop over `l`: an entry that is not fresh yet sits at an address still to come; a turn resets its own address
    and touches no other -/
theorem resetLoop_fresh (why : StopWhy) (l : List Assoc) (c : Acc)
    (h : ∀ y ∈ c.1.assocs, Fresh y ∨ y.addr ∈ l.map (·.addr)) : ∀ y ∈ (l.foldl (resetOne why) c).1.assocs, Fresh y := by
  induction l generalizing c with
  | nil => exact fun y hy => (h y hy).resolve_right (List.not_mem_nil)
  | cons x xs ih =>
    refine ih _ fun y hy => ?_
    rcases resetOne_fresh why c x y hy with hf | ⟨hne, hyc⟩
    · exact .inl hf
    · exact (h y hyc).imp_right fun hm => (List.mem_cons.1 hm).resolve_left hne

theorem endSession_fresh (a : Acc) (why : StopWhy) : ∀ y ∈ (endSession a why).1.assocs, Fresh y := by
  rw [endSession_assocs]
  exact resetLoop_fresh why _ a fun y hy => .inr (List.mem_map.2 ⟨y, hy, rfl⟩)

theorem loopFuel_succ : loopFuel = 63 + 1 := rfl

theorem resolve_waiting (n : Nat) (a : Acc) : resolve (n + 1) (.waiting a) = a := by
  unfold resolve; rfl

theorem resolve_stop (n : Nat) (a : Acc) (why : StopWhy) : resolve (n + 1) (.stop a why) = endSession a why := by
  unfold resolve; rfl

theorem resolve_appDone_link (n : Nat) (a : Acc) (dest : Nat) (tt : TaskType) (fc : Nat) :
    resolve (n + 1) (.appDone a dest tt fc (.error .link)) = endSession (notifyResult a dest tt fc (.error .link)) .link := by
  unfold resolve; rfl

theorem resolve_linkDone_link (n : Nat) (a : Acc) (uid : Option Nat) :
    resolve (n + 1) (.linkDone a uid (some .link)) = endSession (match uid with
      | some u => complete a u (.task .link)
      | none => a) .link := by
  unfold resolve
  cases uid <;> rfl

theorem checkShutdown_offline_assocs (a : Acc) (hm : a.1.mode = .offline) : (checkShutdown a).1.assocs = a.1.assocs := by
  unfold checkShutdown
  split
  · simp only [hm, onMessage, loopFuel_succ]
    rfl
  · rfl

/-- the loss of the connection during a session ends the session -/
theorem step_eof_online (s : MState) (hon : s.mode ≠ .offline ∧ s.mode ≠ .exited) :
    ∃ b, step s .eof = checkShutdown (endSession b .link) := by
  unfold step
  dsimp only
  cases hm : s.mode with
  | offline => exact absurd hm hon.1
  | exited => exact absurd hm hon.2
  | idle w => exact ⟨_, by simp only [onEof, hm, loopFuel_succ, resolve_stop]; rfl⟩
  | waitRead dest t seq isFirst dl => exact ⟨_, by simp only [onEof, hm, loopFuel_succ, resolve_appDone_link]; rfl⟩
  | waitNonRead dest t seq fc0 dl => exact ⟨_, by simp only [onEof, hm, loopFuel_succ, resolve_appDone_link]; rfl⟩
  | waitLink dest uid dl => exact ⟨_, by simp only [onEof, hm, loopFuel_succ, resolve_linkDone_link]; rfl⟩

/-- RE-ARM, general form: when the connection is lost during a session every association is left as
    `Association::reset` leaves it — no queued requests, the start-up sequence pending, the integrity poll not done —
    with the address and the configuration it had -/
theorem fresh_after_eof (s : MState) (hon : s.mode ≠ .offline ∧ s.mode ≠ .exited) :
    ∀ y ∈ (step s .eof).1.assocs, Fresh y ∧ CfgFrom (s, []) y := by
  intro y hy
  refine ⟨?_, cfg_eff (step_eff s .eof) rfl rfl y hy⟩
  obtain ⟨b, hb⟩ := step_eof_online s hon
  rw [hb, checkShutdown_offline_assocs _ rfl] at hy
  exact endSession_fresh b .link y hy

/-- the configuration part of the hypothesis -/
def CfgInt (addr : Nat) (s : MState) : Prop := ∀ x ∈ s.assocs, x.addr = addr → x.cfg.int ≠ 0

/-- RE-ARM: when the connection is lost during a session the gate of every association with an integrity poll is
    closed again — so `run_gated` applies to everything that follows, up to the next integrity success -/
theorem _root_.Dnp3.Props.C17.closed_after_eof (addr : Nat) (s : MState) (hcfg : CfgInt addr s)
    (hon : s.mode ≠ .offline ∧ s.mode ≠ .exited) : Closed addr (step s .eof).1 := by
  intro y hy hya
  obtain ⟨⟨_, _, hd⟩, y0, hy0, ha, hc⟩ := fresh_after_eof s hon y hy
  simp [Assoc.isIntegrityComplete, hd, ← hc, hcfg y0 hy0 (ha.trans hya)]

/-- the state after `exRun`: integrity done, ENABLE_UNSOLICITED in flight -/
def exState : MState := (run (start 2048) exRun).1

theorem exState_cfg : CfgInt 10 exState := by unfold CfgInt; decide +kernel
theorem exState_mode : exState.mode = .waitNonRead 10 (.auto .enableUnsol 7) 2 20 5000 := by rfl
theorem exState_online : exState.mode ≠ .offline ∧ exState.mode ≠ .exited := by
  rw [exState_mode]
  exact ⟨(by intro h; cases h), (by intro h; cases h)⟩

/-- `closed_after_eof`: the gate is open in `exState` (integrity done) and closed again after the disconnect -/
example : ¬ Closed 10 exState ∧ Closed 10 (step exState .eof).1 :=
  ⟨by unfold Closed; decide +kernel, Props.C17.closed_after_eof 10 exState exState_cfg exState_online⟩

/-- `run_gated` / `step_gated_inv` after the disconnect: reconnect, data before the new integrity success are not delivered -/
example : Gated 10 (run (step exState .eof).1 [.connect, exUnsolData 6, exResp 3, exUnsolData 7]).2.flatten :=
  Props.C17.run_gated 10 _ _ (Props.C17.closed_after_eof 10 exState exState_cfg exState_online)
    (inputOk_of_cfg 10 _ (by intro cfg h; simp [exUnsolData, exResp] at h))

example : Inv 10 (step (step exState .eof).1 .connect) :=
  Props.C17.step_gated_inv 10 _ .connect (fun _ => Or.inl (by intro h; cases h)) (Props.C17.closed_after_eof 10 exState exState_cfg exState_online)

example : (run (step exState .eof).1 [.connect, exUnsolData 6, exResp 3, exUnsolData 7]).2 =
    [[.taskStart 10 .disableUnsolicited 21 3, .tx 10 [195, 21, 60, 2, 6, 60, 3, 6, 60, 4, 6]],
     [],
     [.taskSuccess 10 .disableUnsolicited 21 3, .taskStart 10 .startupIntegrity 1 4,
      .tx 10 [196, 1, 60, 2, 6, 60, 3, 6, 60, 4, 6, 60, 1, 6]],
     []] := by decide +kernel

end Dnp3.Proofs.MasterC17Trace

/-! ## Ordering of the start-up tasks

Two precedence properties, proved by ONE inductive invariant over `Master.step` (parameter `Which`):
* `disInt`: a `taskStart addr .startupIntegrity` is preceded by the completion of DISABLE_UNSOLICITED for `addr`
  (`taskSuccess`, or `taskFail` with an IIN2 rejection — which the library deliberately treats as completion);
* `intEn`: a `taskStart addr .enableUnsolicited` is preceded by `taskSuccess addr .startupIntegrity`.
-/
namespace Dnp3.Proofs.MasterC17Trace.Ord
open Dnp3 Dnp3.Master Dnp3.Proofs.Master Dnp3.Proofs.MasterC17Trace

/-- the pair of tasks: DISABLE_UNSOLICITED before the integrity poll | the integrity poll before ENABLE_UNSOLICITED -/
inductive Which where | disInt | intEn
deriving DecidableEq, Repr

/-- the task whose start is constrained -/
def badTask : Which → Task → Bool
  | .disInt, .read (.integrity _) => true
  | .intEn, .nonRead (.auto .enableUnsol _) => true
  | _, _ => false

def badType : Which → TaskType
  | .disInt => .startupIntegrity
  | .intEn => .enableUnsolicited

/-- the class mask that configures the task which must complete first -/
def cfgOf : Which → ACfg → Nat
  | .disInt, c => c.dis
  | .intEn, c => c.int

/-- the state of the task which must complete first -/
def stOf : Which → TaskStates → AutoState
  | .disInt, t => t.disable
  | .intEn, t => t.integrity

/-- the constrained output: the later task starts -/
def Bad (w : Which) (addr : Nat) (o : MOut) : Prop := ∃ fc seq, o = .taskStart addr (badType w) fc seq

/-- the enabling output: the earlier task is complete -/
def Trig (w : Which) (addr : Nat) (o : MOut) : Prop :=
  match w with
  | .disInt => (∃ fc seq, o = .taskSuccess addr .disableUnsolicited fc seq) ∨
               (∃ i1 i2, o = .taskFail addr .disableUnsolicited (.rejectedIin2 i1 i2))
  | .intEn => ∃ fc seq, o = .taskSuccess addr .startupIntegrity fc seq

def HasTrig (w : Which) (addr : Nat) (l : List MOut) : Prop := ∃ o ∈ l, Trig w addr o

/-- every start of the later task is preceded by a completion of the earlier one -/
def Ordered (w : Which) (addr : Nat) (l : List MOut) : Prop :=
  ∀ pre o post, l = pre ++ o :: post → Bad w addr o → ∃ o' ∈ pre, Trig w addr o'

theorem ordered_mono (w : Which) (addr : Nat) : Mono (fun pre _ => ∃ o' ∈ pre, Trig w addr o') (HasTrig w addr) where
  post := fun _ _ _ h => h
  pre := fun l _ _ h => exists_mem_append_right l h
  trig := fun _ c _ h => exists_mem_append_left c h

/-- the earlier task is configured and has not completed -/
def PendA (w : Which) (y : Assoc) : Prop := cfgOf w y.cfg ≠ 0 ∧ (stOf w y.auto).isIdle = false

/-- no user request in the queue is the (automatic) later task -/
def QA (w : Which) (y : Assoc) : Prop := ∀ t ∈ y.queue, badTask w t = false

def AllAt (addr : Nat) (P : Assoc → Prop) (s : MState) : Prop := ∀ x ∈ s.assocs, x.addr = addr → P x

def Pend (w : Which) (addr : Nat) (s : MState) : Prop := AllAt addr (PendA w) s
def QOk (w : Which) (addr : Nat) (s : MState) : Prop := AllAt addr (QA w) s

def OInv (w : Which) (addr : Nat) (a : Acc) : Prop :=
  Ordered w addr a.2 ∧ QOk w addr a.1 ∧ (HasTrig w addr a.2 ∨ Pend w addr a.1)

theorem allAt_of_getAssoc (addr : Nat) (P : Assoc → Prop) (s : MState) (x : Assoc) (hc : AllAt addr P s)
    (hx : s.getAssoc addr = some x) : P x :=
  hc x (getAssoc_mem s addr x hx).1 (getAssoc_mem s addr x hx).2

theorem inv_emit (w : Which) (addr : Nat) (a : Acc) (o : MOut) (ho : ¬ Bad w addr o) (h : OInv w addr a) : OInv w addr (emit a o) := by
  obtain ⟨hg, hq, hs⟩ := h
  refine ⟨?_, hq, ?_⟩
  · exact guarded_append (ordered_mono w addr) hg (guarded_single ho)
  · rcases hs with hs | hs
    · exact Or.inl (exists_mem_append_left [o] hs)
    · exact Or.inr hs

theorem inv_emit_trig (w : Which) (addr : Nat) (a : Acc) (o : MOut) (ht : HasTrig w addr a.2) (h : OInv w addr a) :
    OInv w addr (emit a o) :=
  ⟨guarded_append_trig [o] (ordered_mono w addr) h.1 ht, h.2.1, Or.inl (exists_mem_append_left [o] ht)⟩

theorem inv_state (w : Which) (addr : Nat) (a : Acc) (s' : MState) (hq : QOk w addr a.1 → QOk w addr s')
    (hc : QOk w addr a.1 → Pend w addr a.1 → Pend w addr s') (h : OInv w addr a) : OInv w addr (s', a.2) := by
  obtain ⟨hg, hq0, hs⟩ := h
  exact ⟨hg, hq hq0, hs.imp id (hc hq0)⟩

/-- the automatic task which must complete first -/
def doneId : Which → AutoId
  | .disInt => .disable
  | .intEn => .integrity

theorem stOf_eq (w : Which) (t : TaskStates) : stOf w t = t.get (doneId w) := by cases w <;> rfl

theorem pendA_of_book (w : Which) (y y' : Assoc) (h : Book y y') (hp : PendA w y) : PendA w y' := by
  obtain ⟨_, hc, _, _, _, hi⟩ := h
  refine ⟨by rw [hc]; exact hp.1, ?_⟩
  cases hi' : (stOf w y'.auto).isIdle with
  | false => rfl
  | true =>
    rw [stOf_eq] at hi'
    have := hi _ hi'
    rw [← stOf_eq, hp.2] at this
    cases this

/-- an association of `addr` may change in any way that puts no later task into its queue and leaves the earlier task
    pending -/
theorem oinv_mod (w : Which) (addr : Nat) (a : Acc) (d : Nat) (f : Assoc → Assoc) (hfa : ∀ y, (f y).addr = y.addr)
    (hq : d = addr → ∀ y, QA w y → QA w (f y)) (hp : d = addr → ∀ y, PendA w y → PendA w (f y)) (h : OInv w addr a) :
    OInv w addr (modAssoc a d f) :=
  inv_state w addr a _ (at_modAssoc addr _ a d f hfa fun y _ _ hd => hq hd y)
    (fun _ => at_modAssoc addr _ a d f hfa fun y _ _ hd => hp hd y) h

theorem oinv_pop (w : Which) (addr : Nat) (a : Acc) (d : Nat) (x : Assoc) (q : List Task) (hx : a.1.getAssoc d = some x)
    (hq : ∀ t ∈ q, t ∈ x.queue) (h : OInv w addr a) : OInv w addr (modAssoc a d fun y => { y with queue := q }) := by
  obtain ⟨hxm, hxa⟩ := getAssoc_mem a.1 d x hx
  exact oinv_mod w addr a d _ (fun _ => rfl) (fun hd _ _ t ht => h.2.1 x hxm (hxa.trans hd) t (hq t ht)) (fun _ _ hp => hp) h

theorem oinv_sched (w : Which) (addr : Nat) : SchedClosed (OInv w addr) where
  pop := fun b d x _ rest hx hq h => oinv_pop w addr b d x rest hx (fun t ht => by rw [hq]; exact List.mem_cons_of_mem _ ht) h
  noTime := fun b d uid h => by
    unfold tsReportError
    split
    · exact oinv_mod w addr b d _ (fun _ => rfl) (fun _ _ hq => hq) (fun _ y => pendA_of_book w y _ (.failAuto y _ _)) h
    · exact inv_emit w addr _ _ nofun (inv_state w addr b _ id (fun _ => id) h)
  rotate := fun b _ h => inv_state w addr b _ id (fun _ => id) h
  fuel := fun b h => inv_emit w addr b _ nofun h

theorem createNext_now {α : Type} (st : AutoState) (now : Nat) (x c : α) (h : st.createNext now x = .now c) : c = x := by
  unfold AutoState.createNext at h
  split at h
  · cases h
  · injection h with h; exact h.symm
  · split at h
    · injection h with h; exact h.symm
    · cases h

/-- `TaskStates::next` with the earlier task pending: the later task is not chosen -/
theorem next_notBad (w : Which) (x : Assoc) (ev now : Nat) (c : AutoChoice) (hp : PendA w x)
    (h : x.auto.next x.cfg ev now = .now c) : badTask w (c.toTask x.cfg) = false := by
  obtain ⟨hc, hs⟩ := hp
  revert h
  fun_cases TaskStates.next x.auto x.cfg ev now
  all_goals intro h
  all_goals first
    | cases h
    | (rw [createNext_now _ _ _ _ h]; cases w <;> first | rfl | skip)
  -- left: the later task was chosen, so the test of the earlier, pending one had failed
  · rename_i h2 _
    exact absurd ⟨hc, by rw [show x.auto.disable.isIdle = false from hs]; rfl⟩ h2
  · rename_i h3 _ _
    exact absurd ⟨hc, by rw [show x.auto.integrity.isIdle = false from hs]; rfl⟩ h3

theorem nextLinkStatus_now (x : Assoc) (now : Nat) (t : Task) (h : x.nextLinkStatus? now = .now t) : t = .linkStatus none := by
  unfold Assoc.nextLinkStatus? at h
  split at h
  · cases h
  · split at h
    · injection h with h
      exact h.symm
    · cases h

/-- `get_next_task`: besides the automatic tasks only polls and link status checks -/
theorem getNextTask_notBad (w : Which) (x : Assoc) (now : Nat) (t : Task) (hp : PendA w x)
    (h : x.getNextTask now = .now t) : badTask w t = false := by
  unfold Assoc.getNextTask at h
  split at h
  · rename_i c hc
    injection h with h
    subst h
    exact next_notBad w x _ now c hp hc
  · cases h
  · split at h
    · injection h with h; subst h; cases w <;> rfl
    · split at h
      · cases h
      · rename_i hl
        injection h with h
        subst h
        rw [nextLinkStatus_now x now _ hl]
        cases w <;> rfl
      · cases h
    · rw [nextLinkStatus_now x now t h]
      cases w <;> rfl

theorem startTask_bad (w : Which) (a b : Acc) (dest : Nat) (t t' : Task) (h : startTask a dest t = (b, some t')) :
    badTask w t' = badTask w t := by
  obtain ⟨_, rfl | ⟨_, _, _, rfl, rfl⟩⟩ := startTask_some a b dest t t' h
  · rfl
  · cases w <;> rfl

/-- the result of a scheduling decision: destination `dest`, task `t`, taken in state `b` -/
def OkTask (w : Which) (addr : Nat) (b : Acc) (dest : Nat) (t : Task) : Prop :=
  dest = addr → Pend w addr b.1 → badTask w t = false

/-- the scheduler does not hand out the later task while the earlier one is pending: a user request is not the later
    task (`QOk`), and `getNextTask` does not propose it (`getNextTask_notBad`) -/
theorem nextTask_spec (w : Which) (addr : Nat) (a : Acc) (h : OInv w addr a) :
    ∀ x, (nextTask a).2 = .now x → OkTask w addr (nextTask a).1 x.1 x.2 := by
  refine (nextTask_chosen (P := OkTask w addr) (N := fun _ => True) (oinv_sched w addr)
    ⟨?_, ?_, ?_, fun _ _ _ hp => hp, fun _ _ _ _ _ _ _ => trivial, fun _ _ _ _ => trivial⟩ a h).2.1
  · intro b d x t rest hb hx hxq hd _
    obtain ⟨hxm, hxa⟩ := getAssoc_mem b.1 d x hx
    exact hb.2.1 x hxm (hxa.trans hd) t (by rw [hxq]; exact List.mem_cons_self ..)
  · intro b d x t _ hx hn hd hp
    obtain ⟨hxm, hxa⟩ := getAssoc_mem b.1 d x hx
    exact getNextTask_notBad w x _ t (hp x hxm (hxa.trans hd)) hn
  · intro b d t t' hst hp hd hpend
    rw [startTask_bad w _ _ _ _ _ hst]
    exact hp hd hpend

theorem bad_read (w : Which) (rt : ReadTask) (h : rt.taskType = badType w) : badTask w (.read rt) = true := by
  cases w <;> cases rt <;> simp_all [ReadTask.taskType, badType, badTask]

theorem bad_nonRead (w : Which) (nt : NonReadTask) (h : nt.taskType = badType w) : badTask w (.nonRead nt) = true := by
  cases w <;> cases nt <;> simp_all [NonReadTask.taskType, badType, badTask]
  all_goals (rename_i k _; cases k <;> simp_all)

theorem trig_of_completion (w : Which) (d : Nat) (o : MOut) (h : Completion d (doneId w) o) : Trig w d o := by
  cases w with
  | disInt =>
    rcases h with ⟨fc, seq, rfl⟩ | ⟨_, i1, i2, _, rfl⟩
    · exact .inl ⟨fc, seq, rfl⟩
    · exact .inr ⟨i1, i2, rfl⟩
  | intEn =>
    rcases h with h | ⟨k, _, _, hk, _⟩
    · exact h
    · cases k <;> cases hk

/-- constraints on a message: `addr` is configured with the earlier task, and no user request IS the later
    (automatic) task -/
def OMsgOk (w : Which) (addr : Nat) : Msg → Prop
  | .addAssoc d cfg => d = addr → cfgOf w cfg ≠ 0
  | .queueTask d t => d = addr → badTask w t = false
  | _ => True

/-- ORDERING along the effects of the session.  The two effects the invariant turns on: the start of a task — the
    scheduler does not hand out the later task while the earlier one is pending (`nextTask_spec`) — and the completion
    of the earlier task, which comes with its report. -/
theorem oinv_eff (w : Which) (addr : Nat) {c : Cause} {a b : Acc} (h : Eff c a b) (hm : ∀ m, c.msg = some m → OMsgOk w addr m)
    (h0 : OInv w addr a) : OInv w addr b := by
  have hrep : ∀ {d i o}, Completion d i o → ¬ Bad w addr o := by
    rintro d i o (⟨_, _, rfl⟩ | ⟨_, _, _, _, rfl⟩) <;> exact nofun
  induction h with
  | refl => exact h0
  | out o _ ho ih => exact inv_emit w addr _ o (by rintro ⟨_, _, rfl⟩; exact ho) ih
  | request d seq fc objs _ _ ih => exact inv_emit w addr _ _ nofun ih
  | @start b d t tt fc seq _ _ hn htt ih ihn =>
    rcases ihn.2.2 with ht | hp
    · exact inv_emit_trig w addr _ _ ht ihn
    · refine inv_emit w addr _ _ ?_ ihn
      rintro ⟨fc', seq', he⟩
      injection he with hd hb
      have hok := nextTask_spec w addr b ih (d, t) hn hd hp
      cases t with
      | read rt => cases htt; rw [bad_read w rt hb] at hok; cases hok
      | nonRead nt => cases htt; rw [bad_nonRead w nt hb] at hok; cases hok
      | linkStatus uid => cases htt
  | confirm src r d k _ _ ih => exact inv_emit w addr _ _ nofun ih
  | deliver src r who rt _ _ _ ih =>
    exact deliver_rule (OInv w addr) _ who rt r _ (inv_emit w addr _ _ nofun ih) fun b o _ ho =>
      inv_emit w addr b o (by rintro ⟨_, _, rfl⟩; exact ho _ _ _ _ rfl)
  | session s' _ hs ih => exact inv_state w addr _ s' (fun hq x hx => hq x (hs ▸ hx)) (fun _ hp x hx => hp x (hs ▸ hx)) ih
  | book d f _ hf ih =>
    exact oinv_mod w addr _ d f (fun y => (hf y).1) (fun _ y hq t ht => hq t ((hf y).2.2.2.1 t ht))
      (fun _ y => pendA_of_book w y _ (hf y)) ih
  | pop d x q _ hx hq ih => exact oinv_pop w addr _ d x q hx hq ih
  | reset d _ ih =>
    exact oinv_mod w addr _ d _ (fun _ => rfl) (fun _ _ _ => nofun) (fun _ y hp => ⟨hp.1, by cases w <;> rfl⟩) ih
  | @done b d i f o _ hf ho ih =>
    have hau : ∀ y, (f y).addr = y.addr ∧ (f y).cfg = y.cfg ∧ (f y).queue = y.queue ∧ (f y).auto = y.auto.set i .idle := by
      rcases hf with rfl | ⟨rfl, rfl⟩ <;> exact fun _ => ⟨rfl, rfl, rfl, rfl⟩
    have hfq : ∀ y, QA w y → QA w (f y) := fun y hq => by rw [QA, (hau y).2.2.1]; exact hq
    by_cases hi : d = addr ∧ i = doneId w
    · obtain ⟨rfl, rfl⟩ := hi
      exact ⟨guarded_append (ordered_mono w d) ih.1 (guarded_single (hrep ho)),
        at_modAssoc d _ b d f (fun y => (hau y).1) (fun y _ _ _ => hfq y) ih.2.1,
        Or.inl (exists_mem_append_right _ ⟨o, List.mem_singleton.2 rfl, trig_of_completion w d o ho⟩)⟩
    · refine inv_emit w addr _ o (hrep ho) (oinv_mod w addr b d f (fun y => (hau y).1) (fun _ => hfq) (fun hd y hp => ?_) ih)
      -- the task that completes is not the earlier one
      refine ⟨by rw [(hau y).2.1]; exact hp.1, ?_⟩
      rw [stOf_eq, (hau y).2.2.2, get_set, if_neg (fun e => hi ⟨hd, e.symm⟩), ← stOf_eq]
      exact hp.2
  | heard src _ _ ih => exact oinv_mod w addr _ src _ (fun _ => rfl) (fun _ _ h => h) (fun _ _ h => h) ih
  | push d t _ hmsg ih =>
    refine oinv_mod w addr _ d _ (fun _ => rfl) (fun hd y hq t' ht' => ?_) (fun _ _ h => h) ih
    rcases List.mem_append.1 ht' with ht' | ht'
    · exact hq t' ht'
    · rw [List.mem_singleton.1 ht']
      exact hm _ hmsg hd
  | @addAssoc b d cfg _ hmsg ih =>
    have hnew : ∀ x ∈ insertSorted (Assoc.new d cfg b.1.now) b.1.assocs, x.addr = addr → x ∈ b.1.assocs ∨ (QA w x ∧ PendA w x) := by
      intro x hx hxa
      rcases mem_insertSorted _ _ _ hx with rfl | hx
      · exact .inr ⟨nofun, hm _ hmsg hxa, by cases w <;> rfl⟩
      · exact .inl hx
    exact inv_state w addr _ _ (fun hq x hx hxa => (hnew x hx hxa).elim (fun h => hq x h hxa) (·.1))
      (fun _ hp x hx hxa => (hnew x hx hxa).elim (fun h => hp x h hxa) (·.2)) ih
  | removeAssoc d _ _ ih =>
    exact inv_state w addr _ _ (fun hq x hx => hq x (List.mem_filter.1 hx).1) (fun _ hp x hx => hp x (List.mem_filter.1 hx).1) ih

def OInputOk (w : Which) (addr : Nat) : MInput → Prop
  | .msg m => OMsgOk w addr m
  | .user d t => d = addr → badTask w t = false
  | _ => True

theorem inv_nil (w : Which) (addr : Nat) (s : MState) (hq : QOk w addr s) (h : Pend w addr s) : OInv w addr (s, []) :=
  ⟨guarded_nil, hq, Or.inr h⟩

/-- one step from a state in which the earlier task is pending: the outputs are ordered, and the earlier task is still
    pending afterwards unless its completion was reported -/
theorem _root_.Dnp3.Props.C17.step_ordered_inv (w : Which) (addr : Nat) (s : MState) (i : MInput) (hi : OInputOk w addr i) (hq : QOk w addr s)
    (h : Pend w addr s) : OInv w addr (step s i) := by
  refine oinv_eff w addr (step_eff s i) (fun m hm => ?_) (inv_nil w addr s hq h)
  rcases causeOf_msg hm with rfl | ⟨d, t, rfl, rfl⟩
  · exact hi
  · exact hi

/-- ORDERING, general form: from ANY state in which the earlier task of `addr` is pending, in the whole run every start
    of the later task is preceded by a completion of the earlier one -/
theorem _root_.Dnp3.Props.C17.run_ordered (w : Which) (addr : Nat) (s : MState) (ins : List MInput) (hq : QOk w addr s) (hs : Pend w addr s)
    (hi : ∀ i ∈ ins, OInputOk w addr i) : Ordered w addr (run s ins).2.flatten := by
  refine run_guarded (ordered_mono w addr) (fun s => QOk w addr s ∧ Pend w addr s) (OInputOk w addr) (fun s i hi h => ?_) s ins
    ⟨hq, hs⟩ hi
  obtain ⟨ho, hq', ht⟩ := Props.C17.step_ordered_inv w addr s i hi h.1 h.2
  exact ⟨ho, ht.imp id (fun hp => ⟨hq', hp⟩)⟩

theorem pend_start (w : Which) (addr txSize : Nat) : Pend w addr (start txSize) := by
  intro x hx
  cases hx

theorem qOk_start (w : Which) (addr txSize : Nat) : QOk w addr (start txSize) := by
  intro x hx
  cases hx

theorem inputOk_of (w : Which) (addr : Nat) (ins : List MInput)
    (hcfg : ∀ cfg, MInput.msg (.addAssoc addr cfg) ∈ ins → cfgOf w cfg ≠ 0)
    (huser : ∀ t, (MInput.user addr t ∈ ins ∨ MInput.msg (.queueTask addr t) ∈ ins) → badTask w t = false) :
    ∀ i ∈ ins, OInputOk w addr i := by
  intro i hi
  cases i with
  | msg m =>
    cases m with
    | addAssoc d cfg => intro hd; subst hd; exact hcfg cfg hi
    | queueTask d t => intro hd; subst hd; exact huser t (Or.inr hi)
    | _ => trivial
  | user d t => intro hd; subst hd; exact huser t (Or.inl hi)
  | _ => trivial

/-- the earlier task is configured for `addr` -/
def CfgOn (w : Which) (addr : Nat) (s : MState) : Prop := ∀ x ∈ s.assocs, x.addr = addr → cfgOf w x.cfg ≠ 0

/-- RE-ARM: when the connection is lost during a session the earlier task is pending again, so `run_ordered` applies to
    everything that follows: after a reconnect the integrity poll again waits for DISABLE_UNSOLICITED, and
    ENABLE_UNSOLICITED again waits for the integrity poll -/
theorem _root_.Dnp3.Props.C17.pend_after_eof (w : Which) (addr : Nat) (s : MState) (hcfg : CfgOn w addr s)
    (hon : s.mode ≠ .offline ∧ s.mode ≠ .exited) : QOk w addr (step s .eof).1 ∧ Pend w addr (step s .eof).1 := by
  refine ⟨fun y hy _ t ht => ?_, fun y hy hya => ?_⟩
  · rw [(fresh_after_eof s hon y hy).1.1] at ht
    cases ht
  · obtain ⟨⟨_, hau, _⟩, y0, hy0, ha, hc⟩ := fresh_after_eof s hon y hy
    refine ⟨hc ▸ hcfg y0 hy0 (ha.trans hya), ?_⟩
    rw [hau]
    cases w <;> rfl

theorem exRun_noUser : ∀ t, (MInput.user 10 t ∈ exRun ∨ MInput.msg (.queueTask 10 t) ∈ exRun) → False := by
  intro t h
  simp [exRun, exUnsolData, exUnsolNull, exResp] at h

/-- `exRun`: taskStart disable, taskSuccess disable, taskStart integrity, taskSuccess integrity,
    taskStart enable — in this order -/
example : Ordered .disInt 10 (run (start 2048) exRun).2.flatten :=
  Props.C17.run_ordered .disInt 10 _ exRun (qOk_start _ _ _) (pend_start _ _ _) (inputOk_of .disInt 10 exRun
    (by intro cfg h; simp [exRun, exUnsolData, exUnsolNull, exResp] at h; subst h; decide)
    (fun t ht => (exRun_noUser t ht).elim))

example : Ordered .intEn 10 (run (start 2048) exRun).2.flatten :=
  Props.C17.run_ordered .intEn 10 _ exRun (qOk_start _ _ _) (pend_start _ _ _)
    (inputOk_of .intEn 10 exRun exRun_cfg (fun t ht => (exRun_noUser t ht).elim))

/-- an outstation that rejects DISABLE_UNSOLICITED (IIN2.0 NO_FUNC_CODE_SUPPORT): the task is reported as failed
    with the IIN2 rejection and the integrity poll follows — the second alternative of `Props.C17.startup_integrity_after_disable` -/
example : (run (start 2048) [.msg (.addAssoc 10 {}), .connect, .rx 10 1 [0xC0, 129, 0, 1]]).2 =
    [[.line "assoc ok"],
     [.taskStart 10 .disableUnsolicited 21 0, .tx 10 [192, 21, 60, 2, 6, 60, 3, 6, 60, 4, 6]],
     [.taskFail 10 .disableUnsolicited (.rejectedIin2 0 1), .taskStart 10 .startupIntegrity 1 1,
      .tx 10 [193, 1, 60, 2, 6, 60, 3, 6, 60, 4, 6, 60, 1, 6]]] := by decide +kernel

/-- a timeout of DISABLE_UNSOLICITED does NOT let the integrity poll start: the task is retried after the back-off -/
example : (run (start 2048) [.msg (.addAssoc 10 {}), .connect, .tick 5000, .tick 500, .tick 500]).2 =
    [[.line "assoc ok"],
     [.taskStart 10 .disableUnsolicited 21 0, .tx 10 [192, 21, 60, 2, 6, 60, 3, 6, 60, 4, 6]],
     [.taskFail 10 .disableUnsolicited .timeout],
     [],
     [.taskStart 10 .disableUnsolicited 21 1, .tx 10 [193, 21, 60, 2, 6, 60, 3, 6, 60, 4, 6]]] := by decide +kernel

/-- REMARK (restart indication IN the integrity response): the master clears the restart bit and enables unsolicited
    reporting, but does not repeat the integrity poll — `process_iin` re-arms the integrity task while it is still in
    flight and its completion then marks it done. The orderings proved here hold (enable after the integrity success). -/
example : (run (start 2048) [.msg (.addAssoc 10 {}), .connect, exResp 0, .rx 10 1 [0xC1, 129, 0x80, 0],
      exResp 2, exResp 3]).2 =
    [[.line "assoc ok"],
     [.taskStart 10 .disableUnsolicited 21 0, .tx 10 [192, 21, 60, 2, 6, 60, 3, 6, 60, 4, 6]],
     [.taskSuccess 10 .disableUnsolicited 21 0, .taskStart 10 .startupIntegrity 1 1,
      .tx 10 [193, 1, 60, 2, 6, 60, 3, 6, 60, 4, 6, 60, 1, 6]],
     [.deliverBegin (.assoc 10) .integrity 193 128 0, .deliverEnd (.assoc 10) .integrity,
      .taskSuccess 10 .startupIntegrity 1 1, .taskStart 10 .clearRestartBit 2 2, .tx 10 [194, 2, 80, 1, 0, 7, 7, 0]],
     [.taskSuccess 10 .clearRestartBit 2 2, .taskStart 10 .enableUnsolicited 20 3,
      .tx 10 [195, 20, 60, 2, 6, 60, 3, 6, 60, 4, 6]],
     [.taskSuccess 10 .enableUnsolicited 20 3]] := by decide +kernel

theorem exState_cfgOn (w : Which) : CfgOn w 10 exState := by
  cases w <;> (unfold CfgOn; decide +kernel)

/-- `pend_after_eof`, `run_ordered`, `step_ordered_inv` after the disconnect -/
example (w : Which) : Ordered w 10 (run (step exState .eof).1 [.connect, exUnsolData 6, exResp 3, exUnsolData 7]).2.flatten :=
  Props.C17.run_ordered w 10 _ _ (Props.C17.pend_after_eof w 10 exState (exState_cfgOn w) exState_online).1
    (Props.C17.pend_after_eof w 10 exState (exState_cfgOn w) exState_online).2
    (inputOk_of w 10 _ (by intro cfg h; simp [exUnsolData, exResp] at h)
      (by intro t h; simp [exUnsolData, exResp] at h))

example (w : Which) : OInv w 10 (step (step exState .eof).1 .connect) :=
  Props.C17.step_ordered_inv w 10 _ .connect trivial (Props.C17.pend_after_eof w 10 exState (exState_cfgOn w) exState_online).1
    (Props.C17.pend_after_eof w 10 exState (exState_cfgOn w) exState_online).2

end Dnp3.Proofs.MasterC17Trace.Ord

