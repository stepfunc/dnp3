import Dnp3.Proofs.C02Master
import Dnp3.Proofs.Pair
import Dnp3.Proofs.C02Static
import Dnp3.Props.DbComponent
import Dnp3.Proofs.C02Session
import Dnp3.Proofs.C02Reach
import Dnp3.Props.C02Master
import Dnp3.Props.C02Series
import Dnp3.Proofs.OutstationC12Db
import Dnp3.Proofs.C02Events
/-!
# C02 — end-to-end measurement integrity: the part that is provable about the models

FULL PROPERTY (text): "With a master and an outstation connected through the library's real
TCP/link/transport stack, once any sequence of database updates, commands and connection
interruptions stops, the master's measurement handler has received for every point the
outstation's current value, flags and reported time; every value it ever received for a point was
really that point's value at some moment (nothing fabricated, cross-wired between points or types,
or resurrected), and every event the outstation did not report as overflow-discarded reached the
handler at least once."

C02 is a whole-history property of two concurrently running tasks; the trace monitors of the
`pair` engine carry it on the real code.  What is PROVED here, for all states / histories of the
models (`Dnp3.Model.MasterSession`, `Dnp3.Model.Outstation`, `Dnp3.Model.Database`,
`Dnp3.Model.Pair`):

(i) nothing fabricated
  a. `master_delivers_only_what_a_response_carried`, `master_other_inputs_deliver_nothing`:
     every `handle_*` call of one master step is one of the calls `extract_measurements` makes for a
     header parsed out of the response fragment that step received; no other input delivers.
     `delivered_octets_occur_in_fragment`: the octets of every delivered item are a contiguous
     piece of that fragment (whole response vocabulary).
  b. `wire_carries_only_what_was_sent`, `wire_is_fifo`, `wire_invariant`: in the pair model (no
     `inject` op), whatever the relay hands to an endpoint was transmitted earlier by the other
     endpoint; per direction the delivered sequence is a subsequence of the transmitted sequence
     (order kept, nothing twice); what is still queued was transmitted and not yet delivered.
  c. `outstation_writes_only_database_values` (a READ answered from idle: 4 header octets + exactly
     the database's `writeResponse` octets; events = a prefix of the `Selected` records of the buffer
     with the value / flags / time they had when the request arrived; static objects = `(index,
     selected cell)` of existing points of the matching type) and
     `outstation_unsolicited_writes_only_buffer_events` (a non-null unsolicited response = header +
     `writeUnsolicited` octets = encodings of a prefix of the buffer's records of the enabled classes).
     The later fragments of a series: `step_confirm` (§ series) is `Outstation.step` on the CONFIRM of a non-final
     fragment (exact outputs: header + `writeResponse` octets of the database after `clearWritten`); the deferred
     READ path calls the same `formatReadResponse` and is not covered at session level; the database theorems `series_conserves`,
     `series_covers_exactly_once`, `series_is_snapshot_partial` apply to all of them — D12 lives there.
(ii) `class0_response_delivers_database_partial`: parser ∘ encoder round trip for a complete
     class-0 response of an idle database of the `pair` engine (binary inputs with static g1v2, analog
     inputs with g30v1, no point of the other six types, both enabled in `ClassZeroConfig`); the handler gets
     exactly one call per run of consecutive indices, binaries then analogs, carrying `(index, wire octets of
     the CURRENT value)` of every point exactly once, ascending.
     `class0_response_delivers_database` (§ reachable pair states): the same with ALL database hypotheses
     DERIVED for the outstation database of every pair state reachable by ops that add binary / analog inputs
     only (`Pair.ReachableVia AddsBinAn`, `class0_database_hypotheses_reachable_pair`; `Pair.Reachable` = over
     any inputs; `reachable_pair_outstation`: the outstation component is `Outstation.Reachable`).  What is left
     as hypothesis there is what "complete response of an idle database" means: no READ in progress, no record
     `Selected`, the response fits.
     `quiescent_class0_poll_converges_partial`: the single-fragment case through both handler functions.
     MULTI-FRAGMENT, ANY NUMBER OF FRAGMENTS (§ series, in `Props/C02Series.lean`): `class0_series_converges` /
     `reachable_series_converges_partial` compose `Outstation.step` and `Master.step` over an IDEAL WIRE
     (`Exchange`: every transmission reaches the peer, in order, before anything else happens): the request leg
     (`step_read_first`), `n` rounds fragment → `deliverBegin, calls, deliverEnd, CONFIRM` → next fragment
     (`step_read_nonfinal`, `step_confirm`: exact outputs), the final fragment (`Master.step`: the delivery bracket,
     then only outputs that are neither deliveries nor confirms), and the contents: the items of ALL handler calls
     of ALL fragments, concatenated = `(index, octets of the CURRENT value)` of every binary input, then every
     analog input, each exactly once, ascending (database side: `series_objects`, `class0_pending`).  Requests
     covered: READ g60v1, and the integrity poll g60v2/3/4/1 on an empty event buffer.
     STILL MISSING for the full pair-model statement (why `_partial`): (1) the ideal wire is assumed, not derived
     from `Pair.step` (relay delays / holds, `pump` order, timers: `wire_is_fifo` / `wire_invariant` give order and
     provenance, not timeliness); (2) quiescence of the outstation session (idle, no READ in progress, every record
     `Unselected`, no broadcast to report) is a hypothesis, not derived from "both endpoints idle and the queues
     empty"; (3) the master's request leg (task start → `waitRead`) is not composed; (4) events in the same poll
     (class 1-3 headers with a non-empty buffer) need the parser round trip for g2 / g32 event objects.
(iii) `cut_loses_only_in_flight`: the result of `cut` is independent of the queue contents; both
     endpoints go through session end / restart.

(iv) the master's own recovery from an event buffer overflow (the mechanism behind convergence when
     events were discarded; in `Props/C02Master.lean`, as are the § master theorems named in (ii) and (v)):
     `overflow_iin_demands_integrity` — an accepted fragment of a READ response
     with IIN2.3 set, FINAL OR NOT, leaves the association's integrity task not idle (pending, or waiting
     for its retry instant), whatever the state of the automatic tasks; the only exception, in the
     statement, is the final fragment of the integrity poll itself.  `nonfinal_overflow_fragment_step`: the
     same for a non-final fragment through the whole `Master.step`.  `process_iin_overflow` /
     `process_iin_no_trigger`: `process_iin` demands the task exactly on that bit (or IIN1.7).  The
     outstation clears the indication with the confirm of a non-final fragment, so it may be carried by
     non-final fragments only (trace counter `c02_iin23_only_in_nonfinal_fragments_*`).

(v)  events (§ events): `release_needs_awaited_confirm` (an `event_cleared` is emitted only at a confirm point of
     the step: the fragment is a CONFIRM with exactly the awaited UNS bit / sequence number, and the id is that of a
     `Written` record), `master_confirm_means_accepted`, `master_step_confirms`, `read_confirm_delivered` (a
     solicited CONFIRM of a READ is emitted only after the delivery bracket of the accepted fragment, all its
     parsed headers delivered).  "EVERY EVENT NOT REPORTED AS DISCARDED REACHES THE HANDLER AT LEAST ONCE" IS
     FALSE OF THE PAIR MODEL: `events_at_least_once_counterexample` (D32, kernel-checked): after sixteen READs
     whose answers are stalled the 4-bit sequence number wraps, the master accepts the OLD answer with sequence
     number 0 and its CONFIRM releases the events of the NEW one.

LEFT TO THE MONITORS: everything that needs the history of the real tasks — convergence after
arbitrary interleavings of updates / cuts (retries, unsolicited series, event re-transmission after
a lost confirm), the relay legs of `Pair.step` around the series of (ii) (delays, holds, timers), "was the value
at some moment" across fragments of a multi-fragment series with updates in between
(`series_is_snapshot_partial` covers the database side; D12 is the known exception), reported TIME of static
values (g1v2 / g30v1 carry none), and the link / transport layers (C06, C08).  The clause "every non-discarded
event reaches the handler at least once" is false without a freshness assumption on confirms (D32).

That re-chunking by the relay is invisible holds by construction and has no theorem: `Pair.step` has no chunk
parameter, an item reaches the receiver when its last octet is forwarded (`forceDeliver` / `popCovered`), and the
endpoints only ever see whole fragments.

One statement of the property IS falsified by the models: the "at least once" clause (D32, see (v)).  Two things to
know when reading (i.b):
`Pair.step .cut` does NOT enqueue what the master transmits while handling `eof` (lost, as on the
real socket), and `.script` does not enqueue the (empty) outstation output; both are on the safe
side of "delivered ⊆ transmitted".
-/
namespace Dnp3.Props.C02
open Dnp3 Dnp3.Master Dnp3.Pair Dnp3.DbM Dnp3.DbProofs
open Dnp3.Proofs.C02Master Dnp3.Proofs.Pair Dnp3.Proofs.C02Static Dnp3.Proofs.C02Session
open Dnp3.Proofs.C02Series (exDb)

/-! ## (i.a) the master session model -/

/-- every measurement delivery (`handle_*` call with data: `deliverHdr`, `deliverAbsTime`) among the
    outputs of ONE step of the master session model, from ANY state on ANY input, comes from an
    application fragment received in that step which parses as a response whose object headers
    parse, and is one of the calls `extract_measurements` (`deliverHeader`) makes for one of those
    headers -/
theorem master_delivers_only_what_a_response_carried (s : MState) (inp : MInput) (o : MOut)
    (ho : o ∈ (Master.step s inp).2) (hd : IsDelivery o) :
    ∃ src dst data r hs h who, inp = .rx src dst data ∧ parseResponse data = some r ∧ r.objects = some hs ∧
      h ∈ hs ∧ o ∈ (deliverHeader (s, []) who h).2 := by
  let G : MOut → Prop := fun o => IsDelivery o →
    ∃ src dst data r hs h who, inp = .rx src dst data ∧ parseResponse data = some r ∧ r.objects = some hs ∧
      h ∈ hs ∧ o ∈ (deliverHeader (s, []) who h).2
  have hG : ∀ o, ¬ IsDelivery o → G o := fun o hn hd => absurd hd hn
  have := allG_step (G := G) hG s inp (by
    intro src dst data r hinp hp hs hobj hd hm who o ho _
    exact ⟨src, dst, data, r, hs, hd, who, hinp, hp, hobj, hm, by rw [headerCalls_eq]; exact ho⟩)
  exact this o ho hd

/-- a state waiting for the answer to its integrity poll receives a one-object g1v2 response:
    the handler call is among the outputs -/
example :
    let s : MState := { assocs := [{ addr := 1024, cfg := {}, seq := 1 }], ring := [1024],
                        mode := .waitRead 1024 (.integrity 15) 0 true 5000 }
    MOut.deliverHdr (.assoc 1024) 1 2 0 [(3, [0x81])] ∈
      (Master.step s (.rx 1024 1 [0xC0, 0x81, 0, 0, 1, 2, 0, 3, 3, 0x81])).2 ∧
    IsDelivery (MOut.deliverHdr (.assoc 1024) 1 2 0 [(3, [0x81])]) := by
  refine ⟨by decide +kernel, trivial⟩

/-- no input other than a received application fragment makes the master deliver anything:
    timers, handle messages, user requests, link frames, connection loss / establishment,
    clock changes and handle drops (with everything `resolve` / `nextTask` / `beginTask` /
    `endSession` then run) emit no `handle_*` call -/
theorem master_other_inputs_deliver_nothing (s : MState) (inp : MInput)
    (hin : ∀ src dst data, inp ≠ .rx src dst data) :
    ∀ o ∈ (Master.step s inp).2, ¬ IsDelivery o := by
  intro o ho hd
  obtain ⟨src, dst, data, _, _, _, _, h, _⟩ := master_delivers_only_what_a_response_carried s inp o ho hd
  exact hin src dst data h

example : ∀ src dst data, MInput.tick 5000 ≠ .rx src dst data := by intro _ _ _ h; cases h

/-- the object octets of every item of every `handle_*` call are a CONTIGUOUS piece of the fragment
    received in that step (whole response vocabulary: ranged g1v2 / g30v1, prefixed g2v1 / g2v2 /
    g32v1): nothing is computed, only cut out -/
theorem delivered_octets_occur_in_fragment (s : MState) (inp : MInput) (who : Who) (g v q : Nat)
    (items : List (Nat × List Nat)) (ho : MOut.deliverHdr who g v q items ∈ (Master.step s inp).2) :
    ∃ src dst data, inp = .rx src dst data ∧ ∀ p ∈ items, p.2 <:+: data := by
  obtain ⟨src, dst, data, r, hs, h, who', hinp, hp, hobj, hm, ho'⟩ :=
    master_delivers_only_what_a_response_carried s inp _ ho trivial
  refine ⟨src, dst, data, hinp, ?_⟩
  intro p hpi
  rw [headerCalls_eq] at ho'
  have h1 := headerCalls_items_infix who' h who g v q items ho' p hpi
  obtain ⟨hraw, hobjs⟩ := parseResponse_raw data r hp
  have h2 := parse_data_infix _ _ _ (hobjs.symm.trans hobj) h hm
  exact h1.trans (h2.trans hraw.isInfix)

/-! ## (i.b) the wire of the pair model -/

/-- "earlier": `pre` is the list of groups the run produced before the `delivered` group
    (`start`'s groups first, then those of every op, in order).  Every item the relay hands to the
    master (`toO = false`) carries a payload the outstation model transmitted in an earlier `.o`
    group — a fragment `.tx dst b` sent from `outstationAddr`, or a header-only link frame —
    and symmetrically towards the outstation.  Holds for every configuration and every op list
    without `inject`. -/
theorem wire_carries_only_what_was_sent (ocfg : OCfg) (evMax : Nat) (env : OEnv) (txSize : Nat)
    (acfg : Master.ACfg) (base : Option Nat) (dm2o do2m : Nat) (ops : List PInput)
    (hni : ∀ op ∈ ops, isInject op = false)
    (pre suf : List Group) (toO : Bool) (items : List Item)
    (hsplit : allGroups (Pair.start ocfg evMax env txSize acfg base dm2o do2m) ops =
      pre ++ Group.delivered toO items :: suf)
    (it : Item) (hit : it ∈ items) :
    (toO = false → ∃ outs, Group.o outs ∈ pre ∧
      ((∃ dst b, it.p = .frag outstationAddr dst b ∧ OOut.tx dst b ∈ outs) ∨
       (∃ c d sr, it.p = .link c d sr ∧ OOut.txLink c d sr ∈ outs))) ∧
    (toO = true → ∃ outs, Group.m outs ∈ pre ∧
      ((∃ dst b, it.p = .frag Pair.masterAddr dst b ∧ MOut.tx dst b ∈ outs) ∨
       (∃ c d sr, it.p = .link c d sr ∧ MOut.txLink c d sr ∈ outs))) := by
  have hg : Good (pre ++ [Group.delivered toO items]) :=
    (run_wire _ (start_wire ocfg evMax env txSize acfg base dm2o do2m) ops hni).2 _ suf (by
      rw [hsplit, List.append_assoc, List.singleton_append])
  have hmem : it.p ∈ items.map (·.p) := List.mem_map.mpr ⟨it, hit, rfl⟩
  constructor
  · rintro rfl
    have h1 := hg.1
    rw [deliveredM_snoc, sentO_snoc, List.append_nil] at h1
    exact mem_sentO (h1.subset (List.mem_append_right _ hmem))
  · rintro rfl
    have h2 := hg.2
    rw [deliveredO_snoc, sentM_snoc, List.append_nil] at h2
    exact mem_sentM (h2.subset (List.mem_append_right _ hmem))

/-- FIFO, nothing twice: at every point of the run, per direction, the sequence of payloads
    delivered so far is a SUBLIST (order-preserving, each transmission used at most once) of the
    sequence of payloads transmitted so far; what is missing was cut off or is still in flight -/
theorem wire_is_fifo (ocfg : OCfg) (evMax : Nat) (env : OEnv) (txSize : Nat)
    (acfg : Master.ACfg) (base : Option Nat) (dm2o do2m : Nat) (ops : List PInput)
    (hni : ∀ op ∈ ops, isInject op = false) (pre suf : List Group)
    (hsplit : allGroups (Pair.start ocfg evMax env txSize acfg base dm2o do2m) ops = pre ++ suf) :
    (deliveredM pre).Sublist (sentO pre) ∧ (deliveredO pre).Sublist (sentM pre) := by
  exact (run_wire _ (start_wire ocfg evMax env txSize acfg base dm2o do2m) ops hni).2 pre suf hsplit

/-- an op list with a cut, forced deliveries and time passing has no `inject` -/
example : ∀ op ∈ [PInput.tick 100, .add .binary 0 1, .cut, .deliver true none, .tick 6000],
    isInject op = false := by
  intro op h
  simp only [List.mem_cons, List.not_mem_nil, or_false] at h
  rcases h with rfl | rfl | rfl | rfl | rfl <;> rfl

/-- a concrete run (default configurations, a tick, a point added, a cut): its 14th group hands the
    master one item; the run splits as `wire_carries_only_what_was_sent` needs -/
def exAll : List Group :=
  allGroups (Pair.start {} (legacyEv 10) {} 2048 {} none 0 0) [.tick 100, .add .binary 0 1, .cut]
def exItems : List Item :=
  match (exAll[13]? : Option Group) with | some (Group.delivered _ i) => i | _ => []
example : exAll = exAll.take 13 ++ Group.delivered false exItems :: exAll.drop 14 ∧ ∃ it rest, exItems = it :: rest :=
  ⟨rfl, _, _, rfl⟩

/-- the invariant behind both: after any op sequence without `inject`, everything still queued on
    the wire was transmitted and not yet delivered (`Inv`) -/
theorem wire_invariant (ocfg : OCfg) (evMax : Nat) (env : OEnv) (txSize : Nat)
    (acfg : Master.ACfg) (base : Option Nat) (dm2o do2m : Nat) (ops : List PInput)
    (hni : ∀ op ∈ ops, isInject op = false) :
    Inv (allGroups (Pair.start ocfg evMax env txSize acfg base dm2o do2m) ops)
      (Pair.run (Pair.start ocfg evMax env txSize acfg base dm2o do2m).1 ops).1 := by
  exact (run_wire _ (start_wire ocfg evMax env txSize acfg base dm2o do2m) ops hni).1

/-! ## (ii) a complete class-0 response of a quiescent database, through parser and handler -/

/-
FULL TARGET (ii): "from any pair state in which both sides are idle and the connection is up, a
class-0 / integrity READ whose fragments are all delivered and confirmed with no update in between
hands the handler exactly the current static values of all points."
Proved in this section: the single-fragment core, in two theorems; any number of fragments over an ideal wire
is § series.
-/

/-- parser ∘ encoder round trip for the static vocabulary of a class-0 response (g1v2 and g30v1
    range headers, qualifier 0x01 — the only one `encodeStatic` writes).

    Database `db`: maps sorted (`static_sorted_invariant`), no READ in progress, room for the two
    selections, no event `Selected`, indices below 65536; the database is one of the `pair` engine:
    binary inputs configured with static variation g1v2 and analog inputs with g30v1 (`hsv`, `hsa`: what
    `Db.add` configures, `addStaticVar`), no point of the other six types (`hempty`), both types enabled
    in `ClassZeroConfig` (`hczb`, `hcza`: the default) — `class0_database_hypotheses_reachable` proves these
    five for every database built from `Db.new (legacyEv n)` by `Db.add .binary` / `Db.add .analog` and any
    other operations; `cap` large enough for the response to be complete.  Then the object octets `objs` of `select_class_zero` + `write_response_headers`
    parse (`parseRespObjects`), and `extract_measurements` over the parsed headers makes exactly
    these calls, in this order: for every maximal run of consecutive indices of the binary points
    one `handle_binary_input` call (g1v2, qualifier 1), then for every run of the analog points one
    `handle_analog_input` call (g30v1); the items of the calls, concatenated, are
    `(index, wire octets of the point's CURRENT value)` for every binary point, then every analog
    point, each exactly once, ascending (`db.bins` / `db.ans` are ascending and duplicate free by
    `hs`).  `runs` only regroups (`runs_flatten`); every run is non-empty, of one group / variation,
    with consecutive indices (`RunOK`). -/
theorem class0_response_delivers_database_partial (db : Db) (cap : Nat) (who : Who) (a : Master.Acc)
    (hs : StaticSorted db) (hq : db.queue = []) (hcap : 2 ≤ db.selCap)
    (hev : ∀ r ∈ db.events, r.st ≠ .selected)
    (hib : ∀ p ∈ db.bins, p.1 < 65536) (hia : ∀ p ∈ db.ans, p.1 < 65536)
    (hsv : ∀ p ∈ db.bins, p.2.svar = 2) (hsa : ∀ p ∈ db.ans, p.2.svar = 1)
    (hempty : ∀ t, t ≠ .binary → t ≠ .analog → db.map t = [])
    (hczb : db.czero.binary = true) (hcza : db.czero.analog = true)
    (hc : (db.selectClass0.1.writeResponse cap).2.2.2 = true) :
    let objs := (db.selectClass0.1.writeResponse cap).2.1
    let B := objsOf .binary db.bins
    let A := objsOf .analog db.ans
    let calls := (runs B).map (runCall who) ++ (runs A).map (runCall who)
    ∃ hdrs, parseRespObjects objs.length objs = some hdrs ∧
      hdrs.foldl (fun a h => deliverHeader a who h) a = (a.1, a.2 ++ calls) ∧
      calls.flatMap callItems =
        db.bins.map (fun p => (p.1, [p.2.current.wire .binary])) ++
        db.ans.map (fun p => (p.1, stObjBytes { idx := p.1, g := 30, v := 1, m := p.2.current })) ∧
      (∀ r ∈ runs B ++ runs A, RunOK r) := by
  obtain ⟨h1, h2⟩ := class0_roundtrip db hs hq hcap hev hib hia hsv hsa hempty hczb hcza cap hc who a
  refine ⟨_, h1, h2, ?_, ?_⟩
  · rw [List.flatMap_append, runCalls_items, runCalls_items, runs_flatten, runs_flatten]
    simp only [objsOf, List.map_map]
    rfl
  · intro r hr
    rcases List.mem_append.mp hr with hr | hr
    · exact runs_ok _ _ (Nat.le_refl _) (fun o ho => (objsOf_plain .binary (.inl rfl) db.bins hib o ho).1) r hr
    · exact runs_ok _ _ (Nat.le_refl _) (fun o ho => (objsOf_plain .analog (.inr rfl) db.ans hia o ho).1) r hr

/-- binaries 0, 1, 5 and analog 2, two of them updated (their two events sit `Unselected` in the
    buffer), 100 octets of room: all hypotheses hold -/
example :
    StaticSorted exDb ∧ exDb.queue = [] ∧ 2 ≤ exDb.selCap ∧ (∀ r ∈ exDb.events, r.st ≠ .selected) ∧
    (∀ p ∈ exDb.bins, p.1 < 65536) ∧ (∀ p ∈ exDb.ans, p.1 < 65536) ∧
    (∀ p ∈ exDb.bins, p.2.svar = 2) ∧ (∀ p ∈ exDb.ans, p.2.svar = 1) ∧
    (∀ t, t ≠ .binary → t ≠ .analog → exDb.map t = []) ∧
    exDb.czero.binary = true ∧ exDb.czero.analog = true ∧
    (exDb.selectClass0.1.writeResponse 100).2.2.2 = true ∧ exDb.events.length = 2 := by
  refine ⟨by decide, by decide, by decide, by decide, by decide, by decide, by decide, by decide, ?_,
    by decide, by decide, by decide, by decide⟩
  intro t h1 h2
  cases t <;> first | exact absurd rfl h1 | exact absurd rfl h2 | rfl

/-- the database hypotheses of the class-0 theorems other than idleness (`hs`, `hsv`, `hsa`, `hempty`, `hczb`,
    `hcza`) hold in EVERY state of a database created as the engines create it (`Db.new (legacyEv n)`: default
    `ClassZeroConfig`) to which points are added as binary / analog inputs only (`Db.add`: static g1v2 /
    g30v1), whatever updates, READ selections, responses, unsolicited responses, confirms and resets
    happen in between (`DbOp`, the operations the outstation session model performs on its database) -/
theorem class0_database_hypotheses_reachable (n : Nat) (sel : Option Nat) (ops : List DbOp)
    (hops : ∀ op ∈ ops, ∀ t idx cls, op = .add t idx cls → t = .binary ∨ t = .analog) :
    let db := DbProofs.run (Db.new (legacyEv n) sel) ops
    StaticSorted db ∧ (∀ p ∈ db.bins, p.2.svar = 2) ∧ (∀ p ∈ db.ans, p.2.svar = 1) ∧
    (∀ t, t ≠ .binary → t ≠ .analog → db.map t = []) ∧ db.czero.binary = true ∧ db.czero.analog = true := by
  intro db
  have h := class0_hyps_reachable n sel ops hops
  exact ⟨sorted_run _ ops (new_sorted _ sel), h.sv, h.sa, h.empty, h.czb, h.cza⟩

/-- the operations that built `exDb` add binary / analog inputs only -/
example : ∀ op ∈ [DbOp.add .binary 0 1, .add .binary 1 1, .add .binary 5 0, .add .analog 2 2,
      .update .binary 1 1 1 7, .update .analog 2 (-5) 1 8],
    ∀ t idx cls, op = .add t idx cls → t = .binary ∨ t = .analog :=
  Dnp3.Proofs.C02Series.exOps_ok

/-- the wire octets: a binary is its flags octet with the state in bit 7; an analog g30v1 is flags
    (OVER_RANGE set when the value saturates) and the 32-bit two's complement value -/
example (i : Nat) (m : Meas) :
    stObjBytes { idx := i, g := 30, v := 1, m := m } =
      [overRange m.flags (satInt 32 m.value).2] ++ DbM.le32 (twos 32 (satInt 32 m.value).1) := rfl

/-
The theorem below is the case of ONE fragment of `class0_series_converges` (§ series), at the level of the two handler
functions (`handleRequestFromIdle`, `onFragment`) instead of `Outstation.step` / `Master.step`, and with "no record
`Selected`" where the series asks for "every record `Unselected`".  To build on, take the series theorem.  What the
full (ii) still needs is listed once, in the header.
-/

/-- `quiescent_class0_poll_converges`, partial (single fragment, both session models, no wire):

    Outstation session model `ao`, idle, no broadcast pending, quiescent database as above, about
    to answer a NEW READ whose only header is g60v1 (class 0), whose answer fits one fragment.
    Master session model `am` waiting for the first fragment of the answer to exactly that
    request (`waitRead dest t ctrl.seq true _`, association present).  Then
    * the outstation transmits ONE fragment `frag` and waits for no confirm (`series = none`);
    * the master's `onFragment` on `frag` accepts it as the final fragment (`appDone … (.ok seq)`),
      and before `finishRead` its outputs are exactly: `deliverBegin`, the calls of
      `class0_response_delivers_database_partial` for the outstation's database at the time of the
      request (every point's CURRENT value, binaries then analogs, ascending, each once),
      `deliverEnd` — no confirm is sent. -/
theorem quiescent_class0_poll_converges_partial
    (ao : Dnp3.Acc) (f : Frag) (ctrl : AppCtrl) (objects : Except Nat (List ObjHdr)) (raw : List Nat)
    (hcl : classify ao.1 f ctrl 1 objects = .newRead [class0Hdr])
    (hseq : ctrl.seq < 16)
    (hbuf : ao.1.cfg.sol ≤ ao.1.solBuf.length) (h4 : 4 ≤ ao.1.cfg.sol)
    (hnb : ao.1.lastBroadcast = none)
    (hs : StaticSorted ao.1.db) (hq : ao.1.db.queue = []) (hcap : 2 ≤ ao.1.db.selCap)
    (hev : ∀ r ∈ ao.1.db.events, r.st ≠ .selected)
    (hib : ∀ p ∈ ao.1.db.bins, p.1 < 65536) (hia : ∀ p ∈ ao.1.db.ans, p.1 < 65536)
    (hsv : ∀ p ∈ ao.1.db.bins, p.2.svar = 2) (hsa : ∀ p ∈ ao.1.db.ans, p.2.svar = 1)
    (hempty : ∀ t, t ≠ .binary → t ≠ .analog → ao.1.db.map t = [])
    (hczb : ao.1.db.czero.binary = true) (hcza : ao.1.db.czero.analog = true)
    (hfit : (ao.1.db.selectClass0.1.writeResponse (ao.1.cfg.sol - 4)).2.2.2 = true)
    (ao' : Dnp3.Acc) (series : Option Series)
    (hres : handleRequestFromIdle ao f ctrl 1 objects raw = some (ao', series))
    (am : Master.Acc) (dest : Nat) (t : ReadTask) (dl : Nat)
    (hmode : am.1.mode = .waitRead dest t ctrl.seq true dl)
    (hassoc : (am.1.getAssoc dest).isSome = true) :
    ∃ frag, ao'.2 = ao.2 ++ [.tx f.src frag] ∧
      ∃ am1 c i1 i2,
        Master.onFragment am dest frag =
          .appDone (finishRead am1 dest t (.ok ctrl.seq)) dest t.taskType 1 (.ok ctrl.seq) ∧
        am1.2 = am.2 ++ [.deliverBegin (whoOf dest t) (rtOf t) c i1 i2] ++
          ((runs (objsOf .binary ao.1.db.bins)).map (runCall (whoOf dest t)) ++
           (runs (objsOf .analog ao.1.db.ans)).map (runCall (whoOf dest t))) ++
          [.deliverEnd (whoOf dest t) (rtOf t)] := by
  obtain ⟨con, i1, i2, hi2, htx, _, hcon, _⟩ := read_from_idle ao f ctrl 1 objects raw [class0Hdr] (.inl hcl) hbuf h4 ao' series hres
  obtain ⟨e1, e2⟩ := dbSelectAll_class0 ao.1.db
  rw [e1] at htx hcon
  rw [e2, selectClass0_iin ao.1.db hs hq hcap hempty] at htx
  obtain ⟨hoct, hnoev⟩ := class0_octets ao.1.db hs hq hcap hev hsv hsa hempty hczb hcza (ao.1.cfg.sol - 4) hfit
  have hcon' : con = false := by rw [(hcon hnb).1, hnoev, hfit]; rfl
  rw [hfit, hcon'] at htx
  refine ⟨_, htx, ?_⟩
  have hctrl : AppCtrl.ofNat (AppCtrl.toNat ⟨true, true, false, false, ctrl.seq⟩) = ⟨true, true, false, false, ctrl.seq⟩ :=
    Dnp3.Proofs.C12.ofNat_toNat true true false false ctrl.seq hseq
  obtain ⟨hp, hfold⟩ := class0_roundtrip ao.1.db hs hq hcap hev hib hia hsv hsa hempty hczb hcza (ao.1.cfg.sol - 4) hfit
    (whoOf dest t) (default, [])
  rw [foldl_deliverHeader_eq] at hfold
  have hcalls := (congrArg Prod.snd hfold).trans (List.nil_append _)
  have hi2' : (0 ||| 0 ||| i2) &&& 7 = 0 := by simpa using hi2
  obtain ⟨x, hx⟩ := Option.isSome_iff_exists.mp hassoc
  have hfrag := Dnp3.Proofs.C02SeriesMaster.onFragment_read_accept am dest t ctrl.seq dl true _ i1 (0 ||| 0 ||| i2) _ _
    true false x hmode hx hctrl (.inl rfl) hi2' hp
  rw [if_pos rfl] at hfrag
  refine ⟨_, (AppCtrl.ofNat (AppCtrl.toNat ⟨true, true, false, false, ctrl.seq⟩)).toNat, i1, 0 ||| 0 ||| i2, hfrag, ?_⟩
  rw [Dnp3.Proofs.C02SeriesMaster.acceptedAcc_outs]
  simp only [List.nil_append] at hcalls
  simp [hctrl, hcalls, List.append_assoc]

/-! ## (i.c) what the outstation session model writes into a solicited response -/

/-- `outstation_writes_only_database_values` (solicited; stated below with all it says about the octets and the
    event records) for a database with points of ANY of the eight types (no `hempty`): every static object
    written is `(index, selected cell)` of an existing point of the type whose static group it carries
    (`staticGroup`: g1, g3, g10, g20, g21, g30, g40, g110), or (g34) the configured dead-band of an existing
    analog input.  `outstation_writes_only_database_values` is the instance for the `pair` engine's
    databases, where only `staticGroup .binary = 1` and `staticGroup .analog = 30` can occur. -/
theorem outstation_writes_only_database_values_all_types
    (a : Dnp3.Acc) (f : Frag) (ctrl : AppCtrl) (func : Nat) (objects : Except Nat (List ObjHdr)) (raw : List Nat)
    (hs : List ObjHdr)
    (hcl : classify a.1 f ctrl func objects = .newRead hs ∨ ∃ x, classify a.1 f ctrl func objects = .repeatRead x hs)
    (hbuf : a.1.cfg.sol ≤ a.1.solBuf.length) (h4 : 4 ≤ a.1.cfg.sol) (hsorted : StaticSorted a.1.db)
    (a' : Dnp3.Acc) (series : Option Series)
    (hres : handleRequestFromIdle a f ctrl func objects raw = some (a', series)) :
    let db1 := (dbSelectAll a.1.db hs).1
    let cap := a.1.cfg.sol - 4
    ∃ hdr4 : List Nat, hdr4.length = 4 ∧
      a'.2 = a.2 ++ [.tx f.src (hdr4 ++ (encodeEvents none (db1.writeEvents cap).2.1 ++
        (writeStaticObjs db1 cap).flatMap (encodeStatic none)))] ∧
      a'.1.db = (db1.writeResponse cap).1 ∧
      (∃ n, (db1.writeEvents cap).2.1 = (db1.events.filter isSelected).take n) ∧
      (∀ r ∈ (db1.writeEvents cap).2.1, r ∈ db1.events ∧ ∃ r0 ∈ a.1.db.events, core r0 = core r) ∧
      (∀ o ∈ (writeStaticObjs db1 cap).flatten,
        (∃ t, o.g = staticGroup t ∧ ∃ p ∈ db1.map t, o.idx = p.1 ∧ o.m = p.2.selected) ∨
        (o.g = 34 ∧ ∃ p ∈ db1.ans, o.idx = p.1 ∧ o.m = { value := p.2.deadband, flags := 0 })) := by
  intro db1 cap
  obtain ⟨con, i1, i2, _, htx, hdb, _⟩ := read_from_idle a f ctrl func objects raw hs hcl hbuf h4 a' series hres
  have hs1 : StaticSorted db1 := (dbSelectAll_keys hs a.1.db).sorted hsorted
  have hoct := (writeResponse_static db1 hs1 cap).1
  obtain ⟨n, hn⟩ : ∃ n, (db1.writeEvents cap).2.1 = (db1.events.filter isSelected).take n := by
    obtain ⟨n, _, he⟩ := writeEvents_spec db1 cap
    exact ⟨n, by rw [he]⟩
  refine ⟨[(⟨true, (db1.writeResponse cap).2.2.2, con, false, ctrl.seq⟩ : AppCtrl).toNat, 0x81, i1,
      (dbSelectAll a.1.db hs).2 ||| i2], rfl, ?_, hdb, ⟨n, hn⟩, ?_, ?_⟩
  · rw [htx, ← hoct]
  · intro r hr
    rw [hn] at hr
    have hr1 : r ∈ db1.events := (List.mem_filter.mp (List.mem_of_mem_take hr)).1
    refine ⟨hr1, ?_⟩
    have : core r ∈ db1.events.map core := List.mem_map.mpr ⟨r, hr1, rfl⟩
    rw [dbSelectAll_core] at this
    obtain ⟨r0, h0, e0⟩ := List.mem_map.mp this
    exact ⟨r0, h0, e0⟩
  · intro o ho
    obtain ⟨it, _, hit⟩ := mem_writeStaticObjs db1 hs1 cap o ho
    exact mem_itemObjs_ty db1 it o hit

/-- `outstation_writes_only_database_values` (solicited): a READ (any headers `hs`; new, or a repeat of
    the last request — both take the same path) handled from idle transmits ONE fragment = 4 header octets followed by EXACTLY the octets the database's
    `write_response_headers` produced (`response_octets`): the encodings of event records, then the
    range encodings of static objects.  With `db1` the database after the request's selections:
    * the event records written are a prefix of `db1`'s `Selected` records in buffer order
      (`write_marks_prefix`), each one a record of the buffer, carrying id / index / class / type /
      value / flags / time (`core`) of a record that was in the buffer when the request arrived —
      selecting never changes those (`select_only_selects`);
    * every static object written is `(index, selected cell)` of an EXISTING point of the matching
      type (g1 ↦ binary map, g30 ↦ analog map; a g34 object is the dead-band of an existing analog input),
      obtained from one of the queued headers (`selected_header_is_range`: each point of the range once,
      ascending).
    The `selected` cell of a point is its CURRENT value at the moment its header was selected
    (`selectStatic_snapshot`; for headers of this very request that moment is this step).  Known
    exception D12: a point ADDED while a multi-fragment series is open is reported by a later
    fragment with the default `selected` cell; `series_is_snapshot_partial` excludes it by allowing
    only write / update / clear (`SOp`) between the fragments.
    No object is cross-wired between types: group 1 objects come from `bins`, group 30 from `ans`.
    `hempty`: the database holds binary and analog inputs only (the `pair` engine's databases,
    `class0_database_hypotheses_reachable`); `outstation_writes_only_database_values_all_types` above is the
    statement without it, for points of all eight types. -/
theorem outstation_writes_only_database_values
    (a : Dnp3.Acc) (f : Frag) (ctrl : AppCtrl) (func : Nat) (objects : Except Nat (List ObjHdr)) (raw : List Nat)
    (hs : List ObjHdr)
    (hcl : classify a.1 f ctrl func objects = .newRead hs ∨ ∃ x, classify a.1 f ctrl func objects = .repeatRead x hs)
    (hbuf : a.1.cfg.sol ≤ a.1.solBuf.length) (h4 : 4 ≤ a.1.cfg.sol) (hsorted : StaticSorted a.1.db)
    (hempty : ∀ t, t ≠ .binary → t ≠ .analog → a.1.db.map t = [])
    (a' : Dnp3.Acc) (series : Option Series)
    (hres : handleRequestFromIdle a f ctrl func objects raw = some (a', series)) :
    let db1 := (dbSelectAll a.1.db hs).1
    let cap := a.1.cfg.sol - 4
    ∃ hdr4 : List Nat, hdr4.length = 4 ∧
      a'.2 = a.2 ++ [.tx f.src (hdr4 ++ (encodeEvents none (db1.writeEvents cap).2.1 ++
        (writeStaticObjs db1 cap).flatMap (encodeStatic none)))] ∧
      a'.1.db = (db1.writeResponse cap).1 ∧
      (∃ n, (db1.writeEvents cap).2.1 = (db1.events.filter isSelected).take n) ∧
      (∀ r ∈ (db1.writeEvents cap).2.1, r ∈ db1.events ∧ ∃ r0 ∈ a.1.db.events, core r0 = core r) ∧
      (∀ o ∈ (writeStaticObjs db1 cap).flatten,
        (o.g = 1 ∧ ∃ p ∈ db1.bins, o.idx = p.1 ∧ o.m = p.2.selected) ∨
        (o.g = 30 ∧ ∃ p ∈ db1.ans, o.idx = p.1 ∧ o.m = p.2.selected) ∨
        (o.g = 34 ∧ ∃ p ∈ db1.ans, o.idx = p.1)) := by
  intro db1 cap
  obtain ⟨hdr4, hl, htx, hdb, hn, hev, hobj⟩ := outstation_writes_only_database_values_all_types a f ctrl func objects
    raw hs hcl hbuf h4 hsorted a' series hres
  refine ⟨hdr4, hl, htx, hdb, hn, hev, fun o ho => ?_⟩
  rcases hobj o ho with ⟨t, hg, p, hp, h1, h2⟩ | ⟨hg, p, hp, h1, _⟩
  · by_cases hb : t = .binary
    · subst hb; exact .inl ⟨hg, p, hp, h1, h2⟩
    · by_cases ha : t = .analog
      · subst ha; exact .inr (.inl ⟨hg, p, hp, h1, h2⟩)
      · rw [(dbSelectAll_keys hs a.1.db).nil (hempty t hb ha)] at hp; cases hp
  · exact .inr (.inr ⟨hg, p, hp, h1⟩)

/-- `outstation_writes_only_database_values` (unsolicited): when `check_unsolicited` starts a
    non-null series it transmits to the configured master 4 header octets followed by EXACTLY the
    octets of `Db.writeUnsolicited` — by `unsol_marks_prefix` the encodings of a prefix (buffer
    order) of the records of the enabled classes, which it marks `Written` — and nothing else -/
theorem outstation_unsolicited_writes_only_buffer_events (a a' : Dnp3.Acc) (dl : Option Nat)
    (hu : a.1.unsol = .ready dl) (hbuf : a.1.cfg.unsol ≤ a.1.unsolBuf.length) (h4 : 4 ≤ a.1.cfg.unsol)
    (h : checkUnsolicited a = some (.inl a')) :
    ∃ (hdr4 : List Nat) (seq : Nat) (dbs : Db) (n : Nat), hdr4.length = 4 ∧ EbSel a.1.db.reset dbs ∧
      a'.2 = a.2 ++ [.tx a.1.cfg.master
        (hdr4 ++ encodeEvents none ((dbs.events.filter isSelected).take n)), .cb (.unsolWait seq)] ∧
      a'.1.db.events = markFirst n dbs.events := by
  obtain ⟨hdr4, hl, seq, htx, hdb⟩ := unsol_from_ready a a' dl hu hbuf h4 h
  obtain ⟨dbs, n, hsel, hev, hoct, _⟩ :=
    Dnp3.Props.Db.unsol_marks_prefix a.1.db a.1.en1 a.1.en2 a.1.en3 (a.1.cfg.unsol - 4)
  exact ⟨hdr4, seq, dbs, n, hl, hsel, by rw [htx, hoct], by rw [hdb, hev]⟩

/-! ## (iii) a cut loses only what is in flight -/

/-- the outcome of `cut` does not depend on what the two queues held: everything in flight
    (complete items and the partly forwarded head) is dropped before either endpoint runs; the
    endpoints then go through their session end / restart (`eof`, `cut`, `connect`, in this order),
    and only what the NEW sessions transmit enters the wire (what the master still transmits while
    handling `eof` is lost too) -/
theorem cut_loses_only_in_flight (s : PState) :
    let s0 : PState := { s with m2o := s.m2o.clear, o2m := s.o2m.clear }
    Pair.step s .cut = Pair.step s0 .cut ∧
    ∃ rest, (Pair.step s .cut).2 =
      [.m (mstep s0 .eof).2, .o (ostep (mstep s0 .eof).1 .cut).2,
       .m (mstep (enqO (ostep (mstep s0 .eof).1 .cut).1 (ostep (mstep s0 .eof).1 .cut).2) .connect).2] ++ rest := by
  refine ⟨rfl, ?_⟩
  unfold Pair.step
  simp only []
  rw [pump_acc]
  exact ⟨_, rfl⟩

/-! ## concrete instances of the hypotheses of the session-level theorems -/

/-- `exDb` (binaries 0, 1, 5 and analog 2 with two updates); 300-octet buffers; unsolicited enabled -/
def exO : OState := { OState.init { sol := 300, unsol := 300, unsolicited := true } (legacyEv 10) with db := exDb }
/-- READ g60v1 with sequence number 3 from master address 1 -/
def exFrag : Frag := ⟨0, 1, none, [0xC3, 1, 60, 1, 6]⟩

/-- every hypothesis of `quiescent_class0_poll_converges_partial` and of
    `outstation_writes_only_database_values` (with `hs = [class0Hdr]`) holds for this pair of states -/
example :
    let ao : Dnp3.Acc := (exO, [])
    let ctrl := AppCtrl.ofNat 0xC3
    let objects := parseObjects true 3 [60, 1, 6]
    classify ao.1 exFrag ctrl 1 objects = .newRead [class0Hdr] ∧ ctrl.seq < 16 ∧
    ao.1.cfg.sol ≤ ao.1.solBuf.length ∧ 4 ≤ ao.1.cfg.sol ∧ ao.1.lastBroadcast = none ∧
    StaticSorted ao.1.db ∧ ao.1.db.queue = [] ∧ 2 ≤ ao.1.db.selCap ∧ (∀ r ∈ ao.1.db.events, r.st ≠ .selected) ∧
    (∀ p ∈ ao.1.db.bins, p.1 < 65536) ∧ (∀ p ∈ ao.1.db.ans, p.1 < 65536) ∧
    (∀ p ∈ ao.1.db.bins, p.2.svar = 2) ∧ (∀ p ∈ ao.1.db.ans, p.2.svar = 1) ∧
    (∀ t, t ≠ .binary → t ≠ .analog → ao.1.db.map t = []) ∧
    ao.1.db.czero.binary = true ∧ ao.1.db.czero.analog = true ∧
    (ao.1.db.selectClass0.1.writeResponse (ao.1.cfg.sol - 4)).2.2.2 = true ∧
    (handleRequestFromIdle ao exFrag ctrl 1 objects [60, 1, 6]).isSome = true ∧
    (let am : Master.Acc := ({ assocs := [{ addr := 1024, cfg := {}, seq := 4 }], ring := [1024],
                               mode := .waitRead 1024 (.integrity 15) 3 true 5000 }, [])
     am.1.mode = .waitRead 1024 (.integrity 15) (AppCtrl.ofNat 0xC3).seq true 5000 ∧
     (am.1.getAssoc 1024).isSome = true) := by
  refine ⟨rfl, by decide +kernel, by decide +kernel, by decide +kernel, rfl, by decide +kernel, rfl,
    by decide +kernel, by decide +kernel, by decide +kernel, by decide +kernel,
    by decide +kernel, by decide +kernel,
    fun t h1 h2 => by cases t <;> first | exact absurd rfl h1 | exact absurd rfl h2 | rfl,
    rfl, rfl, by decide +kernel,
    by decide +kernel, rfl, rfl⟩

/-- … and of `outstation_unsolicited_writes_only_buffer_events`: class 1 enabled, the null response
    confirmed, two class-1 / class-2 events buffered -/
example :
    let a : Dnp3.Acc := ({ exO with unsol := .ready none, en1 := true }, [])
    a.1.unsol = .ready none ∧ a.1.cfg.unsol ≤ a.1.unsolBuf.length ∧ 4 ≤ a.1.cfg.unsol ∧
    ∃ a', checkUnsolicited a = some (.inl a') := by
  refine ⟨rfl, by decide +kernel, by decide +kernel, ?_⟩
  have : (match checkUnsolicited ({ exO with unsol := .ready none, en1 := true }, []) with
    | some (.inl _) => true | _ => false) = true := by decide +kernel
  revert this
  cases checkUnsolicited ({ exO with unsol := .ready none, en1 := true }, []) with
  | none => intro h; cases h
  | some x =>
    cases x with
    | inl a' => intro _; exact ⟨a', rfl⟩
    | inr _ => intro h; cases h

end Dnp3.Props.C02

-- reopened without `Dnp3.Master` open: from here on unqualified `Acc`, `Mode`, … are the outstation's
namespace Dnp3.Props.C02
section Reach
open Dnp3 Dnp3.DbM Dnp3.DbProofs Dnp3.Pair Dnp3.Proofs.C02Static Dnp3.Proofs.C02Reach Dnp3.Proofs.C02Series
open Dnp3.Proofs.C02SeriesMaster Dnp3.Proofs.C02Session Dnp3.Proofs.Skel Dnp3.Proofs.C03 Dnp3.Proofs.C02Events

/-! ## § reachable pair states: the class-0 database hypotheses are derived

`Pair.ReachableVia ok cfg… s`: `s` is reached from `(Pair.start cfg…).1` by `Pair.step` over inputs satisfying `ok`;
`Pair.Reachable` = `ReachableVia (fun _ => True)`; `AddsBinAn`: `add` / `addMany` ops add binary / analog inputs
only, every other op is unrestricted (`inject`, `cut`, `txn`, … included). -/

/-- the outstation component of a reachable pair state (ANY inputs) is a state of an outstation trace from
    construction, under the environment the pair was started with -/
theorem reachable_pair_outstation {ocfg : OCfg} {evMax : Nat} {env : OEnv} {txSize : Nat} {acfg : Master.ACfg}
    {base : Option Nat} {dm2o do2m : Nat} {s : PState}
    (hr : Pair.Reachable ocfg evMax env txSize acfg base dm2o do2m s) :
    s.env = env ∧ Outstation.Reachable ocfg evMax env s.o := by
  refine reachable_keeps (okO := fun _ => True) (Q := fun s => s.env = env ∧ Outstation.Reachable ocfg evMax env s.o)
    ?_ Dnp3.Proofs.Pair.okBase_true (fun _ _ _ _ => trivial) ⟨rfl, .start⟩ hr
  refine ⟨fun s i h => h, fun s i _ h => ⟨h.1, ?_⟩, fun s s' he h => ⟨he.2.2.trans h.1, he.2.1 ▸ h.2⟩⟩
  have : (ostep s i).1.o = (Outstation.step env s.o i).1 := by
    show (Outstation.step s.env s.o i).1 = _
    rw [h.1]
  rw [this]
  exact .step s.o i h.2

/-- five points added as binary / analog inputs, two of them updated, 100 ms of time -/
def exPairOps : List PInput := [.add .binary 0 1, .add .binary 1 1, .add .binary 5 0, .add .analog 2 2,
  .txn [.bin 1 true 1 7, .an 2 (-5) 1 8], .tick 100]
/-- 20-octet solicited buffer, ten events per type, the master's automatic tasks switched off -/
def exPairStart : PState := (Pair.start { sol := 20 } (legacyEv 10) {} 2048 { dis := 0, int := 0, en := 0 } none 0 0).1
def exPair : PState := (Pair.run exPairStart exPairOps).1

/-- `exPairOps` satisfy `AddsBinAn`, so the state they lead to is reachable in that sense -/
theorem exPair_reachable :
    ReachableVia AddsBinAn { sol := 20 } (legacyEv 10) {} 2048 { dis := 0, int := 0, en := 0 } none 0 0 exPair := by
  refine ReachableVia.run exPairOps .start ?_
  intro op h
  simp only [exPairOps, List.mem_cons, List.not_mem_nil, or_false] at h
  rcases h with rfl | rfl | rfl | rfl | rfl | rfl <;> first | exact .inl rfl | exact .inr rfl | trivial

example : Pair.Reachable { sol := 20 } (legacyEv 10) {} 2048 { dis := 0, int := 0, en := 0 } none 0 0 exPair :=
  exPair_reachable.mono (fun _ _ => trivial)

/-- the outstation component is a state of an outstation trace from construction, under the environment the
    pair was started with -/
theorem reachable_outstation_restated {ocfg : OCfg} {evMax : Nat} {env : OEnv} {txSize : Nat} {acfg : Master.ACfg}
    {base : Option Nat} {dm2o do2m : Nat} {s : PState}
    (hr : Pair.Reachable ocfg evMax env txSize acfg base dm2o do2m s) :
    s.env = env ∧ Outstation.Reachable ocfg evMax env s.o :=
  reachable_pair_outstation hr

/-- **one step of the outstation session model keeps a database invariant**: any input; for an `add` input
    the invariant has to be kept by that `Db.add` -/
theorem step_dbInv {I : Db → Prop} (K : DbInv I) (env : OEnv) (s : OState) (inp : OInput)
    (hadd : ∀ t idx cls, inp = .add t idx cls → I s.db → I (s.db.add t idx cls).1)
    (h : I s.db) : I (Outstation.step env s inp).1.db := by
  obtain ⟨db0, h0, hr⟩ := Dnp3.Proofs.SessionDb.step_db_run env s inp
  refine K.run hr ?_
  cases h0 with
  | same => exact h
  | add t idx cls => exact hadd t idx cls rfl h

/-- **one step of the outstation session model keeps the class-0 hypotheses**, whatever the input, as long
    as it does not add a point of another type than binary / analog input -/
theorem step_class0Db (env : OEnv) (s : OState) (inp : OInput) (hinp : OAddsBinAn inp) (h : Class0Db s.db) :
    Class0Db (Outstation.step env s inp).1.db :=
  step_dbInv class0Db_inv env s inp (fun t idx cls e => class0Db_step s.db (.add t idx cls) (fun _ _ _ e' => by cases e'; subst e; exact hinp)) h

/-- **the class-0 hypotheses hold of the outstation database of every pair state reachable by ops that add
    binary / analog inputs only** (event buffer configuration `legacyEv n`: the `pair` engine's) -/
theorem _root_.Dnp3.Proofs.C02Reach.reachable_class0Db {ocfg : OCfg} {n : Nat} {env : OEnv} {txSize : Nat} {acfg : Master.ACfg}
    {base : Option Nat} {dm2o do2m : Nat} {s : PState}
    (hr : ReachableVia AddsBinAn ocfg (legacyEv n) env txSize acfg base dm2o do2m s) : Class0Db s.o.db := by
  refine reachable_keeps (okO := OAddsBinAn) (Q := fun s => Class0Db s.o.db)
    ⟨fun s i h => h, fun s i hi h => step_class0Db s.env s.o i hi h, fun s s' he h => he.2.1 ▸ h⟩
    ⟨fun _ _ _ => trivial, fun _ => trivial, fun _ => trivial, trivial, fun _ => trivial⟩
    ?_ (class0Db_start ocfg n) hr
  intro inp hinp i hi
  cases inp with
  | add t idx cls => cases hi; exact hinp
  | addMany t start count cls => obtain ⟨k, _, rfl⟩ := hi; exact hinp
  | _ => cases hi

/-- **the database hypotheses of the class-0 theorems hold of the outstation database of every pair state reachable
    by ops that add binary / analog inputs only**: sorted maps, binary inputs with static variation g1v2, analog
    inputs with g30v1, no point of the other six types, both enabled in `ClassZeroConfig`, room for the two class-0
    selections, every index a u16 — whatever updates, requests, responses, confirms, cuts, injected fragments and
    time steps the run contained -/
theorem class0_database_hypotheses_reachable_pair {ocfg : OCfg} {n : Nat} {env : OEnv} {txSize : Nat} {acfg : Master.ACfg}
    {base : Option Nat} {dm2o do2m : Nat} {s : PState}
    (hr : ReachableVia AddsBinAn ocfg (legacyEv n) env txSize acfg base dm2o do2m s) :
    let db := s.o.db
    StaticSorted db ∧ (∀ p ∈ db.bins, p.2.svar = 2) ∧ (∀ p ∈ db.ans, p.2.svar = 1) ∧
    (∀ t, t ≠ .binary → t ≠ .analog → db.map t = []) ∧ db.czero.binary = true ∧ db.czero.analog = true ∧
    2 ≤ db.selCap ∧ (∀ p ∈ db.bins, p.1 < 65536) ∧ (∀ p ∈ db.ans, p.1 < 65536) := by
  obtain ⟨h1, h2, h3, h4⟩ := reachable_class0Db hr
  exact ⟨h1, h2.sv, h2.sa, h2.empty, h2.czb, h2.cza, h3, h4 .binary, h4 .analog⟩

/-- the exact condition on the inputs: `add` / `addMany` of binary / analog inputs; anything else is allowed -/
example : AddsBinAn (.add .analog 7 2) ∧ AddsBinAn (.inject true 1 1024 [0xC0, 0]) ∧ AddsBinAn .cut ∧
    ¬ AddsBinAn (.add .counter 0 1) := ⟨.inr rfl, trivial, trivial, by intro h; rcases h with h | h <;> cases h⟩

/-- the predicate `Class0Db` (sorted, `PairDb`, `2 ≤ selCap`, u16 indices) is such an invariant -/
example : DbInv Class0Db := class0Db_inv

/-- `class0_response_delivers_database`: `class0_response_delivers_database_partial` for the outstation database of
    a REACHABLE pair state — the five database hypotheses, `StaticSorted`, `2 ≤ selCap` and the index bounds are
    derived (`class0_database_hypotheses_reachable_pair`).  What remains is the situation the statement is about:
    the database is idle (`hq`: no READ in progress; `hev`: no record `Selected`) and the response is complete
    (`hc`). -/
theorem class0_response_delivers_database {ocfg : OCfg} {n : Nat} {env : OEnv} {txSize : Nat} {acfg : Master.ACfg}
    {base : Option Nat} {dm2o do2m : Nat} {s : PState}
    (hr : ReachableVia AddsBinAn ocfg (legacyEv n) env txSize acfg base dm2o do2m s)
    (cap : Nat) (who : Master.Who) (a : Master.Acc)
    (hq : s.o.db.queue = []) (hev : ∀ r ∈ s.o.db.events, r.st ≠ .selected)
    (hc : (s.o.db.selectClass0.1.writeResponse cap).2.2.2 = true) :
    let db := s.o.db
    let objs := (db.selectClass0.1.writeResponse cap).2.1
    let B := objsOf .binary db.bins
    let A := objsOf .analog db.ans
    let calls := (runs B).map (runCall who) ++ (runs A).map (runCall who)
    ∃ hdrs, Master.parseRespObjects objs.length objs = some hdrs ∧
      hdrs.foldl (fun a h => Master.deliverHeader a who h) a = (a.1, a.2 ++ calls) ∧
      calls.flatMap Dnp3.Props.C02.callItems =
        db.bins.map (fun p => (p.1, [p.2.current.wire .binary])) ++
        db.ans.map (fun p => (p.1, stObjBytes { idx := p.1, g := 30, v := 1, m := p.2.current })) ∧
      (∀ r ∈ runs B ++ runs A, RunOK r) := by
  obtain ⟨h1, h2, h3, h4, h5, h6, h7, h8, h9⟩ := class0_database_hypotheses_reachable_pair hr
  exact class0_response_delivers_database_partial s.o.db cap who a h1 hq h7 hev h8 h9 h2 h3 h4 h5 h6 hc

/-- the remaining hypotheses hold of `exPair` (five points, two events buffered `Unselected`, 100 octets of room) -/
example : exPair.o.db.queue = [] ∧ (∀ r ∈ exPair.o.db.events, r.st ≠ .selected) ∧
    (exPair.o.db.selectClass0.1.writeResponse 100).2.2.2 = true ∧ exPair.o.db.events.length = 2 := by
  refine ⟨by decide +kernel, by decide +kernel, by decide +kernel, by decide +kernel⟩

/-! ## § series: a READ answered in any number of fragments

`series_objects`, `class0_pending`, `step_read_first`, `step_confirm`, `class0_series_converges`: `Props/C02Series.lean`. -/


/-- the hypotheses of `step_read_first` hold for `exSo` and READ g60v1 with sequence number 3; its conclusion
    (the answer is incomplete after 16 octets) yields a state satisfying the hypothesis `OWait` of `step_confirm` -/
example : ∃ s', OWait exCfg s' 3 ((dbSelectAll exSo.db [class0Hdr]).1.writeResponse (exCfg.sol - 4)).1 := by
  obtain ⟨i1, i2, s', rest, _, _, h⟩ := step_read_first {} exCfg exSo .untilEvent masterAddr outstationAddr
    [0xC0 + 3, 1, 60, 1, 6] ⟨true, true, false, false, 3⟩ [class0Hdr] [60, 1, 6]
    rfl rfl (by decide) (by decide) rfl (counters_run _ _ (new_counters _ _)) rfl (by decide) rfl (by decide) (.inr rfl)
    (parseRequest_class0 3 (by decide))
  exact ⟨s', (h (by decide +kernel)).2⟩

/-- `exSo`, `exSm`, READ g60v1 with sequence number 3 and `n = 2` satisfy every hypothesis of `class0_series_converges`
    (the `example` below `Dnp3.Proofs.C02Series.exOps_ok`); the answer takes three fragments:
    binaries 0-1 / binary 5 / analog 2 -/
example : (List.range 3).map (fun k => (fragObjs (exCfg.sol - 4) exSo.db.selectClass0.1 k).flatten.map (fun o => (o.g, o.idx))) =
    [[(1, 0), (1, 1)], [(1, 5)], [(30, 2)]] := by decide +kernel

/-- the two requests covered: READ g60v1, and the master's integrity poll on an empty event buffer -/
example (db : Db) (hc0 : Class0Db db) (hq : db.queue = []) :
    dbSelectAll db [class0Hdr] = (db.selectClass0.1, 0) ∧
    (db.events = [] → dbSelectAll db integrityHdrs = (db.selectClass0.1, 0)) ∧
    (∀ e, e < 16 → parseRequest [0xC0 + e, 1, 60, 1, 6] = .request ⟨true, true, false, false, e⟩ 1 (.ok [class0Hdr]) [60, 1, 6]) ∧
    (∀ e, e < 16 → parseRequest ([0xC0 + e, 1] ++ Master.classHeaders 15) =
      .request ⟨true, true, false, false, e⟩ 1 (.ok integrityHdrs) (Master.classHeaders 15)) :=
  ⟨sel_class0 db hc0 hq, sel_integrity db hc0 hq, parseRequest_class0, parseRequest_integrity⟩

/-- what reachability gives about the outstation component -/
theorem reachable_outstation_facts {ocfg : OCfg} {n : Nat} {env : OEnv} {txSize : Nat} {acfg : Master.ACfg}
    {base : Option Nat} {dm2o do2m : Nat} {s : PState}
    (hr : ReachableVia AddsBinAn ocfg (legacyEv n) env txSize acfg base dm2o do2m s)
    (hsol : 10 ≤ ocfg.sol) (hunsol : 4 ≤ ocfg.unsol) :
    s.env = env ∧ s.o.cfg = ocfg ∧ s.o.solBuf.length = ocfg.sol ∧ s.o.mode ≠ .dead ∧ CountersExact s.o.db ∧
    Class0Db s.o.db := by
  have hr' : Pair.Reachable ocfg (legacyEv n) env txSize acfg base dm2o do2m s := hr.mono (fun _ _ => trivial)
  obtain ⟨henv, hro⟩ := reachable_pair_outstation hr'
  have hinv := Dnp3.Proofs.C12.reachable_inv Dnp3.Proofs.C12.dbContract hsol hunsol hro
  obtain ⟨hal, hcnt⟩ := Dnp3.Proofs.NoPanicOutstation.reachable_alive_counters hro
  exact ⟨henv, hinv.1, hinv.2.2.2.1, hal, hcnt, reachable_class0Db hr⟩

/-- **the multi-fragment class-0 / integrity poll from a reachable pair state** (ideal wire): see
    `class0_series_converges`; `s` is any pair state reachable from `Pair.start …` by ops that add binary / analog
    inputs only, whose outstation is idle with a quiescent database, and whose master (`sm`: `s.m` with the clock
    the relay sets) waits for the first fragment of the answer to the request `req` -/
theorem reachable_series_converges_partial {ocfg : OCfg} {nEv : Nat} {env : OEnv} {txSize : Nat} {acfg : Master.ACfg}
    {base : Option Nat} {dm2o do2m : Nat} {s : PState}
    (hr : ReachableVia AddsBinAn ocfg (legacyEv nEv) env txSize acfg base dm2o do2m s)
    (hsol : 10 ≤ ocfg.sol) (hmax : ocfg.sol ≤ 2048) (hunsol : 4 ≤ ocfg.unsol)
    (haddr : env.outstation = outstationAddr) (hrx : 2 ≤ env.rx)
    (hmaster : ocfg.anymaster = true ∨ masterAddr = ocfg.master)
    (next : NextIdle) (hmode : s.o.mode = .idle next) (hnb : s.o.lastBroadcast = none)
    (hq : s.o.db.queue = []) (hu : AllUnsel s.o.db)
    (sm : Master.MState) (t : Master.ReadTask) (req : List Nat) (ctrl : AppCtrl) (hs : List ObjHdr) (raw : List Nat) (n : Nat)
    (hlen : req.length ≤ env.rx)
    (hreq : parseRequest req = .request ctrl 1 (.ok hs) raw) (hseq : ctrl.seq < 16)
    (hsel : dbSelectAll s.o.db hs = (s.o.db.selectClass0.1, 0))
    (hm : MWait sm outstationAddr t ctrl.seq true)
    (hnf : ∀ k, k < n → (fragW (ocfg.sol - 4) s.o.db.selectClass0.1 k).2.2.2 = false)
    (hfin : (fragW (ocfg.sol - 4) s.o.db.selectClass0.1 n).2.2.2 = true) :
    let db1 := s.o.db.selectClass0.1
    let who := Master.whoOf outstationAddr t
    let rt := Master.rtOf t
    let calls := fun k => fragCalls who (fragObjs (ocfg.sol - 4) db1 k)
    ∃ (o0 oE : OState) (mE mF : Master.MState) (rest0 : List OOut) (i1 i2 j1 j2 c : Nat) (l : List Master.MOut),
      Outstation.step s.env s.o (.rx masterAddr outstationAddr req) =
        (o0, [.tx masterAddr (fragOct true (decide (n = 0)) ctrl.seq i1 i2 (fragW (ocfg.sol - 4) db1 0).2.1)] ++ rest0) ∧
      Exchange s.env who rt o0 sm (fragOct true (decide (n = 0)) ctrl.seq i1 i2 (fragW (ocfg.sol - 4) db1 0).2.1) ctrl.seq
        ((List.range n).map calls) oE mE
        (fragOct (decide (n = 0)) true (seqAt ctrl.seq n) j1 j2 (fragW (ocfg.sol - 4) db1 n).2.1) (seqAt ctrl.seq n) ∧
      Master.step mE (.rx outstationAddr masterAddr
          (fragOct (decide (n = 0)) true (seqAt ctrl.seq n) j1 j2 (fragW (ocfg.sol - 4) db1 n).2.1)) =
        (mF, [.deliverBegin who rt c j1 j2] ++ calls n ++ [.deliverEnd who rt] ++ l) ∧
      (∀ o ∈ l, Dnp3.Proofs.C02MasterQuiet.QuietOut o) ∧
      (List.range (n + 1)).flatMap (fun k => (calls k).flatMap callItems) =
        s.o.db.bins.map (fun p => (p.1, [p.2.current.wire .binary])) ++
        s.o.db.ans.map (fun p => (p.1, stObjBytes { idx := p.1, g := 30, v := 1, m := p.2.current })) := by
  obtain ⟨henv, hcfg, hbuf, _, hcnt, hc0⟩ := reachable_outstation_facts hr hsol hunsol
  rw [henv]
  exact class0_series_converges env ocfg s.o next sm t req ctrl hs raw n hmode hcfg (by omega) (by omega)
    hmax hnb hcnt hc0 hq hu haddr hrx hlen hmaster hreq hseq hsel hm hnf hfin


/-- test for "idle until an event" (`Mode` has no decidable equality) -/
def modeIsIdleUntilEvent : Mode → Bool
  | .idle .untilEvent => true
  | _ => false

theorem of_modeIsIdleUntilEvent {m : Mode} (h : modeIsIdleUntilEvent m = true) : m = .idle .untilEvent := by
  cases m with
  | idle n => cases n <;> first | rfl | cases h
  | _ => cases h

/-- every hypothesis of `reachable_series_converges_partial` holds for the reachable state `exPair` (20-octet
    solicited buffer: three fragments), the master of `exSm` and READ g60v1 with sequence number 3 -/
example :
    10 ≤ ({ sol := 20 } : OCfg).sol ∧ ({ sol := 20 } : OCfg).sol ≤ 2048 ∧ 4 ≤ ({ sol := 20 } : OCfg).unsol ∧
    ({} : OEnv).outstation = outstationAddr ∧ 2 ≤ ({} : OEnv).rx ∧
    (({ sol := 20 } : OCfg).anymaster = true ∨ Pair.masterAddr = ({ sol := 20 } : OCfg).master) ∧
    exPair.o.mode = .idle .untilEvent ∧ exPair.o.lastBroadcast = none ∧ exPair.o.db.queue = [] ∧ AllUnsel exPair.o.db ∧
    [0xC0 + 3, 1, 60, 1, 6].length ≤ ({} : OEnv).rx ∧
    dbSelectAll exPair.o.db [class0Hdr] = (exPair.o.db.selectClass0.1, 0) ∧
    MWait exSm outstationAddr (.integrity 15) 3 true ∧
    (∀ k, k < 2 → (fragW (20 - 4) exPair.o.db.selectClass0.1 k).2.2.2 = false) ∧
    (fragW (20 - 4) exPair.o.db.selectClass0.1 2).2.2.2 = true := by
  have hc0 : Class0Db exPair.o.db := reachable_class0Db exPair_reachable
  refine ⟨by decide, by decide, by decide, rfl, by decide, .inr rfl, of_modeIsIdleUntilEvent (by decide +kernel), by decide +kernel,
    by decide +kernel, by unfold AllUnsel; decide +kernel, by decide, sel_class0 _ hc0 (by decide +kernel),
    ⟨⟨5000, rfl⟩, ⟨_, rfl, rfl⟩, by decide⟩, ?_, by decide +kernel⟩
  intro k hk
  have : k = 0 ∨ k = 1 := by omega
  rcases this with rfl | rfl <;> decide +kernel

/-! ## § events: released only upon the awaited confirm; the at-least-once clause is false (D32) -/

/-
FULL STATEMENT (FALSE of the pair model, `events_at_least_once_counterexample`): "in every run of the pair model
from `Pair.start …` without `inject`, if a step releases event id `e` (`event_cleared e` among the outstation's
outputs) then a fragment carrying record `e` was delivered to the master's handler earlier in the run."
What holds, link by link (the chain outstation ← wire ← master ← wire ← outstation):
  1. `release_needs_awaited_confirm` (below): the release happens at a confirm point — the fragment the step looks
     at is a CONFIRM with exactly the UNS bit and sequence number the session awaits, and `e` is the id of a
     record `Written` in the database at that point;
  2. `wire_carries_only_what_was_sent` (i.b): without `inject`, that CONFIRM was transmitted earlier by the master;
  3. `master_confirm_means_accepted`, `read_confirm_delivered` (§ master): the master transmits a CONFIRM only in a
     step whose input is a fragment it accepts with CON; for a READ in flight the step's outputs are `deliverBegin`,
     the handler calls of EVERY parsed header of that fragment, `deliverEnd`, the CONFIRM, then only quiet
     outputs; for an unsolicited response C15 `unsolicited_confirmed_contents_delivered` (delivered now, or an
     identical fragment was delivered before);
  4. `wire_carries_only_what_was_sent` again: that fragment was transmitted earlier by the outstation.
THE TWO LINKS THAT ARE MISSING, exactly:
  (L1, no stale confirm) the fragment the master confirmed in 3 is the fragment whose confirm the outstation awaits
     in 1.  It has the same UNS bit and sequence number, but after a wrap of the 4-bit sequence number it can be an
     OLDER one (D32); payload equality does not identify a transmission, and the wire items of `Pair` carry no
     identity, so (L1) is not expressible as a predicate on the group history alone — it is a hypothesis on the two
     steps of links 1 and 3.  A state predicate at op boundaries ("no CON-flagged fragment / confirm in flight other
     than the awaited one") does NOT imply it: sixteen requests queued towards the outstation make it open a new
     series with the same sequence number inside one op.  In the same run the stale fragment with sequence number 1
     is accepted AND CONFIRMED by the master as the response to its clear-restart WRITE with sequence number 1
     (`validate_non_read_response` looks at source, sequence number, FIR/FIN and IIN2 only): the cross-task variant.
  (L2, session invariant) every record that is `Written` is carried by the fragment whose confirm is awaited (the
     last fragment transmitted in the current series).  Established by each writer from a clean database
     (`outstation_writes_only_database_values`, `write_marks_prefix`, C03 (b) `reachable_sessClean`), kept by
     updates / selections (the `Written` set only shrinks during a wait); not proved over `Outstation.step` here.
-/

/-- **an event is released only upon the confirm the session awaits.**  If one step of the outstation session
    model (any state `s`, any input) emits `event_cleared id`, then the step ran the session machinery
    (`StepInit`) on a fragment `pf` (`StepFrag`: for an `rx` input the fragment just received), and at some point
    `b` of the step (`Reach`) the session was at a confirm point: `pf` is a CONFIRM (function code 0), and either a
    solicited series awaits exactly its sequence number (UNS clear), or a DATA unsolicited series does (UNS set);
    and `id` is the id of a record that is `Written` in the database at that point (`clearWritten` releases
    exactly the `Written` records, `clear_releases_exactly_written`) -/
theorem release_needs_awaited_confirm (env : OEnv) (s : OState) (inp : OInput) (id : Nat)
    (hrel : OOut.cb (.eventCleared id) ∈ (Outstation.step env s inp).2) :
    ∃ pf s0 o0 b, StepInit env s inp pf s0 o0 ∧ StepFrag env s inp pf ∧ Reach pf (s0, o0) b ∧
      ConfirmPoint pf b ∧ id ∈ (b.1.db.events.filter DbProofs.isWritten).map (·.id) := by
  rcases step_reach env s inp with ⟨f, _, e⟩ | e | ⟨pf, s0, o0, hi, hr⟩
  · rw [e] at hrel; cases hrel
  · rw [e] at hrel; cases hrel
  · rcases Reach.cleared hr id hrel with h0 | ⟨b, hb, hcp, hid⟩
    · have := hi.keep _ h0
      simp [Dnp3.Proofs.Frame.OOut.kind, Dnp3.Proofs.Frame.Cb.kind] at this
    · refine ⟨pf, s0, o0, b, hi, hi.frag, hb, hcp, ?_⟩
      rw [← (DbProofs.clear_spec b.1.db).2.1]
      exact hid

/-- **D32, kernel-checked.**  The run `d32Ops` from `d32Start` contains no `inject` and no `cut`.
    Before its last op (the release of the stalled direction) the outstation's event buffer holds the records
    with ids 0 (binary input 0 = 1) and 1 (binary input 0 = 0), both `Written`: carried by the answer to the 17th
    READ, which awaits its confirm.  Over the WHOLE run the master's handler receives exactly one `handle_*` call
    with data: g2v1 index 0, flags 0x81 — event 0.  The last op makes the outstation emit `event_cleared 0` and
    `event_cleared 1`; afterwards the buffer is empty and no overflow was ever flagged.  Record 1 was released and
    never delivered. -/
theorem events_at_least_once_counterexample :
    let r := Pair.run d32Start.1 d32Ops
    let r1 := Pair.run d32Start.1 d32Ops.dropLast
    d32Ops.all (fun op => !isInjectOrCut op) = true ∧
    r1.1.o.db.events.map (fun e => (e.id, e.index, e.m.value, e.st)) = [(0, 0, 1, .written), (1, 0, 0, .written)] ∧
    clearedOf (d32Start.2 ++ r1.2.flatten) = [] ∧
    deliveriesOf (d32Start.2 ++ r.2.flatten) = [.deliverHdr (.assoc 1024) 2 1 0x28 [(0, [0x81])]] ∧
    clearedOf (d32Start.2 ++ r.2.flatten) = [0, 1] ∧
    r.1.o.db.events = [] ∧ r.1.o.db.overflown = false ∧ r1.1.o.db.overflown = false := by
  decide +kernel


/-- the hypothesis of `release_needs_awaited_confirm` is satisfiable: the outstation of the D32 run, before the last
    op, awaits the confirm of the fragment with sequence number 0 that carries records 0 and 1; on `C0 00` it
    releases both -/
example :
    OOut.cb (.eventCleared 1) ∈
      (Outstation.step {} (Pair.run d32Start.1 d32Ops.dropLast).1.o (.rx 1 1024 [0xC0, 0])).2 := by
  have h : Cb.eventCleared 1 ∈ cbs (Outstation.step {} (Pair.run d32Start.1 d32Ops.dropLast).1.o (.rx 1 1024 [0xC0, 0])).2 := by
    decide +kernel
  unfold cbs at h
  obtain ⟨o, ho, e⟩ := List.mem_filterMap.mp h
  cases o <;> simp at e
  subst e
  exact ho
/-- a decidable freshness check on the group history of a run without `cut` / `inject` — "every solicited response
    handed to the master was transmitted after the request the master sent last" (`noLateResponse`; the `k`-th payload
    handed to the master is the `k`-th payload the outstation transmitted): it fails on the D32 run and holds on the
    same run without the stall.  It is the run-level reading of (L1) for solicited responses; that it implies (L1)
    is NOT proved -/
example :
    noLateResponse (d32Start.2 ++ (Pair.run d32Start.1 d32Ops).2.flatten) = false ∧
    noLateResponse (d32Start.2 ++ (Pair.run d32Start.1
      (d32Ops.filter fun op => match op with | .setHold .. => false | _ => true)).2.flatten) = true :=
  ⟨noLateResponse_d32, noLateResponse_d32_unstalled⟩

end Reach

end Dnp3.Props.C02
