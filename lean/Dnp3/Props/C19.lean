import Dnp3.Model.MasterSession
import Dnp3.Proofs.Master
/-!
# C19 — Master scheduling: requests first and in order, polls on period, one at a time

`AssociationMap::next_task` (`nextTask` = `phase1` then `phase2`), `Association::priority_task`,
`PollMap::next`, `next_link_status_task`, and the main loop `resolve`.
-/
namespace Dnp3.Props.C19
open Dnp3 Dnp3.Master

def notTimeSync (t : Task) : Prop := ∀ uid st, t ≠ .nonRead (.timeSync uid st)

/-- requests of one association run in submission order: `priority_task` hands out the head of
    the queue (a time synchronisation that cannot start is answered at once and skipped) -/
theorem user_fifo (a : Acc) (addr : Nat) (x : Assoc) (t : Task) (rest : List Task) (fuel : Nat)
    (hx : a.1.getAssoc addr = some x) (hq : x.queue = t :: rest) (ht : notTimeSync t) :
    priorityTask (fuel + 1) a addr = (modAssoc a addr fun y => { y with queue := rest }, some t) := by
  unfold priorityTask
  simp only [hx, hq]
  have : ∀ b : Acc, startTask b addr t = (b, some t) := by
    intro b
    unfold startTask
    cases t with
    | read r => rfl
    | linkStatus u => rfl
    | nonRead n =>
      cases n with
      | timeSync uid st => exact absurd rfl (ht uid st)
      | auto k c => rfl
      | command u s o => rfl
      | restart u c => rfl
      | deadband u o => rfl
  rw [this]

/-- `user_fifo_first`: user requests are served ahead of every automatic task, poll and
    keep-alive — `nextTask` consults `phase2` only when no association has a startable request -/
theorem user_fifo_first (a : Acc) (a' : Acc) (x : Nat × Task) (h : phase1 a.1.ring a = (a', some x)) :
    nextTask a = (a', .now x) := by
  unfold nextTask
  rw [h]

/-- the association at the head of the turn order with a startable request is the one served,
    and it moves to the back of the order -/
theorem round_robin_head (a : Acc) (addr : Nat) (rest : List Nat) (x : Assoc) (t : Task) (q : List Task)
    (hx : a.1.getAssoc addr = some x) (hq : x.queue = t :: q) (ht : notTimeSync t) :
    phase1 (addr :: rest) a =
      (rotate (modAssoc a addr fun y => { y with queue := q }) addr, some (addr, t)) := by
  unfold phase1
  simp only [hx]
  rw [hq, List.length_cons, user_fifo a addr x t q _ hx hq ht]

/-- `round_robin`: the association just served goes to the back of the turn order -/
theorem round_robin (a : Acc) (addr : Nat) : (rotate a addr).1.ring = a.1.ring.erase addr ++ [addr] := rfl

theorem round_robin_last (a : Acc) (addr : Nat) : (rotate a addr).1.ring.getLast? = some addr := by
  simp [round_robin]

/-- associations without a request are skipped, keeping their place -/
theorem round_robin_skip (a : Acc) (addr : Nat) (rest : List Nat) (x : Assoc)
    (hx : a.1.getAssoc addr = some x) (hq : x.queue = []) : phase1 (addr :: rest) a = phase1 rest a := by
  conv => lhs; unfold phase1
  simp only [hx, hq, List.length_nil]
  unfold priorityTask
  simp [hx, hq]

/-- `poll_period` (1): only a poll whose `next` instant has been reached is selected -/
theorem poll_selected_is_due (polls : List Poll) (now : Nat) (p : Poll) (h : PollMap.next polls now = .now p) :
    p ∈ polls ∧ p.next ≤ now := by
  unfold PollMap.next at h
  cases hf : polls.find? (fun p => decide (p.next ≤ now)) with
  | none =>
    rw [hf] at h
    simp only at h
    split at h <;> cases h
  | some q =>
    rw [hf] at h
    simp only [Next.now.injEq] at h
    subst h
    exact ⟨List.mem_of_find?_eq_some hf, by simpa using List.find?_some hf⟩

/-- `poll_period` (2): completion (success or failure) re-arms the poll one period later -/
theorem poll_rearmed (a : Assoc) (id now : Nat) (p : Poll) (h : p ∈ (a.completePoll id now).polls) (hid : p.id = id) :
    ∃ q ∈ a.polls, q.id = id ∧ p.next = now + q.period ∧ p.period = q.period := by
  unfold Assoc.completePoll at h
  simp only [List.mem_map] at h
  obtain ⟨q, hq, rfl⟩ := h
  by_cases hqi : q.id = id
  · exact ⟨q, hq, hqi, by simp [hqi], by simp [hqi]⟩
  · simp [hqi] at hid

/-- hence a completed poll is not selected again before its period has elapsed -/
theorem poll_period (a : Assoc) (id t now : Nat) (p : Poll)
    (h : PollMap.next (a.completePoll id t).polls now = .now p) (hid : p.id = id) :
    ∃ q ∈ a.polls, q.id = id ∧ t + q.period ≤ now := by
  obtain ⟨hm, hdue⟩ := poll_selected_is_due _ _ _ h
  obtain ⟨q, hq, hqi, hn, _⟩ := poll_rearmed a id t p hm hid
  exact ⟨q, hq, hqi, by omega⟩

/-- a ready poll is never passed over: `PollMap.next` answers `now` whenever some poll is due -/
theorem poll_not_starved (polls : List Poll) (now : Nat) (p : Poll) (hp : p ∈ polls) (hd : p.next ≤ now) :
    ∃ q, PollMap.next polls now = .now q := by
  unfold PollMap.next
  cases hf : polls.find? (fun p => decide (p.next ≤ now)) with
  | some q => exact ⟨q, rfl⟩
  | none =>
    have := List.find?_eq_none.1 hf p hp
    simp at this
    omega

/-- `demand` makes the poll ready at once (the list update is the one `processMessage` performs) -/
theorem demanded_poll_ready (polls : List Poll) (id now : Nat) (p : Poll) (hp : p ∈ polls) (hid : p.id = id) :
    ∃ q, PollMap.next (polls.map fun p => if p.id = id then { p with next := now } else p) now = .now q := by
  apply poll_not_starved _ now { p with next := now }
  · simp only [List.mem_map]
    exact ⟨p, hp, by simp [hid]⟩
  · exact Nat.le_refl _

/-- `keepalive_after_silence`: a link status request is selected only when the configured time
    has passed since the last recorded link activity -/
theorem keepalive_after_silence (a : Assoc) (now : Nat) (t : Task) (h : a.nextLinkStatus? now = .now t) :
    ∃ dl, a.nextLinkStatus = some dl ∧ dl ≤ now ∧ t = .linkStatus none := by
  unfold Assoc.nextLinkStatus? at h
  cases hd : a.nextLinkStatus with
  | none => simp [hd] at h
  | some dl =>
    simp only [hd] at h
    split at h
    · rename_i hge
      injection h with h
      exact ⟨dl, rfl, hge, h.symm⟩
    · cases h

theorem keepalive_deadline (a : Assoc) (now : Nat) :
    (a.onLinkActivity now).nextLinkStatus = a.cfg.ka.map (now + ·) := rfl

/-
`keepalive_credit`: the silence that `keepalive_after_silence` measures is the silence of THAT
association: a received fragment (or link status frame) re-arms the keep-alive deadline of the
association it comes from, and of no other — in every session mode.  (Finding D25, repaired: while
a non-READ request was outstanding the unchanged code credited every received fragment to the
request's destination; regression `harness/corpus/C19/master_D25.ops`.)  `kaView s` lists
(address, keep-alive deadline) of all associations.
-/

/-- crediting `src` at time `now` sets the deadline of `src`'s association to `now + keep_alive`
    and leaves every other deadline alone -/
theorem keepalive_credit_view (s : MState) (src : Nat) :
    kaView (notifyLinkActivity (s, []) src).1 =
      s.assocs.map fun x => (x.addr, if x.addr = src then x.cfg.ka.map (s.now + ·) else x.nextLinkStatus) := by
  unfold kaView notifyLinkActivity modAssoc
  simp only [List.map_map]
  apply List.map_congr_left
  intro y _
  simp only [Function.comp]
  split <;> rfl

/-- whatever else a parsed fragment causes (unsolicited handling, ending or continuing the task in
    flight), the deadlines afterwards are those of "credit the source" — in EVERY online mode,
    including the wait of a non-READ task -/
theorem keepalive_credit_to_source (s : MState) (src : Nat) (frag : List Nat) (r : Resp)
    (hp : parseResponse frag = some r) (hon : match s.mode with | .offline | .exited => False | _ => True) :
    kaView (onFragment (s, []) src frag).acc.1 =
      s.assocs.map fun x => (x.addr, if x.addr = src then x.cfg.ka.map (s.now + ·) else x.nextLinkStatus) := by
  rw [← keepalive_credit_view]
  have h := Proofs.Master.Eff.onFragment_heard (c := { rx := some (src, r) }) (b := (s, [])) src hp rfl (fun hoff => ?_) .refl
  · rw [← h.kaView rfl rfl, Step.reported_state]
  · rcases hoff with hm | hm <;> rw [show s.mode = _ from hm] at hon <;> exact hon.elim

/-- the same through the whole step of the model (scheduler, next task, session end included) -/
theorem keepalive_credit_to_source_step (s : MState) (src dst : Nat) (frag : List Nat) (r : Resp)
    (hdst : dst = masterAddr) (hsrc : src < 0xFFF0) (hne : frag ≠ []) (hlen : frag.length ≤ 2048)
    (hp : parseResponse frag = some r) (hon : match s.mode with | .offline | .exited => False | _ => True) :
    kaView (Master.step s (.rx src dst frag)).1 =
      s.assocs.map fun x => (x.addr, if x.addr = src then x.cfg.ka.map (s.now + ·) else x.nextLinkStatus) := by
  subst hdst
  rw [Proofs.Master.step_rx_not_dropped s src frag hsrc (by cases frag <;> simp_all) hlen,
    Proofs.Master.Eff.kaView (c := {}) (.checkShutdown .refl) rfl rfl,
    Proofs.Master.Eff.kaView (c := {}) (.resolve_acc _ _ .refl) rfl rfl]
  exact keepalive_credit_to_source s src frag r hp hon

/-- nothing is credited for a fragment that does not parse, or when no session runs -/
theorem keepalive_no_credit (s : MState) (src : Nat) (frag : List Nat)
    (h : parseResponse frag = none ∨ (match s.mode with | .offline | .exited => True | _ => False)) :
    kaView (onFragment (s, []) src frag).acc.1 = kaView s := by
  rcases h with h | h
  · rw [← Step.reported_state]
    exact (Proofs.Master.Eff.onFragment_unparsed (c := {}) .refl src h).kaView rfl rfl
  · unfold onFragment
    cases hm : s.mode <;> simp [hm] at h <;> rfl

/-- a link status frame from `src` credits `src` -/
theorem keepalive_credit_linkmsg (s : MState) (src : Nat)
    (hon : match s.mode with | .offline | .exited => False | _ => True) :
    kaView (onLinkMsg (s, []) src).acc.1 =
      s.assocs.map fun x => (x.addr, if x.addr = src then x.cfg.ka.map (s.now + ·) else x.nextLinkStatus) := by
  rw [← keepalive_credit_view]
  unfold onLinkMsg
  cases hm : s.mode <;> simp [hm] at hon <;> rfl

/-- regression for D25 (repaired): cold restart to 1024 outstanding (non-READ wait), at t = 2000 an
    unsolicited null response arrives from 1025 (keep-alive 3000): 1025's deadline moves to 5000,
    1024 (no keep-alive) is untouched.  Before the repair 1025 kept its deadline 3000 and got a
    keep-alive although it had just been heard. -/
def d25State : MState :=
  { now := 2000,
    assocs := [{ addr := 1024, cfg := { rto := 5000, dis := 0, int := 0, en := 0 }, seq := 1 },
               { addr := 1025, cfg := { rto := 1000, dis := 0, int := 0, en := 0, ka := some 3000 }, nextLinkStatus := some 3000 }],
    ring := [1025, 1024], mode := .waitNonRead 1024 (.restart 1 true) 0 13 7000, live := 1 }

theorem keepalive_credit_d25_regression :
    kaView (Master.step d25State (.rx 1025 1 [0xF0, 0x82, 0x00, 0x00])).1 = [(1024, none), (1025, some 5000)] := by decide

theorem createNext_future {α : Type} (st : AutoState) (now t : Nat) (x : α) (h : st.createNext now x = .notBefore t) : now < t := by
  unfold AutoState.createNext at h
  cases st with
  | idle => cases h
  | pending => cases h
  | failed l nb =>
    simp only at h
    split at h
    · cases h
    · injection h with h; omega

theorem auto_next_future (ts : TaskStates) (cfg : ACfg) (ev now t : Nat) (h : ts.next cfg ev now = .notBefore t) : now < t := by
  revert h
  fun_cases TaskStates.next ts cfg ev now
  all_goals intro h
  all_goals first
    | cases h
    | exact createNext_future _ _ _ _ h

theorem foldl_earliest_ge (polls : List Poll) (now : Nat) (acc : Option Nat) (t : Nat)
    (hacc : ∀ x, acc = some x → now < x) (hall : ∀ p ∈ polls, now < p.next)
    (h : polls.foldl (fun e p => earliest e p.next) acc = some t) : now < t := by
  induction polls generalizing acc with
  | nil => exact hacc t h
  | cons p ps ih =>
    simp only [List.foldl] at h
    apply ih (earliest acc p.next) _ (fun q hq => hall q (List.mem_cons_of_mem _ hq)) h
    intro x hx
    have hp := hall p List.mem_cons_self
    unfold earliest at hx
    cases acc with
    | none => injection hx with hx; omega
    | some y =>
      injection hx with hx
      have := hacc y rfl
      omega

theorem poll_next_future (polls : List Poll) (now t : Nat) (h : PollMap.next polls now = .notBefore t) : now < t := by
  unfold PollMap.next at h
  cases hf : polls.find? (fun p => decide (p.next ≤ now)) with
  | some q => rw [hf] at h; cases h
  | none =>
    rw [hf] at h
    simp only at h
    have hall : ∀ p ∈ polls, now < p.next := by
      intro p hp
      have := List.find?_eq_none.1 hf p hp
      simp at this
      omega
    cases hfold : polls.foldl (fun e p => earliest e p.next) none with
    | none => rw [hfold] at h; cases h
    | some x =>
      rw [hfold] at h
      injection h with h
      subst h
      exact foldl_earliest_ge polls now none x (by intro x hx; cases hx) hall hfold

theorem link_next_future (a : Assoc) (now t : Nat) (h : a.nextLinkStatus? now = .notBefore t) : now < t := by
  unfold Assoc.nextLinkStatus? at h
  cases hd : a.nextLinkStatus with
  | none => simp [hd] at h
  | some dl =>
    simp only [hd] at h
    split at h
    · cases h
    · injection h with h; omega

/-- every deadline an association reports is strictly in the future -/
theorem assoc_next_future (a : Assoc) (now t : Nat) (h : a.getNextTask now = .notBefore t) : now < t := by
  unfold Assoc.getNextTask at h
  cases h1 : a.auto.next a.cfg a.evAvail now with
  | now c => simp [h1] at h
  | notBefore t' =>
    simp only [h1] at h
    injection h with h
    subst h
    exact auto_next_future _ _ _ _ _ h1
  | none =>
    simp only [h1] at h
    cases h2 : PollMap.next a.polls now with
    | now p => simp [h2] at h
    | none => simp only [h2] at h; exact link_next_future a now t h
    | notBefore tp =>
      simp only [h2] at h
      have hp := poll_next_future _ _ _ h2
      cases h3 : a.nextLinkStatus? now with
      | none => simp only [h3] at h; injection h with h; omega
      | now x => simp [h3] at h
      | notBefore tl =>
        simp only [h3] at h
        injection h with h
        have hl := link_next_future a now tl h3
        omega

/-- state changes made while looking for a task never move the clock -/
theorem modAssoc_now (a : Acc) (addr : Nat) (f : Assoc → Assoc) : (modAssoc a addr f).1.now = a.1.now := rfl

theorem complete_now (a : Acc) (uid : Nat) (o : Outcome) : (complete a uid o).1.now = a.1.now := rfl

theorem tsReportError_now (a : Acc) (dest : Nat) (uid : Option Nat) (o : Outcome) :
    (tsReportError a dest uid o).1.now = a.1.now := by
  unfold tsReportError
  split <;> rfl

theorem rotate_now (a : Acc) (addr : Nat) : (rotate a addr).1.now = a.1.now := rfl

theorem sched_now (n : Nat) : Proofs.Master.SchedClosed (fun b => b.1.now = n) where
  pop := fun _ _ _ _ _ _ _ h => h
  noTime := fun b d uid h => (tsReportError_now b d uid _).trans h
  rotate := fun b addr h => (rotate_now b addr).trans h
  fuel := fun _ h => h

/-- `idle_sleeps`: whenever the scheduler decides to wait, the deadline it hands to the timer is
    strictly in the future — so the `t ≤ now` re-loop of `resolve` (a spinning scheduler, the
    class of bug fixed in 1.5.0) is unreachable: either there is work now, or the task sleeps
    until a later instant, or it waits for an event -/
theorem idle_sleeps (a a' : Acc) (t : Nat) (h : nextTask a = (a', .notBefore t)) : a'.1.now < t := by
  have key := Proofs.Master.nextTask_chosen (P := fun _ _ _ => True) (N := fun t => a.1.now < t) (sched_now a.1.now)
    ⟨fun _ _ _ _ _ _ _ _ => trivial, fun _ _ _ _ _ _ _ => trivial, fun _ _ _ _ _ _ => trivial, fun _ _ _ _ => trivial,
      fun b d x t hb _ hn => hb ▸ assoc_next_future x _ t hn, fun x y hx hy => by omega⟩ a rfl
  rw [h] at key
  rw [key.1]
  exact key.2.2 t rfl

/-- consequence for the main loop: from the top of `run` the model either starts a task or
    blocks in `idle`; with a wake-up time that lies ahead -/
theorem loop_blocks_in_future (fuel : Nat) (a a' : Acc) (t : Nat) (h : nextTask a = (a', .notBefore t)) :
    resolve (fuel + 1) (.loop a) = setMode a' (.idle (some t)) := by
  have := idle_sleeps a a' t h
  unfold resolve
  simp only [h]
  have hn : ¬ t ≤ a'.1.now := by omega
  simp [hn]

/-- `one_outstanding`, the part that is stated: the main loop `resolve` returns a `waiting` step as it is, without
    consulting the scheduler, so the loop starts no task while one is in flight.  Not stated: that the handlers of a
    wait mode (`onFragment`, `onTime`, `onMessage`) transmit no request but the next one of the task in flight
    (`runSingle` for a multi-step task) -/
theorem one_outstanding (fuel : Nat) (a : Acc) : resolve (fuel + 1) (.waiting a) = a := by
  unfold resolve
  rfl

def pollOnly : MState :=
  { assocs := [{ addr := 1024, cfg := { dis := 0, int := 0, en := 0 }, polls := [⟨0, 1, 5000, 5000⟩], pollId := 1 }],
    ring := [1024], mode := .idle none }

example : (nextTask (pollOnly, [])).2 = .notBefore 5000 := by decide

/-
SUSPECTED DEFECT D26 (not replayed by `./check`: the real task never returns from the call, the
harness process has to be killed): `Association::next_task` retries `task.start()` in a
synchronous loop.  With automatic time synchronisation configured, a retry strategy whose
minimum delay is zero, NEED_TIME observed and no system time available
(`get_current_time() = None`) every iteration fails, re-arms the task for `now + 0` and tries
again: the loop never ends and never yields, the channel task is wedged for all associations.
In the model the loop is `assocNextTask`, which runs out of fuel.  Witness: findings/D26.ops.
-/
def d26State : MState :=
  { assocs := [{ addr := 1024, cfg := { dis := 0, int := 0, en := 0, ts := some .lan, rmin := 0, rmax := 0 },
                 auto := { disable := .idle, integrity := .idle, enable := .idle, timeSync := .pending } }],
    ring := [1024], mode := .idle none }

theorem zero_delay_timesync_spins_counterexample :
    (assocNextTask 8 (d26State, []) 1024).1.2 = [.modelFuelExhausted] := by decide

/-- with a positive minimum delay the same situation ends after one attempt: the task goes into
    back-off and the scheduler reports its retry time -/
theorem positive_delay_timesync_backs_off :
    let s : MState := { d26State with assocs := d26State.assocs.map fun a => { a with cfg := { a.cfg with rmin := 300, rmax := 1000 } } }
    (assocNextTask 8 (s, []) 1024).2 = .notBefore 300 := by decide

end Dnp3.Props.C19
