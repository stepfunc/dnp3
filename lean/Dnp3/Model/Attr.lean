import Dnp3.Gen.Attrs
import Dnp3.Model.ObjectGrammar
/-!
# Attr — model of the device-attribute (group 0) object grammar

What is modelled (all total functions over octet lists, `Nat` octets):

* attribute values (`OwnedAttrValue` / `AttrValue`, `dnp3/src/app/attr.rs`): `Value`;
  `OwnedAttrValue::write` (type code, length octet, payload; `UInt::new` / `Int::new` width choice;
  `BadAttribute::BadLength` for strings longer than 255 octets): `Value.image`;
  `AttrValue::parse` with the decoded value: `parseValue` (the existing `Dnp3.App.attrValue` of
  `Model/ObjectGrammar` decides the same acceptance and consumed length without the value:
  theorem `parseValue_agrees_with_walk`);
* the attribute list (g0v255): `get_list_encoding` (`listEncoding`: type 254 with length `2n`, or
  type 255 with length `2n - 256`), `Selection::write_attr_list` (`listImage`), `parse_attr_list`
  with the `+ 256` of the extended list, `VariationListIter` (`iterList`);
* the object header the outstation and the master's `Headers::add_attribute` use for group 0
  (`HeaderWriter::write_attribute`: g0, variation, qualifier 0x00, set, set): `objHeader`,
  `parseObj` / `parseObjs` (the parser's path for such a header: `Variation::lookup`,
  `parse_start_stop_u8`, `Range::from`, `Attribute::parse_from_range`);
* the attribute database (`attrs/map.rs` `SetMap::define`, `maybe_write`) and the READ path
  (`AttrHandler::select`, `Selection::write_all`): `SetMap`, `define`, `selectHeader`,
  `writeAll` into a cursor of a given capacity, resuming across fragments.

`HeaderWriter::write_attribute` is modelled as repaired for finding D27: the header, the type and
length octets and the payload are written atomically (the cursor is rolled back when any part
fails).  `AttrValue::parse_signed_int` is modelled as repaired for finding D29: a one-octet INT is
sign-extended.

The numeric constants and tables come from `Dnp3.Gen.Attrs` (regenerated from the Rust source).
-/
namespace Dnp3.Attr
open Dnp3.Gen.Attrs Dnp3.App

/-! ## little-endian helpers -/

/-- `k` octets of `n`, least significant first (`to_le_bytes`) -/
def leBytes : Nat → Nat → List Nat
  | 0, _ => []
  | k + 1, n => (n % 256) :: leBytes k (n / 256)

/-- `from_le_bytes` -/
def ofLe : List Nat → Nat
  | [] => 0
  | b :: r => b + 256 * ofLe r

/-- two's complement value of an unsigned `bits`-bit number (`as iN`) -/
def signExt (bits : Nat) (n : Nat) : Int :=
  if n < 2 ^ (bits - 1) then (n : Int) else (n : Int) - (2 ^ bits : Nat)

/-- `x as uN` of an `i32` -/
def wrap (bits : Nat) (i : Int) : Nat := (i % ((2 ^ bits : Nat) : Int)).toNat

/-! ## values -/

/-- `OwnedAttrValue` (the first eight constructors) / `AttrValue` (all nine).  Floats are their
    IEEE-754 bit patterns; `list` holds the raw (variation, properties octet) pairs of a
    `VariationList`. -/
inductive Value
  | vstr (bs : List Nat)
  | uint (n : Nat)
  | int (i : Int)
  | f32 (bits : Nat)
  | f64 (bits : Nat)
  | ostr (bs : List Nat)
  | bstr (bs : List Nat)
  | time (t : Nat)
  | list (items : List (Nat × Nat))
deriving DecidableEq, Repr, Inhabited

/-- `OwnedAttrValue::data_type` / `AttrValue::get_type` -/
def Value.dataType : Value → DataType
  | .vstr _ => .visibleString
  | .uint _ => .unsignedInt
  | .int _ => .signedInt
  | .f32 _ | .f64 _ => .floatingPoint
  | .ostr _ => .octetString
  | .bstr _ => .bitString
  | .time _ => .dnp3Time
  | .list _ => .attrList

def allOctets (bs : List Nat) : Prop := ∀ b ∈ bs, b < 256

/-- the values an `OwnedAttrValue` can hold (what `Database::define_attr` can be given) -/
def Value.WellFormed : Value → Prop
  | .vstr bs => allOctets bs ∧ validUtf8 bs = true
  | .uint n => n < 2 ^ 32
  | .int i => -(2 ^ 31 : Int) ≤ i ∧ i < 2 ^ 31
  | .f32 b => b < 2 ^ 32
  | .f64 b => b < 2 ^ 64
  | .ostr bs => allOctets bs
  | .bstr bs => allOctets bs
  | .time t => t < 2 ^ 48
  | .list _ => False

/-- `UInt::new(..).len()` -/
def uintLen (n : Nat) : Nat := if n ≤ 255 then 1 else if n ≤ 65535 then 2 else 4

/-- `Int::new(..).len()`: the half-open ranges `i8::MIN..i8::MAX`, `i16::MIN..i16::MAX` -/
def intLen (i : Int) : Nat :=
  if -128 ≤ i ∧ i < 127 then 1 else if -32768 ≤ i ∧ i < 32767 then 2 else 4

/-- type code, length octet and payload of an owned value; `none` = `BadAttribute::BadLength`
    (a string, octet string or bit string longer than 255 octets) -/
def Value.image : Value → Option (List Nat)
  | .vstr bs => if bs.length ≤ 255 then some (DataType.visibleString.code :: bs.length :: bs) else none
  | .uint n => some (DataType.unsignedInt.code :: uintLen n :: leBytes (uintLen n) n)
  | .int i => some (DataType.signedInt.code :: intLen i :: leBytes (intLen i) (wrap (8 * intLen i) i))
  | .f32 b => some (DataType.floatingPoint.code :: 4 :: leBytes 4 b)
  | .f64 b => some (DataType.floatingPoint.code :: 8 :: leBytes 8 b)
  | .ostr bs => if bs.length ≤ 255 then some (DataType.octetString.code :: bs.length :: bs) else none
  | .bstr bs => if bs.length ≤ 255 then some (DataType.bitString.code :: bs.length :: bs) else none
  | .time t => some (DataType.dnp3Time.code :: 6 :: leBytes 6 t)
  | .list _ => none

/-! ## attribute lists (g0v255) -/

/-- `get_list_encoding`: (length octet, type) for a list of `n` entries -/
def listEncoding (n : Nat) : Option (Nat × DataType) :=
  let len := n * listEntryOctets
  if len ≤ 255 then some (len, .attrList)
  else if extListBias ≤ len ∧ len - extListBias ≤ 255 then some (len - extListBias, .extAttrList)
  else none

/-- the octets `write_attr_list` puts after the object header: type, length, (variation, properties)* -/
def listImage (items : List (Nat × Bool)) : Option (List Nat) :=
  match listEncoding items.length with
  | none => none
  | some (len, dt) => some (dt.code :: len :: items.flatMap fun (v, w) => [v, if w then 1 else 0])

/-- pairs of a `VariationList`'s data -/
def pairs : List Nat → List (Nat × Nat)
  | a :: b :: r => (a, b) :: pairs r
  | _ => []

/-- `VariationListIter`: variation and `AttrProp::new(prop).is_writable` -/
def iterList (items : List (Nat × Nat)) : List (Nat × Bool) :=
  items.map fun (v, p) => (v, p % (2 * propWritableBit) ≥ propWritableBit)

/-! ## `AttrValue::parse` with values -/

def typeOfCode (c : Nat) : Option DataType := (codeTable.find? (·.1 == c)).map (·.2)

/-- `parse_attr_list` -/
def parseList (len : Nat) (bs : List Nat) : Except AttrErr (Value × List Nat) :=
  if len % parseListModulus ≠ 0 then .error (.badAttrListLength len) else
  match attrTake len bs with
  | .error e => .error e
  | .ok (d, rest) => .ok (.list (pairs d), rest)

/-- `AttrValue::parse`: the value and the octets after it -/
def parseValue (bs : List Nat) : Except AttrErr (Value × List Nat) :=
  match bs with
  | [] => .error .read
  | t :: r1 =>
    match typeOfCode t with
    | none => .error (.unknownDataType t)
    | some dt =>
    match r1 with
    | [] => .error .read
    | len :: r =>
      match dt with
      | .visibleString =>
        match attrTake len r with
        | .error e => .error e
        | .ok (s, rest) => if validUtf8 s then .ok (.vstr s, rest) else .error .badVisibleString
      | .unsignedInt =>
        if len = 1 ∨ len = 2 ∨ len = 4 then
          match attrTake len r with
          | .error e => .error e
          | .ok (d, rest) => .ok (.uint (ofLe d), rest)
        else .error (.badIntegerLength len)
      | .signedInt =>
        if len = 1 ∨ len = 2 ∨ len = 4 then
          match attrTake len r with
          | .error e => .error e
          | .ok (d, rest) => .ok (.int (signExt (8 * len) (ofLe d)), rest)
        else .error (.badIntegerLength len)
      | .floatingPoint =>
        if len = 4 then
          match attrTake 4 r with
          | .error e => .error e
          | .ok (d, rest) => .ok (.f32 (ofLe d), rest)
        else if len = 8 then
          match attrTake 8 r with
          | .error e => .error e
          | .ok (d, rest) => .ok (.f64 (ofLe d), rest)
        else .error (.badFloatLength len)
      | .octetString =>
        match attrTake len r with
        | .error e => .error e
        | .ok (d, rest) => .ok (.ostr d, rest)
      | .bitString =>
        match attrTake len r with
        | .error e => .error e
        | .ok (d, rest) => .ok (.bstr d, rest)
      | .dnp3Time =>
        if len ≠ 6 then .error (.badTimeLength len) else
        match attrTake 6 r with
        | .error e => .error e
        | .ok (d, rest) => .ok (.time (ofLe d), rest)
      | .attrList => parseList len r
      | .extAttrList => parseList (len + parseExtListBias) r

/-- number of payload octets that a type code and a length octet imply, when the pair is
    acceptable at all (the specification of "exactly what type and length imply") -/
def impliedLen (dt : DataType) (len : Nat) : Option Nat :=
  match dt with
  | .visibleString | .octetString | .bitString => some len
  | .unsignedInt | .signedInt => if len = 1 ∨ len = 2 ∨ len = 4 then some len else none
  | .floatingPoint => if len = 4 ∨ len = 8 then some len else none
  | .dnp3Time => if len = 6 then some 6 else none
  | .attrList => if len % 2 = 0 then some len else none
  | .extAttrList => if (len + 256) % 2 = 0 then some (len + 256) else none

/-- the value that a payload of the implied length decodes to -/
def decodePayload (dt : DataType) (len : Nat) (d : List Nat) : Value :=
  match dt with
  | .visibleString => .vstr d
  | .unsignedInt => .uint (ofLe d)
  | .signedInt => .int (signExt (8 * len) (ofLe d))
  | .floatingPoint => if len = 4 then .f32 (ofLe d) else .f64 (ofLe d)
  | .octetString => .ostr d
  | .bitString => .bstr d
  | .dnp3Time => .time (ofLe d)
  | .attrList | .extAttrList => .list (pairs d)

/-! ## attribute objects: header + value -/

/-- `HeaderWriter::write_attribute` / `write_attr_list`: g0, variation, qualifier 0x00, start = stop = set -/
def objHeader (set var : Nat) : List Nat := [0, var, Dnp3.Gen.App.qRange8, set, set]

structure Obj where
  set : Nat
  var : Nat
  value : Value
deriving DecidableEq, Repr

/-- the parser's path for one group-0 object with an 8-bit range in a non-READ fragment:
    `Variation::lookup(0, var)` (0 is unknown, 254 carries no value), `parse_start_stop_u8`,
    `Range::from`, `AttrSet::from_range` (count must be one), `AttrValue::parse` -/
def parseObj (bs : List Nat) : Except ParseErr (Obj × List Nat) :=
  match bs with
  | g :: v :: q :: s :: e :: r =>
    if g ≠ 0 then .error (.unknownGroupVariation g v)      -- (other groups: outside this model)
    else if v = 0 then .error (.unknownGroupVariation 0 0)
    else if q ≠ Dnp3.Gen.App.qRange8 then .error (.unknownQualifier q)  -- (other qualifiers: outside this model)
    else if e < s then .error (.invalidRange s e)
    else if v = 254 then .error .modelGap                  -- (g0v254 has no value: outside this model)
    else if e - s + 1 ≠ 1 then .error (.badAttribute (.countNotOne (e - s + 1)))
    else match parseValue r with
      | .error err => .error (.badAttribute err)
      | .ok (val, rest) => .ok (⟨s, v, val⟩, rest)
  | _ => .error .insufficientBytes

theorem parseList_length {len : Nat} {bs rest : List Nat} {v : Value} (h : parseList len bs = .ok (v, rest)) :
    rest.length ≤ bs.length := by
  unfold parseList at h
  split at h
  · cases h
  · split at h
    · cases h
    · rename_i d r hd
      cases h
      have := (attrTake_iff.1 hd).1
      rw [this]; simp

theorem parseValue_length {bs rest : List Nat} {v : Value} (h : parseValue bs = .ok (v, rest)) :
    rest.length + 2 ≤ bs.length := by
  unfold parseValue at h
  repeat' split at h
  all_goals try (cases h; done)
  all_goals try (have := parseList_length h; simp only [List.length_cons]; omega)
  all_goals
    cases h
    have := (attrTake_iff.1 (by assumption)).1; rw [this]; simp only [List.length_cons, List.length_append]; omega

theorem parseObj_length {bs rest : List Nat} {o : Obj} (h : parseObj bs = .ok (o, rest)) :
    rest.length < bs.length := by
  unfold parseObj at h
  split at h
  · have h := ite_error_ok (ite_error_ok (ite_error_ok (ite_error_ok (ite_error_ok (ite_error_ok h)))))
    split at h
    · cases h
    · cases h; have := parseValue_length ‹_›; simp only [List.length_cons]; omega
  · cases h

/-- a fragment's object section made of group-0 attribute objects only -/
def parseObjs (bs : List Nat) : Except ParseErr (List Obj) :=
  if bs.isEmpty then .ok [] else
  match h : parseObj bs with
  | .error e => .error e
  | .ok (o, rest) =>
    match parseObjs rest with
    | .error e => .error e
    | .ok os => .ok (o :: os)
termination_by bs.length
decreasing_by exact parseObj_length h

/-! ## the attribute database: `attrs/map.rs` -/

structure Entry where
  var : Nat
  writable : Bool
  value : Value
deriving DecidableEq, Repr

/-- `SetMap`: sets in ascending order of their id, entries in ascending order of variation
    (`BTreeMap` iteration order; `AttrSet::Default` (0) sorts before every private set) -/
abbrev SetMap := List (Nat × List Entry)

def SetMap.entries (m : SetMap) (set : Nat) : Option (List Entry) := (m.find? (·.1 == set)).map (·.2)

/-- `SetMap::get` (reserved variations are never found) -/
def SetMap.get (m : SetMap) (set var : Nat) : Option Entry :=
  if reservedVars.contains var then none else
  match m.entries set with
  | none => none
  | some es => es.find? (·.var == var)

def insertEntry (e : Entry) : List Entry → List Entry
  | [] => [e]
  | x :: r => if e.var < x.var then e :: x :: r else x :: insertEntry e r

def insertSet (set : Nat) (e : Entry) : SetMap → SetMap
  | [] => [(set, [e])]
  | (s, es) :: r =>
    if set = s then (s, insertEntry e es) :: r
    else if set < s then (set, [e]) :: (s, es) :: r
    else (s, es) :: insertSet set e r

inductive DefErr
  | alreadyDefined
  | badType (expected actual : DataType)
  | reserved (var : Nat)
  | notWritable (set var : Nat)
deriving DecidableEq, Repr

/-- `SetMap::define` (checks in source order) -/
def define (m : SetMap) (set var : Nat) (writable : Bool) (v : Value) : Except DefErr SetMap :=
  if reservedVars.contains var then .error (.reserved var) else
  -- `AnyAttribute::try_from`: only the default set has typed variations
  match (if set = 0 then (defaultSetTypes.find? (·.1 == var)).map (·.2) else none) with
  | some t => if t ≠ v.dataType then .error (.badType t v.dataType) else defineTail
  | none => defineTail
where
  defineTail : Except DefErr SetMap :=
    if set = 0 ∧ writable ∧ ¬ writableVars.contains var then .error (.notWritable set var)
    else if (m.get set var).isSome then .error .alreadyDefined
    else .ok (insertSet set ⟨var, writable, v⟩ m)

inductive WriteErr
  | attrNotDefined | setNotDefined | badType | reservedVariation | notWritable
deriving DecidableEq, Repr

def replaceEntry (var : Nat) (v : Value) : List Entry → List Entry
  | [] => []
  | x :: r => if x.var = var then { x with value := v } :: r else x :: replaceEntry var v r

/-- `SetMap::can_write` followed by `SetMap::write` (what `handle_write_attr` does around the
    application callback) for a parsed attribute -/
def writeAttrValue (m : SetMap) (set var : Nat) (v : Value) : Except WriteErr SetMap :=
  if reservedVars.contains var then .error .reservedVariation else
  match m.entries set with
  | none => .error .setNotDefined
  | some es =>
    match es.find? (·.var == var) with
    | none => .error .attrNotDefined
    | some e =>
      if ¬ e.writable then .error .notWritable
      else if e.value.dataType ≠ v.dataType then .error .badType
      else .ok (m.map fun (s, es) => if s = set then (s, replaceEntry var v es) else (s, es))

/-! ## READ: `AttrHandler::select` -/

/-- `Selected` -/
structure Selected where
  set : Nat
  cur : Nat
  stop : Nat
deriving DecidableEq, Repr

def Selected.all (set : Nat) : Selected := ⟨set, selectAllFirst, selectAllLast⟩
def Selected.single (set var : Nat) : Selected := ⟨set, var, var⟩

def IIN2_NO_FUNC_CODE_SUPPORT : Nat := 0x01
def IIN2_PARAMETER_ERROR : Nat := 0x04

/-- `Selection::push` -/
def push (sel : List Selected) (s : Selected) : List Selected × Nat :=
  if sel.length < maxSelected then (sel ++ [s], 0) else (sel, IIN2_PARAMETER_ERROR)

def pushAll (sel : List Selected) (items : List Selected) : List Selected × Nat :=
  items.foldl (fun (acc : List Selected × Nat) s => let (sel', i) := push acc.1 s; (sel', acc.2 ||| i)) (sel, 0)

/-- a READ header of group 0 as `ReadHeader::get` sees it -/
inductive ReadHdr
  | all (var : Nat)                    -- qualifier 0x06
  | specific (var start stop : Nat)    -- qualifier 0x00 / 0x01
  | unsupported                        -- any other qualifier: `ReadHeader::get` = None
deriving DecidableEq, Repr

/-- `AttrHandler::select` (and the `None` arm of `DatabaseHandle::select`) -/
def selectHeader (m : SetMap) (sel : List Selected) : ReadHdr → List Selected × Nat
  | .unsupported => (sel, IIN2_NO_FUNC_CODE_SUPPORT)
  | .all var =>
    if var = 255 then pushAll sel (m.map fun (s, _) => Selected.single s 255)
    else if var = 254 then pushAll sel (m.map fun (s, _) => Selected.all s)
    else (sel, IIN2_PARAMETER_ERROR)
  | .specific var a b =>
    -- `IndexRange::to_attr_set`
    if a ≠ b ∨ a > 255 then (sel, IIN2_PARAMETER_ERROR)
    else if var = 254 then push sel (Selected.all a)
    else if var = 255 then push sel (Selected.single a 255)
    else if (m.get a var).isSome then push sel (Selected.single a var)
    else (sel, IIN2_NO_FUNC_CODE_SUPPORT)

/-! ## READ: `Selection::write_all` -/

/-- what one step of `write_all` does to the cursor -/
inductive Step
  | wrote (bs : List Nat)   -- an object was appended
  | skip                    -- nothing to write (not defined, not encodable): go on
  | blocked                 -- `WriteError`: the cursor is where it was, `write_all` returns false
deriving DecidableEq, Repr

/-- an object image `img` into a cursor of capacity `cap` holding `used` octets, written
    under a transaction (rolled back on failure) -/
def putObject (cap used : Nat) (img : List Nat) : Step :=
  if used + img.length ≤ cap then .wrote img else .blocked

/-- `HeaderWriter::write_attribute` (atomic, D27 repaired): the 5-octet header is written first,
    then `OwnedAttrValue::write`; a value that cannot be encoded (`BadLength`) is detected after
    the header went in, the object is rolled back and skipped -/
def writeAttribute (cap used set var : Nat) (v : Value) : Step :=
  if used + 5 > cap then .blocked else
  match v.image with
  | none => .skip
  | some img => putObject cap used (objHeader set var ++ img)

/-- `write_attr_list` for the set's variations -/
def writeList (cap used set : Nat) (es : List Entry) : Step :=
  match listImage (es.map fun e => (e.var, e.writable)) with
  | none => .skip
  | some img => putObject cap used (objHeader set listVariation ++ img)

/-- the step for the selection's current (set, variation) -/
def stepFor (m : SetMap) (cap used set var : Nat) : Step :=
  if var = listVariation then
    match m.entries set with
    | none => .skip
    | some es => writeList cap used set es
  else
    match m.get set var with
    | none => .skip
    | some e => writeAttribute cap used set var e.value

/-- the loop of `write_all` over one `Selected`: returns the cursor content and what is left of
    the selection (`none` = finished, popped from the queue) -/
def writeSel (m : SetMap) (cap : Nat) (s : Selected) (buf : List Nat) : List Nat × Option Selected :=
  match stepFor m cap buf.length s.set s.cur with
  | .blocked => (buf, some s)
  | st =>
    let buf' := match st with | .wrote bs => buf ++ bs | _ => buf
    -- `Selected::advance`
    if s.cur = s.stop then (buf', none)
    else if h : s.cur < 255 then writeSel m cap { s with cur := s.cur + 1 } buf'
    else (buf', none)
termination_by 255 - s.cur
decreasing_by simp_wf; omega

/-- `Selection::write_all`: (cursor content, remaining selection); complete = nothing remains -/
def writeAll (m : SetMap) (cap : Nat) : List Selected → List Nat → List Nat × List Selected
  | [], buf => (buf, [])
  | s :: rest, buf =>
    match writeSel m cap s buf with
    | (buf', some s') => (buf', s' :: rest)
    | (buf', none) => writeAll m cap rest buf'

/-! ## specification of a READ: what a selection denotes, independent of any capacity -/

/-- the object the selection's current (set, variation) stands for, if any -/
def objectFor (m : SetMap) (set var : Nat) : Option (List Nat) :=
  if var = listVariation then
    match m.entries set with
    | none => none
    | some es => (listImage (es.map fun e => (e.var, e.writable))).map (objHeader set listVariation ++ ·)
  else
    match m.get set var with
    | none => none
    | some e => e.value.image.map (objHeader set var ++ ·)

/-- the object images one `Selected` denotes, in order -/
def selObjects (m : SetMap) (s : Selected) : List (List Nat) :=
  let here := (objectFor m s.set s.cur).toList
  if s.cur = s.stop then here
  else if h : s.cur < 255 then here ++ selObjects m { s with cur := s.cur + 1 }
  else here
termination_by 255 - s.cur
decreasing_by simp_wf; omega

def allObjects (m : SetMap) (sel : List Selected) : List (List Nat) := sel.flatMap (selObjects m)

/-- a READ answered over several fragments: one `write_all` per fragment into an empty cursor of
    the given capacity (`write_response_headers` once per fragment), the selection carried over -/
def series (m : SetMap) : List Nat → List Selected → List (List Nat) × List Selected
  | [], sel => ([], sel)
  | cap :: caps, sel =>
    let r := writeAll m cap sel []
    let rs := series m caps r.2
    (r.1 :: rs.1, rs.2)

/-! ## well-formedness of the attribute database (what `define` maintains) -/

def Entry.WF (e : Entry) : Prop := e.var < 256 ∧ reservedVars.contains e.var = false ∧ e.value.WellFormed

/-- sets and variations are octets, values are `OwnedAttrValue`s, and both levels are in
    ascending order without duplicates (`BTreeMap`) -/
def SetMap.WF (m : SetMap) : Prop :=
  (∀ p ∈ m, p.1 < 256 ∧ (∀ e ∈ p.2, e.WF) ∧ List.Pairwise (· < ·) (p.2.map (·.var))) ∧
  List.Pairwise (· < ·) (m.map (·.1))

/-! ## the master's request builder: `Headers::add_attribute` -> `write_attribute` -/

inductive BuildErr
  | cursor
  | badLength (n : Nat)
deriving DecidableEq, Repr

def valueLen : Value → Nat
  | .vstr bs | .ostr bs | .bstr bs => bs.length
  | _ => 0

/-- `Headers::write` of attribute headers after `start_request` (2 octets) into `cap` octets: the
    first failing header aborts the whole request (`TaskError`) -/
def buildWrite (cap : Nat) (attrs : List Obj) : Except BuildErr (List Nat) :=
  if cap < 2 then .error .cursor else
  let rec go (used : Nat) (acc : List Nat) : List Obj → Except BuildErr (List Nat)
    | [] => .ok acc
    | o :: rest =>
      match writeAttribute cap used o.set o.var o.value with
      | .blocked => .error .cursor
      | .skip => .error (.badLength (valueLen o.value))
      | .wrote bs => go (used + bs.length) (acc ++ bs) rest
  go 2 [] attrs

end Dnp3.Attr
