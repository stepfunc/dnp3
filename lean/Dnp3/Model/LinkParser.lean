import Dnp3.Model.LinkFrame
/-!
# Link parser — model of `dnp3/src/link/parser.rs`

`parseImpl` is one call of `Parser::parse_impl` on the unread bytes: it returns the new parser
state, the bytes left unread, and the result.  The Rust loop makes at most four state
transitions per call (sync1 → sync2 → header → body), so the model is four nested functions.
`parse` adds the discard-mode loop of `Parser::parse`: on an error roll the cursor back to the
start of *this call*, skip one octet, reset the state, retry.
-/
namespace Dnp3

inductive PState where
  | sync1 | sync2 | header
  | body (h : LHeader) (trailer : Nat)
deriving DecidableEq, Repr, Inhabited

inductive PErr where
  | start1 (b : Nat) | start2 (b : Nat) | badLen (n : Nat) | hdrCrc | bodyCrc | logic
deriving DecidableEq, Repr, Inhabited

inductive ErrMode where | discard | close
deriving DecidableEq, Repr, Inhabited

abbrev PResult := Except PErr (Option (LHeader × List Nat))

/-- `calc_trailer_length` -/
def calcTrailerLength (dataLen : Nat) : Nat :=
  let d := dataLen / 16
  let m := dataLen % 16
  if m = 0 then d * 18 else d * 18 + m + 2

def rd16 (lo hi : Nat) : Nat := lo + 256 * hi

/-- verify one trailer: blocks of 18 (`body.chunks(18)`), each `data ++ crc`.
    `.error .bodyCrc` = a CRC mismatch (`.logic`: a block shorter than 3 octets), `.ok payload`
    otherwise; fuel = length -/
def checkBody : Nat → List Nat → Except PErr (List Nat)
  | 0, _ => .ok []
  | _, [] => .ok []
  | fuel+1, bs =>
    let blk := bs.take 18
    if blk.length < 3 then .error .logic else
    let data := blk.take (blk.length - 2)
    let crc := blk.drop (blk.length - 2)
    match crc with
    | [lo, hi] =>
      if rd16 lo hi ≠ calcCrc data then .error .bodyCrc else
      match checkBody fuel (bs.drop 18) with
      | .ok rest => .ok (data ++ rest)
      | .error e => .error e
    | _ => .error .logic

/-- `parse_body` -/
def parseBody (h : LHeader) (trailer : Nat) (bs : List Nat) : PState × List Nat × PResult :=
  if bs.length < trailer then (.body h trailer, bs, .ok none) else
  match checkBody trailer (bs.take trailer) with
  | .ok p => (.sync1, bs.drop trailer, .ok (some (h, p)))
  | .error e => (.body h trailer, bs.drop trailer, .error e)

/-- `parse_header` (then falls through to the body state, as the loop in `parse_impl` does) -/
def parseHeader (bs : List Nat) : PState × List Nat × PResult :=
  match bs with
  | len :: ctrl :: d0 :: d1 :: s0 :: s1 :: c0 :: c1 :: rest =>
    if len < 5 then (.header, rest, .error (.badLen len)) else
    if rd16 c0 c1 ≠ calcCrc0564 [len, ctrl, d0, d1, s0, s1] then (.header, rest, .error .hdrCrc) else
    parseBody ⟨ctrl, rd16 d0 d1, rd16 s0 s1⟩ (calcTrailerLength (len - 5)) rest
  | _ => (.header, bs, .ok none)

/-- `parse_sync2` -/
def parseSync2 (bs : List Nat) : PState × List Nat × PResult :=
  match bs with
  | [] => (.sync2, [], .ok none)
  | x :: rest => if x ≠ 0x64 then (.sync2, rest, .error (.start2 x)) else parseHeader rest

/-- `parse_sync1` -/
def parseSync1 (bs : List Nat) : PState × List Nat × PResult :=
  match bs with
  | [] => (.sync1, [], .ok none)
  | x :: rest => if x ≠ 0x05 then (.sync1, rest, .error (.start1 x)) else parseSync2 rest

/-- `Parser::parse_impl` -/
def parseImpl (st : PState) (bs : List Nat) : PState × List Nat × PResult :=
  match st with
  | .sync1 => parseSync1 bs
  | .sync2 => parseSync2 bs
  | .header => parseHeader bs
  | .body h t => parseBody h t bs

/-- the discard-mode retry loop of `Parser::parse`; fuel = number of unread octets -/
def parseDiscard : Nat → PState → List Nat → PState × List Nat × PResult
  | 0, st, bs =>
    match parseImpl st bs with
    | (st', rest, .ok r) => (st', rest, .ok r)
    | (_, _, .error _) => (.sync1, bs.drop 1, .ok none)
  | fuel+1, st, bs =>
    match parseImpl st bs with
    | (st', rest, .ok r) => (st', rest, .ok r)
    | (_, _, .error _) => parseDiscard fuel .sync1 (bs.drop 1)

/-- `Parser::parse` -/
def parse (m : ErrMode) (st : PState) (bs : List Nat) : PState × List Nat × PResult :=
  match m with
  | .close => parseImpl st bs
  | .discard => parseDiscard bs.length st bs

end Dnp3
