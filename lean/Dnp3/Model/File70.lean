import Dnp3.Gen.File70
import Dnp3.Model.ObjectGrammar
import Dnp3.Model.AppHeader
/-!
# File70 — model of the file-transfer objects (group 70, free-format qualifier 0x5B)

What is modelled (total functions over octet lists, `Nat` octets):

* the seven objects (`dnp3/src/app/file/g70v2.rs` … `g70v8.rs`): `FileObj`; strings are their UTF-8
  octets (so octet length ≠ character count is inside the model), `Timestamp` is its 48-bit value,
  `Permissions` its nine bits, `FileStatus` / `FileType` / `FileMode` their wire codes
  (`Other(x)` / `Reserved(x)` with a named code `x` is a second in-memory spelling of the same wire value);
* `Group70VarN::write` (`FileObj.fields`: what is written, in order, with the overflow checks of
  `byte_length` / `checked_add` directly in front of the field they guard; `writeFields` runs them
  against the free octets of the cursor);
* `HeaderWriter::write_free_format` (`writeFreeFormat`: variation, qualifier, count 1, two skipped
  octets, the object, the checked 16-bit length patched in) after `start_request` (`buildRequest`);
* `Group70VarN::read` with the decoded values (`parseObj`); the value-less `Dnp3.App.fileRead` of
  `Model/ObjectGrammar` decides the same acceptance and remainder (theorem `parseObj_agrees_with_fileRead`);
  the free-format header itself (count octet, 16-bit length, sub-cursor, `expect_empty`) is
  `Dnp3.App.parseBody` / `parseOne`;
* the master's request builders for file operations (`master/tasks/file/*.rs`): `authRequest`,
  `openRequest`, `closeRequest`, `infoRequest`, `writeBlockRequest`, and the four requests of the file
  read task (`RTask`, with its response handling: `RTask.handle`);
* `DirectoryReader::completed` (a directory listing = concatenated g70v7 objects): `parseDir`.

The outstation of this library version has no file handling: it never emits a group-70 object.

The field order / widths, the offset constants, the enum code tables, the permission bits, the request
id and the builders' struct literals come from `Dnp3.Gen.File70` (regenerated from the Rust source);
`Props.C09.layout_tied` proves that this model's layout is that table.
-/
namespace Dnp3.File70
open Dnp3.App Dnp3.Gen.App

/-! ## little-endian helpers -/

/-- `k` octets of `n`, least significant first (`to_le_bytes`) -/
def leBytes : Nat → Nat → List Nat
  | 0, _ => []
  | k + 1, n => (n % 256) :: leBytes k (n / 256)

/-- `from_le_bytes` -/
def ofLe : List Nat → Nat
  | [] => 0
  | b :: r => b + 256 * ofLe r

def allOctets (bs : List Nat) : Prop := ∀ b ∈ bs, b < 256

/-! ## the objects -/

/-- `Group70Var2` … `Group70Var8` -/
inductive FileObj
  /-- g70v2 authentication -/
  | auth (authKey : Nat) (userName password : List Nat)
  /-- g70v3 file command -/
  | command (time perm authKey fileSize mode maxBlock requestId : Nat) (fileName : List Nat)
  /-- g70v4 file command status -/
  | commandStatus (handle fileSize maxBlock requestId status : Nat) (text : List Nat)
  /-- g70v5 file transport -/
  | transport (handle block : Nat) (data : List Nat)
  /-- g70v6 file transport status -/
  | transportStatus (handle block status : Nat) (text : List Nat)
  /-- g70v7 file descriptor -/
  | descriptor (fileType fileSize time perm requestId : Nat) (fileName : List Nat)
  /-- g70v8 file specification string -/
  | spec (s : List Nat)
deriving DecidableEq, Repr, Inhabited

def FileObj.variation : FileObj → Nat
  | .auth .. => 2 | .command .. => 3 | .commandStatus .. => 4 | .transport .. => 5
  | .transportStatus .. => 6 | .descriptor .. => 7 | .spec .. => 8

/-- a string field: octets that are well-formed UTF-8 (what a `&str` can hold) -/
def isStr (bs : List Nat) : Prop := allOctets bs ∧ validUtf8 bs = true

/-- the values the Rust structs can hold -/
def FileObj.WF : FileObj → Prop
  | .auth k u p => k < 2 ^ 32 ∧ isStr u ∧ isStr p
  | .command t pm k sz m mb rq n =>
    t < 2 ^ 48 ∧ pm < 512 ∧ k < 2 ^ 32 ∧ sz < 2 ^ 32 ∧ m < 2 ^ 16 ∧ mb < 2 ^ 16 ∧ rq < 2 ^ 16 ∧ isStr n
  | .commandStatus h sz mb rq st tx => h < 2 ^ 32 ∧ sz < 2 ^ 32 ∧ mb < 2 ^ 16 ∧ rq < 2 ^ 16 ∧ st < 256 ∧ isStr tx
  | .transport h b d => h < 2 ^ 32 ∧ b < 2 ^ 32 ∧ allOctets d
  | .transportStatus h b st tx => h < 2 ^ 32 ∧ b < 2 ^ 32 ∧ st < 256 ∧ isStr tx
  | .descriptor ft sz t pm rq n => ft < 2 ^ 16 ∧ sz < 2 ^ 32 ∧ t < 2 ^ 48 ∧ pm < 512 ∧ rq < 2 ^ 16 ∧ isStr n
  | .spec s => isStr s

/-! ## `Group70VarN::write` -/

inductive Kind | u8 | u16 | u32 | u48 | perm | bytes
deriving DecidableEq, Repr

def Kind.width : Kind → Nat
  | .u8 => 1 | .u16 => 2 | .u32 => 4 | .u48 => 6 | .perm => 2 | .bytes => 0

def Kind.name : Kind → String
  | .u8 => "u8" | .u16 => "u16" | .u32 => "u32" | .u48 => "u48" | .perm => "perm" | .bytes => "bytes"

/-- one cursor write of a `write` function.  `pre` is the check evaluated directly before it
    (`byte_length(..)?`: the string is at most 65535 octets; `checked_add`): `false` = `WriteError::Overflow` -/
structure Fld where
  what : String
  kind : Kind
  val : Nat := 0
  octets : List Nat := []
  pre : Bool := true

def Fld.image (f : Fld) : List Nat :=
  match f.kind with
  | .bytes => f.octets
  | k => leBytes k.width f.val

/-- `to_u16(x)` succeeds -/
def fitsU16 (n : Nat) : Bool := decide (n ≤ 65535)

/-- the writes of `Group70VarN::write`, in order -/
def FileObj.fields : FileObj → List Fld
  | .auth k u p =>
    [⟨"const:USER_NAME_OFFSET", .u16, g70v2UserNameOffset, [], true⟩,
     ⟨"size:user_name", .u16, u.length, [], fitsU16 u.length⟩,
     ⟨"sum:USER_NAME_OFFSET+size:user_name", .u16, g70v2UserNameOffset + u.length, [], fitsU16 (g70v2UserNameOffset + u.length)⟩,
     ⟨"size:password", .u16, p.length, [], fitsU16 p.length⟩,
     ⟨"field:auth_key", .u32, k, [], true⟩,
     ⟨"bytes:user_name", .bytes, 0, u, true⟩,
     ⟨"bytes:password", .bytes, 0, p, true⟩]
  | .command t pm k sz m mb rq n =>
    [⟨"const:FILE_NAME_OFFSET", .u16, g70v3FileNameOffset, [], true⟩,
     ⟨"size:file_name", .u16, n.length, [], fitsU16 n.length⟩,
     ⟨"field:time_of_creation", .u48, t, [], true⟩,
     ⟨"field:permissions", .perm, pm, [], true⟩,
     ⟨"field:auth_key", .u32, k, [], true⟩,
     ⟨"field:file_size", .u32, sz, [], true⟩,
     ⟨"field:mode", .u16, m, [], true⟩,
     ⟨"field:max_block_size", .u16, mb, [], true⟩,
     ⟨"field:request_id", .u16, rq, [], true⟩,
     ⟨"bytes:file_name", .bytes, 0, n, true⟩]
  | .commandStatus h sz mb rq st tx =>
    [⟨"field:file_handle", .u32, h, [], true⟩,
     ⟨"field:file_size", .u32, sz, [], true⟩,
     ⟨"field:max_block_size", .u16, mb, [], true⟩,
     ⟨"field:request_id", .u16, rq, [], true⟩,
     ⟨"field:status_code", .u8, st, [], true⟩,
     ⟨"bytes:text", .bytes, 0, tx, true⟩]
  | .transport h b d =>
    [⟨"field:file_handle", .u32, h, [], true⟩,
     ⟨"field:block_number", .u32, b, [], true⟩,
     ⟨"bytes:file_data", .bytes, 0, d, true⟩]
  | .transportStatus h b st tx =>
    [⟨"field:file_handle", .u32, h, [], true⟩,
     ⟨"field:block_number", .u32, b, [], true⟩,
     ⟨"field:status_code", .u8, st, [], true⟩,
     ⟨"bytes:text", .bytes, 0, tx, true⟩]
  | .descriptor ft sz t pm rq n =>
    [⟨"const:FILE_NAME_OFFSET", .u16, g70v7FileNameOffset, [], true⟩,
     ⟨"size:file_name", .u16, n.length, [], fitsU16 n.length⟩,
     ⟨"field:file_type", .u16, ft, [], true⟩,
     ⟨"field:file_size", .u32, sz, [], true⟩,
     ⟨"field:time_of_creation", .u48, t, [], true⟩,
     ⟨"field:permissions", .perm, pm, [], true⟩,
     ⟨"field:request_id", .u16, rq, [], true⟩,
     ⟨"bytes:file_name", .bytes, 0, n, true⟩]
  | .spec s => [⟨"bytes:file_specification", .bytes, 0, s, true⟩]

/-- (what, width) of every write: the shape the translator regenerates as `Gen.File70.writeLayout` -/
def FileObj.layout (o : FileObj) : List (String × String) := o.fields.map fun f => (f.what, f.kind.name)

/-- the octets of the object: what a successful `write` leaves behind -/
def encode (o : FileObj) : List Nat := o.fields.flatMap Fld.image

/-- no `WriteError::Overflow` inside `write`: every size / offset field is expressible in 16 bits -/
def FileObj.Encodable (o : FileObj) : Prop := ∀ f ∈ o.fields, f.pre = true

inductive WErr | cursor | overflow
deriving DecidableEq, Repr

/-- the writes of one object against `room` free octets of the `WriteCursor`: the first failing check
    (`Overflow`) or write (`scursor::WriteError`) aborts -/
def writeFields : Nat → List Fld → Except WErr (List Nat)
  | _, [] => .ok []
  | room, f :: fs =>
    if f.pre = false then .error .overflow
    else if room < f.image.length then .error .cursor
    else match writeFields (room - f.image.length) fs with
      | .ok r => .ok (f.image ++ r)
      | .error e => .error e

/-- the variations with a `FreeFormat` impl in a non-test build -/
def hasWriter (o : FileObj) : Bool := Dnp3.Gen.File70.freeFormatWriters.contains o.variation

def le16 (n : Nat) : List Nat := leBytes 2 n

/-- the six octets in front of the object: g70, variation, qualifier 0x5B, count 1, 16-bit length -/
def freeHeader (v len : Nat) : List Nat := [70, v, qFreeFormat16, 1] ++ le16 len

/-- `HeaderWriter::write_free_format` into `room` free octets: variation (2 octets), qualifier, count, two
    skipped octets (each a cursor write), the object, then `to_u16(object length)` and the patch -/
def writeFreeFormat (room : Nat) (o : FileObj) : Except WErr (List Nat) :=
  if room < 6 then .error .cursor else
  match writeFields (room - 6) o.fields with
  | .error e => .error e
  | .ok body => if 65535 < body.length then .error .overflow else .ok (freeHeader o.variation body.length ++ body)

/-- `start_request(control, function)` then `write_free_format(obj)` into a buffer of `cap` octets
    (what `MasterSession::send_request` does for a file task) -/
def buildRequest (cap : Nat) (ctrl fn : Nat) (o : FileObj) : Except WErr (List Nat) :=
  if cap < 2 then .error .cursor else
  match writeFreeFormat (cap - 2) o with
  | .error e => .error e
  | .ok img => .ok ([ctrl, fn] ++ img)

/-! ## `Group70VarN::read` -/

/-- `read_u8` / `read_u16_le` / `read_u32_le` / `Timestamp::read`: `k` octets, little endian -/
def rd (k : Nat) (bs : List Nat) : Except ParseErr (Nat × List Nat) :=
  if k ≤ bs.length then .ok (ofLe (bs.take k), bs.drop k) else .error .insufficientBytes

/-- `read_bytes(n)` -/
def tk (n : Nat) (bs : List Nat) : Except ParseErr (List Nat × List Nat) :=
  if n ≤ bs.length then .ok (bs.take n, bs.drop n) else .error .insufficientBytes

/-- `Permissions::read`: the nine defined bits of the 16-bit field -/
def permOf (raw : Nat) : Nat := raw % 512

/-- `Group70Var2::read` -/
def parseAuth (bs : List Nat) : Except ParseErr (FileObj × List Nat) :=
  match rd 2 bs with
  | .error e => .error e
  | .ok (off, r) =>
  if off ≠ g70v2UserNameOffset then .error .badEncoding else
  match rd 2 r with
  | .error e => .error e
  | .ok (unLen, r) =>
  if g70v2UserNameOffset + unLen > 65535 then .error .badEncoding else
  match rd 2 r with
  | .error e => .error e
  | .ok (pwOff, r) =>
  if pwOff ≠ g70v2UserNameOffset + unLen then .error .badEncoding else
  match rd 2 r with
  | .error e => .error e
  | .ok (pwLen, r) =>
  match rd 4 r with
  | .error e => .error e
  | .ok (key, r) =>
  match tk unLen r with
  | .error e => .error e
  | .ok (un, r) =>
  match tk pwLen r with
  | .error e => .error e
  | .ok (pw, r) =>
  if validUtf8 un && validUtf8 pw then .ok (.auth key un pw, r) else .error .badEncoding

/-- successive fixed-width reads: the values and what is left -/
def rdSeq : List Nat → List Nat → Except ParseErr (List Nat × List Nat)
  | [], bs => .ok ([], bs)
  | k :: ks, bs =>
    match rd k bs with
    | .error e => .error e
    | .ok (x, r) =>
      match rdSeq ks r with
      | .error e => .error e
      | .ok (xs, r') => .ok (x :: xs, r')

/-- `Group70Var3::read`: offset (checked), name size, then `Timestamp::read` (6 octets), `Permissions::read` (2),
    auth key (4), file size (4), mode, max block size, request id (2 each), then the name -/
def parseCommand (bs : List Nat) : Except ParseErr (FileObj × List Nat) :=
  match rd 2 bs with
  | .error e => .error e
  | .ok (off, r) =>
  if off ≠ g70v3FileNameOffset then .error .badEncoding else
  match rd 2 r with
  | .error e => .error e
  | .ok (nameLen, r) =>
  match rdSeq [6, 2, 4, 4, 2, 2, 2] r with
  | .error e => .error e
  | .ok (f, r) =>
  match tk nameLen r with
  | .error e => .error e
  | .ok (name, r) =>
  if validUtf8 name then
    .ok (.command (f.getD 0 0) (permOf (f.getD 1 0)) (f.getD 2 0) (f.getD 3 0) (f.getD 4 0) (f.getD 5 0) (f.getD 6 0) name, r)
  else .error .badEncoding

/-- `Group70Var4::read`: handle (4), file size (4), max block size (2), request id (2), status (1);
    the text is everything that is left (`read_all`) -/
def parseCommandStatus (bs : List Nat) : Except ParseErr (FileObj × List Nat) :=
  match rdSeq [4, 4, 2, 2, 1] bs with
  | .error e => .error e
  | .ok (f, r) =>
  if validUtf8 r then .ok (.commandStatus (f.getD 0 0) (f.getD 1 0) (f.getD 2 0) (f.getD 3 0) (f.getD 4 0) r, [])
  else .error .badEncoding

/-- `Group70Var5::read`: handle (4), block number (4), the data is everything that is left -/
def parseTransport (bs : List Nat) : Except ParseErr (FileObj × List Nat) :=
  match rdSeq [4, 4] bs with
  | .error e => .error e
  | .ok (f, r) => .ok (.transport (f.getD 0 0) (f.getD 1 0) r, [])

/-- `Group70Var6::read`: handle (4), block number (4), status (1), text = the rest -/
def parseTransportStatus (bs : List Nat) : Except ParseErr (FileObj × List Nat) :=
  match rdSeq [4, 4, 1] bs with
  | .error e => .error e
  | .ok (f, r) =>
  if validUtf8 r then .ok (.transportStatus (f.getD 0 0) (f.getD 1 0) (f.getD 2 0) r, []) else .error .badEncoding

/-- `Group70Var7::read`: offset (checked), name size, file type (2), file size (4), `Timestamp::read` (6),
    `Permissions::read` (2), request id (2), then the name -/
def parseDescriptor (bs : List Nat) : Except ParseErr (FileObj × List Nat) :=
  match rd 2 bs with
  | .error e => .error e
  | .ok (off, r) =>
  if off ≠ g70v7FileNameOffset then .error .badEncoding else
  match rd 2 r with
  | .error e => .error e
  | .ok (nameLen, r) =>
  match rdSeq [2, 4, 6, 2, 2] r with
  | .error e => .error e
  | .ok (f, r) =>
  match tk nameLen r with
  | .error e => .error e
  | .ok (name, r) =>
  if validUtf8 name then
    .ok (.descriptor (f.getD 0 0) (f.getD 1 0) (f.getD 2 0) (permOf (f.getD 3 0)) (f.getD 4 0) name, r)
  else .error .badEncoding

/-- `Group70Var8::read` -/
def parseSpecString (bs : List Nat) : Except ParseErr (FileObj × List Nat) :=
  if validUtf8 bs then .ok (.spec bs, []) else .error .badEncoding

/-- `FreeFormatVariation::parse` for group 70: the object and what is left of the sub-cursor -/
def parseObj (v : Nat) (bs : List Nat) : Except ParseErr (FileObj × List Nat) :=
  if v = 2 then parseAuth bs
  else if v = 3 then parseCommand bs
  else if v = 4 then parseCommandStatus bs
  else if v = 5 then parseTransport bs
  else if v = 6 then parseTransportStatus bs
  else if v = 7 then parseDescriptor bs
  else if v = 8 then parseSpecString bs
  else .error .modelGap

/-- the octets of `o` with a raw 16-bit permission field `raw` in place of the nine bits the struct keeps
    (the parser ignores the seven reserved bits).  `encode o = encodeRaw o.perm o`. -/
def encodeRaw (raw : Nat) : FileObj → List Nat
  | .command t _ k sz m mb rq n =>
    le16 g70v3FileNameOffset ++ le16 n.length ++ leBytes 6 t ++ le16 raw ++ leBytes 4 k ++ leBytes 4 sz ++
      le16 m ++ le16 mb ++ le16 rq ++ n
  | .descriptor ft sz t _ rq n =>
    le16 g70v7FileNameOffset ++ le16 n.length ++ le16 ft ++ leBytes 4 sz ++ leBytes 6 t ++ le16 raw ++ le16 rq ++ n
  | o => encode o

/-- the object with its permission bits replaced (an object without permissions is unchanged) -/
def FileObj.withPerm (pm : Nat) : FileObj → FileObj
  | .command t _ k sz m mb rq n => .command t pm k sz m mb rq n
  | .descriptor ft sz t _ rq n => .descriptor ft sz t pm rq n
  | o => o

/-! ## the master's request builders (`master/tasks/file/*.rs`) -/

def requestId : Nat := Dnp3.Gen.File70.requestId

/-- `AuthFileTask::write` / `write_auth` -/
def authRequest (user pass : List Nat) : FileObj := .auth 0 user pass
/-- `OpenFileTask::write` -/
def openRequest (name : List Nat) (authKey fileSize mode perm maxBlock : Nat) : FileObj :=
  .command 0 perm authKey fileSize mode maxBlock requestId name
/-- `CloseFileTask::write` / `write_close` -/
def closeRequest (handle : Nat) : FileObj := .commandStatus handle 0 0 requestId 0 []
/-- `GetFileInfoTask::write` -/
def infoRequest (name : List Nat) : FileObj := .descriptor 0 0 0 0 0xCAFE name
/-- `WriteBlockTask::write` -/
def writeBlockRequest (handle block : Nat) (data : List Nat) : FileObj := .transport handle block data
/-- `read::write_open` -/
def readOpenRequest (name : List Nat) (authKey maxBlock : Nat) : FileObj :=
  .command 0 0 authKey 0 1 maxBlock requestId name
/-- `read::write_read` -/
def readBlockRequest (handle block : Nat) : FileObj := .transport handle block []

def fnWrite : Nat := 2
def fnOpenFile : Nat := 25
def fnCloseFile : Nat := 26
def fnGetFileInfo : Nat := 28
def fnAuthenticateFile : Nat := 29

/-! ## the file read task (`master/tasks/file/read.rs`) -/

inductive RState
  | getAuth (user pass : List Nat)
  | openFile (key : Nat)
  | read (handle block total : Nat)
  | close (handle : Nat)
deriving DecidableEq, Repr

structure RTask where
  name : List Nat
  maxBlock : Nat
  maxSize : Nat
  state : RState
deriving DecidableEq, Repr

/-- `FileReadTask::function` and `FileReadTask::write` -/
def RTask.request (t : RTask) : Nat × FileObj :=
  match t.state with
  | .getAuth u p => (fnAuthenticateFile, authRequest u p)
  | .openFile key => (fnOpenFile, readOpenRequest t.name key t.maxBlock)
  | .read h b _ => (fnRead, readBlockRequest h b)
  | .close h => (fnCloseFile, closeRequest h)

/-- what the `FileReader` is told -/
inductive RCb
  | opened (size : Nat)
  | block (n : Nat) (data : List Nat)
  | aborted (why : String)
  | completed
deriving DecidableEq, Repr

def blockTop : Nat := Dnp3.Gen.File70.blockTopBit

/-- `FileReadTask::handle` on the object octets of a response (the reader never aborts).
    `usizeMax` bounds `total_rx` (`checked_add`). Returns the follow-up task and the callbacks. -/
def RTask.handle (t : RTask) (objs : List Nat) : Option RTask × List RCb :=
  -- `response.get_only_object_header()`
  let hdr : Option HeaderRec :=
    match walk false false objs with
    | .ok [r] => some r
    | _ => none
  match t.state with
  | .close _ => (none, [])     -- the reader was told `completed` before: it hears nothing more
  | st =>
    match hdr with
    | none => (none, [.aborted "task"])
    | some r =>
      let obj : Option FileObj :=
        match r.kind with
        | .file v => (match parseObj v r.payload with | .ok (o, _) => some o | .error _ => none)
        | _ => none
      match st with
      | .getAuth _ _ =>
        match obj with
        | some (.auth key _ _) =>
          if key = 0 then (none, [.aborted "nopermission"]) else (some { t with state := .openFile key }, [])
        | _ => (none, [.aborted "badresponse"])
      | .openFile _ =>
        match obj with
        | some (.commandStatus h sz _ _ st _) =>
          if st ≠ 0 then (none, [.aborted s!"badstatus {st}"])
          else (some { t with state := .read h 0 0 }, [.opened sz])
        | _ => (none, [.aborted "badresponse"])
      | .read h blk total =>
        match obj with
        | some (.transport _ b data) =>
          if b % blockTop ≠ blk % blockTop then (none, [.aborted "badblocknum"])
          else if total + data.length > t.maxSize then (none, [.aborted "maxlength"])
          else if b ≥ blockTop then
            (some { t with state := .close h }, [.block (b % blockTop) data, .completed])
          else if b % blockTop < blockTop - 1 then
            (some { t with state := .read h (b + 1) (total + data.length) }, [.block (b % blockTop) data])
          else (none, [.block (b % blockTop) data, .aborted "badblocknum"])
        | _ => (none, [.aborted "badresponse"])
      | .close _ => (none, [])

/-! ## `DirectoryReader::completed`: a directory listing is a concatenation of g70v7 objects -/

def parseDirFuel : Nat → List Nat → Option (List FileObj)
  | 0, bs => if bs.isEmpty then some [] else none
  | fuel + 1, bs =>
    if bs.isEmpty then some [] else
    match parseDescriptor bs with
    | .error _ => none
    | .ok (o, rest) => (parseDirFuel fuel rest).map (o :: ·)

/-- every successful `Group70Var7::read` consumes at least 20 octets: `bs.length` is enough fuel -/
def parseDir (bs : List Nat) : Option (List FileObj) := parseDirFuel bs.length bs

end Dnp3.File70
