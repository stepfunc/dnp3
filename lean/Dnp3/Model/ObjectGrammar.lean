import Dnp3.Gen.Variations
import Dnp3.Gen.Qualifiers
import Dnp3.Gen.AppCodes
/-!
# ObjectGrammar — model of the object-header grammar of `dnp3/src/app/parse/parser.rs`

`walk` mirrors `ObjectParser::one_pass` / `ObjectParser::parse` (the validating first pass behind
`HeaderCollection::parse`, called from `ParsedFragment::parse`): it is a total function from the
object octets of a fragment to either the first `ObjectParseError` or the list of header records.

The variation lookup, the five qualifier tables, the free-format table, every `SIZE`, the
qualifier / function codes and the attribute type codes are the regenerated tables of `Dnp3.Gen`.
Hand-transcribed (tied by the `parse` correspondence engine): the order of reads and checks in
`parse_one_inner` and the `parse_*` functions, `Range::from`, `BitSequence::parse`,
`RangedSequence::parse`, `CountSequence::parse`, `RangedBytesSequence::parse`,
`PrefixedBytesSequence::parse`, `Attribute::parse_from_range` / `parse_prefixed` /
`AttrValue::parse` (`app/attr.rs`), `file::Group70VarN::read` (`app/file/g70v*.rs`), and
`std::str::from_utf8` (well-formed UTF-8, Unicode table 3-7).

Octets are `Nat`; the driver only ever supplies values `< 256`.
-/
namespace Dnp3.App
open Dnp3.Gen Dnp3.Gen.App

/-! ## variations and tables -/

/-- `Variation`: `GroupGVarV` is `fixed G V`; `GroupG(v)` (groups 0, 110, 111) is `wild G v` -/
inductive Variation
  | fixed (g v : Nat)
  | wild (g v : Nat)
deriving DecidableEq, Repr, Inhabited

def Variation.group : Variation → Nat | .fixed g _ => g | .wild g _ => g
def Variation.var : Variation → Nat | .fixed _ v => v | .wild _ v => v

/-- `Variation::lookup` over the generated table (first matching arm wins, as in a Rust `match`) -/
def lookup (g v : Nat) : Option Variation :=
  match lookupTable.find? (·.1 == g) with
  | none => none
  | some (_, arms) =>
    match arms.find? (fun a => a.1 == some v || a.1 == none) with
    | some (_, some (.fixed g' v')) => some (.fixed g' v')
    | some (_, some (.wild g')) => some (.wild g' v)
    | _ => none

def patMatches (p : Pat) : Variation → Bool
  | .fixed g v => !p.wild && p.group == g && p.var == some v
  | .wild g v => p.wild && p.group == g && (p.var == none || p.var == some v)

/-- the arm of a generated qualifier table that a variation selects (`none` = the `_` arm) -/
def tableGet (t : List (Pat × Payload)) (v : Variation) : Option Payload :=
  (t.find? (fun a => patMatches a.1 v)).map (·.2)

/-- `T::SIZE` of `GroupgVarv` (0 if there is no such impl; the translator reports that case as a broken tie) -/
def fixedSize (g v : Nat) : Nat :=
  match fixedVars.find? (fun f => f.group == g && f.var == v) with
  | some f => f.size
  | none => 0

/-! ## errors -/

/-- `AttrParseError` -/
inductive AttrErr
  | read
  | unknownDataType (t : Nat)
  | badIntegerLength (n : Nat)
  | badFloatLength (n : Nat)
  | badTimeLength (n : Nat)
  | badAttrListLength (n : Nat)
  | badVisibleString
  | setIdNotU8 (n : Nat)
  | countNotOne (n : Nat)
deriving DecidableEq, Repr, Inhabited

/-- `ObjectParseError` (`unsupportedQualifierCode` is never produced by the parser) -/
inductive ParseErr
  | unknownGroupVariation (g v : Nat)
  | unknownQualifier (q : Nat)
  | insufficientBytes
  | invalidRange (start stop : Nat)
  | invalidQualifierForVariation (g v q : Nat)
  | unsupportedFreeFormatCount (n : Nat)
  | zeroLengthOctetData
  | badAttribute (e : AttrErr)
  | badEncoding
  /-- not a Rust error: a payload kind in a table where the translator never puts it
      (unreachable for the generated tables, theorem `tables_well_kinded`) -/
  | modelGap
deriving DecidableEq, Repr, Inhabited

/-! ## cursor primitives -/

/-- `ReadCursor::read_bytes` -/
def take? (n : Nat) (bs : List Nat) : Option (List Nat × List Nat) :=
  -- `n ≤ bs.length`, tested without walking the whole list
  if (bs.take n).length = n then some (bs.take n, bs.drop n) else none

def readU8 : List Nat → Option (Nat × List Nat)
  | b :: r => some (b, r)
  | [] => none

def readU16 : List Nat → Option (Nat × List Nat)
  | lo :: hi :: r => some (lo + 256 * hi, r)
  | _ => none

/-- an index / count of `wide`th (1 or 2 octets), little endian -/
def readIdx (wide : Bool) (bs : List Nat) : Option (Nat × List Nat) :=
  if wide then readU16 bs else readU8 bs

def le16 (n : Nat) : List Nat := [n % 256, n / 256]
def leIdx (wide : Bool) (n : Nat) : List Nat := if wide then le16 n else [n]
def idxSize (wide : Bool) : Nat := if wide then 2 else 1

def takeE (n : Nat) (bs : List Nat) : Except ParseErr (List Nat × List Nat) :=
  match take? n bs with
  | some x => .ok x
  | none => .error .insufficientBytes

/-! ## `std::str::from_utf8` -/

def cont (b : Nat) : Bool := 0x80 ≤ b && b ≤ 0xBF

/-- well-formed UTF-8 (Unicode 15 table 3-7), what `core::str::from_utf8` accepts -/
def validUtf8 : List Nat → Bool
  | [] => true
  | b0 :: rest =>
    if b0 < 0x80 then validUtf8 rest
    else if 0xC2 ≤ b0 ∧ b0 ≤ 0xDF then
      match rest with
      | b1 :: r => cont b1 && validUtf8 r
      | _ => false
    else if 0xE0 ≤ b0 ∧ b0 ≤ 0xEF then
      match rest with
      | b1 :: b2 :: r =>
        (if b0 = 0xE0 then 0xA0 ≤ b1 && b1 ≤ 0xBF
         else if b0 = 0xED then 0x80 ≤ b1 && b1 ≤ 0x9F
         else cont b1) && cont b2 && validUtf8 r
      | _ => false
    else if 0xF0 ≤ b0 ∧ b0 ≤ 0xF4 then
      match rest with
      | b1 :: b2 :: b3 :: r =>
        (if b0 = 0xF0 then 0x90 ≤ b1 && b1 ≤ 0xBF
         else if b0 = 0xF4 then 0x80 ≤ b1 && b1 ≤ 0x8F
         else cont b1) && cont b2 && cont b3 && validUtf8 r
      | _ => false
    else false

/-! ## group 0: `AttrValue::parse` -/

def attrTake (n : Nat) (bs : List Nat) : Except AttrErr (List Nat × List Nat) :=
  match take? n bs with
  | some x => .ok x
  | none => .error .read

/-- `AttrValue::parse`: returns the octets after the value -/
def attrValue (bs : List Nat) : Except AttrErr (List Nat) :=
  match bs with
  | [] => .error .read
  | t :: r1 =>
    if ¬ (t = attrVisibleString ∨ t = attrUnsignedInt ∨ t = attrSignedInt ∨ t = attrFloatingPoint ∨
          t = attrOctetString ∨ t = attrBitString ∨ t = attrDnp3Time ∨ t = attrAttrList ∨ t = attrExtAttrList)
    then .error (.unknownDataType t) else
    match r1 with
    | [] => .error .read
    | len :: r =>
      if t = attrVisibleString then
        match attrTake len r with
        | .error e => .error e
        | .ok (s, rest) => if validUtf8 s then .ok rest else .error .badVisibleString
      else if t = attrUnsignedInt ∨ t = attrSignedInt then
        if len = 1 ∨ len = 2 ∨ len = 4 then (attrTake len r).map (·.2) else .error (.badIntegerLength len)
      else if t = attrFloatingPoint then
        if len = 4 ∨ len = 8 then (attrTake len r).map (·.2) else .error (.badFloatLength len)
      else if t = attrOctetString ∨ t = attrBitString then (attrTake len r).map (·.2)
      else if t = attrDnp3Time then
        if len ≠ 6 then .error (.badTimeLength len) else (attrTake 6 r).map (·.2)
      else if t = attrAttrList then
        if len % 2 ≠ 0 then .error (.badAttrListLength len) else (attrTake len r).map (·.2)
      else
        -- EXT_ATTR_LIST: the length is really len + 256
        if (len + 256) % 2 ≠ 0 then .error (.badAttrListLength (len + 256)) else (attrTake (len + 256) r).map (·.2)

/-! ## group 70: `file::Group70VarN::read` on the free-format sub-cursor -/

/-- `file::ReadError` collapsed as `From<file::ReadError> for ObjectParseError` does -/
def fileTake (n : Nat) (bs : List Nat) : Except ParseErr (List Nat × List Nat) := takeE n bs

def fileU16 (bs : List Nat) : Except ParseErr (Nat × List Nat) :=
  match readU16 bs with
  | some x => .ok x
  | none => .error .insufficientBytes

/-- returns what is left of the sub-cursor after `Group70Varv::read` -/
def fileRead (v : Nat) (bs : List Nat) : Except ParseErr (List Nat) :=
  if v = 2 then
    match fileU16 bs with
    | .error e => .error e
    | .ok (off, r) =>
    if off ≠ g70v2UserNameOffset then .error .badEncoding else
    match fileU16 r with
    | .error e => .error e
    | .ok (unLen, r) =>
    if g70v2UserNameOffset + unLen > 65535 then .error .badEncoding else
    match fileU16 r with
    | .error e => .error e
    | .ok (pwOff, r) =>
    if pwOff ≠ g70v2UserNameOffset + unLen then .error .badEncoding else
    match fileU16 r with
    | .error e => .error e
    | .ok (pwLen, r) =>
    match fileTake 4 r with
    | .error e => .error e
    | .ok (_, r) =>
    match fileTake unLen r with
    | .error e => .error e
    | .ok (un, r) =>
    match fileTake pwLen r with
    | .error e => .error e
    | .ok (pw, r) =>
    if validUtf8 un && validUtf8 pw then .ok r else .error .badEncoding
  else if v = 3 then
    match fileU16 bs with
    | .error e => .error e
    | .ok (off, r) =>
    if off ≠ g70v3FileNameOffset then .error .badEncoding else
    match fileU16 r with
    | .error e => .error e
    | .ok (nameLen, r) =>
    -- time 6, permissions 2, auth key 4, file size 4, mode 2, max block size 2, request id 2
    match fileTake 22 r with
    | .error e => .error e
    | .ok (_, r) =>
    match fileTake nameLen r with
    | .error e => .error e
    | .ok (name, r) => if validUtf8 name then .ok r else .error .badEncoding
  else if v = 4 then
    -- handle 4, size 4, max block 2, request id 2, status 1, then text = read_all
    match fileTake 13 bs with
    | .error e => .error e
    | .ok (_, r) => if validUtf8 r then .ok [] else .error .badEncoding
  else if v = 5 then
    match fileTake 8 bs with
    | .error e => .error e
    | .ok (_, _) => .ok []
  else if v = 6 then
    match fileTake 9 bs with
    | .error e => .error e
    | .ok (_, r) => if validUtf8 r then .ok [] else .error .badEncoding
  else if v = 7 then
    match fileU16 bs with
    | .error e => .error e
    | .ok (off, r) =>
    if off ≠ g70v7FileNameOffset then .error .badEncoding else
    match fileU16 r with
    | .error e => .error e
    | .ok (nameLen, r) =>
    -- file type 2, size 4, time 6, permissions 2, request id 2
    match fileTake 16 r with
    | .error e => .error e
    | .ok (_, r) =>
    match fileTake nameLen r with
    | .error e => .error e
    | .ok (name, r) => if validUtf8 name then .ok r else .error .badEncoding
  else if v = 8 then
    if validUtf8 bs then .ok [] else .error .badEncoding
  else .error .modelGap

/-! ## header records -/

/-- what follows the qualifier octet -/
inductive Spec
  | all
  | range (wide : Bool) (start stop : Nat)
  | count (wide : Bool) (n : Nat)
  | countPrefix (wide : Bool) (n : Nat)
  | free (count len : Nat)
deriving DecidableEq, Repr, Inhabited

def Spec.qualifier : Spec → Nat
  | .all => qAllObjects
  | .range false _ _ => qRange8
  | .range true _ _ => qRange16
  | .count false _ => qCount8
  | .count true _ => qCount16
  | .countPrefix false _ => qCountAndPrefix8
  | .countPrefix true _ => qCountAndPrefix16
  | .free _ _ => qFreeFormat16

def Spec.bytes : Spec → List Nat
  | .all => []
  | .range w s e => leIdx w s ++ leIdx w e
  | .count w n => leIdx w n
  | .countPrefix w n => leIdx w n
  | .free c len => [c] ++ le16 len

/-- number of objects the header announces (`Range::from`: stop - start + 1) -/
def Spec.nobj : Spec → Nat
  | .all => 0
  | .range _ s e => e - s + 1
  | .count _ n => n
  | .countPrefix _ n => n
  | .free c _ => c

structure HeaderRec where
  var : Variation
  spec : Spec
  kind : Payload
  payload : List Nat
deriving DecidableEq, Repr

/-- the octets of one object header as they appear in the fragment -/
def HeaderRec.image (r : HeaderRec) : List Nat :=
  [r.var.group, r.var.var, r.spec.qualifier] ++ r.spec.bytes ++ r.payload

/-! ## one header -/

/-- `parse_start_stop_u8` / `_u16` up to and including `Range::from` -/
def parseRange (w : Bool) (bs : List Nat) : Except ParseErr (Spec × List Nat) :=
  match readIdx w bs with
  | none => .error .insufficientBytes
  | some (start, r) =>
    match readIdx w r with
    | none => .error .insufficientBytes
    | some (stop, r) =>
      -- `Range::from`
      if stop < start then .error (.invalidRange start stop) else .ok (.range w start stop, r)

def parseCount (w prefixed : Bool) (bs : List Nat) : Except ParseErr (Spec × List Nat) :=
  match readIdx w bs with
  | none => .error .insufficientBytes
  | some (n, r) => .ok (if prefixed then .countPrefix w n else .count w n, r)

/-- the head of `parse_free_format_u16`: count octet (must be 1) and 16-bit length -/
def parseFree (bs : List Nat) : Except ParseErr (Spec × List Nat) :=
  match readU8 bs with
  | none => .error .insufficientBytes
  | some (c, r) =>
    if c ≠ 1 then .error (.unsupportedFreeFormatCount c) else
    match readU16 r with
    | none => .error .insufficientBytes
    | some (len, r) => .ok (.free c len, r)

/-- `QualifierCode::parse` + the reads that precede the variation-table lookup in `parse_*` -/
def parseSpec (q : Nat) (bs : List Nat) : Except ParseErr (Spec × List Nat) :=
  if q = qAllObjects then .ok (.all, bs)
  else if q = qRange8 then parseRange false bs
  else if q = qRange16 then parseRange true bs
  else if q = qCount8 then parseCount false false bs
  else if q = qCount16 then parseCount true false bs
  else if q = qCountAndPrefix8 then parseCount false true bs
  else if q = qCountAndPrefix16 then parseCount true true bs
  else if q = qFreeFormat16 then parseFree bs
  else .error (.unknownQualifier q)

/-- the cursor reads of one table arm.  `count`/`start` come from the header, `wide` is the
    width of the prefix (count-and-prefix qualifiers) -/
def readPayload (zls : Bool) (var : Variation) (k : Payload) (start count : Nat) (wide : Bool) (bs : List Nat) :
    Except ParseErr (List Nat × List Nat) :=
  match k with
  | .none | .emptySeq | .attrNone => .ok ([], bs)
  | .bits => takeE ((count + 7) / 8) bs
  | .dbits => takeE ((count + 3) / 4) bs
  | .fixed g v => takeE (fixedSize g v * count) bs
  | .octets =>
    if var.var = 0 ∧ ¬ zls then .error .zeroLengthOctetData else takeE (var.var * count) bs
  | .attr =>
    -- `AttrSet::from_range` then `AttrValue::parse`
    if start > 255 then .error (.badAttribute (.setIdNotU8 start))
    else if count ≠ 1 then .error (.badAttribute (.countNotOne count))
    else match attrValue bs with
      | .error e => .error (.badAttribute e)
      | .ok rest => .ok (bs.take (bs.length - rest.length), rest)
  | .prefFixed g v => takeE ((idxSize wide + fixedSize g v) * count) bs
  | .prefOctets =>
    if var.var = 0 ∧ ¬ zls then .error .zeroLengthOctetData else takeE ((var.var + idxSize wide) * count) bs
  | .prefAttr =>
    if count ≠ 1 then .error (.badAttribute (.countNotOne count)) else
    match readIdx wide bs with
    | none => .error .insufficientBytes
    | some (index, r) =>
      if index > 255 then .error (.badAttribute (.setIdNotU8 index)) else
      match attrValue r with
      | .error e => .error (.badAttribute e)
      | .ok rest => .ok (bs.take (bs.length - rest.length), rest)
  | .file _ => .error .modelGap

/-- which generated table a qualifier uses (`RangedVariation::parse` dispatches on READ) -/
def tableFor (isRead : Bool) : Spec → List (Pat × Payload)
  | .all => allObjects
  | .range _ _ _ => if isRead then rangedRead else rangedNonRead
  | .count _ _ => countTable
  | .countPrefix _ _ => prefixedTable
  | .free _ _ => freeFormat

def Spec.wide : Spec → Bool
  | .range w _ _ => w | .count w _ => w | .countPrefix w _ => w | _ => false

def Spec.start : Spec → Nat
  | .range _ s _ => s | _ => 0

/-- everything after the spec: table lookup, payload read -/
def parseBody (isRead zls : Bool) (var : Variation) (spec : Spec) (bs : List Nat) :
    Except ParseErr (HeaderRec × List Nat) :=
  match spec with
  | .free _ len =>
    -- `parse_free_format_u16`: the bytes are read before the variation is looked at
    match takeE len bs with
    | .error e => .error e
    | .ok (sub, rest) =>
      match tableGet freeFormat var with
      | some (.file v) =>
        match fileRead v sub with
        | .error e => .error e
        | .ok left => if left.isEmpty then .ok (⟨var, spec, .file v, sub⟩, rest) else .error .badEncoding
      | some _ => .error .modelGap
      | none => .error (.invalidQualifierForVariation var.group var.var spec.qualifier)
  | _ =>
    match tableGet (tableFor isRead spec) var with
    | none => .error (.invalidQualifierForVariation var.group var.var spec.qualifier)
    | some k =>
      match readPayload zls var k spec.start spec.nobj spec.wide bs with
      | .error e => .error e
      | .ok (payload, rest) => .ok (⟨var, spec, k, payload⟩, rest)

/-- `ObjectParser::parse_one_inner` -/
def parseOne (isRead zls : Bool) (bs : List Nat) : Except ParseErr (HeaderRec × List Nat) :=
  match bs with
  | g :: v :: r0 =>
    match lookup g v with
    | none => .error (.unknownGroupVariation g v)
    | some var =>
      match r0 with
      | [] => .error .insufficientBytes
      | q :: r =>
        match parseSpec q r with
        | .error e => .error e
        | .ok (spec, r) => parseBody isRead zls var spec r
  | _ => .error .insufficientBytes

/-! ## progress: every successful `parseOne` strictly shortens the input -/

/-- `read_bytes(n)` succeeds exactly on `n` octets followed by anything, and splits there -/
theorem take?_iff {n : Nat} {bs p r : List Nat} : take? n bs = some (p, r) ↔ bs = p ++ r ∧ p.length = n := by
  unfold take?
  constructor
  · intro h
    split at h
    · rename_i hl
      simp only [Option.some.injEq, Prod.mk.injEq] at h
      obtain ⟨rfl, rfl⟩ := h
      exact ⟨(List.take_append_drop n bs).symm, hl⟩
    · cases h
  · rintro ⟨rfl, rfl⟩
    simp

theorem takeE_iff {n : Nat} {bs p r : List Nat} : takeE n bs = .ok (p, r) ↔ bs = p ++ r ∧ p.length = n := by
  rw [← take?_iff]; unfold takeE
  cases take? n bs <;> simp

theorem attrTake_iff {n : Nat} {bs p r : List Nat} : attrTake n bs = .ok (p, r) ↔ bs = p ++ r ∧ p.length = n := by
  rw [← take?_iff]; unfold attrTake
  cases take? n bs <;> simp

theorem takeE_len {n : Nat} {bs p r : List Nat} (h : takeE n bs = .ok (p, r)) : r.length ≤ bs.length := by
  rw [(takeE_iff.1 h).1, List.length_append]; omega

theorem readU8_len {bs r : List Nat} {x : Nat} (h : readU8 bs = some (x, r)) : r.length < bs.length := by
  unfold readU8 at h; split at h <;> simp at h; rw [← h.2]; simp

theorem readU16_len {bs r : List Nat} {x : Nat} (h : readU16 bs = some (x, r)) : r.length < bs.length := by
  unfold readU16 at h; split at h <;> simp at h; rw [← h.2]; simp only [List.length_cons]; omega

theorem readIdx_len {w : Bool} {bs r : List Nat} {x : Nat} (h : readIdx w bs = some (x, r)) : r.length < bs.length := by
  unfold readIdx at h; split at h
  · exact readU16_len h
  · exact readU8_len h

/-- `x` can only succeed with a suffix of `bs` -/
def OkSuffix (bs : List Nat) (x : Except AttrErr (List Nat)) : Prop := ∀ r, x = .ok r → r <:+ bs

theorem OkSuffix.error {bs : List Nat} {e : AttrErr} : OkSuffix bs (.error e) := nofun

theorem OkSuffix.ite {bs : List Nat} {c : Prop} [Decidable c] {a b : Except AttrErr (List Nat)}
    (ha : OkSuffix bs a) (hb : OkSuffix bs b) : OkSuffix bs (if c then a else b) := by
  split <;> assumption

theorem OkSuffix.take {bs : List Nat} {n : Nat} : OkSuffix bs ((attrTake n bs).map (·.2)) := by
  intro r h
  cases hx : attrTake n bs with
  | error e => rw [hx] at h; cases h
  | ok x => rw [hx] at h; cases h; exact ⟨_, (attrTake_iff.1 hx).1.symm⟩

theorem OkSuffix.str {bs : List Nat} {n : Nat} : OkSuffix bs
    (match attrTake n bs with
     | .error e => .error e
     | .ok (s, rest) => if validUtf8 s then .ok rest else .error .badVisibleString) := by
  intro r h
  split at h
  · cases h
  · split at h
    · cases h; exact ⟨_, (attrTake_iff.1 ‹_›).1.symm⟩
    · cases h

/-- every branch of `AttrValue::parse` is an error or hands back what `read_bytes` left of the octets after the
    type and length octets; the term follows the `if` tree of `attrValue` -/
theorem attrValue_cons2 (t len : Nat) (bs : List Nat) : OkSuffix bs (attrValue (t :: len :: bs)) := by
  simp only [attrValue]
  exact .ite .error (.ite .str (.ite (.ite .take .error) (.ite (.ite .take .error) (.ite .take
    (.ite (.ite .error .take) (.ite (.ite .error .take) (.ite .error .take)))))))

theorem attrValue_suffix {bs r : List Nat} (h : attrValue bs = .ok r) : r <:+ bs := by
  match bs, h with
  | [], h => cases h
  | [t], h => simp only [attrValue] at h; split at h <;> cases h
  | t :: len :: bs, h =>
    exact (attrValue_cons2 t len bs r h).trans ((List.suffix_cons len bs).trans (List.suffix_cons t _))

theorem attrValue_len {bs r : List Nat} (h : attrValue bs = .ok r) : r.length ≤ bs.length :=
  (attrValue_suffix h).length_le

theorem parseRange_len {w : Bool} {bs r : List Nat} {s : Spec} (h : parseRange w bs = .ok (s, r)) : r.length ≤ bs.length := by
  unfold parseRange at h
  repeat' split at h
  all_goals first
    | (cases h; done)
    | grind [→ readIdx_len]

theorem parseCount_len {w p : Bool} {bs r : List Nat} {s : Spec} (h : parseCount w p bs = .ok (s, r)) : r.length ≤ bs.length := by
  unfold parseCount at h
  repeat' split at h
  all_goals first
    | (cases h; done)
    | grind [→ readIdx_len]

theorem parseFree_len {bs r : List Nat} {s : Spec} (h : parseFree bs = .ok (s, r)) : r.length ≤ bs.length := by
  unfold parseFree at h
  repeat' split at h
  all_goals first
    | (cases h; done)
    | grind [→ readU8_len, → readU16_len]

theorem ite_error_ok {ε α : Type} {c : Prop} [Decidable c] {e : ε} {b : Except ε α} {x : α}
    (h : (if c then .error e else b) = .ok x) : b = .ok x := by
  split at h
  · cases h
  · exact h

theorem ite_ok {ε α : Type} {c : Prop} [Decidable c] {a b : Except ε α} {x : α} (h : (if c then a else b) = .ok x) :
    (c ∧ a = .ok x) ∨ (¬ c ∧ b = .ok x) := by
  split at h
  · exact .inl ⟨‹_›, h⟩
  · exact .inr ⟨‹_›, h⟩

/-- `QualifierCode::parse`: an accepted qualifier is one of the eight codes, and what follows it is read by the
    function of that code -/
theorem parseSpec_cases {q : Nat} {bs : List Nat} {x : Spec × List Nat} (h : parseSpec q bs = .ok x) :
    (q = qAllObjects ∧ x = (.all, bs)) ∨
    (∃ w, q = (if w then qRange16 else qRange8) ∧ parseRange w bs = .ok x) ∨
    (∃ w p, q = (if p then (if w then qCountAndPrefix16 else qCountAndPrefix8) else (if w then qCount16 else qCount8)) ∧
      parseCount w p bs = .ok x) ∨
    (q = qFreeFormat16 ∧ parseFree bs = .ok x) := by
  unfold parseSpec at h
  rcases ite_ok h with ⟨hq, h⟩ | ⟨_, h⟩
  · cases h; exact .inl ⟨hq, rfl⟩
  rcases ite_ok h with ⟨hq, h⟩ | ⟨_, h⟩
  · exact .inr (.inl ⟨false, hq, h⟩)
  rcases ite_ok h with ⟨hq, h⟩ | ⟨_, h⟩
  · exact .inr (.inl ⟨true, hq, h⟩)
  rcases ite_ok h with ⟨hq, h⟩ | ⟨_, h⟩
  · exact .inr (.inr (.inl ⟨false, false, hq, h⟩))
  rcases ite_ok h with ⟨hq, h⟩ | ⟨_, h⟩
  · exact .inr (.inr (.inl ⟨true, false, hq, h⟩))
  rcases ite_ok h with ⟨hq, h⟩ | ⟨_, h⟩
  · exact .inr (.inr (.inl ⟨false, true, hq, h⟩))
  rcases ite_ok h with ⟨hq, h⟩ | ⟨_, h⟩
  · exact .inr (.inr (.inl ⟨true, true, hq, h⟩))
  rcases ite_ok h with ⟨hq, h⟩ | ⟨_, h⟩
  · exact .inr (.inr (.inr ⟨hq, h⟩))
  · cases h

theorem parseSpec_len {q : Nat} {bs r : List Nat} {s : Spec} (h : parseSpec q bs = .ok (s, r)) : r.length ≤ bs.length := by
  rcases parseSpec_cases h with ⟨_, h⟩ | ⟨w, _, h⟩ | ⟨w, p, _, h⟩ | ⟨_, h⟩
  · cases h; exact Nat.le_refl _
  · exact parseRange_len h
  · exact parseCount_len h
  · exact parseFree_len h

theorem readPayload_len {zls : Bool} {var : Variation} {k : Payload} {s c : Nat} {w : Bool} {bs p r : List Nat}
    (h : readPayload zls var k s c w bs = .ok (p, r)) : r.length ≤ bs.length := by
  unfold readPayload at h
  repeat' split at h
  all_goals first
    | (cases h; done)
    | exact takeE_len h
    | grind [→ readIdx_len, → attrValue_len]

theorem parseBody_len {isRead zls : Bool} {var : Variation} {spec : Spec} {bs rest : List Nat} {rec : HeaderRec}
    (h : parseBody isRead zls var spec bs = .ok (rec, rest)) : rest.length ≤ bs.length := by
  unfold parseBody at h
  repeat' split at h
  all_goals first
    | (cases h; done)
    | grind [→ takeE_len, → readPayload_len]

/-- every accepted header consumes at least its three fixed octets (group, variation, qualifier) -/
theorem parseOne_length3 {isRead zls : Bool} {bs rest : List Nat} {rec : HeaderRec}
    (h : parseOne isRead zls bs = .ok (rec, rest)) : rest.length + 3 ≤ bs.length := by
  unfold parseOne at h
  repeat' split at h
  all_goals first
    | (cases h; done)
    | (rename_i hs; have := parseSpec_len hs; have := parseBody_len h; simp only [List.length_cons]; omega)

theorem parseOne_length {isRead zls : Bool} {bs rest : List Nat} {rec : HeaderRec}
    (h : parseOne isRead zls bs = .ok (rec, rest)) : rest.length < bs.length :=
  Nat.lt_of_lt_of_le (Nat.lt_add_of_pos_right (by decide)) (parseOne_length3 h)

/-! ## the whole object section -/

/-- `ObjectParser::parse`: headers are parsed until the cursor is empty; the first error aborts.
    Well-founded on the remaining length: `parseOne_length` is the progress argument. -/
def walk (isRead zls : Bool) (bs : List Nat) : Except ParseErr (List HeaderRec) :=
  if bs.isEmpty then .ok [] else
  match h : parseOne isRead zls bs with
  | .error e => .error e
  | .ok (r, rest) =>
    match walk isRead zls rest with
    | .error e => .error e
    | .ok rs => .ok (r :: rs)
termination_by bs.length
decreasing_by exact parseOne_length h

/-- the headers parsed before the first error (what `FragmentDisplay` re-parses and prints when
    `objects` is `Err`): `ObjectParser::one_pass(..).flatten()` -/
def walkPrefix (isRead zls : Bool) (bs : List Nat) : List HeaderRec :=
  if bs.isEmpty then [] else
  match h : parseOne isRead zls bs with
  | .error _ => []
  | .ok (r, rest) => r :: walkPrefix isRead zls rest
termination_by bs.length
decreasing_by exact parseOne_length h

end Dnp3.App
