import Dnp3.Model.ObjectIter
import Dnp3.Proofs.C09Walk
/-! helper lemmas for `iter_agrees_octets` / `iter_agrees_partial` (`Props/C09.lean`) -/
namespace Dnp3.App
open Dnp3.Gen

theorem chunks_spec (size n : Nat) (hs : 0 < size) : ∀ data : List Nat, data.length = size * n →
    (chunks size data).length = n ∧ (chunks size data).flatten = data ∧ ∀ c ∈ chunks size data, c.length = size := by
  induction n with
  | zero =>
    intro data hl
    have : data = [] := List.eq_nil_of_length_eq_zero (by simpa using hl)
    subst this
    rw [chunks]
    have hne : size ≠ 0 := by omega
    have h0 : ¬ (0 = size) := by omega
    simp [hne, h0]
  | succ n ih =>
    intro data hl
    have hge : size ≤ data.length := by rw [hl, Nat.mul_succ]; omega
    have htake : (data.take size).length = size := by simp [List.length_take]; omega
    have hdrop : (data.drop size).length = size * n := by simp [List.length_drop, hl, Nat.mul_succ]
    obtain ⟨h1, h2, h3⟩ := ih (data.drop size) hdrop
    rw [chunks]
    have hne : size ≠ 0 := by omega
    simp only [hne, ↓reduceDIte, htake]
    refine ⟨by simp [h1], by simp [h2], ?_⟩
    intro c hc
    rcases List.mem_cons.mp hc with hc | hc
    · subst hc; exact htake
    · exact h3 c hc

/-- `RangeIterator` indices: consecutive from `start` as long as they stay within u16 -/
theorem withIndices_spec (cs : List (List Nat)) : ∀ start, start + cs.length ≤ 65536 →
    (withIndices start cs).map (·.bytes) = cs ∧
    (withIndices start cs).map (·.index) = (List.range cs.length).map (fun i => some (start + i)) := by
  induction cs with
  | nil => intro s _; simp [withIndices]
  | cons c cs ih =>
    intro s hs
    simp only [List.length_cons] at hs
    have hmin : min (s + 1) 65535 = s + 1 ∨ cs = [] := by
      by_cases h : cs = []
      · exact Or.inr h
      · left
        have : 0 < cs.length := List.length_pos_iff.mpr h
        omega
    rcases hmin with hmin | hnil
    · obtain ⟨h1, h2⟩ := ih (s + 1) (by omega)
      simp only [withIndices, hmin, List.map_cons, h1, h2, List.length_cons, List.range_succ_eq_map, List.map_map]
      refine ⟨trivial, ?_⟩
      simp only [Nat.add_zero, List.cons.injEq, true_and]
      apply List.map_congr_left
      intro a _; simp only [Function.comp]; congr 1; omega
    · subst hnil
      simp [withIndices]

theorem items_of_chunks {size n : Nat} (hs : 0 < size) {data : List Nat} (hl : data.length = size * n)
    {items : List Item} (hm : items.map (·.bytes) = chunks size data) :
    items.length = n ∧ (items.map (·.bytes)).flatten = data ∧ ∀ it ∈ items, it.bytes.length = size := by
  obtain ⟨c1, c2, c3⟩ := chunks_spec size n hs data hl
  refine ⟨?_, hm ▸ c2, fun it hit => c3 _ (hm ▸ List.mem_map_of_mem hit)⟩
  rw [← c1, ← hm, List.length_map]

theorem take?_of_le {n : Nat} {bs : List Nat} (h : n ≤ bs.length) : take? n bs = some (bs.take n, bs.drop n) :=
  take?_iff.2 ⟨(List.take_append_drop n bs).symm, List.length_take_of_le h⟩

/-- `RangedBytesIterator` never panics when the announced last index `index + rem - 1` is a u16 — whatever the
    payload (also a truncated one): the `index += 1` is only executed when another item remains -/
theorem iterRangedBytes_no_panic (size : Nat) : ∀ (rem : Nat) (data : List Nat) (index : Nat), index + rem ≤ 65536 →
    ∃ items, iterRangedBytes size data index rem = .ok items := by
  intro rem
  induction rem with
  | zero => intro data index _; exact ⟨[], by simp [iterRangedBytes]⟩
  | succ rem ih =>
    intro data index hle
    cases ht : take? size data with
    | none => exact ⟨[], by simp only [iterRangedBytes, ht]⟩
    | some pr =>
      obtain ⟨b, rest⟩ := pr
      by_cases hrem : 0 < rem
      · obtain ⟨items, hi⟩ := ih rest (index + 1) (by omega)
        have hlt : ¬ index ≥ 65535 := by omega
        exact ⟨⟨some index, b⟩ :: items, by simp only [iterRangedBytes, ht, hrem, hlt, ↓reduceIte, hi]⟩
      · obtain ⟨items, hi⟩ := ih rest index (by omega)
        exact ⟨⟨some index, b⟩ :: items, by simp only [iterRangedBytes, ht, hrem, ↓reduceIte, hi]⟩

theorem iterRangedBytes_spec (size : Nat) : ∀ (rem : Nat) (data : List Nat) (index : Nat), data.length = size * rem →
    index + rem ≤ 65536 → ∃ items, iterRangedBytes size data index rem = .ok items ∧ items.length = rem ∧
        items.map (·.index) = (List.range rem).map (fun i => some (index + i)) ∧
        (items.map (·.bytes)).flatten = data ∧ ∀ it ∈ items, it.bytes.length = size := by
  intro rem
  induction rem with
  | zero =>
    intro data index hl _
    have : data = [] := List.eq_nil_of_length_eq_zero (by simpa using hl)
    subst this
    exact ⟨[], by simp [iterRangedBytes]⟩
  | succ rem ih =>
    intro data index hl hle
    have hge : size ≤ data.length := by rw [hl, Nat.mul_succ]; omega
    have hdrop : (data.drop size).length = size * rem := by simp [List.length_drop, hl, Nat.mul_succ]
    by_cases hrem : 0 < rem
    · obtain ⟨items, hi, hlen, hidx, hby, hsz⟩ := ih (data.drop size) (index + 1) hdrop (by omega)
      have hlt : ¬ index ≥ 65535 := by omega
      have htake : (data.take size).length = size := by simp [List.length_take]; omega
      refine ⟨⟨some index, data.take size⟩ :: items, ?_, by simp [hlen], ?_, ?_, ?_⟩
      · simp only [iterRangedBytes, take?_of_le hge, hrem, hlt, ↓reduceIte, hi]
      · simp only [List.map_cons, hidx, List.range_succ_eq_map, List.map_map, Nat.add_zero, List.cons.injEq, true_and]
        apply List.map_congr_left
        intro a _; simp only [Function.comp]; congr 1; omega
      · simp only [List.map_cons, List.flatten_cons, hby, List.take_append_drop]
      · intro it hit
        rcases List.mem_cons.mp hit with hit | hit
        · subst hit; exact htake
        · exact hsz it hit
    · have h0 : rem = 0 := by omega
      subst h0
      have hnil : data.drop size = [] := List.eq_nil_of_length_eq_zero (by simpa using hdrop)
      have htake : (data.take size).length = size := by simp [List.length_take]; omega
      refine ⟨[⟨some index, data.take size⟩], ?_, rfl, ?_, ?_, ?_⟩
      · simp only [iterRangedBytes, take?_of_le hge, Nat.lt_irrefl, ↓reduceIte]
      · simp
      · have := List.take_append_drop size data
        rw [hnil, List.append_nil] at this
        simp [this]
      · intro it hit
        rw [List.mem_singleton] at hit
        subst hit; exact htake

end Dnp3.App
