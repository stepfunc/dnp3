import Dnp3.Model.File70
import Dnp3.Proofs.C09Walk
import Dnp3.Proofs.C09Builder
/-! proofs about `Dnp3.Model.File70` (C09, file-transfer objects of group 70) -/
namespace Dnp3.Proofs.C09File70
open Dnp3 Dnp3.App Dnp3.File70 Dnp3.Gen.App

theorem leBytes_length (k n : Nat) : (leBytes k n).length = k := by
  induction k generalizing n with
  | zero => rfl
  | succ k ih => simp [leBytes, ih]

theorem ofLe_leBytes (k n : Nat) (h : n < 256 ^ k) : ofLe (leBytes k n) = n := by
  induction k generalizing n with
  | zero => simp at h; subst h; rfl
  | succ k ih =>
    simp only [leBytes, ofLe]
    rw [ih (n / 256) (by rw [Nat.pow_succ] at h; omega)]
    omega

theorem leBytes_octets (k n : Nat) : allOctets (leBytes k n) := by
  induction k generalizing n with
  | zero => intro b hb; cases hb
  | succ k ih =>
    intro b hb
    simp only [leBytes, List.mem_cons] at hb
    rcases hb with hb | hb
    · subst hb; omega
    · exact ih _ b hb

theorem ofLe_lt (l : List Nat) (h : allOctets l) : ofLe l < 256 ^ l.length := by
  induction l with
  | nil => simp [ofLe]
  | cons b r ih =>
    have hb : b < 256 := h b (List.mem_cons_self)
    have hr := ih (fun x hx => h x (List.mem_cons_of_mem _ hx))
    simp only [ofLe, List.length_cons, Nat.pow_succ]
    omega

theorem leBytes_ofLe (l : List Nat) (h : allOctets l) : leBytes l.length (ofLe l) = l := by
  induction l with
  | nil => rfl
  | cons b r ih =>
    have hb : b < 256 := h b (List.mem_cons_self)
    have hr := ih (fun x hx => h x (List.mem_cons_of_mem _ hx))
    simp only [List.length_cons, leBytes, ofLe]
    have h1 : (b + 256 * ofLe r) % 256 = b := by omega
    have h2 : (b + 256 * ofLe r) / 256 = ofLe r := by omega
    rw [h1, h2, hr]

theorem rd_leBytes {k n : Nat} (h : n < 256 ^ k) (rest : List Nat) : rd k (leBytes k n ++ rest) = .ok (n, rest) := by
  have hl := leBytes_length k n
  unfold rd
  rw [if_pos (by simp [hl])]
  rw [List.take_left' hl, List.drop_left' hl, ofLe_leBytes k n h]

theorem fileTake_eq_tk (n : Nat) (bs : List Nat) : fileTake n bs = tk n bs := by
  unfold fileTake takeE take? tk
  by_cases h : n ≤ bs.length
  · simp [h, List.length_take, Nat.min_eq_left h]
  · have : ¬ (min n bs.length = n) := by omega
    simp [h, List.length_take, this]

theorem tk_iff {n : Nat} {bs p r : List Nat} : tk n bs = .ok (p, r) ↔ bs = p ++ r ∧ p.length = n := by
  rw [← fileTake_eq_tk]; exact takeE_iff

theorem rd_eq_tk (k : Nat) (bs : List Nat) : rd k bs = match tk k bs with | .error e => .error e | .ok (p, r) => .ok (ofLe p, r) := by
  unfold rd tk; split <;> rfl

theorem tk_len (p rest : List Nat) : tk p.length (p ++ rest) = .ok (p, rest) := tk_iff.2 ⟨rfl, rfl⟩

/-- no size or offset field overflows: the only checks are on the string lengths -/
theorem encodable_iff (o : FileObj) : o.Encodable ↔ match o with
    | .auth _ u p => g70v2UserNameOffset + u.length ≤ 65535 ∧ p.length ≤ 65535
    | .command _ _ _ _ _ _ _ n | .descriptor _ _ _ _ _ n => n.length ≤ 65535
    | _ => True := by
  have ho : g70v2UserNameOffset = 12 := rfl
  cases o <;> simp [FileObj.Encodable, FileObj.fields, fitsU16] <;> omega

theorem roundtrip_auth (k : Nat) (u p rest : List Nat) (hwf : (FileObj.auth k u p).WF) (he : (FileObj.auth k u p).Encodable) :
    parseAuth (encode (.auth k u p) ++ rest) = .ok (.auth k u p, rest) := by
  obtain ⟨hk, ⟨_, hu⟩, ⟨_, hp⟩⟩ := hwf
  obtain ⟨h1, h2⟩ := (encodable_iff _).mp he
  have ho : g70v2UserNameOffset = 12 := rfl
  simp only [encode, FileObj.fields, List.flatMap_cons, List.flatMap_nil, Fld.image, Kind.width, List.append_nil, List.append_assoc]
  simp only [parseAuth, rd_leBytes (show g70v2UserNameOffset < 256 ^ 2 by rw [ho]; omega),
    rd_leBytes (show u.length < 256 ^ 2 by omega), rd_leBytes (show g70v2UserNameOffset + u.length < 256 ^ 2 by omega),
    rd_leBytes (show p.length < 256 ^ 2 by omega), rd_leBytes (show k < 256 ^ 4 by omega), tk_len,
    show ¬ (g70v2UserNameOffset + u.length > 65535) by omega, hu, hp, ne_eq, not_true_eq_false, ↓reduceIte, Bool.and_self]

theorem permOf_small {pm : Nat} (h : pm < 512) : permOf pm = pm := by unfold permOf; omega

theorem roundtrip_command (t pm k sz m mb rq : Nat) (n rest : List Nat)
    (hwf : (FileObj.command t pm k sz m mb rq n).WF) (he : (FileObj.command t pm k sz m mb rq n).Encodable) :
    parseCommand (encode (.command t pm k sz m mb rq n) ++ rest) = .ok (.command t pm k sz m mb rq n, rest) := by
  obtain ⟨ht, hpm, hk, hsz, hm, hmb, hrq, _, hn⟩ := hwf
  have h1 := (encodable_iff _).mp he
  have ho : g70v3FileNameOffset = 26 := rfl
  simp only [encode, FileObj.fields, List.flatMap_cons, List.flatMap_nil, Fld.image, Kind.width, List.append_nil, List.append_assoc]
  simp only [parseCommand, rdSeq, List.getD_cons_zero, List.getD_cons_succ, rd_leBytes (show g70v3FileNameOffset < 256 ^ 2 by rw [ho]; omega),
    rd_leBytes (show n.length < 256 ^ 2 by omega), rd_leBytes (show t < 256 ^ 6 by omega),
    rd_leBytes (show pm < 256 ^ 2 by omega), rd_leBytes (show k < 256 ^ 4 by omega), rd_leBytes (show sz < 256 ^ 4 by omega),
    rd_leBytes (show m < 256 ^ 2 by omega), rd_leBytes (show mb < 256 ^ 2 by omega), rd_leBytes (show rq < 256 ^ 2 by omega),
    tk_len, hn, permOf_small hpm, ne_eq, not_true_eq_false, ↓reduceIte]

theorem roundtrip_descriptor (ft sz t pm rq : Nat) (n rest : List Nat)
    (hwf : (FileObj.descriptor ft sz t pm rq n).WF) (he : (FileObj.descriptor ft sz t pm rq n).Encodable) :
    parseDescriptor (encode (.descriptor ft sz t pm rq n) ++ rest) = .ok (.descriptor ft sz t pm rq n, rest) := by
  obtain ⟨hft, hsz, ht, hpm, hrq, _, hn⟩ := hwf
  have h1 := (encodable_iff _).mp he
  have ho : g70v7FileNameOffset = 20 := rfl
  simp only [encode, FileObj.fields, List.flatMap_cons, List.flatMap_nil, Fld.image, Kind.width, List.append_nil, List.append_assoc]
  simp only [parseDescriptor, rdSeq, List.getD_cons_zero, List.getD_cons_succ, rd_leBytes (show g70v7FileNameOffset < 256 ^ 2 by rw [ho]; omega),
    rd_leBytes (show n.length < 256 ^ 2 by omega), rd_leBytes (show ft < 256 ^ 2 by omega),
    rd_leBytes (show sz < 256 ^ 4 by omega), rd_leBytes (show t < 256 ^ 6 by omega), rd_leBytes (show pm < 256 ^ 2 by omega),
    rd_leBytes (show rq < 256 ^ 2 by omega), tk_len, hn, permOf_small hpm, ne_eq, not_true_eq_false, ↓reduceIte]

theorem roundtrip_commandStatus (h sz mb rq st : Nat) (tx : List Nat) (hwf : (FileObj.commandStatus h sz mb rq st tx).WF) :
    parseCommandStatus (encode (.commandStatus h sz mb rq st tx)) = .ok (.commandStatus h sz mb rq st tx, []) := by
  obtain ⟨hh, hsz, hmb, hrq, hst, _, htx⟩ := hwf
  simp only [encode, FileObj.fields, List.flatMap_cons, List.flatMap_nil, Fld.image, Kind.width, List.append_nil]
  simp only [parseCommandStatus, rdSeq, List.getD_cons_zero, List.getD_cons_succ, rd_leBytes (show h < 256 ^ 4 by omega), rd_leBytes (show sz < 256 ^ 4 by omega),
    rd_leBytes (show mb < 256 ^ 2 by omega), rd_leBytes (show rq < 256 ^ 2 by omega), rd_leBytes (show st < 256 ^ 1 by omega),
    htx, ↓reduceIte]

theorem roundtrip_transport (h b : Nat) (d : List Nat) (hwf : (FileObj.transport h b d).WF) :
    parseTransport (encode (.transport h b d)) = .ok (.transport h b d, []) := by
  obtain ⟨hh, hb, _⟩ := hwf
  simp only [encode, FileObj.fields, List.flatMap_cons, List.flatMap_nil, Fld.image, Kind.width, List.append_nil]
  simp only [parseTransport, rdSeq, List.getD_cons_zero, List.getD_cons_succ, rd_leBytes (show h < 256 ^ 4 by omega), rd_leBytes (show b < 256 ^ 4 by omega)]

theorem roundtrip_transportStatus (h b st : Nat) (tx : List Nat) (hwf : (FileObj.transportStatus h b st tx).WF) :
    parseTransportStatus (encode (.transportStatus h b st tx)) = .ok (.transportStatus h b st tx, []) := by
  obtain ⟨hh, hb, hst, _, htx⟩ := hwf
  simp only [encode, FileObj.fields, List.flatMap_cons, List.flatMap_nil, Fld.image, Kind.width, List.append_nil]
  simp only [parseTransportStatus, rdSeq, List.getD_cons_zero, List.getD_cons_succ, rd_leBytes (show h < 256 ^ 4 by omega), rd_leBytes (show b < 256 ^ 4 by omega),
    rd_leBytes (show st < 256 ^ 1 by omega), htx, ↓reduceIte]

theorem roundtrip_spec (s : List Nat) (hwf : (FileObj.spec s).WF) : parseSpecString (encode (.spec s)) = .ok (.spec s, []) := by
  obtain ⟨_, hs⟩ := hwf
  simp only [encode, FileObj.fields, List.flatMap_cons, List.flatMap_nil, Fld.image, List.append_nil, parseSpecString, hs, ↓reduceIte]

/-- `parseObj` at the variation of an object is that object's reader (stated once, so that the proofs below do not
    each evaluate the `if` chain of `parseObj` under `encode`) -/
theorem parseObj_variation (o : FileObj) (bs : List Nat) :
    parseObj o.variation bs = match o with
      | .auth .. => parseAuth bs | .command .. => parseCommand bs | .commandStatus .. => parseCommandStatus bs
      | .transport .. => parseTransport bs | .transportStatus .. => parseTransportStatus bs
      | .descriptor .. => parseDescriptor bs | .spec .. => parseSpecString bs := by
  cases o <;> rfl

/-- the objects that carry their sizes (g70v2, v3, v7) are parsed back whatever follows them; the others take
    everything, so nothing may follow -/
theorem roundtrip_rest (o : FileObj) (rest : List Nat) (hwf : o.WF) (he : o.Encodable)
    (hr : rest = [] ∨ o.variation = 2 ∨ o.variation = 3 ∨ o.variation = 7) :
    parseObj o.variation (encode o ++ rest) = .ok (o, rest) := by
  rw [parseObj_variation]
  cases o with
  | auth k u p => exact roundtrip_auth k u p rest hwf he
  | command t pm k sz m mb rq n => exact roundtrip_command t pm k sz m mb rq n rest hwf he
  | descriptor ft sz t pm rq n => exact roundtrip_descriptor ft sz t pm rq n rest hwf he
  | commandStatus h sz mb rq st tx =>
    rw [hr.resolve_right (by simp [FileObj.variation]), List.append_nil]; exact roundtrip_commandStatus h sz mb rq st tx hwf
  | transport h b d => rw [hr.resolve_right (by simp [FileObj.variation]), List.append_nil]; exact roundtrip_transport h b d hwf
  | transportStatus h b st tx =>
    rw [hr.resolve_right (by simp [FileObj.variation]), List.append_nil]; exact roundtrip_transportStatus h b st tx hwf
  | spec s => rw [hr.resolve_right (by simp [FileObj.variation]), List.append_nil]; exact roundtrip_spec s hwf

/-! ## two shapes of `read`

Two shapes cover the `read` functions other than g70v2's: `parseCommand` and `parseDescriptor` are `sized`, the four
whose last field takes what is left are `tail` (all by `rfl`).  Each chain of reads is compared with `fileRead` once
(`sized_agree`, `tail_agree`) and inverted once (`sized_ok`, `tail_ok`). -/

def sized (off : Nat) (ks : List Nat) (mk : List Nat → List Nat → FileObj) (bs : List Nat) :
    Except ParseErr (FileObj × List Nat) :=
  match rd 2 bs with
  | .error e => .error e
  | .ok (o, r) =>
  if o ≠ off then .error .badEncoding else
  match rd 2 r with
  | .error e => .error e
  | .ok (len, r) =>
  match rdSeq ks r with
  | .error e => .error e
  | .ok (f, r) =>
  match tk len r with
  | .error e => .error e
  | .ok (s, r) => if validUtf8 s then .ok (mk f s, r) else .error .badEncoding

def tail (ks : List Nat) (chk : List Nat → Bool) (mk : List Nat → List Nat → FileObj) (bs : List Nat) :
    Except ParseErr (FileObj × List Nat) :=
  match rdSeq ks bs with
  | .error e => .error e
  | .ok (f, r) => if chk r then .ok (mk f r, []) else .error .badEncoding

theorem parseCommand_eq (bs : List Nat) : parseCommand bs = sized g70v3FileNameOffset [6, 2, 4, 4, 2, 2, 2] (fun f n =>
    .command (f.getD 0 0) (permOf (f.getD 1 0)) (f.getD 2 0) (f.getD 3 0) (f.getD 4 0) (f.getD 5 0) (f.getD 6 0) n) bs := rfl

theorem parseDescriptor_eq (bs : List Nat) : parseDescriptor bs = sized g70v7FileNameOffset [2, 4, 6, 2, 2] (fun f n =>
    .descriptor (f.getD 0 0) (f.getD 1 0) (f.getD 2 0) (permOf (f.getD 3 0)) (f.getD 4 0) n) bs := rfl

theorem parseCommandStatus_eq (bs : List Nat) : parseCommandStatus bs = tail [4, 4, 2, 2, 1] validUtf8 (fun f tx =>
    .commandStatus (f.getD 0 0) (f.getD 1 0) (f.getD 2 0) (f.getD 3 0) (f.getD 4 0) tx) bs := rfl

theorem parseTransport_eq (bs : List Nat) : parseTransport bs = tail [4, 4] (fun _ => true) (fun f d =>
    .transport (f.getD 0 0) (f.getD 1 0) d) bs := rfl

theorem parseTransportStatus_eq (bs : List Nat) : parseTransportStatus bs = tail [4, 4, 1] validUtf8 (fun f tx =>
    .transportStatus (f.getD 0 0) (f.getD 1 0) (f.getD 2 0) tx) bs := rfl

theorem parseSpecString_eq (bs : List Nat) : parseSpecString bs = tail [] validUtf8 (fun _ s => .spec s) bs := rfl

theorem fileU16_eq_rd (bs : List Nat) : fileU16 bs = rd 2 bs := by
  match bs with
  | [] => rfl
  | [a] => rfl
  | a :: b :: r => simp [fileU16, readU16, rd, ofLe]

def vals : List Nat → List Nat → List Nat
  | [], _ => []
  | k :: ks, p => ofLe (p.take k) :: vals ks (p.drop k)

theorem vals_take (ks : List Nat) (bs : List Nat) (n : Nat) (h : ks.sum ≤ n) : vals ks (bs.take n) = vals ks bs := by
  induction ks generalizing bs n with
  | nil => rfl
  | cons k ks ih =>
    simp only [List.sum_cons] at h
    simp only [vals]
    rw [List.take_take, Nat.min_eq_left (by omega), List.drop_take, ih _ _ (by omega)]

theorem rdSeq_eq (ks : List Nat) (bs : List Nat) :
    rdSeq ks bs = match tk ks.sum bs with
      | .error e => .error e
      | .ok (p, r) => .ok (vals ks p, r) := by
  induction ks generalizing bs with
  | nil => simp [rdSeq, tk, vals]
  | cons k ks ih =>
    simp only [rdSeq, rd, List.sum_cons, ih]
    by_cases h1 : k ≤ bs.length
    · by_cases h2 : ks.sum ≤ (bs.drop k).length
      · have h3 : k + ks.sum ≤ bs.length := by simp [List.length_drop] at h2; omega
        simp only [tk, h1, h2, h3, ↓reduceIte, vals, List.drop_drop]
        rw [List.take_take, Nat.min_eq_left (by omega), List.drop_take, vals_take _ _ _ (by omega),
          vals_take _ _ _ (by omega)]
      · have h3 : ¬ (k + ks.sum ≤ bs.length) := by simp [List.length_drop] at h2; omega
        simp only [tk, h1, h2, h3, ↓reduceIte]
    · have h3 : ¬ (k + ks.sum ≤ bs.length) := by omega
      simp [tk, h1, h3]

/-! Both functions are the same chain of reads and checks; each proof below follows the chain, one case split per
   read (`rcases`) and one `rem_if` per check, so the number of cases is linear in the length of the chain. -/

theorem rem_if {c : Prop} [Decidable c] {e : ParseErr} {p : Except ParseErr (FileObj × List Nat)}
    {q : Except ParseErr (List Nat)} (h : ¬ c → p.map (·.2) = q) :
    (if c then .error e else p).map (·.2) = if c then .error e else q := by
  split
  · rfl
  · exact h ‹_›

theorem rem_utf8 {c : Prop} [Decidable c] {e : ParseErr} {o : FileObj} {r : List Nat} :
    (if c then .ok (o, r) else .error e : Except ParseErr (FileObj × List Nat)).map (·.2) =
      if c then .ok r else .error e := by
  split <;> rfl

theorem agree_auth (bs : List Nat) : (parseAuth bs).map (·.2) = fileRead 2 bs := by
  simp only [fileRead, parseAuth, fileU16_eq_rd, fileTake_eq_tk, rd_eq_tk 4, ↓reduceIte]
  rcases rd 2 bs with e | ⟨off, r⟩
  · rfl
  refine rem_if fun _ => ?_
  rcases rd 2 r with e | ⟨unLen, r⟩
  · rfl
  refine rem_if fun _ => ?_
  rcases rd 2 r with e | ⟨pwOff, r⟩
  · rfl
  refine rem_if fun _ => ?_
  rcases rd 2 r with e | ⟨pwLen, r⟩
  · rfl
  dsimp only
  rcases tk 4 r with e | ⟨key, r⟩
  · rfl
  dsimp only
  rcases tk unLen r with e | ⟨un, r⟩
  · rfl
  dsimp only
  rcases tk pwLen r with e | ⟨pw, r⟩
  · rfl
  exact rem_utf8

theorem sized_agree (off : Nat) (ks : List Nat) (mk : List Nat → List Nat → FileObj) (bs : List Nat) :
    (sized off ks mk bs).map (·.2) =
      match fileU16 bs with
      | .error e => .error e
      | .ok (o, r) =>
      if o ≠ off then .error .badEncoding else
      match fileU16 r with
      | .error e => .error e
      | .ok (len, r) =>
      match fileTake ks.sum r with
      | .error e => .error e
      | .ok (_, r) =>
      match fileTake len r with
      | .error e => .error e
      | .ok (s, r) => if validUtf8 s then .ok r else .error .badEncoding := by
  simp only [sized, fileU16_eq_rd, fileTake_eq_tk, rdSeq_eq]
  rcases rd 2 bs with e | ⟨o, r⟩
  · rfl
  refine rem_if fun _ => ?_
  rcases rd 2 r with e | ⟨len, r⟩
  · rfl
  dsimp only
  rcases tk ks.sum r with e | ⟨p, r⟩
  · rfl
  dsimp only
  rcases tk len r with e | ⟨s, r⟩
  · rfl
  exact rem_utf8

theorem tail_agree (ks : List Nat) (chk : List Nat → Bool) (mk : List Nat → List Nat → FileObj) (bs : List Nat) :
    (tail ks chk mk bs).map (·.2) =
      match fileTake ks.sum bs with
      | .error e => .error e
      | .ok (_, r) => if chk r then .ok [] else .error .badEncoding := by
  simp only [tail, fileTake_eq_tk, rdSeq_eq]
  rcases tk ks.sum bs with e | ⟨p, r⟩
  · rfl
  exact rem_utf8

theorem rd_inv {k : Nat} {bs r : List Nat} {n : Nat} (hb : allOctets bs) (h : rd k bs = .ok (n, r)) :
    bs = leBytes k n ++ r ∧ n < 256 ^ k ∧ allOctets r := by
  rw [rd_eq_tk] at h
  split at h; · cases h
  rename_i p r' hp
  cases h
  obtain ⟨rfl, rfl⟩ := tk_iff.1 hp
  obtain ⟨hp, hr⟩ := bytesOk_append.1 hb
  exact ⟨by rw [leBytes_ofLe p hp], ofLe_lt p hp, hr⟩

def encSeq : List Nat → List Nat → List Nat
  | k :: ks, x :: xs => leBytes k x ++ encSeq ks xs
  | _, _ => []

def boundsOk : List Nat → List Nat → Prop
  | k :: ks, x :: xs => x < 256 ^ k ∧ boundsOk ks xs
  | _, _ => True

theorem rdSeq_inv {ks : List Nat} {bs f r : List Nat} (hb : allOctets bs) (h : rdSeq ks bs = .ok (f, r)) :
    f.length = ks.length ∧ bs = encSeq ks f ++ r ∧ boundsOk ks f ∧ allOctets r := by
  induction ks generalizing bs f with
  | nil =>
    simp only [rdSeq] at h
    injection h with h; injection h with h1 h2
    subst h1; subst h2
    exact ⟨rfl, rfl, trivial, hb⟩
  | cons k ks ih =>
    simp only [rdSeq] at h
    split at h
    · cases h
    · rename_i x r1 hx
      split at h
      · cases h
      · rename_i xs r2 hxs
        injection h with h; injection h with h1 h2
        subst h1; subst h2
        obtain ⟨e1, b1, o1⟩ := rd_inv hb hx
        obtain ⟨l2, e2, b2, o2⟩ := ih o1 hxs
        refine ⟨by simp [l2], ?_, ⟨b1, b2⟩, o2⟩
        simp only [encSeq, List.append_assoc]
        rw [← e2]; exact e1

theorem len2 {f : List Nat} (h : f.length = 2) : ∃ a b, f = [a, b] := by
  rcases f with _ | ⟨a, _ | ⟨b, _ | ⟨c, t⟩⟩⟩ <;> simp at h
  exact ⟨a, b, rfl⟩

theorem len3 {f : List Nat} (h : f.length = 3) : ∃ a b c, f = [a, b, c] := by
  rcases f with _ | ⟨a, _ | ⟨b, _ | ⟨c, _ | ⟨d, t⟩⟩⟩⟩ <;> simp at h
  exact ⟨a, b, c, rfl⟩

theorem len5 {f : List Nat} (h : f.length = 5) : ∃ a b c d e, f = [a, b, c, d, e] := by
  rcases f with _ | ⟨a, _ | ⟨b, _ | ⟨c, _ | ⟨d, _ | ⟨e, _ | ⟨x, t⟩⟩⟩⟩⟩⟩ <;> simp at h
  exact ⟨a, b, c, d, e, rfl⟩

theorem len7 {f : List Nat} (h : f.length = 7) : ∃ a b c d e g i, f = [a, b, c, d, e, g, i] := by
  rcases f with _ | ⟨a, _ | ⟨b, _ | ⟨c, _ | ⟨d, _ | ⟨e, _ | ⟨g, _ | ⟨i, _ | ⟨x, t⟩⟩⟩⟩⟩⟩⟩⟩ <;> simp at h
  exact ⟨a, b, c, d, e, g, i, rfl⟩

theorem permOf_lt (raw : Nat) : permOf raw < 512 := by unfold permOf; omega

/-- the octets are exactly the encoding of the object, with `raw` in the 16-bit permission field, followed by `rest` -/
def ExactObj (v : Nat) (bs rest : List Nat) (o : FileObj) : Prop :=
  o.variation = v ∧ o.WF ∧ o.Encodable ∧ ∃ raw, raw < 65536 ∧ o.withPerm (permOf raw) = o ∧ bs = encodeRaw raw o ++ rest

theorem sized_ok {off : Nat} {ks : List Nat} {mk : List Nat → List Nat → FileObj} {bs rest : List Nat} {o : FileObj}
    (hb : allOctets bs) (h : sized off ks mk bs = .ok (o, rest)) :
    ∃ f s, f.length = ks.length ∧ boundsOk ks f ∧ s.length < 256 ^ 2 ∧ isStr s ∧
      bs = File70.le16 off ++ (File70.le16 s.length ++ (encSeq ks f ++ (s ++ rest))) ∧ o = mk f s := by
  unfold sized at h
  split at h; · cases h
  rename_i x r1 h1
  split at h; · cases h
  rename_i hoff
  split at h; · cases h
  rename_i len r2 h2
  split at h; · cases h
  rename_i f r3 h3
  split at h; · cases h
  rename_i s r4 h4
  split at h
  · rename_i hu
    cases h
    obtain rfl := Decidable.of_not_not hoff
    obtain ⟨e1, _, o1⟩ := rd_inv hb h1
    obtain ⟨e2, b2, o2⟩ := rd_inv o1 h2
    obtain ⟨l3, e3, b3, o3⟩ := rdSeq_inv o2 h3
    obtain ⟨e4, rfl⟩ := tk_iff.1 h4
    exact ⟨f, s, l3, b3, b2, ⟨(bytesOk_append.1 (e4 ▸ o3)).1, hu⟩, by rw [e1, e2, e3, e4]; rfl, rfl⟩
  · cases h

theorem tail_ok {ks : List Nat} {chk : List Nat → Bool} {mk : List Nat → List Nat → FileObj} {bs rest : List Nat}
    {o : FileObj} (hb : allOctets bs) (h : tail ks chk mk bs = .ok (o, rest)) :
    ∃ f s, f.length = ks.length ∧ boundsOk ks f ∧ allOctets s ∧ chk s = true ∧ bs = encSeq ks f ++ s ∧ o = mk f s ∧
      rest = [] := by
  unfold tail at h
  split at h; · cases h
  rename_i f s h1
  split at h
  · cases h
    obtain ⟨l1, e1, b1, o1⟩ := rdSeq_inv hb h1
    exact ⟨f, s, l1, b1, o1, ‹_›, e1, rfl, rfl⟩
  · cases h

theorem exact_command {bs rest : List Nat} {o : FileObj} (hb : allOctets bs) (h : parseCommand bs = .ok (o, rest)) :
    ExactObj 3 bs rest o := by
  obtain ⟨f, n, hl, hf, hn, hs, rfl, rfl⟩ := sized_ok hb (parseCommand_eq bs ▸ h)
  obtain ⟨t, pm, k, sz, m, mb, rq, rfl⟩ := len7 hl
  obtain ⟨bt, bpm, bk, bsz, bm, bmb, brq, _⟩ := hf
  simp only [List.getD_cons_zero, List.getD_cons_succ]
  exact ⟨rfl, ⟨by omega, permOf_lt pm, by omega, by omega, by omega, by omega, by omega, hs⟩,
    (encodable_iff _).2 (by omega), pm, by omega, rfl, by simp [encodeRaw, File70.le16, encSeq]⟩

theorem exact_descriptor {bs rest : List Nat} {o : FileObj} (hb : allOctets bs) (h : parseDescriptor bs = .ok (o, rest)) :
    ExactObj 7 bs rest o := by
  obtain ⟨f, n, hl, hf, hn, hs, rfl, rfl⟩ := sized_ok hb (parseDescriptor_eq bs ▸ h)
  obtain ⟨ft, sz, t, pm, rq, rfl⟩ := len5 hl
  obtain ⟨bft, bsz, bt, bpm, brq, _⟩ := hf
  simp only [List.getD_cons_zero, List.getD_cons_succ]
  exact ⟨rfl, ⟨by omega, by omega, by omega, permOf_lt pm, by omega, hs⟩,
    (encodable_iff _).2 (by omega), pm, by omega, rfl, by simp [encodeRaw, File70.le16, encSeq]⟩

theorem exact_auth {bs rest : List Nat} {o : FileObj} (hb : allOctets bs) (h : parseAuth bs = .ok (o, rest)) :
    ExactObj 2 bs rest o := by
  unfold parseAuth at h
  split at h; · cases h
  rename_i off r1 h1
  split at h; · cases h
  rename_i hoff
  split at h; · cases h
  rename_i unLen r2 h2
  split at h; · cases h
  rename_i hsum
  split at h; · cases h
  rename_i pwOff r3 h3
  split at h; · cases h
  rename_i hpw
  split at h; · cases h
  rename_i pwLen r4 h4
  split at h; · cases h
  rename_i key r5 h5
  split at h; · cases h
  rename_i un r6 h6
  split at h; · cases h
  rename_i pw r7 h7
  split at h
  · rename_i hutf
    injection h with h; injection h with ho hr; subst ho; subst hr
    obtain ⟨e1, b1, o1⟩ := rd_inv hb h1
    obtain ⟨e2, b2, o2⟩ := rd_inv o1 h2
    obtain ⟨e3, b3, o3⟩ := rd_inv o2 h3
    obtain ⟨e4, b4, o4⟩ := rd_inv o3 h4
    obtain ⟨e5, b5, o5⟩ := rd_inv o4 h5
    obtain ⟨e6, l6⟩ := tk_iff.1 h6
    obtain ⟨e7, l7⟩ := tk_iff.1 h7
    have hoff' : off = g70v2UserNameOffset := by simpa using hoff
    have hpw' : pwOff = g70v2UserNameOffset + unLen := by simpa using hpw
    have hun : allOctets un := by rw [e6] at o5; exact (bytesOk_append.1 o5).1
    have hpwo : allOctets pw := by rw [e6, e7] at o5; exact (bytesOk_append.1 (bytesOk_append.1 o5).2).1
    simp only [Bool.and_eq_true] at hutf
    refine ⟨rfl, ⟨by omega, ⟨hun, hutf.1⟩, ⟨hpwo, hutf.2⟩⟩, (encodable_iff _).mpr ⟨by omega, by omega⟩, 0, by omega, rfl, ?_⟩
    · rw [e1, e2, e3, e4, e5, e6, e7, hoff', hpw', ← l6, ← l7]
      simp [encodeRaw, encode, FileObj.fields, Fld.image, Kind.width, List.append_assoc]
  · cases h

theorem exact_commandStatus {bs rest : List Nat} {o : FileObj} (hb : allOctets bs) (h : parseCommandStatus bs = .ok (o, rest)) :
    ExactObj 4 bs rest o ∧ rest = [] := by
  obtain ⟨f, tx, hl, hf, ho, hu, rfl, rfl, rfl⟩ := tail_ok hb (parseCommandStatus_eq bs ▸ h)
  obtain ⟨hd, sz, mb, rq, st, rfl⟩ := len5 hl
  obtain ⟨bh, bsz, bmb, brq, bst, _⟩ := hf
  simp only [List.getD_cons_zero, List.getD_cons_succ]
  exact ⟨⟨rfl, ⟨by omega, by omega, by omega, by omega, by omega, ho, hu⟩, (encodable_iff _).2 trivial, 0, by omega, rfl,
    by simp [encodeRaw, encode, FileObj.fields, Fld.image, Kind.width, encSeq]⟩, trivial⟩

theorem exact_transport {bs rest : List Nat} {o : FileObj} (hb : allOctets bs) (h : parseTransport bs = .ok (o, rest)) :
    ExactObj 5 bs rest o ∧ rest = [] := by
  obtain ⟨f, d, hl, hf, ho, _, rfl, rfl, rfl⟩ := tail_ok hb (parseTransport_eq bs ▸ h)
  obtain ⟨hd, b, rfl⟩ := len2 hl
  obtain ⟨bh, bb, _⟩ := hf
  simp only [List.getD_cons_zero, List.getD_cons_succ]
  exact ⟨⟨rfl, ⟨by omega, by omega, ho⟩, (encodable_iff _).2 trivial, 0, by omega, rfl,
    by simp [encodeRaw, encode, FileObj.fields, Fld.image, Kind.width, encSeq]⟩, trivial⟩

theorem exact_transportStatus {bs rest : List Nat} {o : FileObj} (hb : allOctets bs) (h : parseTransportStatus bs = .ok (o, rest)) :
    ExactObj 6 bs rest o ∧ rest = [] := by
  obtain ⟨f, tx, hl, hf, ho, hu, rfl, rfl, rfl⟩ := tail_ok hb (parseTransportStatus_eq bs ▸ h)
  obtain ⟨hd, b, st, rfl⟩ := len3 hl
  obtain ⟨bh, bb, bst, _⟩ := hf
  simp only [List.getD_cons_zero, List.getD_cons_succ]
  exact ⟨⟨rfl, ⟨by omega, by omega, by omega, ho, hu⟩, (encodable_iff _).2 trivial, 0, by omega, rfl,
    by simp [encodeRaw, encode, FileObj.fields, Fld.image, Kind.width, encSeq]⟩, trivial⟩

theorem exact_spec {bs rest : List Nat} {o : FileObj} (hb : allOctets bs) (h : parseSpecString bs = .ok (o, rest)) :
    ExactObj 8 bs rest o ∧ rest = [] := by
  obtain ⟨f, s, hl, _, ho, hu, rfl, rfl, rfl⟩ := tail_ok hb (parseSpecString_eq bs ▸ h)
  obtain rfl := List.eq_nil_of_length_eq_zero hl
  exact ⟨⟨rfl, ⟨ho, hu⟩, (encodable_iff _).2 trivial, 0, by omega, rfl, by simp [encodeRaw, encode, FileObj.fields, Fld.image]⟩, rfl⟩

/-- `Props.C09.file_parse_accepts_only_exact`, variation by variation (`exact_auth` … `exact_spec`) -/
theorem file_parse_accepts_only_exact (v : Nat) (bs rest : List Nat) (o : FileObj) (hb : allOctets bs)
    (h : parseObj v bs = .ok (o, rest)) :
    ExactObj v bs rest o ∧ ((v = 4 ∨ v = 5 ∨ v = 6 ∨ v = 8) → rest = []) := by
  by_cases h2 : v = 2
  · subst h2; exact ⟨exact_auth hb h, nofun⟩
  by_cases h3 : v = 3
  · subst h3; exact ⟨exact_command hb h, nofun⟩
  by_cases h4 : v = 4
  · subst h4; exact ⟨(exact_commandStatus hb h).1, fun _ => (exact_commandStatus hb h).2⟩
  by_cases h5 : v = 5
  · subst h5; exact ⟨(exact_transport hb h).1, fun _ => (exact_transport hb h).2⟩
  by_cases h6 : v = 6
  · subst h6; exact ⟨(exact_transportStatus hb h).1, fun _ => (exact_transportStatus hb h).2⟩
  by_cases h7 : v = 7
  · subst h7; exact ⟨exact_descriptor hb h, nofun⟩
  by_cases h8 : v = 8
  · subst h8; exact ⟨(exact_spec hb h).1, fun _ => (exact_spec hb h).2⟩
  simp only [parseObj, h2, h3, h4, h5, h6, h7, h8, ↓reduceIte] at h
  cases h

theorem writeFields_ok_iff (room : Nat) (fs : List Fld) (bs : List Nat) :
    writeFields room fs = .ok bs ↔ (∀ f ∈ fs, f.pre = true) ∧ bs = fs.flatMap Fld.image ∧ bs.length ≤ room := by
  induction fs generalizing room bs with
  | nil =>
    simp only [writeFields, List.not_mem_nil, false_imp_iff, implies_true, List.flatMap_nil, true_and]
    constructor
    · intro h; injection h with h; subst h; simp
    · rintro ⟨rfl, _⟩; rfl
  | cons f fs ih =>
    simp only [writeFields, List.mem_cons, forall_eq_or_imp, List.flatMap_cons]
    by_cases hp : f.pre = false
    · simp [hp]
    · have hp' : f.pre = true := by cases h : f.pre <;> simp_all
      simp only [hp', Bool.true_eq_false, ↓reduceIte, true_and]
      by_cases hr : room < f.image.length
      · simp only [hr, ↓reduceIte]
        constructor
        · intro h; cases h
        · rintro ⟨_, rfl, hl⟩; simp only [List.length_append] at hl; omega
      · simp only [hr, ↓reduceIte]
        cases hw : writeFields (room - f.image.length) fs with
        | error e =>
          simp only []
          constructor
          · intro h; cases h
          · rintro ⟨hall, rfl, hl⟩
            have := (ih (room - f.image.length) (fs.flatMap Fld.image)).mpr ⟨hall, rfl, by simp only [List.length_append] at hl; omega⟩
            rw [hw] at this; cases this
        | ok r =>
          simp only []
          obtain ⟨hall, hr2, hl⟩ := (ih _ _).mp hw
          constructor
          · intro h; injection h with h; subst h
            exact ⟨hall, by rw [hr2], by simp only [List.length_append]; omega⟩
          · rintro ⟨_, rfl, _⟩; rw [hr2]

theorem writeFreeFormat_ok_iff (room : Nat) (o : FileObj) (img : List Nat) :
    writeFreeFormat room o = .ok img ↔
      o.Encodable ∧ (encode o).length ≤ 65535 ∧ 6 + (encode o).length ≤ room ∧
      img = freeHeader o.variation (encode o).length ++ encode o := by
  unfold writeFreeFormat
  by_cases h6 : room < 6
  · simp only [h6, ↓reduceIte]
    constructor
    · intro h; cases h
    · rintro ⟨_, _, h, _⟩; omega
  · simp only [h6, ↓reduceIte]
    cases hw : writeFields (room - 6) o.fields with
    | error e =>
      simp only []
      constructor
      · intro h; cases h
      · rintro ⟨he, _, hl, _⟩
        have := (writeFields_ok_iff (room - 6) o.fields (encode o)).mpr ⟨he, rfl, by omega⟩
        rw [hw] at this; cases this
    | ok body =>
      simp only []
      obtain ⟨he, hb, hl⟩ := (writeFields_ok_iff _ _ _).mp hw
      have hb' : body = encode o := hb
      subst hb'
      by_cases h5 : 65535 < (encode o).length
      · simp only [h5, ↓reduceIte]
        constructor
        · intro h; cases h
        · rintro ⟨_, h, _⟩; omega
      · simp only [h5, ↓reduceIte]
        constructor
        · intro h; injection h with h; exact ⟨he, by omega, by omega, h.symm⟩
        · rintro ⟨_, _, _, rfl⟩; rfl

theorem buildRequest_ok_iff (cap ctrl fn : Nat) (o : FileObj) (frag : List Nat) :
    buildRequest cap ctrl fn o = .ok frag ↔
      o.Encodable ∧ (encode o).length ≤ 65535 ∧ 8 + (encode o).length ≤ cap ∧
      frag = [ctrl, fn] ++ freeHeader o.variation (encode o).length ++ encode o := by
  unfold buildRequest
  by_cases h2 : cap < 2
  · simp only [h2, ↓reduceIte]
    constructor
    · intro h; cases h
    · rintro ⟨_, _, h, _⟩; omega
  · simp only [h2, ↓reduceIte]
    cases hw : writeFreeFormat (cap - 2) o with
    | error e =>
      simp only []
      constructor
      · intro h; cases h
      · rintro ⟨he, h5, hl, _⟩
        have := (writeFreeFormat_ok_iff (cap - 2) o _).mpr ⟨he, h5, by omega, rfl⟩
        rw [hw] at this; cases this
    | ok img =>
      simp only []
      obtain ⟨he, h5, hl, hi⟩ := (writeFreeFormat_ok_iff _ _ _).mp hw
      subst hi
      constructor
      · intro h; injection h with h; exact ⟨he, h5, by omega, by rw [← h]; simp⟩
      · rintro ⟨_, _, _, rfl⟩; simp

theorem readU16_le16 (n : Nat) (h : n ≤ 65535) (r : List Nat) : readU16 (File70.le16 n ++ r) = some (n, r) := by
  simp only [File70.le16, leBytes, List.cons_append, List.nil_append, readU16]
  congr 2; omega

theorem lookup70 : ∀ v ∈ [2, 3, 4, 5, 6, 7, 8],
    lookup 70 v = some (.fixed 70 v) ∧ tableGet Dnp3.Gen.freeFormat (.fixed 70 v) = some (.file v) := by decide

theorem variation_mem (o : FileObj) : o.variation ∈ [2, 3, 4, 5, 6, 7, 8] := by cases o <;> simp [FileObj.variation]

def freeRec (o : FileObj) : HeaderRec := ⟨.fixed 70 o.variation, .free 1 (encode o).length, .file o.variation, encode o⟩

theorem freeRec_image (o : FileObj) (hl : (encode o).length ≤ 65535) :
    (freeRec o).image = freeHeader o.variation (encode o).length ++ encode o := by
  have h : (encode o).length / 256 % 256 = (encode o).length / 256 := by omega
  simp [freeRec, HeaderRec.image, Variation.group, Variation.var, Spec.qualifier, Spec.bytes, freeHeader, App.le16, File70.le16, leBytes, h]

theorem freeHeader_length (v len : Nat) : (freeHeader v len).length = 6 := by
  simp [freeHeader, File70.le16, leBytes_length]

theorem encode_descriptor_length (ft sz t pm rq : Nat) (n : List Nat) :
    (encode (.descriptor ft sz t pm rq n)).length = 20 + n.length := by
  simp only [encode, FileObj.fields, List.flatMap_cons, List.flatMap_nil, Fld.image, Kind.width, List.length_append, leBytes_length, List.length_nil]
  omega

/-- fuel: each descriptor is at least 20 octets long, so the length of the listing is enough -/
theorem parseDirFuel_roundtrip (objs : List FileObj) (fuel : Nat) (hf : (objs.flatMap encode).length ≤ fuel)
    (h : ∀ o ∈ objs, o.variation = 7 ∧ o.WF ∧ o.Encodable) : parseDirFuel fuel (objs.flatMap encode) = some objs := by
  induction objs generalizing fuel with
  | nil => cases fuel <;> simp [parseDirFuel]
  | cons o os ih =>
    obtain ⟨hv, hwf, he⟩ := h o List.mem_cons_self
    cases o with
    | descriptor ft sz t pm rq n =>
      have hlen := encode_descriptor_length ft sz t pm rq n
      simp only [List.flatMap_cons, List.length_append, hlen] at hf
      cases fuel with
      | zero => omega
      | succ f =>
        have hne : (encode (.descriptor ft sz t pm rq n) ++ os.flatMap encode).isEmpty = false := by
          cases hx : encode (.descriptor ft sz t pm rq n) with
          | nil => rw [hx] at hlen; simp at hlen; omega
          | cons _ _ => rfl
        simp only [List.flatMap_cons, parseDirFuel, hne, Bool.false_eq_true, ↓reduceIte,
          roundtrip_descriptor ft sz t pm rq n _ hwf he]
        rw [ih f (by omega) (fun o ho => h o (List.mem_cons_of_mem _ ho))]
        rfl
    | _ => simp [FileObj.variation] at hv

theorem isStr_nil : isStr [] := ⟨(fun _ h => nomatch h), rfl⟩

def RStateWF : RState → Prop
  | .getAuth u p => isStr u ∧ isStr p
  | .openFile key => key < 2 ^ 32
  | .read h b _ => h < 2 ^ 32 ∧ b < 2 ^ 32
  | .close h => h < 2 ^ 32

/-- the task holds values of its Rust types -/
def RTaskWF (t : RTask) : Prop := isStr t.name ∧ t.maxBlock < 2 ^ 16 ∧ RStateWF t.state

theorem requestId_lt : requestId < 2 ^ 16 := by decide

theorem rtask_request_wf (t : RTask) (h : RTaskWF t) : t.request.2.WF := by
  obtain ⟨hn, hmb, hs⟩ := h
  have hr := requestId_lt
  unfold RTask.request
  cases hst : t.state with
  | getAuth u p => rw [hst] at hs; exact ⟨by omega, hs.1, hs.2⟩
  | openFile key => rw [hst] at hs; exact ⟨by omega, by omega, hs, by omega, by omega, hmb, hr, hn⟩
  | read hd b tot => rw [hst] at hs; exact ⟨hs.1, hs.2, (fun _ h => nomatch h)⟩
  | close hd => rw [hst] at hs; exact ⟨hs, by omega, by omega, hr, by omega, isStr_nil⟩

theorem walk_one_inv {bs : List Nat} {r : HeaderRec} (h : walk false false bs = .ok [r]) :
    ∃ rest, parseOne false false bs = .ok (r, rest) := by
  rw [walk] at h
  split at h
  · cases h
  · split at h
    · cases h
    · rename_i r' rest hp
      split at h
      · cases h
      · injection h with h; injection h with h1 h2; subst h1; exact ⟨rest, hp⟩

theorem payload_octets {bs rest : List Nat} {r : HeaderRec} (himg : bs = r.image ++ rest) (hb : bytesOk bs) :
    allOctets r.payload := by
  intro b hb'
  apply hb b
  rw [himg]
  simp only [HeaderRec.image, List.mem_append]
  exact Or.inl (Or.inr hb')

theorem response_object_wf {objs : List Nat} {r : HeaderRec} {v : Nat} {o : FileObj} {rest : List Nat}
    (hb : allOctets objs) (hw : walk false false objs = .ok [r]) (hp : parseObj v r.payload = .ok (o, rest)) : o.WF := by
  obtain ⟨rest', hp1⟩ := walk_one_inv hw
  -- `File70.allOctets` and the `bytesOk` of the object walk unfold to the same statement
  have hb : bytesOk objs := hb
  exact (file_parse_accepts_only_exact v _ _ o (payload_octets (parseOne_exact hp1 hb).1 hb) hp).1.2.1

theorem blockTop_eq : blockTop = 2 ^ 31 := by decide

/-- the task after a list of responses (it ends when a response ends it); what
    `Props.C09.read_task_requests_wf` quantifies over -/
def runResponses : RTask → List (List Nat) → Option RTask
  | t, [] => some t
  | t, objs :: rest =>
    match (t.handle objs).1 with
    | none => none
    | some t' => runResponses t' rest

end Dnp3.Proofs.C09File70
