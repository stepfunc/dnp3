import Dnp3.Model.TimeSync
import Dnp3.Model.Outstation
import Dnp3.Model.MasterSession
import Dnp3.Proofs.Master
/-!
# C18 — helper lemmas linking the master / outstation session models with `TimeSync`
-/
namespace Dnp3.Proofs.C18Link
open Dnp3 Dnp3.TimeSync

def syncOutcome : SyncError → Master.Outcome
  | .badOutstationDelay d => .tsBadDelay d
  | .overflow => .tsOverflow
  | .stillNeedsTime => .tsStillNeedsTime
  | .unexpectedObjects => .task .unexpectedHeaders
  | .noSystemTime => .tsNoSystemTime

/-- `TimeSyncTask` success bookkeeping: the promise completes with `Ok`, the automatic task becomes idle -/
def tsSuccess (a : Master.Acc) (dest : Nat) (uid : Option Nat) : Master.Acc :=
  match uid with
  | none => Master.modAssoc a dest (·.doneAuto .timeSync)
  | some u => Master.complete a u .ok

theorem tsReportError_outs (a : Master.Acc) (dest : Nat) (uid : Option Nat) (o : Master.Outcome) :
    (Master.tsReportError a dest uid o).2 =
      a.2 ++ (match uid with | none => [] | some u => [Master.MOut.complete u o]) := by
  cases uid <;> simp [Master.tsReportError, Master.modAssoc, Master.complete, Master.emit]

theorem tsSuccess_outs (a : Master.Acc) (dest : Nat) (uid : Option Nat) :
    (tsSuccess a dest uid).2 =
      a.2 ++ (match uid with | none => [] | some u => [Master.MOut.complete u .ok]) := by
  cases uid <;> simp [tsSuccess, Master.modAssoc, Master.complete, Master.emit]

theorem tsAdd_eq (c p : Nat) (hc : c ≤ maxTs) :
    tsAdd c p = if c + p > 281474976710655 then none else some (c + p) := by
  unfold tsAdd maxTs at *
  by_cases h : p > 281474976710655 - c
  · have : c + p > 281474976710655 := by omega
    simp [h, this]
  · have : ¬ c + p > 281474976710655 := by omega
    simp [h, this]

/-- WRITE of one g50v3 object after RECORD_CURRENT_TIME at `t0` (`handle_write_at_last_recorded_time`) -/
theorem handleWriteHeader_lastRecorded (a : Dnp3.Acc) (h : ObjHdr) (t0 : Nat)
    (hg : h.group = 50) (hv : h.var = 3) (hq : h.qual = 0x07) (hc : h.a = 1) (hr : a.1.lastRecorded = some t0) :
    handleWriteHeader a h =
      if u48le h.data + (a.1.now - t0) > 281474976710655 then (a, iin2ParamError)
      else (emitCb ({ a.1 with lastRecorded := none }, a.2) (.writeTime (u48le h.data + (a.1.now - t0))),
            timeResultIin a.1) := by
  unfold handleWriteHeader
  simp [hg, hv, hq, hc, hr]

open Dnp3.Master (MOut Outcome Who ReadType validateNonRead badIin2 notifyLinkActivity modAssoc MState.getAssoc)

def completions (outs : List MOut) : List (Nat × Outcome) :=
  outs.filterMap fun o => match o with | .complete u oc => some (u, oc) | _ => none

theorem completions_append (x y : List MOut) : completions (x ++ y) = completions x ++ completions y := by
  simp [completions, List.filterMap_append]

def Frame (a b : Master.Acc) : Prop :=
  b.1 = { a.1 with assocs := b.1.assocs } ∧ completions b.2 = completions a.2

theorem Frame.refl (a : Master.Acc) : Frame a a := ⟨rfl, rfl⟩

theorem Frame.trans {a b c : Master.Acc} (h1 : Frame a b) (h2 : Frame b c) : Frame a c := by
  refine ⟨?_, h2.2.trans h1.2⟩
  rw [h2.1, h1.1]

theorem frame_modAssoc (a : Master.Acc) (addr : Nat) (f : Master.Assoc → Master.Assoc) :
    Frame a (Master.modAssoc a addr f) := ⟨rfl, rfl⟩

theorem frame_emit (a : Master.Acc) (o : MOut) (h : completions [o] = []) : Frame a (Master.emit a o) := by
  refine ⟨rfl, ?_⟩
  unfold Master.emit
  rw [completions_append, h, List.append_nil]

theorem Frame.ite {a x y : Master.Acc} {c : Prop} [Decidable c] (hx : Frame a x) (hy : Frame a y) :
    Frame a (if c then x else y) := by
  split <;> assumption

theorem Frame.ite_step {a b : Master.Acc} {c : Prop} [Decidable c] {f : Master.Acc → Master.Acc}
    (hf : ∀ y, Frame y (f y)) (h : Frame a b) : Frame a (if c then f b else b) :=
  .ite (h.trans (hf b)) h

theorem frame_deliverHeader (a : Master.Acc) (who : Who) (h : ObjHdr) : Frame a (Master.deliverHeader a who h) :=
  .ite (.ite (frame_emit _ _ rfl) (.refl _))
    (.ite (frame_emit _ _ rfl) (.ite (frame_emit _ _ rfl) (.refl _)))

theorem frame_foldl_deliverHeader (who : Who) (hs : List ObjHdr) (a : Master.Acc) :
    Frame a (hs.foldl (fun a h => Master.deliverHeader a who h) a) := by
  induction hs generalizing a with
  | nil => exact Frame.refl _
  | cons h t ih => exact (frame_deliverHeader a who h).trans (ih _)

theorem frame_deliver (a : Master.Acc) (who : Who) (rt : ReadType) (r : Master.Resp) (hs : List ObjHdr) :
    Frame a (Master.deliver a who rt r hs) :=
  ((frame_emit a _ rfl).trans (frame_foldl_deliverHeader who hs _)).trans (frame_emit _ _ rfl)

theorem doUnsolicited_frame (a : Master.Acc) (src : Nat) (r : Master.Resp) :
    Frame a (Master.doUnsolicited a src r) := by
  unfold Master.doUnsolicited
  split
  · exact Frame.refl _
  · dsimp only
    have h1 := frame_modAssoc a src (·.processIin r.iin1 r.iin2)
    split
    · exact h1
    · rename_i x _
      generalize Master.handleUnsolicited x.isIntegrityComplete x.lastUnsol r = d
      have h2 := Frame.ite_step (c := d.valid = true)
        (f := (modAssoc · src fun y => { y with lastUnsol := some r.key })) (fun y => frame_modAssoc y _ _) h1
      refine Frame.ite_step (f := (Master.emit · _)) (fun y => frame_emit y _ rfl) ?_
      refine .ite h2 (.ite (h2.trans (frame_emit _ _ rfl)) (Frame.trans ?_ (frame_emit _ _ rfl)))
      split
      · exact h2.trans (frame_deliver _ _ _ _ _)
      · exact h2

theorem validateNonRead_accept_iff (dest seq src : Nat) (r : Master.Resp) :
    validateNonRead dest seq src r = .accept ↔
      (r.unsol = false ∧ src = dest ∧ r.ctrl.seq = seq ∧ r.ctrl.fir = true ∧ r.ctrl.fin = true ∧
       badIin2 r.iin2 = false) :=
  Proofs.Master.validateNonRead_accept_iff dest seq src r


open Dnp3.Master (handleResponse onFragment parseResponse runSingle) in
/-- the response reaches `handleResponse` after `processIin` (and after the CONFIRM it may have
    asked for: `fix:` 506db51) -/
theorem onFragment_accept (a : Master.Acc) (src dest : Nat) (frag : List Nat) (t : Master.NonReadTask)
    (seq fc0 dl : Nat) (r : Master.Resp)
    (hm : a.1.mode = .waitNonRead dest t seq fc0 dl) (hp : parseResponse frag = some r)
    (hv : validateNonRead dest seq src r = .accept) (hassoc : (a.1.getAssoc dest).isSome) :
    onFragment a src frag =
      (match handleResponse (modAssoc
          (if r.ctrl.con = true then Master.emit (notifyLinkActivity a src) (.tx dest [0xC0 + seq, 0])
           else notifyLinkActivity a src) dest (·.processIin r.iin1 r.iin2)) dest t r with
       | (a2, .error e) => .appDone a2 dest t.taskType fc0 (.error e)
       | (a2, .ok none) => .appDone a2 dest t.taskType fc0 (.ok seq)
       | (a2, .ok (some next)) => runSingle a2 dest next t.taskType fc0) := by
  have h1 := Proofs.Master.notify_getAssoc a src dest
  rw [hassoc] at h1
  have h2 : ((if r.ctrl.con = true then Master.emit (notifyLinkActivity a src) (.tx dest [0xC0 + seq, 0])
           else notifyLinkActivity a src).1.getAssoc dest).isSome = true := by
    split <;> exact h1
  unfold Master.onFragment
  simp only [hm, hp, hv]
  generalize (if r.ctrl.con = true then Master.emit (notifyLinkActivity a src) (.tx dest [0xC0 + seq, 0])
           else notifyLinkActivity a src) = a1 at h2 ⊢
  cases hg : a1.1.getAssoc dest with
  | none => rw [hg] at h2; simp at h2
  | some x =>
    simp only
    generalize handleResponse _ dest t r = res
    obtain ⟨a2, e⟩ := res
    cases e with
    | error e => rfl
    | ok o => cases o <;> rfl

theorem ite_cases {α : Type} {P : α → Prop} {c : Prop} [Decidable c] {x y : α} (hx : P x) (hy : P y) :
    P (if c then x else y) := by
  split <;> assumption

open Dnp3.Master (handleResponse tsReportError singleCountHeader) in
theorem handleResponse_measureDelay (a : Master.Acc) (dest : Nat) (uid : Option Nat) (t0 : Option Nat)
    (r : Master.Resp) (h : ObjHdr) (hs : singleCountHeader r = some h)
    (hg : h.group = 52) (hv : h.var = 2) (hc : h.a = 1) :
    handleResponse a dest (.timeSync uid (.measureDelay t0)) r =
      if a.1.now - t0.getD a.1.now < Master.u16le h.data then
        (tsReportError a dest uid (.tsBadDelay (Master.u16le h.data)), .error .unexpectedHeaders)
      else match a.1.clock with
        | none => (tsReportError a dest uid .tsNoSystemTime, .error .unexpectedHeaders)
        | some c =>
          if c + (a.1.now - t0.getD a.1.now - Master.u16le h.data) / 2 > 281474976710655 then
            (tsReportError a dest uid .tsOverflow, .error .unexpectedHeaders)
          else (a, .ok (some (.timeSync uid
            (.writeAbs (some (c + (a.1.now - t0.getD a.1.now - Master.u16le h.data) / 2)))))) := by
  unfold Master.handleResponse
  simp only [hs, hg, hv, hc, and_self, decide_true, Bool.not_true, Bool.false_eq_true, if_false]
  cases a.1.clock <;> rfl

open Dnp3.Master (handleResponse tsReportError TsState) in
theorem handleResponse_write (a : Master.Acc) (dest : Nat) (uid : Option Nat) (st : TsState) (r : Master.Resp)
    (hst : (∃ x, st = .writeAbs x) ∨ (∃ t, st = .writeLast t)) :
    handleResponse a dest (.timeSync uid st) r =
      if !r.raw.isEmpty then (tsReportError a dest uid (.task .unexpectedHeaders), .error .unexpectedHeaders)
      else if r.iin1 &&& 0x10 ≠ 0 then (tsReportError a dest uid .tsStillNeedsTime, .error .unexpectedHeaders)
      else (tsSuccess a dest uid, .ok none) := by
  rcases hst with ⟨x, rfl⟩ | ⟨t, rfl⟩ <;> rfl

theorem u16_wire_mod (d : Nat) : Master.u16le [d % 256, d / 256 % 256] = d % 65536 := by
  simp only [Master.u16le, List.getD_cons_zero, List.getD_cons_succ]
  exact (@Nat.mod_mul 256 256 d).symm

open Dnp3.Master (handleResponse singleCountHeader tsReportError) in
theorem hr_measure_ok (a : Master.Acc) (dest : Nat) (uid : Option Nat) (t0 r c : Nat) (R : Master.Resp)
    (hs : singleCountHeader R = some ⟨52, 2, 7, 1, 0, [r % 256, r / 256 % 256]⟩) (hr : r < 65536)
    (hc : a.1.clock = some c) (hle : r ≤ a.1.now - t0) (hfit : c + (a.1.now - t0 - r) / 2 ≤ 281474976710655) :
    handleResponse a dest (.timeSync uid (.measureDelay (some t0))) R =
      (a, .ok (some (.timeSync uid (.writeAbs (some (c + (a.1.now - t0 - r) / 2)))))) := by
  rw [handleResponse_measureDelay a dest uid (some t0) R _ hs rfl rfl rfl]
  simp only [u16_wire_mod, Nat.mod_eq_of_lt hr, Option.getD_some, hc]
  rw [if_neg (by omega), if_neg (by omega)]

open Dnp3.Master (handleResponse singleCountHeader tsReportError) in
theorem hr_measure_bad (a : Master.Acc) (dest : Nat) (uid : Option Nat) (t0 r : Nat) (R : Master.Resp)
    (hs : singleCountHeader R = some ⟨52, 2, 7, 1, 0, [r % 256, r / 256 % 256]⟩) (hr : r < 65536)
    (hlt : a.1.now - t0 < r) :
    handleResponse a dest (.timeSync uid (.measureDelay (some t0))) R =
      (tsReportError a dest uid (.tsBadDelay r), .error .unexpectedHeaders) := by
  rw [handleResponse_measureDelay a dest uid (some t0) R _ hs rfl rfl rfl]
  simp only [u16_wire_mod, Nat.mod_eq_of_lt hr, Option.getD_some]
  rw [if_pos hlt]

theorem u48_wire_mod (t : Nat) : Dnp3.u48le (Master.le48 t) = t % 281474976710656 := by
  unfold Dnp3.u48le Master.le48
  simp only [List.getD_cons_zero, List.getD_cons_succ]
  -- one octet at a time: `x % (256 * m) = x % 256 + 256 * (x / 256 % m)`
  have h1 := @Nat.mod_mul 256 1099511627776 t
  have h2 := @Nat.mod_mul 256 4294967296 (t / 256)
  have h3 := @Nat.mod_mul 256 16777216 (t / 65536)
  have h4 := @Nat.mod_mul 256 65536 (t / 16777216)
  have h5 := @Nat.mod_mul 256 256 (t / 4294967296)
  simp only [Nat.div_div_eq_div_mul, Nat.reduceMul] at h1 h2 h3 h4 h5
  rw [h1, h2, h3, h4, h5]
  simp only [Nat.mul_add, ← Nat.mul_assoc, Nat.reduceMul, Nat.add_assoc]

theorem u48_wire_round_trip (t : Nat) (ht : t ≤ maxTs) : Dnp3.u48le (Master.le48 t) = t :=
  (u48_wire_mod t).trans (Nat.mod_eq_of_lt (Nat.lt_succ_of_le ht))


end Dnp3.Proofs.C18Link
