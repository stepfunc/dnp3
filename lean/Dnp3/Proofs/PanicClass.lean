import Dnp3.Gen.PanicSites
/-!
# Panic-site classification: the table type and the fast coverage check (used by `Props/C01.lean`)

The generated inventory (`Gen.panicSites`) keys every site by a string; comparing strings with
`String.decEq` inside the kernel is slow (UTF-8 byte arrays), so the entry of a site is found by its
id (FNV-1a-64 of the key, emitted by the generator = interned keys), and the key strings of the
entries found are compared as LITERALS by `rfl`.
-/
namespace Dnp3.PanicInventory

inductive Class where
  /-- covered by the named theorem about the model of that code -/
  | modelled (thm : String)
  /-- no octet received from the peer flows into the operands (start-up configuration,
      application-supplied values, consequence of an earlier panic) -/
  | notPeerReachable (reason : String)
  /-- cannot fail for a local reason visible at the site (guard directly above, constant
      operands, operand widths) -/
  | cannotFail (reason : String)
  /-- CAN fail on peer input on the unchanged tree: entry of known_findings.jsonl -/
  | knownFinding (id : String)
deriving Repr

/-- `id` = FNV-1a-64 of `key` as emitted by the generator (interning, for a fast check);
    `key` = file|enclosing item|kind|normalised source line|ordinal -/
structure Entry where
  id : Nat
  key : String
  cls : Class

def lookup (tbl : List Entry) (id : Nat) : Option Entry := tbl.find? fun e => e.id == id

/-- every site has an entry with its id that carries literally the same key string.  The search for the id
    starts at the head of `here`, the entry standing where the site stands in the inventory, and goes on through the
    whole table: in whatever order the two lists are written, what is found is an entry of the table with
    the site's id (`keysAgree_mem`); where the orders agree it is found at once. -/
def keysAgree (tbl : List Entry) : List Entry → List Gen.PanicSite → Prop
  | _, [] => True
  | here, s :: ss =>
    (match lookup (here.take 1 ++ tbl) s.id with | some e => e.key = s.key | none => False) ∧
      keysAgree tbl (here.drop 1) ss

theorem keysAgree_mem (tbl : List Entry) : ∀ (here : List Entry) (l : List Gen.PanicSite),
    (∀ e ∈ here, e ∈ tbl) → keysAgree tbl here l → ∀ s ∈ l, ∃ e ∈ tbl, (e.id == s.id) = true ∧ e.key = s.key
  | _, [], _, _, _, hs => by cases hs
  | here, t :: ts, sub, h, s, hs => by
    cases hs with
    | head =>
      have h1 := h.1
      split at h1
      · rename_i e he
        refine ⟨e, ?_, List.find?_some (p := fun (x : Entry) => x.id == t.id) he, h1⟩
        exact (List.mem_append.1 (List.mem_of_find?_eq_some he)).elim (fun m => sub e (List.mem_of_mem_take m)) id
      · exact h1.elim
    | tail _ hm => exact keysAgree_mem tbl _ ts (fun e m => sub e (List.mem_of_mem_drop m)) h.2 s hm

def knownFindingIds (tbl : List Entry) : List String :=
  tbl.filterMap fun e => match e.cls with | .knownFinding id => some id | _ => none

def countClass (tbl : List Entry) : Nat × Nat × Nat × Nat :=
  tbl.foldl (fun (m, n, c, k) e => match e.cls with
    | .modelled _ => (m + 1, n, c, k)
    | .notPeerReachable _ => (m, n + 1, c, k)
    | .cannotFail _ => (m, n, c + 1, k)
    | .knownFinding _ => (m, n, c, k + 1)) (0, 0, 0, 0)

end Dnp3.PanicInventory
