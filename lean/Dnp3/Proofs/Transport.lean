import Dnp3.Model.Transport
import Dnp3.Props.C08Base
/-!
# Transport assembler: segmentation / reassembly proofs (C08)

Everything here is stated at the level of the `Assembler` fed with transport segments
(`FrameInfo`, transport header, payload), independent of link framing.
-/
namespace Dnp3.Proofs.Transport
open Dnp3

/-- one transport segment as handed to `Assembler::assemble` -/
structure Seg where
  info : FrameInfo
  hdr : THeader
  payload : List Nat
deriving DecidableEq, Repr, Inhabited

/-- `frameId` increment (`wrapping_add(1)` on `u32`) -/
def nextId (x : Nat) : Nat := (x + 1) % 4294967296

/-- feed segments to the assembler the way the transport reader does: `assemble`, and whenever
    the assembler holds a complete fragment, `pop` it before going on.  This loop is written here;
    no lemma ties the model's `TReader.read` / `drain` to it, so the C08 theorems speak of the
    assembler (`Assembler.assemble` / `pop` are the model's), not of the reader around it -/
def feedSegs (a : Assembler) : List Seg → Assembler × List (FragInfo × List Nat)
  | [] => (a, [])
  | s :: rest =>
    let a1 := a.assemble s.info s.hdr s.payload
    if a1.isComplete then
      let r := feedSegs a1.pop.1 rest
      (r.1, a1.pop.2.toList ++ r.2)
    else feedSegs a1 rest

/-- the segments `Writer::write` produces (same recursion as `segmentFrom`) -/
def segsFrom (info : FrameInfo) : Nat → Nat → Bool → List Nat → List Seg
  | 0, _, _, _ => []
  | fuel+1, seq, first, frag =>
    if frag.isEmpty then [] else
    ⟨info, { fin := (frag.drop 249).isEmpty, fir := first, seq := seq }, frag.take 249⟩ ::
      segsFrom info fuel (seqNext seq) false (frag.drop 249)

def segsOf (info : FrameInfo) (seq0 : Nat) (frag : List Nat) : List Seg :=
  segsFrom info frag.length seq0 true frag

def segFrame (isMaster : Bool) (dest localAddr : Nat) (s : Seg) : List Nat :=
  encodeFrame ⟨(Control.mk .priUnconfirmedUserData isMaster false false).toNat, dest, localAddr⟩
    (s.hdr.toNat :: s.payload)

theorem segmentFrom_eq_segsFrom (isMaster : Bool) (dest localAddr : Nat) (info : FrameInfo)
    (fuel seq : Nat) (first : Bool) (frag : List Nat) :
    (segmentFrom isMaster dest localAddr fuel seq first frag).1 =
      (segsFrom info fuel seq first frag).map (segFrame isMaster dest localAddr) := by
  fun_induction segsFrom info fuel seq first frag with
  | case1 => rfl
  | case2 _ _ _ _ h => simp [segmentFrom, h]
  | case3 fuel seq first frag h ih =>
    simp only [segmentFrom, h, Bool.false_eq_true, ↓reduceIte, List.map_cons, ih]
    rfl

theorem segsFrom_info (info : FrameInfo) (fuel seq : Nat) (first : Bool) (frag : List Nat) :
    ∀ s ∈ segsFrom info fuel seq first frag, s.info = info := by
  fun_induction segsFrom info fuel seq first frag with
  | case1 | case2 => simp
  | case3 fuel seq first frag h ih =>
    rintro s (_ | ⟨_, hs⟩)
    · rfl
    · exact ih s hs

theorem segsFrom_payloads (info : FrameInfo) (fuel seq : Nat) (first : Bool) (frag : List Nat)
    (hf : frag.length ≤ fuel) :
    (segsFrom info fuel seq first frag).flatMap (·.payload) = frag := by
  fun_induction segsFrom info fuel seq first frag with
  | case1 => exact (List.eq_nil_of_length_eq_zero (by omega)).symm
  | case2 _ _ _ _ h => simpa using h.symm
  | case3 fuel seq first frag h ih =>
    have hl : 0 < frag.length := List.length_pos_iff.mpr (by simpa using h)
    rw [List.flatMap_cons, ih (by simp only [List.length_drop]; omega)]
    exact List.take_append_drop 249 frag

theorem segsFrom_payload_len (info : FrameInfo) (fuel seq : Nat) (first : Bool) (frag : List Nat) :
    ∀ s ∈ segsFrom info fuel seq first frag, 1 ≤ s.payload.length ∧ s.payload.length ≤ 249 := by
  fun_induction segsFrom info fuel seq first frag with
  | case1 | case2 => simp
  | case3 fuel seq first frag h ih =>
    have hl : 0 < frag.length := List.length_pos_iff.mpr (by simpa using h)
    rintro s (_ | ⟨_, hs⟩)
    · simp only [List.length_take]; omega
    · exact ih s hs

/-- `assemble` stores the payload of a segment with header `hdr` at offset `acc` -/
inductive Offset (a : Assembler) (info : FrameInfo) (hdr : THeader) : Nat → Prop
  | first : hdr.fir = true → info.broadcast = none ∨ hdr.fin = true → Offset a info hdr 0
  | unpopped : hdr.fir = false → info.broadcast = none → a.isComplete = true → Offset a info hdr 0
  | next {pseq len : Nat} : a.st = .running info pseq len → hdr.fir = false → info.broadcast = none →
      hdr.seq = seqNext pseq → Offset a info hdr len

/-- `assemble` on a segment that is stored (`append` overwrites the state, so clearing it first
    makes no difference) -/
theorem Offset.assemble {a : Assembler} {info : FrameInfo} {hdr : THeader} {acc : Nat}
    (h : Offset a info hdr acc) (p : List Nat) :
    a.assemble info hdr p =
      if a.cap < acc + p.length then { a with st := .empty }
      else if hdr.fin then
        { a with st := .complete ⟨a.frameId, info.source, info.broadcast⟩ (acc + p.length),
                 frameId := nextId a.frameId, buf := a.buf.take acc ++ p }
      else { a with st := .running info hdr.seq (acc + p.length), buf := a.buf.take acc ++ p } := by
  have happ : a.assemble info hdr p = a.append info hdr acc p := by
    cases h with
    | first hfir hb => rcases hb with hb | hb <;> simp [Assembler.assemble, hfir, hb] <;> rfl
    | unpopped hfir hb hc =>
      unfold Assembler.isComplete at hc
      split at hc
      · rename_i hst; simp [Assembler.assemble, hfir, hb, hst]; rfl
      · cases hc
    | next hst hfir hb hseq => simp [Assembler.assemble, hfir, hb, hst, hseq]
  rw [happ]
  unfold Assembler.append nextId
  simp only [gt_iff_lt]

theorem assemble_empty_nonfir (a : Assembler) (info : FrameInfo) (hdr : THeader) (p : List Nat)
    (hst : a.st = .empty) (hfir : hdr.fir = false) :
    a.assemble info hdr p = a := by
  unfold Assembler.assemble
  cases hb : info.broadcast <;> simp [hfir, hst]

inductive Asm (a : Assembler) (info : FrameInfo) (hdr : THeader) (p : List Nat) : Assembler → Prop
  | ignored : hdr.fir = false → info.broadcast.isSome = true ∨ a.st = .empty → Asm a info hdr p a
  | dropped : Asm a info hdr p { a with st := .empty }
  | more {acc : Nat} : Offset a info hdr acc → acc + p.length ≤ a.cap → hdr.fin = false →
      Asm a info hdr p { a with st := .running info hdr.seq (acc + p.length), buf := a.buf.take acc ++ p }
  | done {acc : Nat} : Offset a info hdr acc → acc + p.length ≤ a.cap → hdr.fin = true →
      Asm a info hdr p
        { a with st := .complete ⟨a.frameId, info.source, info.broadcast⟩ (acc + p.length),
                 frameId := nextId a.frameId, buf := a.buf.take acc ++ p }

theorem Offset.asm {a : Assembler} {info : FrameInfo} {hdr : THeader} {acc : Nat}
    (h : Offset a info hdr acc) (p : List Nat) : Asm a info hdr p (a.assemble info hdr p) := by
  rw [h.assemble]
  split
  · exact .dropped
  · cases hfin : hdr.fin
    · exact .more h (by omega) hfin
    · exact .done h (by omega) hfin

theorem assemble_cases (a : Assembler) (info : FrameInfo) (hdr : THeader) (p : List Nat) :
    Asm a info hdr p (a.assemble info hdr p) := by
  cases hfir : hdr.fir
  · cases hb : info.broadcast with
    | some b =>
      have : a.assemble info hdr p = a := by simp [Assembler.assemble, hfir, hb]
      rw [this]; exact .ignored hfir (Or.inl (by rw [hb]; rfl))
    | none =>
      cases hst : a.st with
      | complete fi len => exact (Offset.unpopped hfir hb (by simp [Assembler.isComplete, hst])).asm p
      | empty => rw [assemble_empty_nonfir a info hdr p hst hfir]; exact .ignored hfir (Or.inr hst)
      | running pinfo pseq len =>
        by_cases hseq : hdr.seq = seqNext pseq
        · by_cases hinfo : info = pinfo
          · subst hinfo; exact (Offset.next hst hfir hb hseq).asm p
          · have : a.assemble info hdr p = { a with st := .empty } := by
              simp [Assembler.assemble, hfir, hb, hst, hseq, hinfo]
            rw [this]; exact .dropped
        · have : a.assemble info hdr p = { a with st := .empty } := by
            simp [Assembler.assemble, hfir, hb, hst, hseq]
          rw [this]; exact .dropped
  · by_cases h : info.broadcast = none ∨ hdr.fin = true
    · exact (Offset.first hfir h).asm p
    · have : a.assemble info hdr p = { a with st := .empty } := by
        simp only [not_or] at h
        cases hb : info.broadcast with
        | none => exact absurd hb h.1
        | some b => simp [Assembler.assemble, hfir, hb, h.2]
      rw [this]; exact .dropped

theorem Asm.cap {a r : Assembler} {info : FrameInfo} {hdr : THeader} {p : List Nat}
    (h : Asm a info hdr p r) : r.cap = a.cap := by
  cases h <;> rfl

theorem isComplete_of_empty {a : Assembler} (h : a.st = .empty) : a.isComplete = false := by
  simp [Assembler.isComplete, h]

theorem isComplete_of_running {a : Assembler} {i : FrameInfo} {s l : Nat}
    (h : a.st = .running i s l) : a.isComplete = false := by
  simp [Assembler.isComplete, h]

theorem feedSegs_cons_complete (a : Assembler) (s : Seg) (rest : List Seg) (fi : FragInfo) (len : Nat)
    (h : (a.assemble s.info s.hdr s.payload).st = .complete fi len) :
    feedSegs a (s :: rest) =
      ((feedSegs { a.assemble s.info s.hdr s.payload with st := .empty } rest).1,
       (fi, (a.assemble s.info s.hdr s.payload).buf.take len) ::
         (feedSegs { a.assemble s.info s.hdr s.payload with st := .empty } rest).2) := by
  rw [feedSegs]
  simp [Assembler.isComplete, Assembler.pop, h]

theorem feedSegs_cons_incomplete (a : Assembler) (s : Seg) (rest : List Seg)
    (h : (a.assemble s.info s.hdr s.payload).isComplete = false) :
    feedSegs a (s :: rest) = feedSegs (a.assemble s.info s.hdr s.payload) rest := by
  rw [feedSegs]
  simp [h]

theorem take_take_append (l r : List Nat) (n : Nat) :
    (l.take n ++ r).take (n + r.length) = l.take n ++ r := by
  apply List.take_of_length_le
  simp only [List.length_append, List.length_take]; omega

theorem feed_empty_nonfir (a : Assembler) (info : FrameInfo) (fuel seq : Nat) (frag : List Nat)
    (hst : a.st = .empty) :
    feedSegs a (segsFrom info fuel seq false frag) = (a, []) := by
  generalize hf : false = first
  fun_induction segsFrom info fuel seq first frag with
  | case1 | case2 => rfl
  | case3 fuel seq first frag h ih =>
    subst hf
    rw [feedSegs_cons_incomplete] <;> rw [assemble_empty_nonfir a info _ _ hst rfl]
    · exact ih rfl
    · exact isComplete_of_empty hst

theorem segsFrom_nil (info : FrameInfo) (fuel seq : Nat) (first : Bool) :
    segsFrom info fuel seq first [] = [] := by
  cases fuel <;> simp [segsFrom]

theorem feed_segsFrom (info : FrameInfo) (hb : info.broadcast = none) (fuel : Nat) :
    ∀ (a : Assembler) (first : Bool) (len seq : Nat) (rest : List Nat),
      (∀ fin, Offset a info ⟨fin, first, seq⟩ len) → rest ≠ [] → rest.length ≤ fuel →
      ∃ a', a'.st = .empty ∧ a'.cap = a.cap ∧
        (len + rest.length ≤ a.cap →
          feedSegs a (segsFrom info fuel seq first rest) =
            (a', [(⟨a.frameId, info.source, none⟩, a.buf.take len ++ rest)]) ∧
          a'.frameId = nextId a.frameId) ∧
        (a.cap < len + rest.length →
          feedSegs a (segsFrom info fuel seq first rest) = (a', []) ∧ a'.frameId = a.frameId) := by
  induction fuel with
  | zero =>
    intro a first len seq rest _ hne hl
    exact absurd (List.eq_nil_of_length_eq_zero (by omega)) hne
  | succ n ih =>
    intro a first len seq rest hoff hne hl
    have hpos : 0 < rest.length := List.length_pos_iff.mpr hne
    have hsplit : (rest.take 249).length + (rest.drop 249).length = rest.length := by
      rw [← List.length_append, List.take_append_drop]
    have htl : 0 < (rest.take 249).length := by simp only [List.length_take]; omega
    unfold segsFrom
    rw [if_neg (by simpa using hne)]
    have hasm := (hoff (rest.drop 249).isEmpty).assemble (rest.take 249)
    by_cases hchunk : a.cap < len + (rest.take 249).length
    · -- this segment already overflows: the state is cleared and the rest is ignored
      rw [if_pos hchunk] at hasm
      refine ⟨{ a with st := .empty }, rfl, rfl, fun hfit => by omega, fun _ => ⟨?_, rfl⟩⟩
      rw [feedSegs_cons_incomplete a _ _ (by rw [hasm]; rfl), hasm, feed_empty_nonfir _ _ _ _ _ rfl]
    · rw [if_neg hchunk] at hasm
      by_cases hd : rest.drop 249 = []
      · have ht : rest.take 249 = rest := by
          have := List.take_append_drop 249 rest
          rw [hd, List.append_nil] at this; exact this
        rw [if_pos (by rw [hd]; rfl)] at hasm
        rw [hd] at hsplit
        refine ⟨{ a with st := .empty, frameId := nextId a.frameId, buf := a.buf.take len ++ rest.take 249 },
          rfl, rfl, fun _ => ⟨?_, rfl⟩, fun hover => by simp only [List.length_nil] at hsplit; omega⟩
        rw [feedSegs_cons_complete a _ _ _ _ (by rw [hasm]), hasm]
        simp only [hd, segsFrom_nil, feedSegs, ht, hb, take_take_append]
      · have hfin : (rest.drop 249).isEmpty = false := by simpa using hd
        rw [if_neg (by rw [hfin]; exact Bool.false_ne_true)] at hasm
        rw [feedSegs_cons_incomplete a _ _ (by rw [hasm]; rfl), hasm]
        obtain ⟨a', h1, h2, h3, h4⟩ := ih
          { a with st := .running info seq (len + (rest.take 249).length),
                   buf := a.buf.take len ++ rest.take 249 }
          false (len + (rest.take 249).length) (seqNext seq) (rest.drop 249)
          (fun fin => .next rfl rfl hb rfl) hd (by simp only [List.length_drop]; omega)
        refine ⟨a', h1, h2, fun hfit => ?_, fun hover => h4 (by simp only; omega)⟩
        obtain ⟨e1, e2⟩ := h3 (by simp only; omega)
        refine ⟨?_, e2⟩
        rw [e1]
        simp only [take_take_append, List.append_assoc, List.take_append_drop]

/-- `seq0 < 64`, `info.ftype = .data` and `a.isComplete = false` are not needed at assembler
    level -/
theorem segment_reassemble (a : Assembler) (info : FrameInfo) (seq0 : Nat) (frag : List Nat)
    (hb : info.broadcast = none) (h1 : 1 ≤ frag.length) (hcap : frag.length ≤ a.cap) :
    ∃ a', feedSegs a (segsOf info seq0 frag) = (a', [(⟨a.frameId, info.source, none⟩, frag)]) ∧
      a'.st = .empty ∧ a'.frameId = (a.frameId + 1) % 4294967296 ∧ a'.cap = a.cap := by
  obtain ⟨a', hst, hc, hfit, _⟩ := feed_segsFrom info hb frag.length a true 0 seq0 frag
    (fun _ => .first rfl (Or.inl hb)) (List.length_pos_iff.mp h1) (Nat.le_refl _)
  obtain ⟨hf, hid⟩ := hfit (by omega)
  exact ⟨a', by simpa [segsOf] using hf, hst, hid, hc⟩

example : ∃ (a : Assembler) (info : FrameInfo) (frag : List Nat),
    a.st = .running ⟨7, none, .data⟩ 3 5 ∧ info.broadcast = none ∧ 1 ≤ frag.length ∧
    frag.length ≤ a.cap ∧ 249 < frag.length :=
  ⟨{ st := .running ⟨7, none, .data⟩ 3 5, buf := [1,2,3,4,5], cap := 2048 }, ⟨1024, none, .data⟩,
   List.replicate 600 0xAA, rfl, rfl, by simp only [List.length_replicate]; omega,
   by simp only [List.length_replicate]; omega, by simp only [List.length_replicate]; omega⟩

example : ∃ (a : Assembler) (info : FrameInfo) (frag : List Nat),
    info.broadcast = none ∧ a.cap < frag.length :=
  ⟨{ cap := 300 }, ⟨1024, none, .data⟩, List.replicate 301 0, rfl, by simp only [List.length_replicate]; omega⟩

theorem Asm.ids {a r : Assembler} {info : FrameInfo} {hdr : THeader} {p : List Nat}
    (h : Asm a info hdr p r) :
    (r.frameId = a.frameId ∧ (a.isComplete = false → r.isComplete = false)) ∨
    (∃ len, r.st = .complete ⟨a.frameId, info.source, info.broadcast⟩ len ∧ r.frameId = nextId a.frameId) := by
  cases h with
  | ignored => exact Or.inl ⟨rfl, id⟩
  | dropped => exact Or.inl ⟨rfl, fun _ => rfl⟩
  | more => exact Or.inl ⟨rfl, fun _ => rfl⟩
  | done => exact Or.inr ⟨_, rfl, rfl⟩

def idSeq : Nat → Nat → List Nat
  | _, 0 => []
  | f, n+1 => f :: idSeq (nextId f) n

def idAdvance : Nat → Nat → Nat
  | f, 0 => f
  | f, n+1 => idAdvance (nextId f) n

theorem frame_ids_consecutive (segs : List Seg) : ∀ (a : Assembler), a.isComplete = false →
    ((feedSegs a segs).2.map (·.1.id) = idSeq a.frameId (feedSegs a segs).2.length ∧
     (feedSegs a segs).1.frameId = idAdvance a.frameId (feedSegs a segs).2.length ∧
     (feedSegs a segs).1.isComplete = false ∧ (feedSegs a segs).1.cap = a.cap) := by
  induction segs with
  | nil => intro a hc; simp [feedSegs, idSeq, idAdvance, hc]
  | cons s rest ih =>
    intro a hc
    have hcase := assemble_cases a s.info s.hdr s.payload
    have h3 := hcase.cap
    rcases hcase.ids with ⟨h2, h1⟩ | ⟨len, h1, h2⟩
    · rw [feedSegs_cons_incomplete a s rest (h1 hc)]
      have := ih _ (h1 hc)
      rw [h2, h3] at this
      exact this
    · rw [feedSegs_cons_complete a s rest _ len h1]
      have := ih { a.assemble s.info s.hdr s.payload with st := .empty } rfl
      simp only at this ⊢
      rw [h2, h3] at this ⊢
      simp only [List.map_cons, List.length_cons, idSeq, idAdvance]
      exact ⟨by rw [this.1], this.2⟩

example : ({ cap := 2048 } : Assembler).isComplete = false := rfl

theorem idSeq_closed (f n : Nat) (hf : f < 4294967296) :
    idSeq f n = (List.range n).map (fun i => (f + i) % 4294967296) := by
  induction n generalizing f with
  | zero => rfl
  | succ n ih =>
    rw [idSeq, ih (nextId f) (by unfold nextId; omega), List.range_succ_eq_map]
    simp only [List.map_cons, List.map_map, Nat.add_zero, Nat.mod_eq_of_lt hf]
    congr 1
    apply List.map_congr_left
    intro i _
    simp only [Function.comp, nextId]
    omega

theorem idAdvance_closed (f n : Nat) (hf : f < 4294967296) :
    idAdvance f n = (f + n) % 4294967296 := by
  induction n generalizing f with
  | zero => simp [idAdvance, Nat.mod_eq_of_lt hf]
  | succ n ih =>
    rw [idAdvance, ih (nextId f) (by unfold nextId; omega)]
    unfold nextId; omega

def payloads (run : List Seg) : List Nat := run.flatMap (·.payload)

theorem payloads_append (r1 r2 : List Seg) : payloads (r1 ++ r2) = payloads r1 ++ payloads r2 := by
  simp [payloads]

/-- `run` is a complete, well-formed segment sequence (same recursion as the writer's `segsFrom`) -/
def RunFrom (info : FrameInfo) : Bool → List Seg → Prop
  | _, [] => False
  | first, [s] => s.info = info ∧ s.hdr.fir = first ∧ s.hdr.fin = true
  | first, s :: t :: rest =>
    s.info = info ∧ s.hdr.fir = first ∧ s.hdr.fin = false ∧ t.hdr.seq = seqNext s.hdr.seq ∧
      RunFrom info false (t :: rest)

/-- an unfinished well-formed segment sequence (no FIN yet) whose last sequence number is `q` -/
def PartFrom (info : FrameInfo) : Bool → List Seg → Nat → Prop
  | _, [], _ => False
  | first, [s], q => s.info = info ∧ s.hdr.fir = first ∧ s.hdr.fin = false ∧ s.hdr.seq = q
  | first, s :: t :: rest, q =>
    s.info = info ∧ s.hdr.fir = first ∧ s.hdr.fin = false ∧ t.hdr.seq = seqNext s.hdr.seq ∧
      PartFrom info false (t :: rest) q

theorem part_snoc (info : FrameInfo) (s : Seg) (q : Nat) (hi : s.info = info)
    (hfir : s.hdr.fir = false) (hseq : s.hdr.seq = seqNext q) :
    ∀ (run : List Seg) (f : Bool), PartFrom info f run q →
      (s.hdr.fin = true → RunFrom info f (run ++ [s])) ∧
      (s.hdr.fin = false → PartFrom info f (run ++ [s]) s.hdr.seq) := by
  intro run
  induction run with
  | nil => intro f h; exact absurd h (by simp [PartFrom])
  | cons x xs ih =>
    intro f h
    cases xs with
    | nil =>
      simp only [PartFrom] at h
      obtain ⟨h1, h2, h3, h4⟩ := h
      simp only [List.cons_append, List.nil_append, RunFrom, PartFrom]
      exact ⟨fun hfin => ⟨h1, h2, h3, by rw [hseq, h4], hi, hfir, hfin⟩,
        fun hfin => ⟨h1, h2, h3, by rw [hseq, h4], hi, hfir, hfin, trivial⟩⟩
    | cons y ys =>
      simp only [PartFrom] at h
      obtain ⟨h1, h2, h3, h4, h5⟩ := h
      simp only [List.cons_append, RunFrom, PartFrom]
      exact ⟨fun hfin => ⟨h1, h2, h3, h4, (ih false h5).1 hfin⟩,
        fun hfin => ⟨h1, h2, h3, h4, (ih false h5).2 hfin⟩⟩

/-- segments the assembler ignores in *every* state: non-FIR segments of a broadcast frame.
    `Keep s` = `s` is not one of those. -/
def Keep (s : Seg) : Bool := !(s.info.broadcast.isSome && !s.hdr.fir)

def Delivered (cap : Nat) (segs : List Seg) (fd : FragInfo × List Nat) : Prop :=
  ∃ pre block post info, segs = pre ++ block ++ post ∧
    (∃ f rest, block = f :: rest ∧ f.hdr.fir = true) ∧ (∃ init l, block = init ++ [l] ∧ l.hdr.fin = true) ∧
    RunFrom info true (block.filter Keep) ∧ fd.2 = payloads (block.filter Keep) ∧ fd.2.length ≤ cap ∧
    fd.1.source = info.source ∧ fd.1.broadcast = info.broadcast ∧
    (info.broadcast.isSome = true → block.length = 1)

/-- ghost-history invariant (`hist`: the segments fed so far) -/
def Inv (a : Assembler) (hist : List Seg) : Prop :=
  match a.st with
  | .empty => True
  | .complete fi len => ∀ post, Delivered a.cap (hist ++ post) (fi, a.buf.take len)
  | .running info seq len =>
    info.broadcast = none ∧ ∃ pre block, hist = pre ++ block ∧
      (∃ f rest, block = f :: rest ∧ f.hdr.fir = true) ∧
      PartFrom info true (block.filter Keep) seq ∧
      a.buf.take len = payloads (block.filter Keep) ∧ len = (payloads (block.filter Keep)).length

theorem inv_of_empty {a : Assembler} (h : a.st = .empty) (hist : List Seg) : Inv a hist := by
  simp [Inv, h]

theorem keep_of_nobc {s : Seg} (h : s.info.broadcast = none) : Keep s = true := by
  simp [Keep, h]

theorem keep_of_fir {s : Seg} (h : s.hdr.fir = true) : Keep s = true := by
  simp [Keep, h]

theorem payloads_single (s : Seg) : payloads [s] = s.payload := by simp [payloads]

theorem filter_snoc_keep (block : List Seg) (s : Seg) (hk : Keep s = true) :
    (block ++ [s]).filter Keep = block.filter Keep ++ [s] := by
  simp [List.filter_append, hk]

theorem filter_snoc_drop (block : List Seg) (s : Seg) (hk : Keep s = false) :
    (block ++ [s]).filter Keep = block.filter Keep := by
  simp [List.filter_append, hk]

theorem Offset.block {a : Assembler} {hist : List Seg} {s : Seg} {acc : Nat} (hi : Inv a hist)
    (hc : a.isComplete = false) (h : Offset a s.info s.hdr acc) :
    ∃ pre init, hist = pre ++ init ∧ (∃ f rest, init ++ [s] = f :: rest ∧ f.hdr.fir = true) ∧
      (s.hdr.fin = true → RunFrom s.info true ((init ++ [s]).filter Keep)) ∧
      (s.hdr.fin = false → PartFrom s.info true ((init ++ [s]).filter Keep) s.hdr.seq) ∧
      a.buf.take acc ++ s.payload = payloads ((init ++ [s]).filter Keep) ∧
      acc + s.payload.length = (payloads ((init ++ [s]).filter Keep)).length ∧
      (s.info.broadcast = none ∨ init = [] ∧ s.hdr.fin = true) := by
  cases h with
  | first hfir hb =>
    have hflt : ([] ++ [s]).filter Keep = [s] := by simp [keep_of_fir hfir]
    refine ⟨hist, [], (List.append_nil _).symm, ⟨s, [], rfl, hfir⟩, ?_, ?_, ?_, ?_, ?_⟩
    · intro hfin; rw [hflt]; exact ⟨rfl, hfir, hfin⟩
    · intro hfin; rw [hflt]; exact ⟨rfl, hfir, hfin, rfl⟩
    · rw [hflt, payloads_single]; rfl
    · rw [hflt, payloads_single, Nat.zero_add]
    · rcases hb with hb | hb
      · exact Or.inl hb
      · exact Or.inr ⟨rfl, hb⟩
  | unpopped _ _ hc' => rw [hc] at hc'; cases hc'
  | next hst hfir hbn hseq =>
    simp only [Inv, hst] at hi
    obtain ⟨_, pre, block, hh, ⟨f, rest, e, hf⟩, hpart, hbuf, hlen⟩ := hi
    have hflt := filter_snoc_keep block s (keep_of_nobc hbn)
    have hp := part_snoc s.info s _ rfl hfir hseq _ _ hpart
    refine ⟨pre, block, hh, ⟨f, rest ++ [s], by rw [e]; rfl, hf⟩, ?_, ?_, ?_, ?_, Or.inl hbn⟩
    · rw [hflt]; exact hp.1
    · rw [hflt]; exact hp.2
    · rw [hflt, payloads_append, payloads_single, hbuf]
    · rw [hflt, payloads_append, payloads_single, List.length_append, ← hlen]

theorem inv_assemble (a : Assembler) (hist : List Seg) (s : Seg) (hi : Inv a hist)
    (hc : a.isComplete = false) : Inv (a.assemble s.info s.hdr s.payload) (hist ++ [s]) := by
  have h := assemble_cases a s.info s.hdr s.payload
  generalize a.assemble s.info s.hdr s.payload = r at h
  cases h with
  | ignored hfir hsame =>
    cases hst : a.st with
    | complete fi len => simp [Assembler.isComplete, hst] at hc
    | empty => exact inv_of_empty hst _
    | running i q l =>
      -- ignored in every state: the block at the end of the history grows by a segment not kept
      have hk : Keep s = false := by
        rcases hsame with hb | he
        · simp [Keep, hb, hfir]
        · rw [hst] at he; cases he
      simp only [Inv, hst] at hi ⊢
      obtain ⟨hbn, pre, block, hh, ⟨f, rest, e, hf⟩, hpart, hbuf, hlen⟩ := hi
      rw [← filter_snoc_drop block s hk] at hpart hbuf hlen
      exact ⟨hbn, pre, block ++ [s], by rw [hh, List.append_assoc],
        ⟨f, rest ++ [s], by rw [e]; rfl, hf⟩, hpart, hbuf, hlen⟩
  | dropped => exact inv_of_empty rfl _
  | more hoff hfit hfin =>
    obtain ⟨pre, init, hh, hhead, _, hpart, hbuf, hlen, hb⟩ := hoff.block hi hc
    simp only [Inv]
    refine ⟨hb.resolve_right (fun h => by rw [hfin] at h; cases h.2), pre, init ++ [s],
      by rw [hh, List.append_assoc], hhead, hpart hfin, ?_, hlen⟩
    rw [take_take_append, hbuf]
  | done hoff hfit hfin =>
    obtain ⟨pre, init, hh, hhead, hrun, _, hbuf, hlen, hb⟩ := hoff.block hi hc
    simp only [Inv]
    refine fun post => ⟨pre, init ++ [s], post, s.info, by simp [hh], hhead, ⟨init, s, rfl, hfin⟩,
      hrun hfin, ?_, ?_, rfl, rfl, fun hbc => ?_⟩
    · simp only; rw [take_take_append, hbuf]
    · simp only; rw [take_take_append, hbuf, ← hlen]; exact hfit
    · rcases hb with hb | hb
      · rw [hb] at hbc; cases hbc
      · rw [hb.1]; rfl

theorem feed_delivered (segs : List Seg) : ∀ (a : Assembler) (hist : List Seg), Inv a hist →
    a.isComplete = false → ∀ fd ∈ (feedSegs a segs).2, Delivered a.cap (hist ++ segs) fd := by
  induction segs with
  | nil => intro a hist _ _ fd hfd; simp [feedSegs] at hfd
  | cons s rest ih =>
    intro a hist hi hc fd hfd
    have hassoc : hist ++ s :: rest = (hist ++ [s]) ++ rest := by simp
    have hcap := (assemble_cases a s.info s.hdr s.payload).cap
    have hinv := inv_assemble a hist s hi hc
    rw [hassoc, ← hcap]
    cases hst : (a.assemble s.info s.hdr s.payload).st with
    | complete fi len =>
      rw [feedSegs_cons_complete a s rest fi len hst] at hfd
      simp only [Inv, hst] at hinv
      rcases List.mem_cons.mp hfd with rfl | hfd
      · exact hinv rest
      · exact ih { a.assemble s.info s.hdr s.payload with st := .empty } _ (inv_of_empty rfl _) rfl fd hfd
    | empty =>
      rw [feedSegs_cons_incomplete a s rest (isComplete_of_empty hst)] at hfd
      exact ih _ _ hinv (isComplete_of_empty hst) fd hfd
    | running i q l =>
      rw [feedSegs_cons_incomplete a s rest (isComplete_of_running hst)] at hfd
      exact ih _ _ hinv (isComplete_of_running hst) fd hfd

/-- Each delivered fragment is accounted for by a *contiguous block* of the history which, minus
    the segments the assembler ignores in every state (non-FIR segments of broadcast frames), is a
    well-formed run.

    The stronger statement, that the run itself is contiguous in `segs`, is FALSE for the model (and
    for `assembler.rs`, which the model transcribes faithfully here): see
    `Props.C08.contiguity_counterexample`.  `delivered_is_run` gives it under the extra hypothesis
    that no non-FIR broadcast segment occurs in the history. -/
theorem delivered_is_run_partial (c : Nat) (segs : List Seg) :
    ∀ fd ∈ (feedSegs { cap := c } segs).2, Delivered c segs fd := by
  intro fd hfd
  have := feed_delivered segs { cap := c } [] (inv_of_empty rfl _) rfl fd hfd
  simpa using this

theorem delivered_is_run (c : Nat) (segs : List Seg) (hk : ∀ s ∈ segs, Keep s = true) :
    ∀ fd ∈ (feedSegs { cap := c } segs).2,
      ∃ pre run post info, segs = pre ++ run ++ post ∧ RunFrom info true run ∧
        fd.2 = payloads run ∧ fd.2.length ≤ c ∧ fd.1.source = info.source ∧
        fd.1.broadcast = info.broadcast ∧ (info.broadcast.isSome = true → run.length = 1) := by
  intro fd hfd
  obtain ⟨pre, block, post, info, hs, _, _, hrun, hdata, hlen, h1, h2, h3⟩ :=
    delivered_is_run_partial c segs fd hfd
  have hflt : block.filter Keep = block := by
    rw [List.filter_eq_self]
    intro x hx
    exact hk x (by rw [hs]; simp [hx])
  rw [hflt] at hrun hdata
  exact ⟨pre, block, post, info, hs, hrun, hdata, hlen, h1, h2, h3⟩

example : ∀ s ∈ segsOf ⟨1024, none, .data⟩ 5 (List.replicate 600 7), Keep s = true := by
  intro s hs
  exact keep_of_nobc (by rw [segsFrom_info _ _ _ _ _ s hs])

theorem RunFrom.spec (info : FrameInfo) : ∀ (run : List Seg) (first : Bool), RunFrom info first run →
    run ≠ [] ∧
    (∀ i (h : i < run.length), run[i].hdr.fir = (decide (i = 0) && first)) ∧
    (∀ i (h : i < run.length), run[i].hdr.fin = decide (i + 1 = run.length)) ∧
    (∀ i (h : i + 1 < run.length), run[i+1].hdr.seq = seqNext run[i].hdr.seq) ∧
    (∀ s ∈ run, s.info = info) := by
  intro run
  induction run with
  | nil => intro f h; exact absurd h (by simp [RunFrom])
  | cons x xs ih =>
    intro f h
    cases xs with
    | nil =>
      simp only [RunFrom] at h
      obtain ⟨h1, h2, h3⟩ := h
      refine ⟨by simp, ?_, ?_, ?_, ?_⟩
      · intro i hi
        have : i = 0 := by simp at hi; omega
        subst this; simp [h2]
      · intro i hi
        have : i = 0 := by simp at hi; omega
        subst this; simp [h3]
      · intro i hi; simp at hi
      · intro s hs; simp at hs; rw [hs]; exact h1
    | cons y ys =>
      simp only [RunFrom] at h
      obtain ⟨h1, h2, h3, h4, h5⟩ := h
      obtain ⟨_, i1, i2, i3, i4⟩ := ih false h5
      refine ⟨by simp, ?_, ?_, ?_, ?_⟩
      · intro i hi
        cases i with
        | zero => simp [h2]
        | succ j =>
          have := i1 j (by simp at hi ⊢; omega)
          simp only [List.getElem_cons_succ]
          rw [this]; simp
      · intro i hi
        cases i with
        | zero => simp [h3]
        | succ j =>
          have := i2 j (by simp at hi ⊢; omega)
          simp only [List.getElem_cons_succ]
          rw [this]; simp
      · intro i hi
        cases i with
        | zero => simpa using h4
        | succ j =>
          have := i3 j (by simp at hi ⊢; omega)
          simpa using this
      · intro s hs
        rcases List.mem_cons.mp hs with rfl | hs
        · exact h1
        · exact i4 s hs

theorem segsFrom_isRun (info : FrameInfo) (fuel : Nat) : ∀ (seq : Nat) (first : Bool) (frag : List Nat),
    frag ≠ [] → frag.length ≤ fuel → RunFrom info first (segsFrom info fuel seq first frag) := by
  induction fuel with
  | zero =>
    intro seq first frag hne hl
    exact absurd (List.eq_nil_of_length_eq_zero (by omega)) hne
  | succ n ih =>
    intro seq first frag hne hl
    have hE : frag.isEmpty = false := by simpa using hne
    have hsplit : (frag.take 249).length + (frag.drop 249).length = frag.length := by
      rw [← List.length_append, List.take_append_drop]
    have hpos : 0 < frag.length := List.length_pos_iff.mpr hne
    have htl : 0 < (frag.take 249).length := by simp only [List.length_take]; omega
    unfold segsFrom
    simp only [hE, Bool.false_eq_true, ↓reduceIte]
    by_cases hd : frag.drop 249 = []
    · rw [hd, segsFrom_nil]
      simp [RunFrom]
    · have hrec := ih (seqNext seq) false (frag.drop 249) hd (by omega)
      have hE' : (frag.drop 249).isEmpty = false := by simpa using hd
      rw [hE']
      cases n with
      | zero =>
        exact absurd (List.eq_nil_of_length_eq_zero (by omega)) hd
      | succ m =>
        unfold segsFrom at hrec ⊢
        simp only [hE', Bool.false_eq_true, ↓reduceIte] at hrec ⊢
        simp only [RunFrom]
        exact ⟨trivial, trivial, trivial, trivial, hrec⟩

theorem segsOf_isRun (info : FrameInfo) (seq0 : Nat) (frag : List Nat) (hne : frag ≠ []) :
    RunFrom info true (segsOf info seq0 frag) :=
  segsFrom_isRun info _ _ _ _ hne (Nat.le_refl _)

theorem seqNext_lt (v : Nat) (h : v < 64) : seqNext v < 64 := by
  unfold seqNext; split <;> omega

theorem segsFrom_seq_lt (info : FrameInfo) (fuel seq : Nat) (first : Bool) (frag : List Nat)
    (hq : seq < 64) : ∀ s ∈ segsFrom info fuel seq first frag, s.hdr.seq < 64 := by
  fun_induction segsFrom info fuel seq first frag with
  | case1 | case2 => simp
  | case3 fuel seq first frag h ih =>
    rintro s (_ | ⟨_, hs⟩)
    · exact hq
    · exact ih (seqNext_lt seq hq) s hs

/-- what the reader makes of a received link payload `transport octet :: data` -/
def segOfOctets (info : FrameInfo) (tb : Nat) (data : List Nat) : Seg := ⟨info, THeader.ofNat tb, data⟩

/-- with `seq0 < 64` the transport header octets the writer emits decode to the same headers, so
    the reader feeds its assembler exactly `segsOf info seq0 frag` -/
theorem segsOf_octets_roundtrip (info : FrameInfo) (seq0 : Nat) (frag : List Nat) (hq : seq0 < 64) :
    (segsOf info seq0 frag).map (fun s => segOfOctets info s.hdr.toNat s.payload) =
      segsOf info seq0 frag := by
  have h1 := segsFrom_seq_lt info frag.length seq0 true frag hq
  have h2 := segsFrom_info info frag.length seq0 true frag
  show List.map _ (segsOf info seq0 frag) = _
  unfold segsOf
  conv => rhs; rw [← List.map_id (segsFrom info frag.length seq0 true frag)]
  apply List.map_congr_left
  intro s hs
  rcases s with ⟨i, ⟨fin, fir, seq⟩, p⟩
  have hlt : seq < 64 := h1 _ hs
  have hin : i = info := h2 _ hs
  have := Dnp3.Props.C08.theader_roundtrip fin fir ⟨seq, hlt⟩
  simp only [segOfOctets, id]
  rw [this, hin]

example : (62 : Nat) < 64 := by decide

-- end to end on a concrete instance: 600 octets, three segments, sequence numbers 62, 63, 0,
-- fed to an assembler holding garbage
example : (segsOf ⟨1024, none, .data⟩ 62 (List.range 600)).map (fun s => (s.hdr, s.payload.length)) =
    [(⟨false, true, 62⟩, 249), (⟨false, false, 63⟩, 249), (⟨true, false, 0⟩, 102)] := by decide +kernel

example : (feedSegs { st := .running ⟨7, none, .data⟩ 3 5, frameId := 4294967295, buf := [1,2,3,4,5], cap := 2048 }
    (segsOf ⟨1024, none, .data⟩ 62 (List.range 600))).2 = [(⟨4294967295, 1024, none⟩, List.range 600)] := by
  decide +kernel

end Dnp3.Proofs.Transport
