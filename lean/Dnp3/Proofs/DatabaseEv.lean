import Dnp3.Proofs.DatabaseEnc
/-!
# The outstation database: its operations, what each leaves alone, the event buffer and its invariants

The frame relations between a database and its successor: what each fixes, and which operations give it by which lemma
(`DatabaseStatic` has `CfgSame`, `StSame` and the lemmas marked St).

* `EbEq`: the six fields of the event buffer (`events`, `total`, `written`, `next`, `evCfg`, `overflown`).  `setMap_eb`,
  `addCfg_eb`, `add_eb`; field `eb` of a `SelFrame`; an update up to its `insert`: `updateOpt_spec`.
* `EbSel`: as `EbEq`, but a record may have gone from `Unselected` to `Selected` (`SelStep`).  `select_sel`; `EbEq.toSel`.
* `EbCore`: position by position the same record but for `st` and `selVar` (`core`); `total`, `next`, `evCfg`, `overflown`;
  not `written`.  `writeEvents_core`, `reset_core`; `EbSel.toCore`.
* `EbWr`: as `EbCore`, and a record may only have gone from `Selected` to `Written`.  `writeEvents_wr`.
* `StEq`: the other five fields (`maps`, `queue`, `attrSel`, `czero`, `selCap`).  `insert_st`, `clear_st`.
* `MapsSame f`: for every type the points of its map, seen through `f`, as a list.  `setMap_mapsSame`, `select_frame`;
  St `updateOpt_frame`, `step_frame` (every `DbOp` but `add`); `MapsSame.of_maps` from equal `maps`.
* `KeysSame`: `MapsSame` of the indices.  `select_keys`; St `CfgSame.keys`.
* `SelFrame f`: `EbEq`, `MapsSame f`, `czero`, `selCap`; the queue is free.  `pushSel_frame`, `selectStatic_frame`,
  `selectClass0_frame`; for `Db.select` as a whole `select_frame` gives the same with `EbSel` for `EbEq`.
* St `CfgSame`: `MapsSame` of (index, `svar`); `czero`, `selCap`.  `step_cfg`: every `DbOp` but `add`.
* St `StSame`: `MapsSame` of `selView` (index, `selected`, `svar`, `deadband`); `queue`.  `updateOpt_stSame`, `update_stSame`,
  `writeEvents_stSame`; `StSame.of_maps` from equal `maps` and `queue`.

That a view `f` does not see what an operation writes is a hypothesis of the lemma, an equation such as
`∀ i p s, f (i, { p with selected := s }) = f (i, p)`.

All statements range over the eight point types of `Gen.DbT.Ty`; the generated per-type
tables are resolved with the lemmas of `Dnp3.Proofs.DbTables`.
-/
namespace Dnp3.DbProofs
open Dnp3 Dnp3.DbM

inductive DbOp where
  | add (t : PtType) (idx cls : Nat)
  | update (t : PtType) (idx : Nat) (value : Int) (flags time : Nat)
  | select (h : ReadHdr)
  | write (cap : Nat)
  | unsol (c1 c2 c3 : Bool) (cap : Nat)
  | clear
  | reset
deriving DecidableEq, Repr

def step (db : Db) : DbOp → Db
  | .add t idx cls => (db.add t idx cls).1
  | .update t idx v f tm => (db.update t idx v f tm).1
  | .select h => (db.select h).1
  | .write cap => (db.writeResponse cap).1
  | .unsol c1 c2 c3 cap => (db.writeUnsolicited c1 c2 c3 cap).1
  | .clear => db.clearWritten.1
  | .reset => db.reset

def run (db : Db) (ops : List DbOp) : Db := ops.foldl step db

theorem run_append (db : Db) (a b : List DbOp) : run db (a ++ b) = run (run db a) b := by
  simp [run, List.foldl_append]

/-- Used by `SessionDb`: the database after a step of the session is `RunVia NotAdd` of the database before it -/
def RunVia (ok : DbOp → Prop) (db db' : Db) : Prop := ∃ ops : List DbOp, (∀ op ∈ ops, ok op) ∧ db' = run db ops

theorem RunVia.refl (ok : DbOp → Prop) (db : Db) : RunVia ok db db := ⟨[], fun _ h => absurd h List.not_mem_nil, rfl⟩

theorem RunVia.trans {ok : DbOp → Prop} {a b c : Db} (h1 : RunVia ok a b) (h2 : RunVia ok b c) : RunVia ok a c := by
  obtain ⟨o1, k1, rfl⟩ := h1
  obtain ⟨o2, k2, rfl⟩ := h2
  exact ⟨o1 ++ o2, fun op h => (List.mem_append.mp h).elim (k1 op) (k2 op), (run_append a o1 o2).symm⟩

theorem RunVia.snoc {ok : DbOp → Prop} {a b : Db} (h : RunVia ok a b) (op : DbOp) (hop : ok op) :
    RunVia ok a (step b op) :=
  h.trans ⟨[op], fun _ h => List.mem_singleton.mp h ▸ hop, rfl⟩

theorem RunVia.inv {ok : DbOp → Prop} {P : Db → Prop} (hstep : ∀ db op, ok op → P db → P (step db op)) {a b : Db}
    (h : RunVia ok a b) (ha : P a) : P b := by
  obtain ⟨ops, k, rfl⟩ := h
  exact List.foldlRecOn ops step ha fun db h op hop => hstep db op (k op hop) h

theorem TyVec.get_ofFn {α : Type} (f : PtType → α) (t : PtType) : (TyVec.ofFn f).get t = f t := by
  cases t <;> rfl

theorem TyVec.get_set {α : Type} (v : TyVec α) (t u : PtType) (x : α) :
    (v.set t x).get u = if u = t then x else v.get u := by
  cases t <;> cases u <;> rfl

theorem TyVec.get_const {α : Type} (x : α) (t : PtType) : (TyVec.const x).get t = x := by
  cases t <;> rfl

theorem TyVec.ext' {α : Type} {a b : TyVec α} (h : ∀ u, a.get u = b.get u) : a = b := by
  have h1 := h .binary; have h2 := h .doubleBitBinary; have h3 := h .binaryOutputStatus
  have h4 := h .counter; have h5 := h .frozenCounter; have h6 := h .analog
  have h7 := h .analogOutputStatus; have h8 := h .octetString
  cases a; cases b
  simp only [TyVec.get] at h1 h2 h3 h4 h5 h6 h7 h8
  simp only [h1, h2, h3, h4, h5, h6, h7, h8]

def tallyBy (p : EvRec → Bool) (l : List EvRec) : Counters :=
  { c1 := l.countP (fun r => p r && r.cls == 1)
    c2 := l.countP (fun r => p r && r.cls == 2)
    c3 := l.countP (fun r => p r && r.cls == 3)
    types := TyVec.ofFn fun u => l.countP (fun r => p r && r.ty == u) }

def isWritten (r : EvRec) : Bool := r.st == .written
def anyRec (_ : EvRec) : Bool := true

def TotalExact (db : Db) : Prop := db.total = tallyBy anyRec db.events
def WrittenExact (db : Db) : Prop := db.written = tallyBy isWritten db.events
def CountersExact (db : Db) : Prop := TotalExact db ∧ WrittenExact db

def Ordered (db : Db) : Prop :=
  db.events.Pairwise (fun a b => a.id < b.id) ∧ ∀ r ∈ db.events, r.id < db.next

/-! A `Counters` is its counts: one per class 1, 2, 3 and one per type.  Every fact about counters below is
proved count by count, where it is arithmetic on `List.countP`. -/

inductive Slot where
  | c1 | c2 | c3 | ty (u : PtType)

def _root_.Dnp3.DbM.Counters.get (c : Counters) : Slot → Nat
  | .c1 => c.c1 | .c2 => c.c2 | .c3 => c.c3 | .ty u => c.ty u

def Slot.cls : Slot → Nat → Bool
  | .c1, k => k == 1 | .c2, k => k == 2 | .c3, k => k == 3 | .ty _, _ => false

def Slot.isTy : Slot → PtType → Bool
  | .ty u, t => t == u | _, _ => false

def Slot.has (s : Slot) (r : EvRec) : Bool := s.cls r.cls || s.isTy r.ty

def b2n (b : Bool) : Nat := if b then 1 else 0

@[simp] theorem b2n_true : b2n true = 1 := rfl
@[simp] theorem b2n_false : b2n false = 0 := rfl

theorem Slot.b2n_has (s : Slot) (r : EvRec) : b2n (s.has r) = b2n (s.cls r.cls) + b2n (s.isTy r.ty) := by
  cases s <;> simp [Slot.has, Slot.cls, Slot.isTy]

theorem get_empty (s : Slot) : ({} : Counters).get s = 0 := by
  cases s with
  | ty u => exact TyVec.get_const 0 u
  | _ => rfl

theorem Counters.ext_get {a b : Counters} (h : ∀ s, a.get s = b.get s) : a = b := by
  have h1 := h .c1; have h2 := h .c2; have h3 := h .c3
  have ht : a.types = b.types := TyVec.ext' fun u => h (.ty u)
  cases a; cases b
  simp only [Counters.get] at h1 h2 h3 ht
  subst h1 h2 h3 ht; rfl

theorem tallyBy_nil (p : EvRec → Bool) : tallyBy p [] = {} := rfl

theorem tallyBy_get (p : EvRec → Bool) (l : List EvRec) (s : Slot) :
    (tallyBy p l).get s = l.countP (fun r => p r && s.has r) := by
  cases s <;>
    simp only [tallyBy, Counters.get, Counters.ty, TyVec.get_ofFn, Slot.has, Slot.cls, Slot.isTy,
      Bool.or_false, Bool.false_or]

theorem tallyBy_ty (p : EvRec → Bool) (l : List EvRec) (u : PtType) :
    (tallyBy p l).ty u = l.countP (fun r => p r && r.ty == u) :=
  tallyBy_get p l (.ty u)

theorem incCls_get (c : Counters) (k : Nat) (s : Slot) :
    (c.incCls k).get s = c.get s + b2n (s.cls k) := by
  cases s <;> match k with
    | 0 | 1 | 2 | 3 | _ + 4 => rfl

theorem decCls_get (c : Counters) (k : Nat) (s : Slot) :
    (c.decCls k).get s = c.get s - b2n (s.cls k) := by
  cases s <;> match k with
    | 0 | 1 | 2 | 3 | _ + 4 => rfl

theorem incTy_get (c : Counters) (t : PtType) (s : Slot) :
    (c.incTy t).get s = c.get s + b2n (s.isTy t) := by
  cases s with
  | ty u =>
    simp only [Counters.get, Counters.incTy, Counters.ty, TyVec.get_set, Slot.isTy]
    by_cases h : t = u
    · subst h; simp
    · simp [Ne.symm h, beq_eq_false_iff_ne.mpr h]
  | _ => rfl

theorem decTy_get (c : Counters) (t : PtType) (s : Slot) :
    (c.decTy t).get s = c.get s - b2n (s.isTy t) := by
  cases s with
  | ty u =>
    simp only [Counters.get, Counters.decTy, Counters.ty, TyVec.get_set, Slot.isTy]
    by_cases h : t = u
    · subst h; simp
    · simp [Ne.symm h, beq_eq_false_iff_ne.mpr h]
  | _ => rfl

theorem inc_get (c : Counters) (r : EvRec) (s : Slot) : (c.inc r).get s = c.get s + b2n (s.has r) := by
  rw [Counters.inc, DbTables.typeCounterModify_own, incCls_get, incTy_get, Slot.b2n_has]; omega

theorem dec_get (c : Counters) (r : EvRec) (s : Slot) : (c.dec r).get s = c.get s - b2n (s.has r) := by
  rw [Counters.dec, DbTables.countersDecrement_own, decTy_get, decCls_get, Slot.b2n_has]; omega

/-- the two decrements `insert` makes for a discarded record `r`, the two increments for a new one -/
theorem decTy_decCls_get (c : Counters) (k : Nat) (t : PtType) (r : EvRec) (hk : r.cls = k) (ht : r.ty = t) (s : Slot) :
    ((c.decTy t).decCls k).get s = c.get s - b2n (s.has r) := by
  rw [decCls_get, decTy_get, Slot.b2n_has, hk, ht]; omega

theorem incCls_incTy_get (c : Counters) (k : Nat) (t : PtType) (r : EvRec) (hk : r.cls = k) (ht : r.ty = t) (s : Slot) :
    ((c.incCls k).incTy t).get s = c.get s + b2n (s.has r) := by
  rw [incTy_get, incCls_get, Slot.b2n_has, hk, ht]; omega

theorem countP_cons_b2n (p : EvRec → Bool) (r : EvRec) (l : List EvRec) :
    (r :: l).countP p = l.countP p + b2n (p r) := List.countP_cons

theorem tallyBy_cons_get (p : EvRec → Bool) (r : EvRec) (l : List EvRec) (s : Slot) :
    (tallyBy p (r :: l)).get s = (tallyBy p l).get s + b2n (p r && s.has r) := by
  simp only [tallyBy_get, countP_cons_b2n]

theorem tallyBy_middle_get (p : EvRec → Bool) (pre post : List EvRec) (d : EvRec) (s : Slot) :
    (tallyBy p (pre ++ d :: post)).get s = (tallyBy p (pre ++ post)).get s + b2n (p d && s.has d) := by
  simp only [tallyBy_get, List.countP_append, countP_cons_b2n]; omega

theorem tallyBy_snoc_get (p : EvRec → Bool) (l : List EvRec) (r : EvRec) (s : Slot) :
    (tallyBy p (l ++ [r])).get s = (tallyBy p l).get s + b2n (p r && s.has r) := by
  simp only [tallyBy_get, List.countP_append, countP_cons_b2n, List.countP_nil, Nat.zero_add]

theorem tallyBy_pos {p : EvRec → Bool} {l : List EvRec} {d : EvRec} (hd : d ∈ l) (hp : p d = true) {s : Slot}
    (hs : s.has d = true) : 1 ≤ (tallyBy p l).get s := by
  rw [tallyBy_get]; exact List.countP_pos_iff.mpr ⟨d, hd, by rw [hp, hs]; rfl⟩

theorem tallyBy_filter_split (p q : EvRec → Bool) (l : List EvRec) (s : Slot) :
    (tallyBy p l).get s = (tallyBy p (l.filter q)).get s + (tallyBy p (l.filter (fun r => !q r))).get s := by
  simp only [tallyBy_get]; exact List.countP_eq_countP_filter_add ..

theorem tallyBy_none (p : EvRec → Bool) (l : List EvRec) (h : ∀ r ∈ l, p r = false) : tallyBy p l = {} := by
  refine Counters.ext_get fun s => ?_
  rw [tallyBy_get, get_empty, List.countP_eq_zero]
  intro r hr; rw [h r hr]; exact Bool.false_ne_true

theorem foldl_inc_get (s : Slot) : ∀ (w : List EvRec) (c : Counters),
    (w.foldl Counters.inc c).get s = c.get s + (tallyBy anyRec w).get s
  | [], c => by rw [tallyBy_nil, get_empty]; rfl
  | r :: rs, c => by
    rw [List.foldl_cons, foldl_inc_get s rs, inc_get, tallyBy_cons_get, anyRec, Bool.true_and]; omega

theorem foldl_dec_get (s : Slot) : ∀ (g : List EvRec) (c : Counters),
    (g.foldl Counters.dec c).get s = c.get s - (tallyBy anyRec g).get s
  | [], c => by rw [tallyBy_nil, get_empty]; rfl
  | r :: rs, c => by
    rw [List.foldl_cons, foldl_dec_get s rs, dec_get, tallyBy_cons_get, anyRec, Bool.true_and]; omega

theorem tallyBy_cons (p : EvRec → Bool) (r : EvRec) (l : List EvRec) :
    tallyBy p (r :: l) = if p r then (tallyBy p l).inc r else tallyBy p l := by
  refine Counters.ext_get fun s => ?_
  rw [tallyBy_cons_get]
  cases hp : p r
  · exact Nat.add_zero _
  · exact (inc_get _ r s).symm

theorem removeFirstTy_cases (t : PtType) : ∀ l : List EvRec,
    (removeFirstTy t l = none ∧ ∀ r ∈ l, r.ty ≠ t) ∨
    ∃ pre d post, l = pre ++ d :: post ∧ d.ty = t ∧ (∀ r ∈ pre, r.ty ≠ t) ∧ removeFirstTy t l = some (d, pre ++ post)
  | [] => .inl ⟨rfl, fun _ h => nomatch h⟩
  | r :: rs => by
    have cons : ∀ {l : List EvRec}, (∀ x ∈ l, x.ty ≠ t) → r.ty ≠ t → ∀ x ∈ r :: l, x.ty ≠ t := fun hl hr x hx => by
      rcases List.mem_cons.mp hx with rfl | hx
      · exact hr
      · exact hl x hx
    unfold removeFirstTy
    by_cases hr : r.ty = t
    · rw [if_pos hr]; exact .inr ⟨[], r, rs, rfl, hr, fun _ h => absurd h List.not_mem_nil, rfl⟩
    · rw [if_neg hr]
      rcases removeFirstTy_cases t rs with ⟨hn, hall⟩ | ⟨pre, d, post, rfl, hd, hpre, hs⟩
      · rw [hn]; exact .inl ⟨rfl, cons hall hr⟩
      · rw [hs]; exact .inr ⟨r :: pre, d, post, rfl, hd, cons hpre hr, rfl⟩

theorem removeFirstTy_spec (t : PtType) (l : List EvRec) (d : EvRec) (rest : List EvRec)
    (h : removeFirstTy t l = some (d, rest)) :
    d.ty = t ∧ ∃ pre post, l = pre ++ d :: post ∧ rest = pre ++ post ∧ ∀ r ∈ pre, r.ty ≠ t := by
  rcases removeFirstTy_cases t l with ⟨hn, _⟩ | ⟨pre, d', post, hl, hd, hpre, hs⟩
  · rw [hn] at h; cases h
  · rw [hs] at h; cases h; exact ⟨hd, pre, post, hl, rfl, hpre⟩

/-- the record `insert` appends -/
def mkRec (db : Db) (idx cls : Nat) (t : PtType) (m : Meas) (dv : Nat) : EvRec :=
  { id := db.next, index := idx, cls := cls, ty := t, m := m, defVar := dv, selVar := dv }

theorem insert_cases (db : Db) (idx cls : Nat) (t : PtType) (m : Meas) (dv : Nat) :
    (db.evCfg.get t = 0 ∧ db.insert idx cls t m dv = (db, .typeMaxIsZero)) ∨
    (db.evCfg.get t ≠ 0 ∧ ∃ pre d post, db.total.ty t = db.evCfg.get t ∧ db.events = pre ++ d :: post ∧ d.ty = t ∧
      (∀ r ∈ pre, r.ty ≠ t) ∧
      db.insert idx cls t m dv =
        ({ db with next := db.next + 1, events := pre ++ post ++ [mkRec db idx cls t m dv]
                   total := (((db.total.decTy t).decCls d.cls).incCls cls).incTy t
                   written := if d.st = .written then (db.written.decTy t).decCls d.cls else db.written
                   overflown := true }, .overflow db.next d.id)) ∨
    (db.evCfg.get t ≠ 0 ∧ (db.total.ty t ≠ db.evCfg.get t ∨ ∀ r ∈ db.events, r.ty ≠ t) ∧
      db.insert idx cls t m dv =
        ({ db with next := db.next + 1, events := db.events ++ [mkRec db idx cls t m dv]
                   total := (db.total.incCls cls).incTy t }, .ok db.next)) := by
  unfold Db.insert mkRec
  simp only [DbTables.insertable_own]
  by_cases h0 : db.evCfg.get t = 0
  · left; simp [h0]
  · right
    simp only [h0, if_false]
    by_cases hfull : db.total.ty t = db.evCfg.get t
    · rcases removeFirstTy_cases t db.events with ⟨hn, hall⟩ | ⟨pre, d, post, hl, hd, hpre, hs⟩
      · right; exact ⟨h0, Or.inr hall, by rw [if_pos hfull, hn]⟩
      · left; exact ⟨h0, pre, d, post, hfull, hl, hd, hpre, by rw [if_pos hfull, hs]⟩
    · right; exact ⟨h0, Or.inl hfull, by rw [if_neg hfull]⟩

theorem insert_total (db : Db) (idx cls : Nat) (t : PtType) (m : Meas) (dv : Nat)
    (h : TotalExact db) : TotalExact (db.insert idx cls t m dv).1 := by
  rcases insert_cases db idx cls t m dv with ⟨_, he⟩ | ⟨_, pre, d, post, _, hl, hty, _, he⟩ | ⟨_, _, he⟩ <;> rw [he]
  · exact h
  · refine Counters.ext_get fun s => ?_
    have h0 : db.total.get s = _ := congrArg (·.get s) h
    rw [hl, tallyBy_middle_get] at h0
    show ((((db.total.decTy t).decCls d.cls).incCls cls).incTy t).get s =
      (tallyBy anyRec (pre ++ post ++ [mkRec db idx cls t m dv])).get s
    rw [incCls_incTy_get _ cls t (mkRec db idx cls t m dv) rfl rfl, decTy_decCls_get _ d.cls t d rfl hty, tallyBy_snoc_get, h0]
    simp only [anyRec, Bool.true_and]; omega
  · refine Counters.ext_get fun s => ?_
    show ((db.total.incCls cls).incTy t).get s = (tallyBy anyRec (db.events ++ [mkRec db idx cls t m dv])).get s
    rw [incCls_incTy_get _ cls t (mkRec db idx cls t m dv) rfl rfl, tallyBy_snoc_get, ← (h : db.total = _)]; rfl

theorem insert_written (db : Db) (idx cls : Nat) (t : PtType) (m : Meas) (dv : Nat)
    (h : WrittenExact db) : WrittenExact (db.insert idx cls t m dv).1 := by
  have hmk : ∀ (l : List EvRec) (s : Slot),
      (tallyBy isWritten (l ++ [mkRec db idx cls t m dv])).get s = (tallyBy isWritten l).get s :=
    fun l s => tallyBy_snoc_get ..
  rcases insert_cases db idx cls t m dv with ⟨_, he⟩ | ⟨_, pre, d, post, _, hl, hty, _, he⟩ | ⟨_, _, he⟩ <;> rw [he]
  · exact h
  · refine Counters.ext_get fun s => ?_
    have h0 : db.written.get s = _ := congrArg (·.get s) h
    rw [hl, tallyBy_middle_get] at h0
    show (if d.st = .written then (db.written.decTy t).decCls d.cls else db.written).get s =
      (tallyBy isWritten (pre ++ post ++ [mkRec db idx cls t m dv])).get s
    rw [hmk]
    by_cases hst : d.st = .written
    · have hd : isWritten d = true := by simp [isWritten, hst]
      rw [if_pos hst, decTy_decCls_get _ d.cls t d rfl hty, h0, hd, Bool.true_and]; omega
    · have hd : isWritten d = false := by simp [isWritten, hst]
      rw [if_neg hst, h0, hd]; rfl
  · exact Counters.ext_get fun s => (congrArg (·.get s) h).trans (hmk _ s).symm

theorem insert_events (db : Db) (idx cls : Nat) (t : PtType) (m : Meas) (dv : Nat) :
    (db.insert idx cls t m dv).1 = db ∨
    ∃ l, l.Sublist db.events ∧ (db.insert idx cls t m dv).1.events = l ++ [mkRec db idx cls t m dv] ∧
      (db.insert idx cls t m dv).1.next = db.next + 1 := by
  rcases insert_cases db idx cls t m dv with ⟨_, he⟩ | ⟨_, pre, d, post, _, hl, _, _, he⟩ | ⟨_, _, he⟩ <;> rw [he]
  · exact Or.inl rfl
  · exact Or.inr ⟨_, hl ▸ List.Sublist.append (List.Sublist.refl _) (List.sublist_cons_self _ _), rfl, rfl⟩
  · exact Or.inr ⟨_, List.Sublist.refl _, rfl, rfl⟩

theorem insert_ordered (db : Db) (idx cls : Nat) (t : PtType) (m : Meas) (dv : Nat)
    (h : Ordered db) : Ordered (db.insert idx cls t m dv).1 := by
  rcases insert_events db idx cls t m dv with he | ⟨l, hl, he, hnext⟩
  · rw [he]; exact h
  · obtain ⟨hp, hn⟩ := h
    unfold Ordered
    rw [he, hnext]
    constructor
    · rw [List.pairwise_append]
      refine ⟨hp.sublist hl, by simp, ?_⟩
      intro a ha b hb
      rw [List.mem_singleton.mp hb]
      exact hn a (hl.subset ha)
    · intro r hr
      rcases List.mem_append.mp hr with hr | hr
      · exact Nat.lt_succ_of_lt (hn r (hl.subset hr))
      · rw [List.mem_singleton.mp hr]; exact Nat.lt_succ_self _

def EbEq (db db' : Db) : Prop :=
  db'.events = db.events ∧ db'.total = db.total ∧ db'.written = db.written ∧ db'.next = db.next ∧
  db'.evCfg = db.evCfg ∧ db'.overflown = db.overflown

theorem EbEq.refl (db : Db) : EbEq db db := ⟨rfl, rfl, rfl, rfl, rfl, rfl⟩
theorem EbEq.trans {a b c : Db} (h1 : EbEq a b) (h2 : EbEq b c) : EbEq a c := by
  obtain ⟨a1, a2, a3, a4, a5, a6⟩ := h1
  obtain ⟨b1, b2, b3, b4, b5, b6⟩ := h2
  exact ⟨b1.trans a1, b2.trans a2, b3.trans a3, b4.trans a4, b5.trans a5, b6.trans a6⟩

theorem setMap_eb (db : Db) (t : PtType) (m : List (Nat × Point)) : EbEq db (db.setMap t m) :=
  ⟨rfl, rfl, rfl, rfl, rfl, rfl⟩

/-- what `insert` and `clear_written_events` leave alone (`insert_st`, `clear_st`; `write_events` too, by `rfl`) -/
def StEq (db db' : Db) : Prop :=
  db'.maps = db.maps ∧ db'.queue = db.queue ∧ db'.attrSel = db.attrSel ∧ db'.czero = db.czero ∧
  db'.selCap = db.selCap

theorem insert_st (db : Db) (idx cls : Nat) (t : PtType) (m : Meas) (dv : Nat) : StEq db (db.insert idx cls t m dv).1 := by
  rcases insert_cases db idx cls t m dv with ⟨_, he⟩ | ⟨_, _, _, _, _, _, _, _, he⟩ | ⟨_, _, he⟩ <;> rw [he] <;>
    exact ⟨rfl, rfl, rfl, rfl, rfl⟩

theorem TyVec.get_set_same' {α : Type} (v : TyVec α) (t : PtType) (x : α) : (v.set t x).get t = x := by
  rw [TyVec.get_set, if_pos rfl]

theorem TyVec.get_set_ne' {α : Type} (v : TyVec α) {t u : PtType} (h : u ≠ t) (x : α) :
    (v.set t x).get u = v.get u := by
  rw [TyVec.get_set, if_neg h]

/-- `T::get_map` is the type's own map (`DbTables.updatable_own`) -/
theorem Db.getMap_eq' (db : Db) (t : PtType) : db.getMap t = db.map t := by
  unfold Db.getMap; rw [DbTables.updatable_own]

theorem Db.getMutMap_eq' (db : Db) (t : PtType) : db.getMutMap t = db.map t := by
  unfold Db.getMutMap; rw [DbTables.updatable_own]

theorem Db.setMutMap_eq' (db : Db) (t : PtType) (m : PMap) : db.setMutMap t m = db.setMap t m := by
  unfold Db.setMutMap; rw [DbTables.updatable_own]

theorem Db.map_setMap' (db : Db) (t u : PtType) (m : PMap) :
    (db.setMap t m).map u = if u = t then m else db.map u := by
  unfold Db.map Db.setMap; exact TyVec.get_set ..

theorem Db.map_setMap_same' (db : Db) (t : PtType) (m : PMap) : (db.setMap t m).map t = m := by
  rw [Db.map_setMap']; simp

theorem pushSel_room (db : Db) (it : SelItem) (hroom : db.queue.length ≠ db.selCap) :
    db.pushSel it = ({ db with queue := db.queue ++ [it] }, 0) := by
  unfold Db.pushSel; rw [if_neg hroom]

theorem selectStatic_some (db : Db) (t : PtType) (var : Option Nat) (a b : Nat) :
    db.selectStatic t var (some (a, b)) =
      (db.setMap t (snapshot a b (db.map t))).pushSel { kind := kindOf t var, start := a, stop := b } := by
  unfold Db.selectStatic
  simp only [Db.getMutMap_eq', Db.setMutMap_eq']

theorem selectStatic_none (db : Db) (t : PtType) (var : Option Nat) :
    db.selectStatic t var none =
      match fullRange (db.map t) with
      | none => (db, 0)
      | some r => db.selectStatic t var (some r) := by
  unfold Db.selectStatic
  simp only [Db.getMutMap_eq']
  cases fullRange (db.map t) <;> rfl

def MapsSame {α : Type} (f : Nat × Point → α) (db db' : Db) : Prop :=
  ∀ t, (db'.map t).map f = (db.map t).map f

abbrev KeysSame (db db' : Db) : Prop := MapsSame (fun x => x.1) db db'

section
variable {α : Type} {f : Nat × Point → α}

theorem MapsSame.refl (db : Db) : MapsSame f db db := fun _ => rfl
theorem MapsSame.trans {a b c : Db} (h1 : MapsSame f a b) (h2 : MapsSame f b c) : MapsSame f a c :=
  fun t => (h2 t).trans (h1 t)

theorem MapsSame.of_maps {db db' : Db} (hm : db'.maps = db.maps) : MapsSame f db db' :=
  fun t => by unfold Db.map; rw [hm]

theorem MapsSame.comp {β : Type} (g : α → β) {db db' : Db} (h : MapsSame f db db') : MapsSame (fun x => g (f x)) db db' :=
  fun t => (List.map_map (f := f) (g := g)).symm.trans ((congrArg (List.map g) (h t)).trans List.map_map)

theorem MapsSame.forall {db db' : Db} (h : MapsSame f db db') (Q : α → Prop) (t : PtType)
    (hq : ∀ p ∈ db.map t, Q (f p)) : ∀ p ∈ db'.map t, Q (f p) := by
  intro p hp
  have : f p ∈ (db'.map t).map f := List.mem_map.mpr ⟨p, hp, rfl⟩
  rw [h t] at this
  obtain ⟨q, hq', e⟩ := List.mem_map.mp this
  exact e ▸ hq q hq'

theorem MapsSame.nil {db db' : Db} (h : MapsSame f db db') {t : PtType} (he : db.map t = []) : db'.map t = [] :=
  List.map_eq_nil_iff.mp ((h t).trans (he ▸ rfl))

theorem setMap_mapsSame (db : Db) (t : PtType) (m : PMap) (h : m.map f = (db.map t).map f) :
    MapsSame f db (db.setMap t m) := by
  intro u
  rw [Db.map_setMap']
  split
  · next e => rw [e]; exact h
  · rfl

structure SelFrame (f : Nat × Point → α) (db db' : Db) : Prop where
  eb : EbEq db db'
  maps : MapsSame f db db'
  czero : db'.czero = db.czero
  selCap : db'.selCap = db.selCap

theorem SelFrame.refl (db : Db) : SelFrame f db db := ⟨EbEq.refl db, MapsSame.refl db, rfl, rfl⟩
theorem SelFrame.trans {a b c : Db} (h1 : SelFrame f a b) (h2 : SelFrame f b c) : SelFrame f a c :=
  ⟨h1.eb.trans h2.eb, h1.maps.trans h2.maps, h2.czero.trans h1.czero, h2.selCap.trans h1.selCap⟩

/-- `select_range_with_variation` changes `selected` cells only -/
theorem snapshot_map (hf : ∀ i p s, f (i, { p with selected := s }) = f (i, p)) (a b : Nat) :
    ∀ m : PMap, (snapshot a b m).map f = m.map f
  | [] => rfl
  | (i, p) :: rest => by
    simp only [snapshot, List.map_cons, snapshot_map hf a b rest]
    split
    · rw [hf]
    · rfl

theorem pushSel_frame (db : Db) (it : SelItem) : SelFrame f db (db.pushSel it).1 := by
  unfold Db.pushSel; split <;> exact ⟨⟨rfl, rfl, rfl, rfl, rfl, rfl⟩, fun _ => rfl, rfl, rfl⟩

theorem selectStatic_frame (hf : ∀ i p s, f (i, { p with selected := s }) = f (i, p)) (db : Db) (t : PtType)
    (var : Option Nat) (range : Option (Nat × Nat)) : SelFrame f db (db.selectStatic t var range).1 := by
  have ranged : ∀ r : Nat × Nat, SelFrame f db (db.selectStatic t var (some r)).1 := fun r => by
    rw [selectStatic_some]
    exact SelFrame.trans ⟨setMap_eb .., setMap_mapsSame db t _ (snapshot_map hf ..), rfl, rfl⟩ (pushSel_frame _ _)
  cases range with
  | some r => exact ranged r
  | none =>
    rw [selectStatic_none]
    split
    · exact SelFrame.refl db
    · exact ranged _

theorem selectClass0_frame (hf : ∀ i p s, f (i, { p with selected := s }) = f (i, p)) (db : Db) :
    SelFrame f db db.selectClass0.1 := by
  unfold Db.selectClass0
  refine List.foldlRecOn _ _ (motive := fun q : Db × Nat => SelFrame f db q.1) (SelFrame.refl db) fun q h t _ => h.trans ?_
  split
  · exact selectStatic_frame hf ..
  · exact SelFrame.refl _

end

theorem addCfg_cases (db : Db) (t : PtType) (idx cls sv ev dbd : Nat) :
    (db.addCfg t idx cls sv ev dbd).1 = db ∨
    ∃ m, pmInsert (db.map t) idx
        { current := defaultMeas t, selected := defaultMeas t, lastEvent := defaultMeas t,
          cls := normClass cls, svar := sv, evar := ev, deadband := dbd } = some m ∧
      (db.addCfg t idx cls sv ev dbd).1 = db.setMap t m := by
  unfold Db.addCfg
  rw [Db.getMutMap_eq']
  split
  · next m h => exact Or.inr ⟨m, h, Db.setMutMap_eq' ..⟩
  · exact Or.inl rfl

theorem addCfg_eb (db : Db) (t : PtType) (idx cls sv ev dbd : Nat) : EbEq db (db.addCfg t idx cls sv ev dbd).1 := by
  rcases addCfg_cases db t idx cls sv ev dbd with h | ⟨m, _, h⟩ <;> rw [h]
  · exact EbEq.refl _
  · exact setMap_eb ..

theorem add_eb (db : Db) (t : PtType) (idx cls : Nat) : EbEq db (db.add t idx cls).1 :=
  addCfg_eb db t _ cls _ _ _

def infoOf : InsertResult → UpdInfo
  | .typeMaxIsZero => .noEvent
  | .ok id => .created id
  | .overflow c d => .overflow c d

/-- the point `update2` leaves behind: the static value follows `update_static`; the detector's baseline
    `lastEvent` becomes the new value exactly when an event is wanted -/
def updPoint (t : PtType) (p : Point) (m : Meas) (o : UpdOpts) : Point :=
  { p with current := if o.updateStatic then m else p.current
           lastEvent := if wantsEvent t p m o.mode then m else p.lastEvent }

theorem updateOpt_cases (db : Db) (t : PtType) (idx : Nat) (m : Meas) (o : UpdOpts) :
    (pmLookup (db.map t) idx = none ∧ db.updateOpt t idx m o = (db, .noPoint)) ∨
    ∃ p db0, pmLookup (db.map t) idx = some p ∧
      db0 = db.setMap t (pmSet (db.map t) idx (updPoint t p m o)) ∧
      ((¬ (wantsEvent t p m o.mode = true ∧ p.cls ≠ 0) ∧ db.updateOpt t idx m o = (db0, .noEvent)) ∨
       (wantsEvent t p m o.mode = true ∧ p.cls ≠ 0 ∧ db.updateOpt t idx m o =
          ((db0.insert idx p.cls t m p.evar).1, infoOf (db0.insert idx p.cls t m p.evar).2))) := by
  simp only [← Db.getMutMap_eq', ← Db.setMutMap_eq']
  unfold Db.updateOpt
  cases hl : pmLookup (db.getMutMap t) idx with
  | none => exact Or.inl ⟨rfl, rfl⟩
  | some p =>
    refine Or.inr ⟨p, _, rfl, rfl, ?_⟩
    simp only [updPoint]
    generalize wantsEvent t p m o.mode = we
    generalize o.updateStatic = us
    by_cases hc : p.cls = 0
    · refine Or.inl ⟨fun h => h.2 hc, ?_⟩
      cases us <;> cases we <;> simp only [Bool.false_eq_true, if_true, if_false, if_pos hc]
    · cases we
      · refine Or.inl ⟨fun h => Bool.false_ne_true h.1, ?_⟩
        cases us <;> simp only [Bool.false_eq_true, if_true, if_false]
      · refine Or.inr ⟨rfl, hc, ?_⟩
        cases us <;> simp only [Bool.false_eq_true, if_true, if_false, if_neg hc] <;> split <;> rename_i heq <;>
          simp only [heq, infoOf]

theorem updateOpt_spec (db : Db) (t : PtType) (idx : Nat) (m : Meas) (o : UpdOpts) :
    ∃ db0, EbEq db db0 ∧
      (db.updateOpt t idx m o = (db0, .noPoint) ∨ db.updateOpt t idx m o = (db0, .noEvent) ∨
       ∃ p, pmLookup (db.getMutMap t) idx = some p ∧ p.cls ≠ 0 ∧ db.updateOpt t idx m o =
          ((db0.insert idx p.cls t m p.evar).1, infoOf (db0.insert idx p.cls t m p.evar).2)) := by
  rw [Db.getMutMap_eq']
  rcases updateOpt_cases db t idx m o with ⟨_, h⟩ | ⟨p, db0, hl, rfl, ⟨_, h⟩ | ⟨_, hc, h⟩⟩
  · exact ⟨db, EbEq.refl db, Or.inl h⟩
  · exact ⟨_, setMap_eb db t _, Or.inr (Or.inl h)⟩
  · exact ⟨_, setMap_eb db t _, Or.inr (Or.inr ⟨p, hl, hc, h⟩)⟩

theorem insert_reports (db : Db) (idx cls : Nat) (t : PtType) (m : Meas) (dv : Nat) :
    (db.evCfg.get t = 0 ∧ infoOf (db.insert idx cls t m dv).2 = .noEvent) ∨
    (db.evCfg.get t ≠ 0 ∧ ((∃ id, infoOf (db.insert idx cls t m dv).2 = .created id) ∨
      ∃ c d, infoOf (db.insert idx cls t m dv).2 = .overflow c d)) := by
  rcases insert_cases db idx cls t m dv with ⟨h0, he⟩ | ⟨h0, _, _, _, _, _, _, _, he⟩ | ⟨h0, _, he⟩ <;> rw [he]
  · exact Or.inl ⟨h0, rfl⟩
  · exact Or.inr ⟨h0, Or.inr ⟨_, _, rfl⟩⟩
  · exact Or.inr ⟨h0, Or.inl ⟨_, rfl⟩⟩

theorem update_spec (db : Db) (t : PtType) (idx : Nat) (m : Meas) :
    ∃ db0, EbEq db db0 ∧
      (db.updateM t idx m = (db0, .noPoint) ∨ db.updateM t idx m = (db0, .noEvent) ∨
       ∃ p, pmLookup (db.getMutMap t) idx = some p ∧ p.cls ≠ 0 ∧ db.updateM t idx m =
          ((db0.insert idx p.cls t m p.evar).1, infoOf (db0.insert idx p.cls t m p.evar).2)) :=
  updateOpt_spec db t idx m {}

theorem update_spec_enc (db : Db) (t : PtType) (idx : Nat) (v : Int) (f tm : Nat) :
    ∃ db0, EbEq db db0 ∧
      (db.update t idx v f tm = (db0, .noPoint) ∨ db.update t idx v f tm = (db0, .noEvent) ∨
       ∃ t' idx' cls m dv, db.update t idx v f tm =
          ((db0.insert idx' cls t' m dv).1, infoOf (db0.insert idx' cls t' m dv).2)) := by
  unfold Db.update
  obtain ⟨db0, he, h1 | h1 | ⟨p, _, _, h1⟩⟩ :=
    updateOpt_spec db (decodeUpd t idx v f tm).1 (decodeUpd t idx v f tm).2.1 (decodeUpd t idx v f tm).2.2.1
      (decodeUpd t idx v f tm).2.2.2
  · exact ⟨db0, he, Or.inl h1⟩
  · exact ⟨db0, he, Or.inr (Or.inl h1)⟩
  · exact ⟨db0, he, Or.inr (Or.inr ⟨_, _, p.cls, _, p.evar, h1⟩)⟩

inductive Pointwise {α : Type} (R : α → α → Prop) : List α → List α → Prop where
  | nil : Pointwise R [] []
  | cons {a b : α} {as bs : List α} : R a b → Pointwise R as bs → Pointwise R (a :: as) (b :: bs)

theorem Pointwise.refl' {α : Type} {R : α → α → Prop} (h : ∀ a, R a a) : ∀ l : List α, Pointwise R l l
  | [] => .nil
  | a :: as => .cons (h a) (Pointwise.refl' h as)

theorem Pointwise.mono {α : Type} {R S : α → α → Prop} (h : ∀ a b, R a b → S a b) {l l' : List α}
    (p : Pointwise R l l') : Pointwise S l l' := by
  induction p with
  | nil => exact .nil
  | cons hr _ ih => exact .cons (h _ _ hr) ih

theorem Pointwise.length_eq {α : Type} {R : α → α → Prop} {l l' : List α} (p : Pointwise R l l') :
    l'.length = l.length := by
  induction p with
  | nil => rfl
  | cons _ _ ih => simp [ih]

theorem Pointwise.map_eq {α β : Type} {R : α → α → Prop} (f : α → β) (h : ∀ a b, R a b → f b = f a)
    {l l' : List α} (p : Pointwise R l l') : l'.map f = l.map f := by
  induction p with
  | nil => rfl
  | cons hr _ ih => simp [h _ _ hr, ih]

theorem Pointwise.comp {α : Type} {R S T : α → α → Prop} (h : ∀ a b c, R a b → S b c → T a c)
    {l l' l'' : List α} (p : Pointwise R l l') (q : Pointwise S l' l'') : Pointwise T l l'' := by
  induction p generalizing l'' with
  | nil => cases q; exact .nil
  | cons hr _ ih => cases q with | cons hs q' => exact .cons (h _ _ _ hr hs) (ih q')

theorem Pointwise.mem_right {α : Type} {R : α → α → Prop} {l l' : List α} (p : Pointwise R l l') :
    ∀ b ∈ l', ∃ a ∈ l, R a b := by
  induction p with
  | nil => intro b hb; cases hb
  | cons hr _ ih =>
    intro b hb
    rcases List.mem_cons.mp hb with rfl | hb
    · exact ⟨_, List.mem_cons_self .., hr⟩
    · obtain ⟨a, ha, h⟩ := ih b hb
      exact ⟨a, List.mem_cons_of_mem _ ha, h⟩

def core (r : EvRec) : Nat × Nat × Nat × PtType × Meas × Nat := (r.id, r.index, r.cls, r.ty, r.m, r.defVar)

theorem core_id {a b : EvRec} (h : core b = core a) : b.id = a.id := by
  simp only [core, Prod.mk.injEq] at h; exact h.1

theorem Slot.has_core (s : Slot) {a b : EvRec} (h : core b = core a) : s.has b = s.has a := by
  simp only [core, Prod.mk.injEq] at h
  rw [Slot.has, Slot.has, h.2.2.1, h.2.2.2.1]

theorem tallyBy_congr (p : EvRec → Bool) {R : EvRec → EvRec → Prop}
    (h : ∀ a b, R a b → core b = core a ∧ p b = p a) {l l' : List EvRec} (pw : Pointwise R l l') :
    tallyBy p l' = tallyBy p l := by
  induction pw with
  | nil => rfl
  | cons hr _ ih =>
    obtain ⟨hc, hp⟩ := h _ _ hr
    refine Counters.ext_get fun s => ?_
    rw [tallyBy_cons_get, tallyBy_cons_get, ih, hp, s.has_core hc]

theorem ordered_of_ids {l l' : List EvRec} (n : Nat) (h : l'.map (·.id) = l.map (·.id))
    (ho : l.Pairwise (fun a b => a.id < b.id) ∧ ∀ r ∈ l, r.id < n) :
    l'.Pairwise (fun a b => a.id < b.id) ∧ ∀ r ∈ l', r.id < n := by
  obtain ⟨hp, hn⟩ := ho
  constructor
  · have : (l.map (·.id)).Pairwise (· < ·) := List.pairwise_map.mpr hp
    rw [← h] at this
    exact List.pairwise_map.mp this
  · intro r hr
    have : r.id ∈ l'.map (·.id) := List.mem_map.mpr ⟨r, hr, rfl⟩
    rw [h] at this
    obtain ⟨r0, hr0, he⟩ := List.mem_map.mp this
    rw [← he]; exact hn r0 hr0

/-- What a selection, `write_events` and `reset` do to the buffer: to a property that does not read the selection state
    the three are one move -/
def EbCore (db db' : Db) : Prop :=
  Pointwise (fun a b => core b = core a) db.events db'.events ∧ db'.total = db.total ∧ db'.next = db.next ∧
  db'.evCfg = db.evCfg ∧ db'.overflown = db.overflown

theorem EbCore.cores {db db' : Db} (h : EbCore db db') : db'.events.map core = db.events.map core :=
  h.1.map_eq core fun _ _ e => e

theorem EbCore.ordered {db db' : Db} (h : EbCore db db') (ho : Ordered db) : Ordered db' := by
  unfold Ordered at *
  rw [h.2.2.1]
  exact ordered_of_ids _ (h.1.map_eq (·.id) fun _ _ e => core_id e) ho

theorem EbCore.total {db db' : Db} (h : EbCore db db') (ht : TotalExact db) : TotalExact db' := by
  unfold TotalExact at *
  rw [h.2.1, ht]
  exact (tallyBy_congr anyRec (fun _ _ e => ⟨e, rfl⟩) h.1).symm

def SelStep (a b : EvRec) : Prop :=
  b = a ∨ (a.st = .unselected ∧ ∃ v, b = { a with st := .selected, selVar := v })

theorem SelStep.core {a b : EvRec} (h : SelStep a b) : core b = core a ∧ isWritten b = isWritten a := by
  rcases h with rfl | ⟨hu, v, rfl⟩
  · exact ⟨rfl, rfl⟩
  · simp only [DbProofs.core, isWritten, hu, true_and]; decide

theorem selectEvents_pointwise (p : EvRec → Bool) (var : Option Nat) :
    ∀ (l : List EvRec) (lim : Option Nat), Pointwise SelStep l (selectEvents p var lim l).1 := by
  intro l
  induction l with
  | nil => intro lim; cases lim <;> simp [selectEvents] <;> exact .nil
  | cons r rs ih =>
    intro lim
    by_cases hz : lim = some 0
    · subst hz
      simp only [selectEvents]
      exact Pointwise.refl' (R := SelStep) (fun a => Or.inl rfl) _
    · rw [selectEvents.eq_3 _ _ _ _ _ (by intro h; exact hz h)]
      split
      · rename_i hc
        exact .cons (Or.inr ⟨hc.1, _, rfl⟩) (ih _)
      · exact .cons (Or.inl rfl) (ih _)

def EbSel (db db' : Db) : Prop :=
  Pointwise SelStep db.events db'.events ∧ db'.total = db.total ∧ db'.written = db.written ∧
  db'.next = db.next ∧ db'.evCfg = db.evCfg ∧ db'.overflown = db.overflown

theorem EbEq.toSel {db db' : Db} (h : EbEq db db') : EbSel db db' := by
  obtain ⟨h1, h2, h3, h4, h5, h6⟩ := h
  refine ⟨?_, h2, h3, h4, h5, h6⟩
  rw [h1]; exact Pointwise.refl' (R := SelStep) (fun a => Or.inl rfl) _

theorem EbSel.toCore {db db' : Db} (h : EbSel db db') : EbCore db db' :=
  ⟨h.1.mono fun _ _ hs => hs.core.1, h.2.1, h.2.2.2.1, h.2.2.2.2.1, h.2.2.2.2.2⟩

theorem EbSel.ordered {db db' : Db} (h : EbSel db db') (ho : Ordered db) : Ordered db' := h.toCore.ordered ho
theorem EbSel.written {db db' : Db} (h : EbSel db db') (ho : WrittenExact db) : WrittenExact db' := by
  obtain ⟨h1, _, h3, _, _, _⟩ := h
  unfold WrittenExact at *; rw [h3, ho]
  exact (tallyBy_congr isWritten (fun a b hs => hs.core) h1).symm

theorem EbEq.ordered {db db' : Db} (h : EbEq db db') (ho : Ordered db) : Ordered db' := h.toSel.ordered ho
theorem EbEq.written {db db' : Db} (h : EbEq db db') (ho : WrittenExact db) : WrittenExact db' := h.toSel.written ho

theorem select_cases (db : Db) {P : Db → Prop} (same : P db)
    (events : ∀ p var lim, P { db with events := (selectEvents p var lim db.events).1 })
    (static : ∀ t var range, P (db.selectStatic t var range).1) (class0 : P db.selectClass0.1)
    (push : ∀ it, P (db.pushSel it).1) (attr : P { db with attrSel := db.attrSel + 1 }) (h : ReadHdr) :
    P (db.select h).1 := by
  unfold Db.select
  split
  · exact class0
  · exact events _ _ _
  · exact events _ _ _
  · exact same
  · exact static _ _ _
  · split
    · exact same
    · exact push _
  · exact same
  · split <;> exact same
  · split
    · exact same
    · split
      · split
        · exact attr
        · exact same
      · exact same
  · exact same
  · exact same
  · exact same

theorem select_frame {α : Type} {f : Nat × Point → α} (hf : ∀ i p s, f (i, { p with selected := s }) = f (i, p))
    (db : Db) (h : ReadHdr) :
    EbSel db (db.select h).1 ∧ MapsSame f db (db.select h).1 ∧ (db.select h).1.czero = db.czero ∧
      (db.select h).1.selCap = db.selCap := by
  have frame : ∀ {d : Db}, SelFrame f db d → EbSel db d ∧ MapsSame f db d ∧ d.czero = db.czero ∧ d.selCap = db.selCap :=
    fun h => ⟨h.eb.toSel, h.maps, h.czero, h.selCap⟩
  exact select_cases db (P := fun d => EbSel db d ∧ MapsSame f db d ∧ d.czero = db.czero ∧ d.selCap = db.selCap)
    (frame (.refl db))
    (fun _ _ _ => ⟨⟨selectEvents_pointwise _ _ _ _, rfl, rfl, rfl, rfl, rfl⟩, fun _ => rfl, rfl, rfl⟩)
    (fun _ _ _ => frame (selectStatic_frame hf ..)) (frame (selectClass0_frame hf db)) (fun _ => frame (pushSel_frame ..))
    (frame ⟨⟨rfl, rfl, rfl, rfl, rfl, rfl⟩, fun _ => rfl, rfl, rfl⟩) h

theorem select_sel (db : Db) (h : ReadHdr) : EbSel db (db.select h).1 :=
  (select_frame (f := fun x => x.1) (fun _ _ _ => rfl) db h).1

theorem select_keys (db : Db) (h : ReadHdr) : KeysSame db (db.select h).1 :=
  (select_frame (fun _ _ _ => rfl) db h).2.1

def isSelected (r : EvRec) : Bool := r.st == .selected

def markFirst : Nat → List EvRec → List EvRec
  | 0, l => l
  | _, [] => []
  | n + 1, r :: rs =>
    if r.st = .selected then { r with st := .written } :: markFirst n rs else r :: markFirst (n + 1) rs

theorem markFirst_nil (n : Nat) : markFirst n [] = [] := by cases n <;> rfl

theorem markFirst_zero (l : List EvRec) : markFirst 0 l = l := by cases l <;> rfl

theorem markFirst_cons_sel (n : Nat) (r : EvRec) (rs : List EvRec) (h : r.st = .selected) :
    markFirst (n + 1) (r :: rs) = { r with st := .written } :: markFirst n rs := by
  simp [markFirst, h]

theorem markFirst_cons_other (n : Nat) (r : EvRec) (rs : List EvRec) (h : r.st ≠ .selected) :
    markFirst n (r :: rs) = r :: markFirst n rs := by
  cases n with
  | zero => rw [markFirst_zero, markFirst_zero]
  | succ n => simp [markFirst, h]

theorem evLoop_spec (cap : Nat) : ∀ (l : List EvRec) (used : Nat) (cur : Option EvCur), used ≤ cap →
    ∃ n, MaxFit (encodeEvents cur) cap used (l.filter isSelected) n ∧
      evLoop cap l used cur =
        (markFirst n l, (l.filter isSelected).take n, decide (n = (l.filter isSelected).length))
  | [], used, cur, hu => ⟨0, MaxFit.nil rfl hu, rfl⟩
  | r :: rs, used, cur, hu => by
    unfold evLoop
    by_cases hs : r.st = .selected
    · have hsel : isSelected r = true := by simp [isSelected, hs]
      rw [if_pos hs, List.filter_cons_of_pos hsel]
      by_cases hfit : used + evCost cur r ≤ cap
      · obtain ⟨n, hm, he⟩ := evLoop_spec cap rs _ (some (evNext cur r)) hfit
        rw [if_pos hfit, he]
        exact ⟨n + 1, hm.cons (encodeEvents_cons cur r), by simp [markFirst_cons_sel _ _ _ hs]⟩
      · rw [if_neg hfit]
        refine ⟨0, MaxFit.stop rfl hu ?_, by simp [markFirst_zero]⟩
        rw [encodeEvents_cons]; omega
    · have hsel : ¬ isSelected r = true := by simp [isSelected, hs]
      rw [if_neg hs, List.filter_cons_of_neg hsel]
      obtain ⟨n, hm, he⟩ := evLoop_spec cap rs used cur hu
      rw [he]
      exact ⟨n, hm, by rw [markFirst_cons_other _ _ _ hs]⟩

def WrStep (a b : EvRec) : Prop := b = a ∨ (a.st = .selected ∧ b = { a with st := .written })

theorem WrStep.core {a b : EvRec} (h : WrStep a b) : core b = core a := by
  rcases h with rfl | ⟨_, rfl⟩ <;> rfl

theorem markFirst_pointwise : ∀ (l : List EvRec) (n : Nat), Pointwise WrStep l (markFirst n l) := by
  intro l
  induction l with
  | nil => intro n; rw [markFirst_nil]; exact .nil
  | cons r rs ih =>
    intro n
    cases n with
    | zero => rw [markFirst_zero]; exact Pointwise.refl' (R := WrStep) (fun a => Or.inl rfl) _
    | succ n =>
      by_cases hs : r.st = .selected
      · rw [markFirst_cons_sel _ _ _ hs]; exact .cons (Or.inr ⟨hs, rfl⟩) (ih n)
      · rw [markFirst_cons_other _ _ _ hs]; exact .cons (Or.inl rfl) (ih (n + 1))

def EbWr (db db' : Db) : Prop :=
  Pointwise WrStep db.events db'.events ∧ db'.total = db.total ∧ db'.next = db.next ∧
  db'.evCfg = db.evCfg ∧ db'.overflown = db.overflown

theorem markFirst_tally (s : Slot) : ∀ (l : List EvRec) (n : Nat),
    (tallyBy isWritten (markFirst n l)).get s =
      (tallyBy isWritten l).get s + (tallyBy anyRec ((l.filter isSelected).take n)).get s := by
  intro l
  induction l with
  | nil => intro n; rw [markFirst_nil, List.filter_nil, List.take_nil, tallyBy_nil, tallyBy_nil, get_empty]
  | cons r rs ih =>
    intro n
    cases n with
    | zero => exact (congrArg (_ + ·) (get_empty s)).symm
    | succ n =>
      by_cases hs : r.st = .selected
      · have hsel : isSelected r = true := by simp [isSelected, hs]
        have hw : isWritten r = false := by simp [isWritten, hs]
        rw [markFirst_cons_sel _ _ _ hs, List.filter_cons_of_pos hsel, List.take_succ_cons,
          tallyBy_cons_get, tallyBy_cons_get, tallyBy_cons_get, ih n, hw]
        show _ + b2n (s.has r) = _ + b2n false + (_ + b2n (s.has r))
        rw [b2n_false]; omega
      · have hsel : ¬ isSelected r = true := by simp [isSelected, hs]
        rw [markFirst_cons_other _ _ _ hs, List.filter_cons_of_neg hsel, tallyBy_cons_get, tallyBy_cons_get,
          ih (n + 1)]
        omega

/-- `EventBuffer::write_events` in closed form -/
theorem writeEvents_spec (db : Db) (cap : Nat) :
    ∃ n, MaxFit (encodeEvents none) cap 0 (db.events.filter isSelected) n ∧
      db.writeEvents cap =
        ({ db with events := markFirst n db.events
                   written := ((db.events.filter isSelected).take n).foldl Counters.inc db.written },
         (db.events.filter isSelected).take n, decide (n = (db.events.filter isSelected).length)) := by
  obtain ⟨n, hm, he⟩ := evLoop_spec cap db.events 0 none (Nat.zero_le _)
  exact ⟨n, hm, by unfold Db.writeEvents; rw [he]⟩

theorem writeEvents_wr (db : Db) (cap : Nat) : EbWr db (db.writeEvents cap).1 := by
  obtain ⟨n, _, h⟩ := writeEvents_spec db cap
  rw [h]; exact ⟨markFirst_pointwise db.events n, rfl, rfl, rfl, rfl⟩

theorem writeEvents_len (db : Db) (cap : Nat) : (encodeEvents none (db.writeEvents cap).2.1).length ≤ cap := by
  obtain ⟨n, hm, he⟩ := writeEvents_spec db cap
  rw [he]; simpa using hm.2.1

theorem writeEvents_core (db : Db) (cap : Nat) : EbCore db (db.writeEvents cap).1 := by
  obtain ⟨n, _, h⟩ := writeEvents_spec db cap
  rw [h]; exact ⟨(markFirst_pointwise db.events n).mono fun _ _ => WrStep.core, rfl, rfl, rfl, rfl⟩

theorem writeEvents_written (db : Db) (cap : Nat) (h : WrittenExact db) :
    WrittenExact (db.writeEvents cap).1 := by
  obtain ⟨n, _, he⟩ := writeEvents_spec db cap
  rw [he]
  refine Counters.ext_get fun s => ?_
  show (List.foldl Counters.inc db.written _).get s = (tallyBy isWritten (markFirst n db.events)).get s
  rw [foldl_inc_get, markFirst_tally, (h : db.written = _)]

theorem reset_pointwise (l : List EvRec) :
    Pointwise (fun a b => b = { a with st := .unselected }) l (l.map (fun r => { r with st := .unselected })) := by
  induction l with
  | nil => exact .nil
  | cons r rs ih => exact .cons rfl ih

theorem reset_spec (db : Db) :
    db.reset.events = db.events.map (fun r => { r with st := .unselected }) ∧
    db.reset.events.map core = db.events.map core ∧
    (∀ r ∈ db.reset.events, r.st = .unselected) ∧
    db.reset.total = db.total ∧ db.reset.written = {} ∧ db.reset.next = db.next ∧
    db.reset.evCfg = db.evCfg ∧ db.reset.overflown = db.overflown ∧ db.reset.queue = [] := by
  refine ⟨rfl, ?_, ?_, rfl, rfl, rfl, rfl, rfl, rfl⟩
  · exact (reset_pointwise db.events).map_eq core (fun a b hb => by rw [hb]; rfl)
  · intro r hr
    simp only [Db.reset, List.mem_map] at hr
    obtain ⟨a, _, rfl⟩ := hr
    rfl

theorem reset_core (db : Db) : EbCore db db.reset :=
  ⟨(reset_pointwise db.events).mono fun a b hb => by rw [hb]; rfl, rfl, rfl, rfl, rfl⟩

theorem reset_written (db : Db) : WrittenExact db.reset := by
  unfold WrittenExact
  show ({} : Counters) = _
  rw [tallyBy_none]
  intro r hr
  have := (reset_spec db).2.2.1 r hr
  simp [isWritten, this]

theorem clear_spec (db : Db) :
    db.clearWritten.1.events = db.events.filter (fun r => !isWritten r) ∧
    db.clearWritten.2.1 = (db.events.filter isWritten).map (·.id) ∧
    db.clearWritten.1.written = {} ∧ db.clearWritten.1.next = db.next ∧
    db.clearWritten.1.evCfg = db.evCfg ∧
    db.clearWritten.1.total = (db.events.filter isWritten).foldl Counters.dec db.total ∧
    db.clearWritten.2.2 = (db.clearWritten.1.total.c1, db.clearWritten.1.total.c2, db.clearWritten.1.total.c3) := by
  unfold Db.clearWritten
  simp only []
  have hf : (fun r : EvRec => r.st != EvState.written) = (fun r => !isWritten r) := by
    funext r; simp [isWritten, bne]
  have hg : (fun r : EvRec => r.st == EvState.written) = isWritten := rfl
  split <;> simp only [hf, hg] <;> (repeat' constructor)

theorem clear_st (db : Db) : StEq db db.clearWritten.1 := by
  unfold Db.clearWritten
  simp only []
  split <;> exact ⟨rfl, rfl, rfl, rfl, rfl⟩

theorem clear_ordered (db : Db) (h : Ordered db) : Ordered db.clearWritten.1 := by
  obtain ⟨h1, _, _, h4, _⟩ := clear_spec db
  obtain ⟨hp, hn⟩ := h
  unfold Ordered
  rw [h1, h4]
  exact ⟨hp.sublist List.filter_sublist, fun r hr => hn r (List.mem_filter.mp hr).1⟩

theorem clear_total (db : Db) (h : TotalExact db) : TotalExact db.clearWritten.1 := by
  obtain ⟨h1, _, _, _, _, h6, _⟩ := clear_spec db
  unfold TotalExact at *
  rw [h1, h6, h]
  refine Counters.ext_get fun s => ?_
  rw [foldl_dec_get, tallyBy_filter_split anyRec isWritten db.events s]; omega

theorem clear_written (db : Db) : WrittenExact db.clearWritten.1 := by
  obtain ⟨h1, _, h3, _⟩ := clear_spec db
  unfold WrittenExact
  rw [h1, h3, tallyBy_none]
  intro r hr
  have := (List.mem_filter.mp hr).2
  simpa using this

theorem writeResponse_eb (db : Db) (cap : Nat) : EbEq (db.writeEvents cap).1 (db.writeResponse cap).1 := by
  unfold Db.writeResponse
  simp only []
  split <;> exact ⟨rfl, rfl, rfl, rfl, rfl, rfl⟩

theorem writeUnsolicited_cases (db : Db) (c1 c2 c3 : Bool) (cap : Nat) :
    ∃ evs, Pointwise SelStep db.reset.events evs ∧ ∀ dbs : Db, dbs = { db.reset with events := evs } →
      db.writeUnsolicited c1 c2 c3 cap = (dbs, [], 0) ∨
      db.writeUnsolicited c1 c2 c3 cap =
        ((dbs.writeEvents cap).1, encodeEvents none (dbs.writeEvents cap).2.1, (dbs.writeEvents cap).2.1.length) := by
  unfold Db.writeUnsolicited
  simp only []
  refine ⟨(selectEvents (fun r => (c1 && r.cls == 1) || (c2 && r.cls == 2) || (c3 && r.cls == 3)) none none db.reset.events).1,
    selectEvents_pointwise _ _ _ _, ?_⟩
  rintro _ rfl
  split
  · exact Or.inl rfl
  · exact Or.inr rfl

theorem writeUnsolicited_eb (db : Db) (c1 c2 c3 : Bool) (cap : Nat) :
    ∃ dbs, EbSel db.reset dbs ∧
      ((db.writeUnsolicited c1 c2 c3 cap).1 = dbs ∨
       (db.writeUnsolicited c1 c2 c3 cap).1 = (dbs.writeEvents cap).1) := by
  obtain ⟨evs, hp, h⟩ := writeUnsolicited_cases db c1 c2 c3 cap
  refine ⟨{ db.reset with events := evs }, ⟨hp, rfl, rfl, rfl, rfl, rfl⟩, ?_⟩
  rcases h _ rfl with he | he <;> rw [he]
  · exact Or.inl rfl
  · exact Or.inr rfl

/-! Every operation acts on the event buffer through five moves: a selection (`EbSel`; leaving the buffer alone
is the trivial one), `insert`, `writeEvents`, `reset` and `clearWritten`.  A property the five preserve is
preserved by every operation. -/

structure EbInv (P : Db → Prop) : Prop where
  sel : ∀ {a b : Db}, EbSel a b → P a → P b
  insert : ∀ (a : Db) (idx cls : Nat) (t : PtType) (m : Meas) (dv : Nat), P a → P (a.insert idx cls t m dv).1
  write : ∀ (a : Db) (cap : Nat), P a → P (a.writeEvents cap).1
  reset : ∀ a : Db, P a → P a.reset
  clear : ∀ a : Db, P a → P a.clearWritten.1

theorem EbInv.eq {P : Db → Prop} (hP : EbInv P) {a b : Db} (h : EbEq a b) : P a → P b := hP.sel h.toSel

theorem EbInv.and {P Q : Db → Prop} (hP : EbInv P) (hQ : EbInv Q) : EbInv fun d => P d ∧ Q d :=
  ⟨fun h p => ⟨hP.sel h p.1, hQ.sel h p.2⟩, fun a i c t m v p => ⟨hP.insert a i c t m v p.1, hQ.insert a i c t m v p.2⟩,
   fun a c p => ⟨hP.write a c p.1, hQ.write a c p.2⟩, fun a p => ⟨hP.reset a p.1, hQ.reset a p.2⟩,
   fun a p => ⟨hP.clear a p.1, hQ.clear a p.2⟩⟩

theorem EbInv.updateOpt {P : Db → Prop} (hP : EbInv P) (db : Db) (t : PtType) (idx : Nat) (m : Meas) (o : UpdOpts)
    (h : P db) : P (db.updateOpt t idx m o).1 := by
  obtain ⟨db0, he, h1 | h1 | ⟨p, _, _, h1⟩⟩ := updateOpt_spec db t idx m o <;> rw [h1]
  · exact hP.eq he h
  · exact hP.eq he h
  · exact hP.insert _ _ _ _ _ _ (hP.eq he h)

/-- the three moves that release no record: a selection, `writeEvents`, `reset` -/
structure KeepInv (P : Db → Prop) : Prop where
  sel : ∀ {a b : Db}, EbSel a b → P a → P b
  write : ∀ (a : Db) (cap : Nat), P a → P (a.writeEvents cap).1
  reset : ∀ a : Db, P a → P a.reset

theorem KeepInv.step {P : Db → Prop} (hP : KeepInv P) (db : Db) (op : DbOp)
    (hop : (∀ t idx v f tm, op ≠ .update t idx v f tm) ∧ op ≠ .clear) (h : P db) : P (step db op) := by
  cases op with
  | add t idx cls => exact hP.sel (add_eb db t idx cls).toSel h
  | update t idx v f tm => exact absurd rfl (hop.1 t idx v f tm)
  | select hd => exact hP.sel (select_sel db hd) h
  | write cap => exact hP.sel (writeResponse_eb db cap).toSel (hP.write db cap h)
  | unsol c1 c2 c3 cap =>
    show P (db.writeUnsolicited c1 c2 c3 cap).1
    obtain ⟨dbs, hs, he | he⟩ := writeUnsolicited_eb db c1 c2 c3 cap <;> rw [he]
    · exact hP.sel hs (hP.reset db h)
    · exact hP.write _ _ (hP.sel hs (hP.reset db h))
  | clear => exact absurd rfl hop.2
  | reset => exact hP.reset db h

theorem EbInv.keep {P : Db → Prop} (hP : EbInv P) : KeepInv P := ⟨hP.sel, hP.write, hP.reset⟩

theorem KeepInv.of_core {P : Db → Prop} (core : ∀ {a b : Db}, EbCore a b → P a → P b) : KeepInv P :=
  ⟨fun h => core h.toCore, fun a cap => core (writeEvents_core a cap), fun a => core (reset_core a)⟩

theorem EbInv.of_core {P : Db → Prop} (core : ∀ {a b : Db}, EbCore a b → P a → P b)
    (insert : ∀ (a : Db) (idx cls : Nat) (t : PtType) (m : Meas) (dv : Nat), P a → P (a.insert idx cls t m dv).1)
    (clear : ∀ a : Db, P a → P a.clearWritten.1) : EbInv P :=
  ⟨(KeepInv.of_core core).sel, insert, (KeepInv.of_core core).write, (KeepInv.of_core core).reset, clear⟩

theorem EbInv.step {P : Db → Prop} (hP : EbInv P) (db : Db) (op : DbOp) (h : P db) : P (step db op) := by
  cases op with
  | update t idx v f tm => exact hP.updateOpt db _ _ _ _ h
  | clear => exact hP.clear db h
  | _ => exact hP.keep.step db _ ⟨fun _ _ _ _ _ e => (by cases e), fun e => (by cases e)⟩ h

theorem EbInv.run {P : Db → Prop} (hP : EbInv P) (db : Db) (ops : List DbOp) (h : P db) : P (run db ops) :=
  List.foldlRecOn ops DbProofs.step h fun db h op _ => hP.step db op h

theorem ordered_inv : EbInv Ordered := .of_core EbCore.ordered insert_ordered clear_ordered

theorem total_inv : EbInv TotalExact := .of_core EbCore.total insert_total clear_total

theorem written_inv : EbInv WrittenExact :=
  ⟨EbSel.written, insert_written, writeEvents_written, fun a _ => reset_written a, fun a _ => clear_written a⟩

theorem counters_inv : EbInv CountersExact := total_inv.and written_inv

theorem updateM_ordered (db : Db) (t : PtType) (idx : Nat) (m : Meas) (h : Ordered db) :
    Ordered (db.updateM t idx m).1 := ordered_inv.updateOpt db t idx m {} h

theorem updateM_total (db : Db) (t : PtType) (idx : Nat) (m : Meas) (h : TotalExact db) :
    TotalExact (db.updateM t idx m).1 := total_inv.updateOpt db t idx m {} h

theorem updateM_written (db : Db) (t : PtType) (idx : Nat) (m : Meas) (h : WrittenExact db) :
    WrittenExact (db.updateM t idx m).1 := written_inv.updateOpt db t idx m {} h

instance (db : Db) : Decidable (TotalExact db) := by unfold TotalExact; exact inferInstance
instance (db : Db) : Decidable (WrittenExact db) := by unfold WrittenExact; exact inferInstance
instance (db : Db) : Decidable (CountersExact db) := by unfold CountersExact; exact inferInstance
instance (db : Db) : Decidable (Ordered db) := by unfold Ordered; exact inferInstance

theorem ordered_id_inj {l : List EvRec} (hp : l.Pairwise (fun a b => a.id < b.id)) {x r : EvRec}
    (hx : x ∈ l) (hr : r ∈ l) (hid : x.id = r.id) : x = r := by
  induction l with
  | nil => simp at hx
  | cons a as ih =>
    obtain ⟨h1, h2⟩ := List.pairwise_cons.mp hp
    rcases List.mem_cons.mp hx with rfl | hx' <;> rcases List.mem_cons.mp hr with rfl | hr'
    · rfl
    · exact absurd hid (Nat.ne_of_lt (h1 r hr'))
    · exact absurd hid.symm (Nat.ne_of_lt (h1 x hx'))
    · exact ih h2 hx' hr'

theorem newCfg_ordered (ev : TyVec Nat) (cz : TyVec Bool) (sel : Option Nat) : Ordered (Db.newCfg ev cz sel) := by
  simp [Ordered, Db.newCfg]
theorem newCfg_total (ev : TyVec Nat) (cz : TyVec Bool) (sel : Option Nat) : TotalExact (Db.newCfg ev cz sel) := rfl
theorem newCfg_written (ev : TyVec Nat) (cz : TyVec Bool) (sel : Option Nat) :
    WrittenExact (Db.newCfg ev cz sel) := rfl

theorem new_ordered (evMax : Nat) (sel : Option Nat) : Ordered (Db.new evMax sel) := newCfg_ordered _ _ sel

theorem ordered_run (db : Db) (ops : List DbOp) (h : Ordered db) : Ordered (run db ops) :=
  ordered_inv.run db ops h

theorem counters_step (db : Db) (op : DbOp) (h : CountersExact db) : CountersExact (step db op) :=
  counters_inv.step db op h

theorem counters_run (db : Db) (ops : List DbOp) (h : CountersExact db) : CountersExact (run db ops) :=
  counters_inv.run db ops h

theorem newCfg_counters (ev : TyVec Nat) (cz : TyVec Bool) (sel : Option Nat) :
    CountersExact (Db.newCfg ev cz sel) :=
  ⟨newCfg_total ev cz sel, newCfg_written ev cz sel⟩

theorem new_counters (evMax : Nat) (sel : Option Nat) : CountersExact (Db.new evMax sel) :=
  ⟨newCfg_total _ _ sel, newCfg_written _ _ sel⟩

def SurvivesIn (r : EvRec) (l' : List EvRec) : Prop := ∃ r' ∈ l', core r' = core r

theorem survives_of_map_core {l l' : List EvRec} (h : l'.map core = l.map core) (r : EvRec) (hr : r ∈ l) :
    SurvivesIn r l' := by
  have : core r ∈ l.map core := List.mem_map.mpr ⟨r, hr, rfl⟩
  rw [← h] at this
  obtain ⟨r', hr', he⟩ := List.mem_map.mp this
  exact ⟨r', hr', he⟩

theorem SurvivesIn.trans {r : EvRec} {l l' : List EvRec} (h : SurvivesIn r l) (h2 : ∀ x ∈ l, SurvivesIn x l') :
    SurvivesIn r l' := by
  obtain ⟨x, hx, e1⟩ := h
  obtain ⟨y, hy, e2⟩ := h2 x hx
  exact ⟨y, hy, e2.trans e1⟩

theorem survives_keep (r : EvRec) : KeepInv fun d => SurvivesIn r d.events :=
  .of_core fun h p => p.trans (survives_of_map_core h.cores)

theorem insert_survives (db : Db) (idx cls : Nat) (t : PtType) (m : Meas) (dv : Nat) (r : EvRec)
    (hr : r ∈ db.events) :
    SurvivesIn r (db.insert idx cls t m dv).1.events ∨
    ∃ c, (db.insert idx cls t m dv).2 = .overflow c r.id := by
  rcases insert_cases db idx cls t m dv with ⟨_, he⟩ | ⟨_, pre, d, post, _, hl, _, _, he⟩ | ⟨_, _, he⟩
  · rw [he]; exact Or.inl ⟨r, hr, rfl⟩
  · rw [he]
    rw [hl] at hr
    rcases List.mem_append.mp hr with h | h
    · exact Or.inl ⟨r, by simp [h], rfl⟩
    · rcases List.mem_cons.mp h with h | h
      · right; exact ⟨db.next, by rw [h]⟩
      · exact Or.inl ⟨r, by simp [h], rfl⟩
  · rw [he]; exact Or.inl ⟨r, by simp [hr], rfl⟩

/-- the only ways a record leaves the buffer (`Props.C03.kept`: after a `DbOp` a record survives or is `Lost`) -/
def Lost (db : Db) (op : DbOp) (r : EvRec) : Prop :=
  match op with
  | .update t idx v f tm => ∃ c, (db.update t idx v f tm).2 = .overflow c r.id
  | .clear => r.id ∈ db.clearWritten.2.1
  | _ => False

theorem overflow_discards_oldest (db : Db) (idx cls : Nat) (t : PtType) (m : Meas) (dv : Nat) (c dId : Nat)
    (ho : Ordered db) (h : (db.insert idx cls t m dv).2 = .overflow c dId) :
    ∃ d ∈ db.events, d.id = dId ∧ d.ty = t ∧
      (db.insert idx cls t m dv).1.overflown = true ∧
      ∀ r ∈ db.events, r.ty = t → r ≠ d → d.id < r.id := by
  rcases insert_cases db idx cls t m dv with ⟨_, he⟩ | ⟨_, pre, d, post, _, hl, hty, hpre, he⟩ | ⟨_, _, he⟩
  · rw [he] at h; simp at h
  · rw [he] at h ⊢
    simp only [InsertResult.overflow.injEq] at h
    refine ⟨d, by rw [hl]; simp, h.2, hty, rfl, ?_⟩
    intro r hr hrt hne
    rw [hl] at hr
    have hp := ho.1
    rw [hl, List.pairwise_append] at hp
    rcases List.mem_append.mp hr with hm | hm
    · exact absurd hrt (hpre r hm)
    · rcases List.mem_cons.mp hm with hm | hm
      · exact absurd hm hne
      · exact (List.pairwise_cons.mp hp.2.1).1 r hm
  · rw [he] at h; simp at h

theorem countP_split_written (q : EvRec → Bool) (l : List EvRec) :
    l.countP (fun r => anyRec r && q r) =
      l.countP (fun r => isWritten r && q r) + l.countP (fun r => !isWritten r && q r) := by
  rw [List.countP_eq_countP_filter_add l _ isWritten, List.countP_filter, List.countP_filter]
  simp only [anyRec, Bool.true_and, Bool.and_comm]

theorem unwritten_get (db : Db) (h : CountersExact db) (s : Slot) :
    db.total.get s = db.written.get s + db.events.countP (fun r => !isWritten r && s.has r) := by
  rw [(h.1 : db.total = _), (h.2 : db.written = _), tallyBy_get, tallyBy_get]
  exact countP_split_written s.has db.events

/-- with exact counters the class bits tell the truth and the checked subtraction cannot panic -/
theorem class_bits_exact_of_counters (db : Db) (h : CountersExact db) :
    ∃ b1 b2 b3, db.unwrittenClasses = some (b1, b2, b3) ∧
      (b1 = true ↔ ∃ r ∈ db.events, r.cls = 1 ∧ r.st ≠ .written) ∧
      (b2 = true ↔ ∃ r ∈ db.events, r.cls = 2 ∧ r.st ≠ .written) ∧
      (b3 = true ↔ ∃ r ∈ db.events, r.cls = 3 ∧ r.st ≠ .written) := by
  have key : ∀ (s : Slot) (k : Nat), (∀ r, s.has r = (r.cls == k)) →
      (0 < db.events.countP (fun r => !isWritten r && s.has r) ↔
        ∃ r ∈ db.events, r.cls = k ∧ r.st ≠ .written) := by
    intro s k hk
    simp only [List.countP_pos_iff, hk, isWritten, Bool.and_eq_true, Bool.not_eq_true', beq_eq_false_iff_ne,
      beq_iff_eq]
    exact ⟨fun ⟨r, hr, hs, hc⟩ => ⟨r, hr, hc, hs⟩, fun ⟨r, hr, hc, hs⟩ => ⟨r, hr, hs, hc⟩⟩
  have u1 : db.total.c1 = db.written.c1 + _ := unwritten_get db h .c1
  have u2 : db.total.c2 = db.written.c2 + _ := unwritten_get db h .c2
  have u3 : db.total.c3 = db.written.c3 + _ := unwritten_get db h .c3
  unfold Db.unwrittenClasses
  split
  · omega -- `written > total` for a class, the panic of the checked subtraction: `u1 u2 u3` exclude it
  · refine ⟨_, _, _, rfl, ?_, ?_, ?_⟩
    · rw [← key .c1 1 fun r => Bool.or_false _, decide_eq_true_iff]; omega
    · rw [← key .c2 2 fun r => Bool.or_false _, decide_eq_true_iff]; omega
    · rw [← key .c3 3 fun r => Bool.or_false _, decide_eq_true_iff]; omega

theorem overflown_keep (c : Bool) : KeepInv fun d => d.isOverflown = c :=
  .of_core fun h p => h.2.2.2.2.trans p

theorem overflow_set_on_discard (db : Db) (idx cls : Nat) (t : PtType) (m : Meas) (dv c d : Nat)
    (h : (db.insert idx cls t m dv).2 = .overflow c d) : (db.insert idx cls t m dv).1.isOverflown = true := by
  rcases insert_cases db idx cls t m dv with ⟨_, he⟩ | ⟨_, _, _, _, _, _, _, _, he⟩ | ⟨_, _, he⟩ <;> rw [he] at h ⊢
  · simp at h
  · rfl
  · simp at h

theorem overflow_kept_by_insert (db : Db) (idx cls : Nat) (t : PtType) (m : Meas) (dv : Nat)
    (h : db.isOverflown = true) : (db.insert idx cls t m dv).1.isOverflown = true := by
  rcases insert_cases db idx cls t m dv with ⟨_, he⟩ | ⟨_, _, _, _, _, _, _, _, he⟩ | ⟨_, _, he⟩ <;> rw [he]
  · exact h
  · rfl
  · exact h

theorem isAnyFull_eq (db : Db) :
    db.isAnyFull = Gen.DbT.isAnyFull.any fun t =>
      (db.evCfg.get t != 0 && decide (db.total.ty t ≥ db.evCfg.get t)) := by
  unfold Db.isAnyFull
  congr 1
  funext t
  simp only [Db.isFull, DbTables.insertable_own]

theorem overflow_after_clear (db : Db) :
    db.clearWritten.1.isOverflown = (db.isOverflown && db.clearWritten.1.isAnyFull) := by
  unfold Db.clearWritten
  simp only []
  split
  · rename_i hf
    simp only [Db.isOverflown, hf, Bool.and_true]
  · rename_i hf
    simp only [Db.isOverflown]
    simp only [Bool.not_eq_true] at hf
    simp only [isAnyFull_eq] at hf ⊢
    rw [hf, Bool.and_false]

/-! ## the shared event list never exceeds its capacity

The library keeps all events in one `VecList` whose capacity is `EventBufferConfig::max_events` = the
sum of the per-type maxima; the model abstracts it to an unbounded `List`.  That is sound: no type
ever holds more records than its maximum (`TypeBounded`, an invariant), every record has exactly one
type, so the list is never longer than that sum. -/

def TypeBounded (db : Db) : Prop := ∀ t, db.total.ty t ≤ db.evCfg.get t

theorem TypeBounded.of_eq {db db' : Db} (h1 : db'.total = db.total) (h2 : db'.evCfg = db.evCfg)
    (hb : TypeBounded db) : TypeBounded db' := by
  intro t; rw [h1, h2]; exact hb t

theorem insert_typeBounded (db : Db) (idx cls : Nat) (t : PtType) (m : Meas) (dv : Nat)
    (h : TotalExact db) (hb : TypeBounded db) : TypeBounded (db.insert idx cls t m dv).1 := by
  rcases insert_cases db idx cls t m dv with ⟨_, he⟩ | ⟨h0, pre, d, post, hfull, _, hty, _, he⟩ | ⟨h0, hne, he⟩ <;> rw [he]
  · exact hb
  · intro u
    have hu := hb u
    show ((((db.total.decTy t).decCls d.cls).incCls cls).incTy t).get (.ty u) ≤ db.evCfg.get u
    rw [incCls_incTy_get _ cls t (mkRec db idx cls t m dv) rfl rfl,
      decTy_decCls_get _ d.cls t d rfl hty]
    show db.total.ty u - b2n (d.ty == u) + b2n (t == u) ≤ db.evCfg.get u
    rw [hty]
    cases htu : t == u
    · exact hu
    · obtain rfl := eq_of_beq htu
      simp only [b2n_true]; omega
  · intro u
    have hu := hb u
    show ((db.total.incCls cls).incTy t).get (.ty u) ≤ db.evCfg.get u
    rw [incCls_incTy_get _ cls t (mkRec db idx cls t m dv) rfl rfl]
    show db.total.ty u + b2n (t == u) ≤ db.evCfg.get u
    cases htu : t == u
    · exact hu
    · obtain rfl := eq_of_beq htu
      have hlt : db.total.ty t ≠ db.evCfg.get t := by
        rcases hne with hne | hnone
        · exact hne
        · -- nothing to discard although the type has a maximum: the exact total is 0
          intro hfull
          have hz : db.total.ty t = 0 := by
            rw [(h : db.total = _), tallyBy_ty, List.countP_eq_zero]
            intro r hr
            simpa [anyRec] using hnone r hr
          exact h0 (hfull ▸ hz)
      simp only [b2n_true]; omega

theorem clear_typeBounded (db : Db) (hb : TypeBounded db) : TypeBounded db.clearWritten.1 := by
  obtain ⟨_, _, _, _, h5, h6, _⟩ := clear_spec db
  intro u
  rw [h5, h6]
  have e : (_ : Counters).ty u = db.total.ty u - _ := foldl_dec_get (.ty u) (db.events.filter isWritten) db.total
  have hu := hb u
  omega

theorem bounded_inv : EbInv fun d => TotalExact d ∧ TypeBounded d :=
  .of_core (fun h p => ⟨h.total p.1, TypeBounded.of_eq h.2.1 h.2.2.2.1 p.2⟩)
    (fun a i c t m v p => ⟨insert_total a i c t m v p.1, insert_typeBounded a i c t m v p.1 p.2⟩)
    (fun a p => ⟨clear_total a p.1, clear_typeBounded a p.2⟩)

theorem updateM_typeBounded (db : Db) (t : PtType) (idx : Nat) (m : Meas) (h : TotalExact db)
    (hb : TypeBounded db) : TypeBounded (db.updateM t idx m).1 := (bounded_inv.updateOpt db t idx m {} ⟨h, hb⟩).2

theorem newCfg_typeBounded (ev : TyVec Nat) (cz : TyVec Bool) (sel : Option Nat) :
    TypeBounded (Db.newCfg ev cz sel) := by
  intro t
  simp [Db.newCfg, Counters.ty, TyVec.get_const]

example : TotalExact (run (Db.newCfg (TyVec.const 1) (TyVec.const true) none)
      [.add .counter 0 1, .update .counter 0 5 1 0, .update .counter 0 6 1 0]) ∧
    TypeBounded (run (Db.newCfg (TyVec.const 1) (TyVec.const true) none)
      [.add .counter 0 1, .update .counter 0 5 1 0, .update .counter 0 6 1 0]) :=
  bounded_inv.run _ _ ⟨newCfg_total _ _ _, newCfg_typeBounded _ _ _⟩

theorem insert_evCfg (db : Db) (idx cls : Nat) (t : PtType) (m : Meas) (dv : Nat) :
    (db.insert idx cls t m dv).1.evCfg = db.evCfg := by
  rcases insert_cases db idx cls t m dv with ⟨_, he⟩ | ⟨_, _, _, _, _, _, _, _, he⟩ | ⟨_, _, he⟩ <;> rw [he]

theorem evCfg_inv (c : TyVec Nat) : EbInv fun d => d.evCfg = c :=
  .of_core (fun h p => h.2.2.2.1.trans p) (fun a i k t m v p => (insert_evCfg a i k t m v).trans p)
    (fun a p => (clear_spec a).2.2.2.2.1.trans p)

theorem sum_map_add (ts : List PtType) (f g : PtType → Nat) :
    (ts.map fun t => f t + g t).sum = (ts.map f).sum + (ts.map g).sum := by
  induction ts with
  | nil => rfl
  | cons a as ih => simp only [List.map_cons, List.sum_cons, ih]; omega

theorem sum_map_le (ts : List PtType) (f g : PtType → Nat) (h : ∀ t, f t ≤ g t) :
    (ts.map f).sum ≤ (ts.map g).sum := by
  induction ts with
  | nil => exact Nat.le_refl _
  | cons a as ih => simp only [List.map_cons, List.sum_cons]; have := h a; omega

theorem sum_map_b2n_eq_count (x : PtType) (ts : List PtType) :
    (ts.map fun t => b2n (x == t)).sum = ts.count x := by
  induction ts with
  | nil => rfl
  | cons a as ih =>
    simp only [List.map_cons, List.sum_cons, ih, List.count_cons]
    by_cases h : x = a
    · subst h; simp; omega
    · have h1 : (x == a) = false := by simpa using h
      have h2 : (a == x) = false := by simpa using Ne.symm h
      simp [h1, h2]

theorem length_eq_sum_countP (ts : List PtType) (hts : ∀ t, ts.count t = 1) (l : List EvRec) :
    l.length = (ts.map fun t => l.countP (fun r => r.ty == t)).sum := by
  induction l with
  | nil =>
    have : ∀ ts : List PtType, (ts.map fun t => ([] : List EvRec).countP (fun r => r.ty == t)).sum = 0 := by
      intro ts; induction ts with
      | nil => rfl
      | cons a as ih => simp only [List.map_cons, List.sum_cons, ih]; rfl
    rw [this]; rfl
  | cons r rs ih =>
    have e : (fun t => (r :: rs).countP (fun r => r.ty == t)) =
        fun t => rs.countP (fun r => r.ty == t) + b2n (r.ty == t) := by
      funext t; exact countP_cons_b2n _ r rs
    rw [e, sum_map_add, ← ih, sum_map_b2n_eq_count, hts, List.length_cons]

theorem countP_ty_le (db : Db) (h : TotalExact db ∧ TypeBounded db) (t : PtType) :
    db.events.countP (fun r => r.ty == t) ≤ db.evCfg.get t := by
  have e : db.total.ty t = db.events.countP (fun r => anyRec r && r.ty == t) := by rw [h.1, tallyBy_ty]
  exact e ▸ h.2 t

theorem length_le_capacity (db : Db) (h : TotalExact db ∧ TypeBounded db) :
    db.events.length ≤ (Gen.DbT.maxEventsSum.map fun t => db.evCfg.get t).sum := by
  rw [length_eq_sum_countP _ DbTables.maxEventsSum_each_once]
  exact sum_map_le _ _ _ (countP_ty_le db h)

theorem events_within_capacity (ev : TyVec Nat) (cz : TyVec Bool) (sel : Option Nat) (ops : List DbOp) :
    (run (Db.newCfg ev cz sel) ops).events.length ≤ (Gen.DbT.maxEventsSum.map fun t => ev.get t).sum := by
  have h := length_le_capacity _ (bounded_inv.run _ ops ⟨newCfg_total ev cz sel, newCfg_typeBounded ev cz sel⟩)
  rwa [(evCfg_inv ev).run (Db.newCfg ev cz sel) ops rfl] at h

end Dnp3.DbProofs
