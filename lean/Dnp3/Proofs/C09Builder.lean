import Dnp3.Model.RequestBuilder
import Dnp3.Model.ObjectIter
import Dnp3.Proofs.C09Walk
import Dnp3.Proofs.C09Iter
/-! helper lemmas about `write_prefixed_items` (C09, repair of D17): what it writes, and that the header it
writes parses back to the items -/
namespace Dnp3.App
open Dnp3.Gen Dnp3.Gen.App

theorem leIdx_length (wide : Bool) (n : Nat) : (leIdx wide n).length = idxSize wide := by
  cases wide <;> rfl

theorem readIdx_leIdx (wide : Bool) (n : Nat) (rest : List Nat) : readIdx wide (leIdx wide n ++ rest) = some (n, rest) := by
  cases wide
  · rfl
  · simp only [readIdx, leIdx, le16, ↓reduceIte, List.cons_append, List.nil_append, readU16, Option.some.injEq,
      Prod.mk.injEq, and_true]
    omega

theorem itemOctets_cons (wide : Bool) (it : CmdItem) (items : List CmdItem) :
    itemOctets wide (it :: items) = leIdx wide it.1 ++ it.2 ++ itemOctets wide items := by
  simp [itemOctets]

theorem itemOctets_length (wide : Bool) (sz : Nat) (items : List CmdItem) (hsz : ∀ it ∈ items, it.2.length = sz) :
    (itemOctets wide items).length = (idxSize wide + sz) * items.length := by
  induction items with
  | nil => simp [itemOctets]
  | cons it items ih =>
    have h1 := hsz it (List.mem_cons_self ..)
    have h2 := ih (fun x hx => hsz x (List.mem_cons_of_mem _ hx))
    rw [itemOctets_cons]
    simp only [List.length_append, leIdx_length, h1, h2, List.length_cons, Nat.mul_succ]
    omega

theorem writeItems_spec (cap : Nat) (wide : Bool) (items : List CmdItem) :
    ∀ pos count out, count ≤ maxCount wide → pos ≤ cap →
    writeItems cap wide pos count out items =
      if count + items.length ≤ maxCount wide ∧ pos + (itemOctets wide items).length ≤ cap
      then some (count + items.length, out ++ itemOctets wide items) else none := by
  induction items with
  | nil => intro pos count out hc hp; simp [writeItems, itemOctets, hc, hp]
  | cons it items ih =>
    intro pos count out hc hp
    obtain ⟨i, v⟩ := it
    simp only [writeItems, checkedNext, List.length_cons, itemOctets_cons, List.length_append, leIdx_length]
    by_cases hfit : pos + idxSize wide + v.length ≤ cap ∧ count < maxCount wide
    · -- this item is written and the count advances: the rest by induction
      rw [if_neg (by omega), if_neg (by omega), if_pos hfit.2]
      simp only []
      rw [ih _ _ _ (by omega) (by omega)]
      exact ite_congr (propext (by omega))
        (fun _ => by rw [List.append_assoc, List.append_assoc, Nat.add_right_comm count 1, Nat.add_assoc count]) (fun _ => rfl)
    · -- an index or a value does not fit, or the count cannot advance
      have hno : ¬ (count + (items.length + 1) ≤ maxCount wide ∧
          pos + (idxSize wide + v.length + (itemOctets wide items).length) ≤ cap) := by omega
      rw [if_neg hno]
      split
      · rfl
      · split
        · rfl
        · rw [if_neg (by omega)]

theorem writePrefixedItems_spec (cap : Nat) (acc : List Nat) (g v : Nat) (wide : Bool) (items : List CmdItem) :
    writePrefixedItems cap acc g v wide items =
      if items.length ≤ maxCount wide ∧ acc.length + 3 + idxSize wide + (itemOctets wide items).length ≤ cap
      then some (acc ++ prefixedImage g v wide items) else none := by
  unfold writePrefixedItems
  by_cases h3 : acc.length + 3 + idxSize wide > cap
  · have hn : ¬ (items.length ≤ maxCount wide ∧ acc.length + 3 + idxSize wide + (itemOctets wide items).length ≤ cap) := by
      omega
    simp only [hn, ↓reduceIte, h3]
    split
    · rfl
    · split <;> rfl
  · have h1 : ¬ acc.length + 2 > cap := by omega
    have h2 : ¬ acc.length + 3 > cap := by omega
    simp only [h1, h2, h3, ↓reduceIte]
    rw [writeItems_spec cap wide items _ 0 [] (by simp) (by omega)]
    simp only [Nat.zero_add, List.nil_append]
    by_cases hc : items.length ≤ maxCount wide ∧ acc.length + 3 + idxSize wide + (itemOctets wide items).length ≤ cap
    · simp [hc, prefixedImage]
    · simp [hc]

theorem chunks_itemOctets (wide : Bool) (sz : Nat) (items : List CmdItem) (hsz : ∀ it ∈ items, it.2.length = sz) :
    chunks (idxSize wide + sz) (itemOctets wide items) = items.map fun it => leIdx wide it.1 ++ it.2 := by
  induction items with
  | nil =>
    rw [chunks]
    have : idxSize wide + sz ≠ 0 := by cases wide <;> simp [idxSize]
    have h0 : ¬ (0 = idxSize wide + sz) := by omega
    simp [itemOctets, h0]
  | cons it items ih =>
    have h1 := hsz it (List.mem_cons_self ..)
    have h2 := ih (fun x hx => hsz x (List.mem_cons_of_mem _ hx))
    have hlen : (leIdx wide it.1 ++ it.2).length = idxSize wide + sz := by simp [leIdx_length, h1]
    have hne : idxSize wide + sz ≠ 0 := by cases wide <;> simp [idxSize]
    rw [chunks, itemOctets_cons]
    have ht : List.take (idxSize wide + sz) (leIdx wide it.1 ++ it.2 ++ itemOctets wide items) = leIdx wide it.1 ++ it.2 := by
      rw [← hlen]; exact List.take_left
    have hd : List.drop (idxSize wide + sz) (leIdx wide it.1 ++ it.2 ++ itemOctets wide items) = itemOctets wide items := by
      rw [← hlen]; exact List.drop_left
    simp only [hne, ↓reduceDIte, ht, hd, hlen, h2, List.map_cons]

/-- `CountIterator<Prefix<I, V>>` over the item octets yields the items: index and octets -/
theorem iterPrefixed_itemOctets (wide : Bool) (sz : Nat) (items : List CmdItem) (hsz : ∀ it ∈ items, it.2.length = sz) :
    iterPrefixed wide sz (itemOctets wide items) = items.map fun it => ⟨some it.1, leIdx wide it.1 ++ it.2⟩ := by
  simp only [iterPrefixed, chunks_itemOctets wide sz items hsz, List.map_map]
  apply List.map_congr_left
  intro it _
  simp only [Function.comp, readIdx_leIdx, Option.map_some]

theorem parseSpec_prefixed (wide : Bool) (n : Nat) (r : List Nat) :
    parseSpec (prefixQualifier wide) (leIdx wide n ++ r) = .ok (.countPrefix wide n, r) := by
  rw [show prefixQualifier wide = (Spec.countPrefix wide n).qualifier by cases wide <;> rfl, parseSpec_qualifier]
  simp only [parseCount, readIdx_leIdx, if_true]

theorem parseOne_prefixedImage (isRead zls : Bool) (g v : Nat) (wide : Bool) (items : List CmdItem) (rest : List Nat)
    (hl : lookup g v = some (.fixed g v)) (ht : tableGet prefixedTable (.fixed g v) = some (.prefFixed g v))
    (hsz : ∀ it ∈ items, it.2.length = fixedSize g v) :
    parseOne isRead zls (prefixedImage g v wide items ++ rest) =
      .ok (⟨.fixed g v, .countPrefix wide items.length, .prefFixed g v, itemOctets wide items⟩, rest) := by
  have hlen := itemOctets_length wide (fixedSize g v) items hsz
  simp only [prefixedImage, List.cons_append, List.nil_append, List.append_assoc, parseOne, hl, parseSpec_prefixed,
    parseBody, tableFor, ht, readPayload, Spec.nobj, Spec.wide, takeE_iff.2 ⟨rfl, hlen⟩]

end Dnp3.App
