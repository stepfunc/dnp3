import Dnp3.Model.CrcSerial
/-!
# CRC-16/DNP: the single-bit syndromes of an 18-octet block, and why no three of them cancel

A block is `n ≤ 16` data octets followed by 2 CRC octets.  An octet `b` of an error pattern that has
`k` octets after it in the block contributes `contrib k b` to the syndrome (`k = 0`: high CRC octet,
`k = 1`: low CRC octet, `k ≥ 2`: data octet followed by `k - 2` further data octets).
`synTable n` lists the syndromes of the `8 n` single-bit errors of a block of `n` octets, first octet
first, least significant bit first; `synTable m` is a suffix of `synTable n` for `m ≤ n`
(positions are counted from the END of the block).

`NoDep3 T` says that no xor of 1, 2 or 3 entries of `T` at distinct positions is zero.  It holds of any
`T` whose entries are pairwise distinct and have an odd number of one bits (`noDep3_of_odd`).  Both are
true of the syndromes for a reason.  The polynomial 0xA6BC has nine one bits, so a serial step keeps the
parity of the register (`par_bitStep`: `x + 1` divides the generator), and every single-bit syndrome is
reached from one bit by serial steps.  In fact `synTable n` is the orbit `orb (8 n - 1), …, orb 0` of the
top bit of the register under `bitStep` (`synTable_orb`); a serial step can be undone (`bitStep_inj`), so
two equal entries would bring the top bit back to itself, and `orb_no_return` evaluates that it does not
come back within 143 steps: the one finite fact, linear in the block length.
-/
namespace Dnp3.Proofs.Crc
open Dnp3

/-- `m` octets of zeros through the serial CRC -/
def bs8pow : Nat → Nat → Nat
  | 0, x => x
  | m+1, x => bs8pow m (bitStep8 x)

def contrib : Nat → Nat → Nat
  | 0, b => 256 * b
  | k+1, b => bs8pow k b

def synRow (k : Nat) : List Nat :=
  [contrib k 1, contrib k 2, contrib k 4, contrib k 8, contrib k 16, contrib k 32, contrib k 64,
   contrib k 128]

def synTable : Nat → List Nat
  | 0 => []
  | n+1 => synRow n ++ synTable n

theorem xor_cancel_left {a x y : Nat} (h : a ^^^ x = a ^^^ y) : x = y := by
  have : a ^^^ (a ^^^ x) = a ^^^ (a ^^^ y) := by rw [h]
  rwa [← Nat.xor_assoc, ← Nat.xor_assoc, Nat.xor_self, Nat.zero_xor, Nat.zero_xor] at this

def NoDep3 (T : List Nat) : Prop :=
  ∀ l : List Nat, l.Sublist T → 1 ≤ l.length → l.length ≤ 3 → l.foldr (· ^^^ ·) 0 ≠ 0

def par : Nat → Nat → Bool
  | 0, _ => false
  | n+1, x => (x.testBit n ^^ par n x)

theorem par_xor (n x y : Nat) : par n (x ^^^ y) = (par n x ^^ par n y) := by
  induction n with
  | zero => rfl
  | succ n ih =>
    simp only [par, Nat.testBit_xor, ih]
    cases x.testBit n <;> cases y.testBit n <;> cases par n x <;> cases par n y <;> rfl

theorem par_div_two (n x : Nat) : par n (x / 2) = (par (n + 1) x ^^ x.testBit 0) := by
  induction n with
  | zero => simp [par]
  | succ n ih =>
    show ((x / 2).testBit n ^^ par n (x / 2)) = ((x.testBit (n + 1) ^^ par (n + 1) x) ^^ x.testBit 0)
    rw [ih, Nat.testBit_div_two, Bool.xor_assoc]

theorem bitStep_eq (x : Nat) : bitStep x = (x / 2) ^^^ (if x % 2 = 1 then 0xA6BC else 0) := by
  unfold bitStep; split <;> simp

theorem bitStep_lt {x : Nat} (h : x < 65536) : bitStep x < 65536 := by
  rw [bitStep_eq]
  have h1 : x / 2 < 2 ^ 16 := by omega
  have h2 : (if x % 2 = 1 then 0xA6BC else 0) < 2 ^ 16 := by split <;> omega
  exact Nat.xor_lt_two_pow h1 h2

/-- the bit shifted out and the polynomial xored in (9 one bits) cancel in the parity -/
theorem par_bitStep {x : Nat} (h : x < 65536) : par 16 (bitStep x) = par 16 x := by
  have h16 : x.testBit 16 = false := Nat.testBit_lt_two_pow h
  have hp : par 16 0xA6BC = true := by decide
  have h0 : par 16 0 = false := by decide
  rw [bitStep_eq, par_xor, par_div_two, par, h16, Nat.testBit_zero]
  by_cases hx : x % 2 = 1 <;> simp [hx, hp, h0]

def orb : Nat → Nat
  | 0 => 32768
  | i+1 => bitStep (orb i)

theorem orb_lt (i : Nat) : orb i < 65536 := by
  induction i with
  | zero => decide
  | succ i ih => exact bitStep_lt ih

theorem par_orb (i : Nat) : par 16 (orb i) = true := by
  induction i with
  | zero => decide
  | succ i ih => rw [orb, par_bitStep (orb_lt i), ih]

theorem bs8pow_orb (m i : Nat) : bs8pow m (orb i) = orb (8 * m + i) := by
  induction m generalizing i with
  | zero => rw [Nat.mul_zero, Nat.zero_add]; rfl
  | succ m ih =>
    rw [bs8pow, show bitStep8 (orb i) = orb (i + 8) from rfl, ih]
    congr 1; omega

theorem synRow_orb (k : Nat) : synRow k = [orb (8 * k + 7), orb (8 * k + 6), orb (8 * k + 5),
    orb (8 * k + 4), orb (8 * k + 3), orb (8 * k + 2), orb (8 * k + 1), orb (8 * k)] := by
  cases k with
  | zero => decide
  | succ k =>
    -- the low octet `1, 2, …, 128` is `orb 15, orb 14, …, orb 8`
    have : synRow (k + 1) = [bs8pow k (orb 15), bs8pow k (orb 14), bs8pow k (orb 13), bs8pow k (orb 12),
        bs8pow k (orb 11), bs8pow k (orb 10), bs8pow k (orb 9), bs8pow k (orb 8)] := rfl
    simp only [this, bs8pow_orb, Nat.mul_succ, Nat.add_assoc]

def desc : Nat → List Nat
  | 0 => []
  | m+1 => m :: desc m

theorem mem_desc {i m : Nat} (h : i ∈ desc m) : i < m := by
  induction m with
  | zero => cases h
  | succ m ih =>
    rcases List.mem_cons.mp h with rfl | h
    · exact Nat.lt_succ_self _
    · exact Nat.lt_succ_of_lt (ih h)

theorem synTable_orb (n : Nat) : synTable n = (desc (8 * n)).map orb := by
  induction n with
  | zero => rfl
  | succ n ih => rw [synTable, ih, synRow_orb]; rfl

/-- a serial step can be undone: the bit it shifts out is the top bit of its result -/
theorem bitStep_inj {x y : Nat} (hx : x < 65536) (hy : y < 65536) (h : bitStep x = bitStep y) :
    x = y := by
  rw [bitStep_eq, bitStep_eq] at h
  have ht := congrArg (·.testBit 15) h
  have hx2 : (x / 2).testBit 15 = false := Nat.testBit_lt_two_pow (by omega)
  have hy2 : (y / 2).testBit 15 = false := Nat.testBit_lt_two_pow (by omega)
  simp only [Nat.testBit_xor, hx2, hy2] at ht
  by_cases ox : x % 2 = 1 <;> by_cases oy : y % 2 = 1 <;> simp only [ox, oy, if_true, if_false] at h ht
  · have := xor_cancel_left ((Nat.xor_comm _ _).trans (h.trans (Nat.xor_comm _ _))); omega
  · exact absurd ht (by decide)
  · exact absurd ht (by decide)
  · rw [Nat.xor_zero, Nat.xor_zero] at h; omega

theorem orb_inj {i j : Nat} (hij : i ≤ j) (h : orb i = orb j) : orb 0 = orb (j - i) := by
  induction i generalizing j with
  | zero => exact h
  | succ i ih =>
    obtain ⟨j, rfl⟩ : ∃ j', j = j' + 1 := ⟨j - 1, by omega⟩
    rw [Nat.add_sub_add_right]
    exact ih (by omega) (bitStep_inj (orb_lt i) (orb_lt j) h)

theorem orb_no_return : (List.range 143).all (fun d => orb (d + 1) != 32768) = true := by
  decide +kernel

theorem nodup_orb (m : Nat) (hm : m ≤ 144) : ((desc m).map orb).Nodup := by
  induction m with
  | zero => exact List.nodup_nil
  | succ m ih =>
    refine List.nodup_cons.mpr ⟨fun hmem => ?_, ih (by omega)⟩
    obtain ⟨i, hi, e⟩ := List.mem_map.mp hmem
    have hlt := mem_desc hi
    have h0 := orb_inj (Nat.le_of_lt hlt) e
    have := List.all_eq_true.mp orb_no_return (m - i - 1) (List.mem_range.mpr (by omega))
    rw [show m - i - 1 + 1 = m - i by omega, ← h0] at this
    exact absurd this (by decide)

/-- Entries with an odd number of one bits, pairwise distinct: one or three of them xor to an odd
    value, two of them to a non-zero one. -/
theorem noDep3_of_odd {T : List Nat} (hodd : ∀ t ∈ T, par 16 t = true) (hnd : T.Nodup) : NoDep3 T := by
  intro l hl h1 h3 e
  have hp := congrArg (par 16) e
  match l, h1, h3 with
  | [a], _, _ =>
    simp only [List.foldr_cons, List.foldr_nil, Nat.xor_zero] at hp
    rw [hodd a (hl.subset List.mem_cons_self)] at hp
    cases hp
  | [a, b], _, _ =>
    simp only [List.foldr_cons, List.foldr_nil, Nat.xor_zero] at e
    have hab := (List.nodup_cons.mp (hl.nodup hnd)).1
    exact hab (by rw [xor_cancel_left (e.trans (Nat.xor_self a).symm)]; exact List.mem_cons_self)
  | [a, b, c], _, _ =>
    simp only [List.foldr_cons, List.foldr_nil, Nat.xor_zero, par_xor] at hp
    rw [hodd a (hl.subset List.mem_cons_self), hodd b (hl.subset (by simp)),
      hodd c (hl.subset (by simp))] at hp
    cases hp

theorem noDep3_synTable {n : Nat} (hn : n ≤ 18) : NoDep3 (synTable n) := by
  rw [synTable_orb]
  exact noDep3_of_odd (fun t ht => by obtain ⟨i, _, rfl⟩ := List.mem_map.mp ht; exact par_orb i)
    (nodup_orb _ (by omega))

end Dnp3.Proofs.Crc
