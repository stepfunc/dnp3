import Dnp3.Proofs.C09AttrValue
/-!
# C09 — the outstation's answer to a READ of device attributes (`Selection::write_all`)

The writer (`writeSel`, `writeAll`, `series`) against the capacity-independent specification
(`objectFor`, `selObjects`, `allObjects`): whatever the capacity, a fragment is the prior cursor
content plus whole objects, a prefix of what the READ denotes, and the remaining queue denotes
exactly the rest.
-/
namespace Dnp3.Proofs.C09AttrWriter
open Dnp3.Attr Dnp3.Gen.Attrs Dnp3.Proofs.C09AttrValue

/-- set 1 with one attribute: variation 5, read-only, UINT 42 (object image: 8 octets) -/
def exMap : SetMap := [(1, [⟨5, false, .uint 42⟩])]
/-- set 1 with one attribute holding a 255-octet octet string (object image: 262 octets) -/
def exBig : SetMap := [(1, [⟨5, false, .ostr (List.replicate 255 0)⟩])]

example : (Value.uint 42).image = some [2, 1, 42] := by decide

theorem listImage_length {items : List (Nat × Bool)} {img : List Nat} (h : listImage items = some img) :
    img.length = 2 + 2 * items.length ∧ items.length ≤ 255 := by
  have hn : items.length ≤ 255 := Nat.le_of_not_lt fun hc => by rw [attr_list_unencodable _ hc] at h; cases h
  obtain ⟨img', _, h1, h2, _⟩ := attr_list_roundtrip items hn
  exact ⟨by rw [h1] at h; cases h; exact h2, hn⟩

example : listImage [(5, false)] = some [254, 2, 5, 0] := by decide

theorem objHeader_length (set var : Nat) : (objHeader set var).length = 5 := rfl

/-- every object image is an object header followed by at least type and length, at most 5 + 2 + 510 octets -/
theorem objectFor_length (m : SetMap) (set var : Nat) (img : List Nat) (h : objectFor m set var = some img) :
    7 ≤ img.length ∧ img.length ≤ 517 := by
  unfold objectFor at h
  split at h
  · split at h
    · cases h
    · obtain ⟨li, hl, rfl⟩ := Option.map_eq_some_iff.1 h
      have := listImage_length hl
      simp only [List.length_append, objHeader_length, List.length_map] at this ⊢
      omega
  · split at h
    · cases h
    · obtain ⟨vi, hi, rfl⟩ := Option.map_eq_some_iff.1 h
      have := attr_image_length _ _ hi
      simp only [List.length_append, objHeader_length]
      omega

example : objectFor exMap 1 255 = some [0, 255, 0, 1, 1, 254, 2, 5, 0] := by decide

example : objectFor [(1, [⟨5, false, .uint 42⟩])] 1 5 = some [0, 5, 0, 1, 1, 2, 1, 42] := by decide

/-- `used + 5 > cap`: a single attribute, encodable or not, is blocked by its object header already -/
inductive StepIs (m : SetMap) (cap used set var : Nat) : Step → Prop
  | wrote {img : List Nat} (ho : objectFor m set var = some img) (hfit : used + img.length ≤ cap) :
    StepIs m cap used set var (.wrote img)
  | skip (ho : objectFor m set var = none) : StepIs m cap used set var .skip
  | blocked (h : used + 5 > cap ∨ ∃ img, objectFor m set var = some img ∧ used + img.length > cap) :
    StepIs m cap used set var .blocked

theorem stepFor_is (m : SetMap) (cap used set var : Nat) : StepIs m cap used set var (stepFor m cap used set var) := by
  have put : ∀ img, objectFor m set var = some img → StepIs m cap used set var (putObject cap used img) := by
    intro img ho
    unfold putObject
    split
    · exact .wrote ho ‹_›
    · exact .blocked (.inr ⟨img, ho, by omega⟩)
  unfold stepFor
  unfold objectFor at put
  by_cases hv : var = listVariation
  · simp only [hv, if_true] at put ⊢
    cases hes : m.entries set with
    | none => exact .skip (by simp only [objectFor, if_true, hes])
    | some es =>
      simp only [writeList, hes] at put ⊢
      cases hl : listImage (es.map fun e => (e.var, e.writable)) with
      | none => exact .skip (by simp only [objectFor, if_true, hes, hl, Option.map_none])
      | some img => exact put _ (by rw [hl]; rfl)
  · simp only [hv, if_false] at put ⊢
    cases hg : m.get set var with
    | none => exact .skip (by simp only [objectFor, hv, if_false, hg])
    | some e =>
      simp only [writeAttribute, hg] at put ⊢
      split
      · exact .blocked (.inl ‹_›)
      · cases hi : e.value.image with
        | none => exact .skip (by simp only [objectFor, hv, if_false, hg, hi, Option.map_none])
        | some img => exact put _ (by rw [hi]; rfl)

structure Run (m : SetMap) (cap : Nat) (buf buf' : List Nat) (objs : List (List Nat)) (blocked : Option Selected) : Prop where
  eq : buf' = buf ++ objs.flatten
  fits : buf.length ≤ cap → buf'.length ≤ cap
  stop : ∀ s' ∈ blocked, stepFor m cap buf'.length s'.set s'.cur = .blocked

theorem Run.cons {m : SetMap} {cap : Nat} {b0 b1 b2 : List Nat} {o1 o2 : List (List Nat)} {bl : Option Selected}
    (h1 : Run m cap b0 b1 o1 none) (h2 : Run m cap b1 b2 o2 bl) : Run m cap b0 b2 (o1 ++ o2) bl :=
  ⟨by rw [h2.eq, h1.eq]; simp, fun h => h2.fits (h1.fits h), h2.stop⟩

theorem Run.step {m : SetMap} {cap : Nat} {s : Selected} {buf : List Nat}
    (hnb : stepFor m cap buf.length s.set s.cur = .blocked → False) :
    Run m cap buf (match stepFor m cap buf.length s.set s.cur with | .wrote bs => buf ++ bs | _ => buf)
      (objectFor m s.set s.cur).toList none := by
  have h := stepFor_is m cap buf.length s.set s.cur
  generalize stepFor m cap buf.length s.set s.cur = st at h hnb
  cases h with
  | wrote ho hfit => exact ⟨by simp [ho], fun _ => by simpa using hfit, nofun⟩
  | skip ho => exact ⟨by simp [ho], id, nofun⟩
  | blocked => exact (hnb rfl).elim

theorem writeSel_run (m : SetMap) (cap : Nat) (s : Selected) (buf : List Nat) :
    ∃ objs, Run m cap buf (writeSel m cap s buf).1 objs (writeSel m cap s buf).2 ∧
      selObjects m s = objs ++ (match (writeSel m cap s buf).2 with | none => [] | some s' => selObjects m s') := by
  fun_induction writeSel m cap s buf with
  | case1 s buf hb => exact ⟨[], ⟨by simp, id, fun s' hs => by cases hs; exact hb⟩, by simp⟩
  | case2 s buf heq hnb buf' => exact ⟨_, .step hnb, by rw [selObjects]; simp [heq]⟩
  | case3 s buf hne hlt hnb buf' ih =>
    obtain ⟨objs, h1, h2⟩ := ih
    refine ⟨_, (Run.step hnb).cons h1, ?_⟩
    rw [selObjects]; simp only [hne, hlt, if_false, dite_true]
    rw [h2]; simp
  | case4 s buf hne hnlt hnb buf' => exact ⟨_, .step hnb, by rw [selObjects]; simp [hne, hnlt]⟩

example : writeSel exMap 12 (Selected.all 1) [] = ([0, 5, 0, 1, 1, 2, 1, 42], none) := by decide +kernel
theorem writeSel_exMap_blocked : writeSel exMap 7 (Selected.all 1) [] = ([], some ⟨1, 5, 253⟩) := by decide +kernel
example : writeSel exMap 7 (Selected.all 1) [] = ([], some ⟨1, 5, 253⟩) := writeSel_exMap_blocked
example : selObjects exMap (Selected.all 1) = [[0, 5, 0, 1, 1, 2, 1, 42]] := by decide +kernel

example : ([9, 9] : List Nat).length ≤ 12 := by decide

example : (writeSel exMap 7 (Selected.all 1) []).2 = some ⟨1, 5, 253⟩ := congrArg Prod.snd writeSel_exMap_blocked

theorem writeAll_run (m : SetMap) (cap : Nat) (sel : List Selected) (buf : List Nat) :
    ∃ objs, Run m cap buf (writeAll m cap sel buf).1 objs (writeAll m cap sel buf).2.head? ∧
      allObjects m sel = objs ++ allObjects m (writeAll m cap sel buf).2 := by
  induction sel generalizing buf with
  | nil => exact ⟨[], ⟨by simp [writeAll], by simp [writeAll], nofun⟩, by simp [writeAll, allObjects]⟩
  | cons s rest ih =>
    obtain ⟨o1, h1, h2⟩ := writeSel_run m cap s buf
    rw [writeAll]
    rcases hw : writeSel m cap s buf with ⟨buf', _ | s'⟩ <;> rw [hw] at h1 h2 <;> simp only at h1 h2 ⊢
    · obtain ⟨o2, h3, h4⟩ := ih buf'
      refine ⟨o1 ++ o2, h1.cons h3, ?_⟩
      simp only [allObjects, List.flatMap_cons] at h4 ⊢
      rw [h2, h4]; simp
    · refine ⟨o1, h1, ?_⟩
      simp only [allObjects, List.flatMap_cons]
      rw [h2]; simp

/-- `Props.C09.writeAll_exact`, read off the relational run `writeAll_run` -/
theorem writeAll_exact (m : SetMap) (cap : Nat) (sel : List Selected) (buf : List Nat) :
    ∃ objs : List (List Nat), (writeAll m cap sel buf).1 = buf ++ objs.flatten ∧
      allObjects m sel = objs ++ allObjects m (writeAll m cap sel buf).2 :=
  (writeAll_run m cap sel buf).imp fun _ h => ⟨h.1.eq, h.2⟩

theorem writeAll_exMap_partial : writeAll exMap 20 [Selected.all 1, Selected.single 1 255, Selected.single 1 5] [] =
    ([0, 5, 0, 1, 1, 2, 1, 42, 0, 255, 0, 1, 1, 254, 2, 5, 0], [Selected.single 1 5]) := by decide +kernel
example : writeAll exMap 20 [Selected.all 1, Selected.single 1 255, Selected.single 1 5] [] =
    ([0, 5, 0, 1, 1, 2, 1, 42, 0, 255, 0, 1, 1, 254, 2, 5, 0], [Selected.single 1 5]) := writeAll_exMap_partial

theorem writeAll_complete (m : SetMap) (cap : Nat) (sel : List Selected) (buf : List Nat)
    (h : (writeAll m cap sel buf).2 = []) : (writeAll m cap sel buf).1 = buf ++ (allObjects m sel).flatten := by
  obtain ⟨objs, h1, h2⟩ := writeAll_exact m cap sel buf
  rw [h] at h2
  rw [h1, h2]; simp [allObjects]

example : (writeAll exMap 12 [Selected.all 1] []).2 = [] := by decide +kernel

example : ([9, 9] : List Nat).length ≤ 12 := by decide

example : (writeAll exMap 20 [Selected.all 1, Selected.single 1 255, Selected.single 1 5] []).2 =
    Selected.single 1 5 :: [] := congrArg Prod.snd writeAll_exMap_partial

example : series exMap [12, 3, 9, 30] [Selected.all 1, Selected.single 1 255, Selected.single 1 5] =
    ([[0, 5, 0, 1, 1, 2, 1, 42], [], [0, 255, 0, 1, 1, 254, 2, 5, 0], [0, 5, 0, 1, 1, 2, 1, 42]], []) := by
  decide +kernel

/-- the hypotheses of `Props.C09.writeAll_progress` hold together: three 262-octet objects do not fit into 517 octets -/
example : (517 ≤ 517) ∧
    (writeAll exBig 517 [Selected.single 1 5, Selected.single 1 5, Selected.single 1 5] []).2 ≠ [] := by
  decide +kernel

theorem defineTail_ok {m m' : SetMap} {set var : Nat} {w : Bool} {v : Value}
    (h : define.defineTail m set var w v = .ok m') :
    m.get set var = none ∧ m' = insertSet set ⟨var, w, v⟩ m := by
  unfold define.defineTail at h
  split at h
  · cases h
  · split at h
    · cases h
    · rename_i hn
      cases h
      refine ⟨?_, rfl⟩
      cases hg : m.get set var with
      | none => rfl
      | some x => rw [hg] at hn; simp at hn

theorem define_ok {m m' : SetMap} {set var : Nat} {w : Bool} {v : Value}
    (h : define m set var w v = .ok m') :
    reservedVars.contains var = false ∧ m.get set var = none ∧ m' = insertSet set ⟨var, w, v⟩ m := by
  unfold define at h
  split at h
  · cases h
  · rename_i hr
    refine ⟨by simpa using hr, ?_⟩
    split at h
    · split at h
      · cases h
      · exact defineTail_ok h
    · exact defineTail_ok h

section SortedIns
variable {α : Type} (key : α → Nat) (k : Nat) (a : α) (upd : α → α)

/-- insertion into a list kept in ascending order of `key`; `insertSet` is this at both levels -/
def sortedIns : List α → List α
  | [] => [a]
  | x :: r => if k = key x then upd x :: r else if k < key x then a :: x :: r else x :: sortedIns r

variable {key k a upd}

theorem mem_sortedIns {l : List α} {y : α} (h : y ∈ sortedIns key k a upd l) :
    y = a ∨ y ∈ l ∨ ∃ x, l.find? (key · == k) = some x ∧ y = upd x := by
  induction l with
  | nil => exact .inl (List.mem_singleton.1 h)
  | cons x r ih =>
    unfold sortedIns at h
    split at h
    · rename_i hx
      rcases List.mem_cons.1 h with rfl | h
      · exact .inr (.inr ⟨x, by simp [hx], rfl⟩)
      · exact .inr (.inl (List.mem_cons_of_mem _ h))
    split at h
    · exact (List.mem_cons.1 h).imp_right .inl
    · rename_i hx _
      rcases List.mem_cons.1 h with rfl | h
      · exact .inr (.inl List.mem_cons_self)
      · rcases ih h with h | h | ⟨z, hz, h⟩
        · exact .inl h
        · exact .inr (.inl (List.mem_cons_of_mem _ h))
        · exact .inr (.inr ⟨z, by rw [List.find?_cons_of_neg (by simpa using Ne.symm hx)]; exact hz, h⟩)

/- `hk` and `hu` hold by `rfl` in both instances.  They are auto-params so that they are settled after `upd` is known:
   an explicit `fun _ => rfl` is elaborated first and fixes `upd` to the identity. -/
theorem sorted_sortedIns {l : List α} (hp : (l.map key).Pairwise (· < ·))
    (hk : key a = k := by rfl) (hu : ∀ x, key (upd x) = key x := by intro; rfl) :
    ((sortedIns key k a upd l).map key).Pairwise (· < ·) := by
  induction l with
  | nil => simp [sortedIns]
  | cons x r ih =>
    simp only [List.map_cons, List.pairwise_cons, List.forall_mem_map] at hp
    unfold sortedIns
    split
    · simpa [hu] using hp
    split
    · simp only [List.map_cons, List.pairwise_cons, List.forall_mem_map, List.forall_mem_cons, hk]
      exact ⟨⟨‹_›, fun y hy => Nat.lt_trans ‹_› (hp.1 y hy)⟩, hp⟩
    · simp only [List.map_cons, List.pairwise_cons, List.forall_mem_map]
      refine ⟨fun y hy => ?_, ih hp.2⟩
      rcases mem_sortedIns hy with rfl | hy | ⟨z, hz, rfl⟩
      · omega
      · exact hp.1 y hy
      · exact hu z ▸ hp.1 z (List.mem_of_find?_eq_some hz)

theorem find_sortedIns_ne {l : List α} {k' : Nat} (hne : k ≠ k')
    (hk : key a = k := by rfl) (hu : ∀ x, key (upd x) = key x := by intro; rfl) :
    (sortedIns key k a upd l).find? (key · == k') = l.find? (key · == k') := by
  have hn : ∀ x, key x = k → (key x == k') = false := fun x hx => by simp [hx, hne]
  induction l with
  | nil => simp [sortedIns, hn a hk]
  | cons x r ih =>
    unfold sortedIns
    split
    · simp [hn (upd x) ((hu x).trans (Eq.symm ‹_›)), hn x (Eq.symm ‹_›)]
    split
    · simp [List.find?_cons, hn a hk]
    · simp only [List.find?_cons, ih]

theorem find_sortedIns_self {l : List α} (hp : (l.map key).Pairwise (· < ·))
    (hk : key a = k := by rfl) (hu : ∀ x, key (upd x) = key x := by intro; rfl) :
    (sortedIns key k a upd l).find? (key · == k) =
      some (match l.find? (key · == k) with | some x => upd x | none => a) := by
  induction l with
  | nil => simp [sortedIns, hk]
  | cons x r ih =>
    simp only [List.map_cons, List.pairwise_cons, List.forall_mem_map] at hp
    unfold sortedIns
    split
    · rename_i h; simp [hu, ← h]
    split
    · have : (x :: r).find? (key · == k) = none :=
        List.find?_eq_none.2 fun y hy => by
          have : k < key y := by
            rcases List.mem_cons.1 hy with rfl | hy
            · assumption
            · exact Nat.lt_trans ‹_› (hp.1 y hy)
          simp; omega
      simp [hk, this]
    · rename_i h _
      simp only [List.find?_cons, show (key x == k) = false by simp; omega, ih hp.2]

end SortedIns

theorem insertSet_eq (set : Nat) (e : Entry) (m : SetMap) :
    insertSet set e m = sortedIns (·.1) set (set, [e]) (fun p => (p.1, insertEntry e p.2)) m := by
  induction m with
  | nil => rfl
  | cons p r ih => simp only [insertSet, sortedIns, ih]

/-- `insertEntry` puts an entry whose variation is there already behind the old one: `define` never gets there -/
theorem insertEntry_eq {e : Entry} {es : List Entry} (hne : ∀ x ∈ es, x.var ≠ e.var) :
    insertEntry e es = sortedIns (·.var) e.var e id es := by
  induction es with
  | nil => rfl
  | cons x r ih =>
    simp only [insertEntry, sortedIns, if_neg (hne x List.mem_cons_self).symm, id,
      ih fun y hy => hne y (List.mem_cons_of_mem _ hy)]

theorem entries_mem {m : SetMap} {set : Nat} {es : List Entry} (h : m.entries set = some es) :
    (set, es) ∈ m := by
  unfold SetMap.entries at h
  obtain ⟨p, hp, rfl⟩ := Option.map_eq_some_iff.1 h
  have h1 := List.mem_of_find?_eq_some hp
  have h2 := List.find?_some hp
  simp only [beq_iff_eq] at h2
  rw [← h2]; exact h1

theorem get_none_entries {m : SetMap} {set var : Nat} (hr : reservedVars.contains var = false)
    (hg : m.get set var = none) :
    ∀ es, SetMap.entries m set = some es → ∀ x ∈ es, x.var ≠ var := by
  intro es hes x hx
  unfold SetMap.get at hg
  rw [hr, hes] at hg
  simp only [Bool.false_eq_true, if_false] at hg
  have := List.find?_eq_none.1 hg x hx
  simpa using this

theorem insertSet_wf {m : SetMap} {set : Nat} {e : Entry} (hm : m.WF) (hs : set < 256) (he : e.WF)
    (hne : ∀ es, m.entries set = some es → ∀ x ∈ es, x.var ≠ e.var) : (insertSet set e m).WF := by
  rw [insertSet_eq]
  refine ⟨fun p hp => ?_, sorted_sortedIns hm.2⟩
  rcases mem_sortedIns hp with rfl | hp | ⟨⟨s, es⟩, hq, rfl⟩
  · exact ⟨hs, by simpa using he, by simp⟩
  · exact hm.1 p hp
  · obtain ⟨_, hwf, hsorted⟩ := hm.1 _ (List.mem_of_find?_eq_some hq)
    obtain rfl : s = set := by simpa using List.find?_some hq
    simp only [insertEntry_eq (hne es (by simp [SetMap.entries, hq]))]
    refine ⟨hs, fun y hy => ?_, sorted_sortedIns hsorted⟩
    rcases mem_sortedIns hy with rfl | hy | ⟨x, hx, rfl⟩
    · exact he
    · exact hwf y hy
    · exact hwf _ (List.mem_of_find?_eq_some hx)

theorem get_insertSet {m : SetMap} {set : Nat} {e : Entry} (hm : m.WF)
    (hne : ∀ es, m.entries set = some es → ∀ x ∈ es, x.var ≠ e.var) (s x : Nat) :
    (insertSet set e m).get s x =
      if reservedVars.contains x then none else if s = set ∧ x = e.var then some e else m.get s x := by
  unfold SetMap.get SetMap.entries
  split
  · rfl
  rw [insertSet_eq]
  by_cases hs : s = set
  · subst hs
    rw [find_sortedIns_self hm.2]
    cases hes : m.find? (·.1 == s) with
    | none => by_cases hx : x = e.var <;> simp [hx, Ne.symm]
    | some p =>
      have hp := hm.1 p (List.mem_of_find?_eq_some hes)
      have hno := hne p.2 (by simp [SetMap.entries, hes])
      simp only [Option.map_some, insertEntry_eq hno, true_and]
      split
      · subst x
        rw [find_sortedIns_self hp.2.2, List.find?_eq_none.2 fun y hy => by simpa using hno y hy]
      · exact find_sortedIns_ne (Ne.symm ‹¬ x = e.var›)
  · rw [find_sortedIns_ne (Ne.symm hs), if_neg fun h => hs h.1]

/-- the hypotheses of `Props.C09.define_preserves_wf` hold together (a second, writable attribute in set 1) -/
example : exMap.WF ∧ (1 : Nat) < 256 ∧ (7 : Nat) < 256 ∧ (Value.uint 9).WellFormed ∧
    define exMap 1 7 true (.uint 9) = .ok [(1, [⟨5, false, .uint 42⟩, ⟨7, true, .uint 9⟩])] := by
  refine ⟨?_, by decide, by decide, ?_, by rfl⟩
  · simp [exMap, SetMap.WF, Entry.WF, Value.WellFormed, reservedVars]
  · simp [Value.WellFormed]

example : exMap.get 1 5 = some ⟨5, false, .uint 42⟩ := by decide
example : define exMap 1 5 true (.uint 9) = .error .alreadyDefined := by rfl

end Dnp3.Proofs.C09AttrWriter
