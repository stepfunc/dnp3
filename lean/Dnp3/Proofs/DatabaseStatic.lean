import Dnp3.Proofs.DatabaseEv
/-!
# Proofs about the outstation database model — the static database (C11 component level)
-/
namespace Dnp3.DbProofs
open Dnp3 Dnp3.DbM

/-- `T::wrap`: the entry named like the type; octet strings carry no variation -/
theorem kindOf_eq' (t : PtType) (var : Option Nat) :
    kindOf t var = .typed t (if decide (t ≠ .octetString) then var else none) := by
  unfold kindOf; rw [DbTables.updatable_own]

/-- keys strictly ascending: the `BTreeMap` order -/
def KeysSorted (m : List (Nat × Point)) : Prop := m.Pairwise (fun a b => a.1 < b.1)
def StaticSorted (db : Db) : Prop := ∀ t, KeysSorted (db.map t)

instance (m : List (Nat × Point)) : Decidable (KeysSorted m) := by unfold KeysSorted; exact inferInstance

theorem staticSorted_iff_all (db : Db) : StaticSorted db ↔ ∀ t ∈ Gen.DbT.Ty.all, KeysSorted (db.map t) :=
  ⟨fun h t _ => h t, fun h t => h t (DbTables.ty_all_complete t)⟩

instance (db : Db) : Decidable (StaticSorted db) := decidable_of_iff _ (staticSorted_iff_all db).symm

theorem pmInsert_spec : ∀ (m : List (Nat × Point)) (k : Nat) (p : Point) (m' : List (Nat × Point)),
    pmInsert m k p = some m' → KeysSorted m →
      KeysSorted m' ∧ ∀ x, x ∈ m' ↔ (x = (k, p) ∨ x ∈ m) := by
  intro m
  induction m with
  | nil =>
    intro k p m' h _
    simp only [pmInsert, Option.some.injEq] at h
    subst h
    exact ⟨by simp [KeysSorted], by simp⟩
  | cons a rest ih =>
    intro k p m' h hs
    obtain ⟨i, q⟩ := a
    obtain ⟨h1, h2⟩ := List.pairwise_cons.mp hs
    unfold pmInsert at h
    by_cases e : i = k
    · simp [e] at h
    · simp only [e, if_false] at h
      by_cases lt : k < i
      · simp only [lt, if_true, Option.some.injEq] at h
        subst h
        refine ⟨?_, by simp⟩
        apply List.pairwise_cons.mpr
        refine ⟨?_, hs⟩
        intro x hx
        rcases List.mem_cons.mp hx with rfl | hx
        · exact lt
        · exact Nat.lt_trans lt (h1 x hx)
      · simp only [lt, if_false] at h
        cases hr : pmInsert rest k p with
        | none => simp [hr] at h
        | some r =>
          simp only [hr, Option.some.injEq] at h
          subst h
          obtain ⟨s1, s2⟩ := ih k p r hr h2
          refine ⟨?_, ?_⟩
          · apply List.pairwise_cons.mpr
            refine ⟨?_, s1⟩
            intro x hx
            rcases (s2 x).mp hx with rfl | hx
            · simp only; omega
            · exact h1 x hx
          · intro x
            simp only [List.mem_cons, s2 x]
            exact or_left_comm

theorem pmSet_keys (m : List (Nat × Point)) (k : Nat) (p : Point) :
    (pmSet m k p).map (·.1) = m.map (·.1) := by
  induction m with
  | nil => rfl
  | cons a rest ih =>
    obtain ⟨i, q⟩ := a
    unfold pmSet
    by_cases e : i = k <;> simp [e, ih]

theorem pmLookup_mem : ∀ (m : List (Nat × Point)) (k : Nat) (p : Point),
    pmLookup m k = some p → (k, p) ∈ m := by
  intro m
  induction m with
  | nil => intro k p h; simp [pmLookup] at h
  | cons a rest ih =>
    intro k p h
    obtain ⟨i, q⟩ := a
    unfold pmLookup at h
    by_cases e : i = k
    · simp only [e, if_true, Option.some.injEq] at h
      subst h; subst e; exact List.mem_cons_self ..
    · simp only [e, if_false] at h
      by_cases lt : k < i
      · simp [lt] at h
      · simp only [lt, if_false] at h
        exact List.mem_cons_of_mem _ (ih k p h)

/-- what a queue entry reads of a point: its key, its `selected` cell, its configured static
    variation (`stVar` falls back to `Point.svar` when the request names no variation) and its dead-band
    (reported by g34) -/
def selView (m : List (Nat × Point)) : List (Nat × Meas × Nat × Nat) :=
  m.map (fun x => (x.1, x.2.selected, x.2.svar, x.2.deadband))

theorem pmSet_map {α : Type} {f : Nat × Point → α} (k : Nat) (p q : Point) (hp : f (k, p) = f (k, q)) :
    ∀ m : PMap, pmLookup m k = some q → (pmSet m k p).map f = m.map f
  | [], hq => by simp [pmLookup] at hq
  | (i, x) :: rest, hq => by
    unfold pmLookup at hq
    unfold pmSet
    by_cases e : i = k
    · simp only [e, if_true, Option.some.injEq] at hq ⊢
      rw [hq, List.map_cons, List.map_cons, hp]
    · simp only [e, if_false] at hq ⊢
      by_cases lt : k < i
      · simp [lt] at hq
      · simp only [lt, if_false] at hq
        rw [List.map_cons, List.map_cons, pmSet_map k p q hp rest hq]

theorem keysSorted_of_keys {m m' : List (Nat × Point)} (h : m'.map (·.1) = m.map (·.1)) (hs : KeysSorted m) :
    KeysSorted m' := by
  unfold KeysSorted at *
  have : (m.map (·.1)).Pairwise (· < ·) := List.pairwise_map.mpr hs
  rw [← h] at this
  exact List.pairwise_map.mp this

theorem snapshot_spec (a b : Nat) (m : List (Nat × Point)) :
    snapshot a b m = m.map (fun x => if a ≤ x.1 ∧ x.1 ≤ b then (x.1, { x.2 with selected := x.2.current }) else x) := by
  induction m with
  | nil => rfl
  | cons x rest ih =>
    obtain ⟨i, p⟩ := x
    simp only [snapshot, List.map_cons, ih]

/-- `write_typed_range` in closed form -/
theorem stLoop_spec (cap : Nat) : ∀ (objs : List SObj) (used : Nat) (cur : Option StCur), used ≤ cap →
    ∃ n, MaxFit (encodeStatic cur) cap used objs n ∧
      stLoop cap objs used cur =
        (objs.take n, used + (encodeStatic cur (objs.take n)).length, objs[n]?.map (·.idx))
  | [], used, cur, hu => ⟨0, MaxFit.nil rfl hu, rfl⟩
  | o :: os, used, cur, hu => by
    unfold stLoop
    by_cases hfit : used + stCost cur o ≤ cap
    · obtain ⟨n, hm, he⟩ := stLoop_spec cap os _ (some (stNext cur o)) hfit
      rw [if_pos hfit, he]
      refine ⟨n + 1, hm.cons (encodeStatic_cons cur o), ?_⟩
      simp only [List.take_succ_cons, encodeStatic_cons, List.getElem?_cons_succ, Nat.add_assoc]
    · rw [if_neg hfit]
      refine ⟨0, MaxFit.stop rfl hu ?_, rfl⟩
      rw [encodeStatic_cons]; omega

theorem filter_suffix (m : List (Nat × Point)) (hs : KeysSorted m) (it : SelItem)
    (A B : List (Nat × Point)) (x : Nat × Point)
    (h : m.filter (fun p => inRange it p.1) = A ++ x :: B) :
    m.filter (fun p => inRange { it with start := x.1 } p.1) = x :: B := by
  have hx : x ∈ m.filter (fun p => inRange it p.1) := by rw [h]; simp
  have hxr : inRange it x.1 = true := (List.mem_filter.mp hx).2
  simp only [inRange, Bool.and_eq_true, decide_eq_true_eq] at hxr
  have e : (fun p : Nat × Point => inRange { it with start := x.1 } p.1) =
      (fun p => decide (x.1 ≤ p.1) && inRange it p.1) := by
    funext p
    simp only [inRange]
    by_cases c1 : x.1 ≤ p.1 <;> by_cases c2 : p.1 ≤ it.stop <;> by_cases c3 : it.start ≤ p.1 <;> simp [c1, c2, c3]
    omega
  rw [e, ← List.filter_filter, h]
  have hsub : (A ++ x :: B).Pairwise (fun a b => a.1 < b.1) := by
    rw [← h]; exact hs.sublist List.filter_sublist
  rw [List.pairwise_append] at hsub
  obtain ⟨_, hxB, hAx⟩ := hsub
  obtain ⟨hB, _⟩ := List.pairwise_cons.mp hxB
  rw [List.filter_append]
  have hA : A.filter (fun p => decide (x.1 ≤ p.1)) = [] := by
    rw [List.filter_eq_nil_iff]
    intro a ha
    have := hAx a ha x (List.mem_cons_self ..)
    simp only [decide_eq_true_eq]; omega
  have hB' : (x :: B).filter (fun p => decide (x.1 ≤ p.1)) = x :: B := by
    rw [List.filter_eq_self]
    intro b hb
    rcases List.mem_cons.mp hb with rfl | hb
    · simp
    · have := hB b hb; simp only [decide_eq_true_eq]; omega
  rw [hA, hB', List.nil_append]

def objOf (it : SelItem) (p : Nat × Point) : SObj :=
  match it.kind with
  | .typed k var => { idx := p.1, g := staticGroup k, v := stVar k var p.2, m := p.2.selected }
  | .deadband var => { idx := p.1, g := 34, v := var.getD 3, m := { value := p.2.deadband, flags := 0 } }

def mapOf (db : Db) (it : SelItem) : List (Nat × Point) :=
  match it.kind with
  | .typed k _ => db.map k
  | .deadband _ => db.map .analog

theorem itemObjs_eq (db : Db) (it : SelItem) :
    itemObjs db it = ((mapOf db it).filter (fun p => inRange it p.1)).map (objOf it) := by
  unfold itemObjs mapOf objOf typedObjs
  cases it.kind with
  | typed k var => simp only [Db.getMap_eq', DbTables.writeRangeTy_own]
  | deadband var => rfl

theorem mem_itemObjs {db : Db} {it : SelItem} {o : SObj} :
    o ∈ itemObjs db it ↔ ∃ p ∈ mapOf db it, inRange it p.1 = true ∧ objOf it p = o := by
  rw [itemObjs_eq]; simp only [List.mem_map, List.mem_filter, and_assoc]

theorem objOf_idx (it : SelItem) (p : Nat × Point) : (objOf it p).idx = p.1 := by
  unfold objOf; cases it.kind <;> rfl

theorem objOf_m_typed (it : SelItem) (k : PtType) (var : Option Nat) (h : it.kind = .typed k var)
    (p : Nat × Point) : (objOf it p).m = p.2.selected := by
  unfold objOf; rw [h]

theorem mapOf_typed (db : Db) (it : SelItem) (k : PtType) (var : Option Nat) (h : it.kind = .typed k var) :
    mapOf db it = db.map k := by
  unfold mapOf; rw [h]

theorem mapOf_sorted (db : Db) (hs : StaticSorted db) (it : SelItem) : KeysSorted (mapOf db it) := by
  unfold mapOf; cases it.kind <;> exact hs _

theorem stVar_view (t : PtType) (var : Option Nat) (p : Point) :
    stVar t var p = stVar t var { selected := p.selected, svar := p.svar } := by cases t <;> rfl

def objOfV (it : SelItem) (x : Nat × Meas × Nat × Nat) : SObj :=
  match it.kind with
  | .typed k var => { idx := x.1, g := staticGroup k, v := stVar k var { selected := x.2.1, svar := x.2.2.1 }, m := x.2.1 }
  | .deadband var => { idx := x.1, g := 34, v := var.getD 3, m := { value := x.2.2.2, flags := 0 } }

theorem objOf_view (it : SelItem) (p : Nat × Point) :
    objOf it p = objOfV it (p.1, p.2.selected, p.2.svar, p.2.deadband) := by
  unfold objOf objOfV
  cases it.kind with
  | typed k var => simp only []; rw [stVar_view]
  | deadband var => rfl

theorem filter_map_selView (it : SelItem) (g : Nat × Meas × Nat × Nat → SObj) (m : List (Nat × Point)) :
    (m.filter (fun p => inRange it p.1)).map (fun p => g (p.1, p.2.selected, p.2.svar, p.2.deadband)) =
      ((selView m).filter (fun p => inRange it p.1)).map g := by
  rw [selView, List.filter_map, List.map_map]; rfl

theorem itemObjs_congr (db db' : Db) (it : SelItem) (h : ∀ t, selView (db'.map t) = selView (db.map t)) :
    itemObjs db' it = itemObjs db it := by
  have hm : selView (mapOf db' it) = selView (mapOf db it) := by
    unfold mapOf; cases it.kind <;> exact h _
  have e1 : objOf it = fun p => objOfV it (p.1, p.2.selected, p.2.svar, p.2.deadband) := funext (objOf_view it)
  rw [itemObjs_eq, itemObjs_eq, e1, filter_map_selView it (objOfV it) (mapOf db' it),
    filter_map_selView it (objOfV it) (mapOf db it), hm]

/-- resumption neither repeats nor skips: a queue entry restarted at the index of the first object left over stands for
    exactly the objects left over.  This is where `StaticSorted` is needed: the map is strictly ascending in the index, so
    the new lower bound cuts the list of objects exactly there (`filter_suffix`) -/
theorem itemObjs_resume (db : Db) (hs : StaticSorted db) (it : SelItem) (w rest : List SObj) (o : SObj)
    (h : itemObjs db it = w ++ o :: rest) : itemObjs db { it with start := o.idx } = o :: rest := by
  have hsm : KeysSorted (mapOf db it) := mapOf_sorted db hs it
  rw [itemObjs_eq] at h
  obtain ⟨A, R, hAR, hA, hR⟩ := List.map_eq_append_iff.mp h
  obtain ⟨x, B, hxB, hx, hB⟩ := List.map_eq_cons_iff.mp hR
  subst hxB
  have := filter_suffix (mapOf db it) hsm it A B x hAR
  have e1 : mapOf db { it with start := o.idx } = mapOf db it := rfl
  have e2 : objOf { it with start := o.idx } = objOf it := rfl
  rw [itemObjs_eq, e1, e2]
  have e3 : o.idx = x.1 := by rw [← hx, objOf_idx]
  rw [e3, this, List.map_cons, hx, hB]

def pending (db : Db) (q : List SelItem) : List SObj := (q.map (itemObjs db)).flatten

/-- `StaticDatabase::write` on the queue `q` with `used` octets taken, as a relation between the queue, the
    object lists written `ws`, the queue left `q'` and the octets taken afterwards: entries written completely, then
    at most one written in part, which stays in the queue from the first object left over -/
inductive QRun (db : Db) (cap : Nat) : List SelItem → Nat → List (List SObj) → List SelItem → Nat → Prop where
  | done {used : Nat} : QRun db cap [] used [] [] used
  | full {it : SelItem} {its : List SelItem} {used : Nat} {ws : List (List SObj)} {q : List SelItem} {u : Nat} :
      MaxFit (encodeStatic none) cap used (itemObjs db it) (itemObjs db it).length →
      QRun db cap its (used + (encodeStatic none (itemObjs db it)).length) ws q u →
      QRun db cap (it :: its) used (itemObjs db it :: ws) q u
  | part {it : SelItem} {its : List SelItem} {used n : Nat} {o : SObj} :
      MaxFit (encodeStatic none) cap used (itemObjs db it) n → (itemObjs db it)[n]? = some o →
      QRun db cap (it :: its) used [(itemObjs db it).take n] ({ it with start := o.idx } :: its)
        (used + (encodeStatic none ((itemObjs db it).take n)).length)

theorem qLoop_run (db : Db) (cap : Nat) : ∀ (q : List SelItem) (used : Nat), used ≤ cap →
    QRun db cap q used (qLoop db cap q used).1 (qLoop db cap q used).2.1 (qLoop db cap q used).2.2
  | [], _, _ => .done
  | it :: its, used, hu => by
    obtain ⟨n, hm, he⟩ := stLoop_spec cap (itemObjs db it) used none hu
    unfold qLoop
    rw [he]
    cases hn : (itemObjs db it)[n]? with
    | none =>
      have hlen : n = (itemObjs db it).length := Nat.le_antisymm hm.1 (List.getElem?_eq_none_iff.mp hn)
      subst hlen
      simp only [List.take_length, Option.map_none]
      exact .full hm (qLoop_run db cap its _ hm.all)
    | some o => exact .part hm hn

namespace QRun
variable {db : Db} {cap used u : Nat} {q q' : List SelItem} {ws : List (List SObj)}

theorem conserves (h : QRun db cap q used ws q' u) (hs : StaticSorted db) :
    ws.flatten ++ pending db q' = pending db q := by
  induction h with
  | done => rfl
  | full _ _ ih => simp only [pending, List.map_cons, List.flatten_cons, List.append_assoc] at ih ⊢; rw [ih]
  | @part it its _ n o _ hn =>
    obtain ⟨hlt, hget⟩ := List.getElem?_eq_some_iff.mp hn
    have hsplit : itemObjs db it = (itemObjs db it).take n ++ o :: (itemObjs db it).drop (n + 1) := by
      rw [← hget, List.getElem_cons_drop, List.take_append_drop]
    simp only [pending, List.map_cons, List.flatten_cons, List.flatten_nil, List.append_nil,
      itemObjs_resume db hs it _ _ o hsplit, ← List.append_assoc, ← hsplit]

theorem used_eq (h : QRun db cap q used ws q' u) : u = used + (ws.flatMap (encodeStatic none)).length := by
  induction h with
  | done => rfl
  | full _ _ ih => rw [ih, List.flatMap_cons, List.length_append, Nat.add_assoc]
  | part _ _ => simp

theorem le_cap (h : QRun db cap q used ws q' u) (hu : used ≤ cap) : u ≤ cap := by
  induction h with
  | done => exact hu
  | full hm _ ih => exact ih hm.all
  | part hm _ => exact hm.2.1

theorem complete (h : QRun db cap q used ws q' u) (hq : q' = []) : ws = q.map (itemObjs db) := by
  induction h with
  | done => rfl
  | full _ _ ih => rw [ih hq, List.map_cons]
  | part _ _ => cases hq

theorem stops (h : QRun db cap q used ws q' u) (hq : q' ≠ []) :
    ws.flatten ≠ [] ∨ ∃ it ∈ q, ∃ o ∈ itemObjs db it, cap < used + stCost none o := by
  induction h with
  | done => exact absurd rfl hq
  | @full it _ _ _ _ _ _ _ ih =>
    cases hobjs : itemObjs db it with
    | nil =>
      rw [hobjs] at ih
      rcases ih hq with h1 | ⟨it', hit', o, ho, hc⟩
      · exact Or.inl (by simpa using h1)
      · exact Or.inr ⟨it', List.mem_cons_of_mem _ hit', o, ho, by simpa [encodeStatic] using hc⟩
    | cons o os => exact Or.inl (by simp)
  | @part it _ used n o hm hn =>
    cases hobjs : itemObjs db it with
    | nil => rw [hobjs] at hn; cases hn
    | cons o' os =>
      rw [hobjs] at hm
      by_cases hfit : used + stCost none o' ≤ cap
      · exact Or.inl (by simpa using hm.take_ne_nil (by rw [encodeStatic_single]; exact hfit))
      · exact Or.inr ⟨it, List.mem_cons_self .., o', by rw [hobjs]; exact List.mem_cons_self .., Nat.lt_of_not_le hfit⟩

end QRun

theorem updateOpt_frame {α : Type} {f : Nat × Point → α}
    (hf : ∀ i p c l, f (i, { p with current := c, lastEvent := l }) = f (i, p))
    (db : Db) (t : PtType) (idx : Nat) (m : Meas) (o : UpdOpts) :
    MapsSame f db (db.updateOpt t idx m o).1 ∧ (db.updateOpt t idx m o).1.queue = db.queue ∧
      (db.updateOpt t idx m o).1.czero = db.czero ∧ (db.updateOpt t idx m o).1.selCap = db.selCap := by
  rcases updateOpt_cases db t idx m o with ⟨_, h⟩ | ⟨p, db0, hl, rfl, h⟩
  · rw [h]; exact ⟨MapsSame.refl db, rfl, rfl, rfl⟩
  · have h0 := setMap_mapsSame db t _ (pmSet_map idx (updPoint t p m o) p (hf ..) _ hl)
    rcases h with ⟨_, h⟩ | ⟨_, _, h⟩ <;> rw [h]
    · exact ⟨h0, rfl, rfl, rfl⟩
    · obtain ⟨i1, i2, _, i4, i5⟩ := insert_st (db.setMap t (pmSet (db.map t) idx (updPoint t p m o))) idx p.cls t m p.evar
      exact ⟨h0.trans (MapsSame.of_maps i1), i2, i4, i5⟩

/-- the static objects one `write_response_headers` emits (one list per queue entry touched) -/
def writeStaticObjs (db : Db) (cap : Nat) : List (List SObj) :=
  if (db.writeEvents cap).2.2 then
    (qLoop (db.writeEvents cap).1 cap (db.writeEvents cap).1.queue (encodeEvents none (db.writeEvents cap).2.1).length).1
  else []

theorem writeResponse_cases (db : Db) (cap : Nat) :
    ((db.writeEvents cap).2.2 = false ∧ writeStaticObjs db cap = [] ∧
      db.writeResponse cap = ((db.writeEvents cap).1, encodeEvents none (db.writeEvents cap).2.1,
        !(db.writeEvents cap).2.1.isEmpty, false)) ∨
    ((db.writeEvents cap).2.2 = true ∧ ∃ q u,
      QRun (db.writeEvents cap).1 cap (db.writeEvents cap).1.queue
        (encodeEvents none (db.writeEvents cap).2.1).length (writeStaticObjs db cap) q u ∧
      db.writeResponse cap =
        ({ (db.writeEvents cap).1 with
             queue := q, attrSel := if q.isEmpty then 0 else (db.writeEvents cap).1.attrSel },
         encodeEvents none (db.writeEvents cap).2.1 ++ (writeStaticObjs db cap).flatMap (encodeStatic none),
         !(db.writeEvents cap).2.1.isEmpty, q.isEmpty)) := by
  unfold Db.writeResponse writeStaticObjs
  simp only []
  cases (db.writeEvents cap).2.2
  · exact Or.inl ⟨rfl, rfl, rfl⟩
  · exact Or.inr ⟨rfl, _, _, qLoop_run _ cap _ _ (writeEvents_len db cap), rfl⟩

theorem KeysSame.sorted {db db' : Db} (h : KeysSame db db') (hs : StaticSorted db) : StaticSorted db' :=
  fun t => keysSorted_of_keys (h t) (hs t)

theorem step_frame {α : Type} {f : Nat × Point → α}
    (hf : ∀ i p c s l, f (i, { p with current := c, selected := s, lastEvent := l }) = f (i, p))
    (db : Db) (op : DbOp) (hop : ∀ t idx cls, op ≠ .add t idx cls) :
    MapsSame f db (step db op) ∧ (step db op).czero = db.czero ∧ (step db op).selCap = db.selCap := by
  cases op with
  | add t idx cls => exact absurd rfl (hop t idx cls)
  | update t idx v fl tm =>
    have h := updateOpt_frame (f := f) (fun i p c l => hf i p c p.selected l) db (decodeUpd t idx v fl tm).1
      (decodeUpd t idx v fl tm).2.1 (decodeUpd t idx v fl tm).2.2.1 (decodeUpd t idx v fl tm).2.2.2
    exact ⟨h.1, h.2.2⟩
  | select hd => exact (select_frame (fun i p s => hf i p p.current s p.lastEvent) db hd).2
  | write cap =>
    simp only [step]
    rcases writeResponse_cases db cap with ⟨_, _, he⟩ | ⟨_, _, _, _, he⟩ <;> rw [he] <;>
      exact ⟨MapsSame.of_maps rfl, rfl, rfl⟩
  | unsol c1 c2 c3 cap =>
    simp only [step]
    obtain ⟨evs, _, h⟩ := writeUnsolicited_cases db c1 c2 c3 cap
    rcases h _ rfl with he | he <;> rw [he] <;> exact ⟨MapsSame.of_maps rfl, rfl, rfl⟩
  | clear => exact ⟨MapsSame.of_maps (clear_st db).1, (clear_st db).2.2.2⟩
  | reset => exact ⟨MapsSame.of_maps rfl, rfl, rfl⟩

def CfgSame (db db' : Db) : Prop :=
  MapsSame (fun x => (x.1, x.2.svar)) db db' ∧ db'.czero = db.czero ∧ db'.selCap = db.selCap

theorem step_cfg (db : Db) (op : DbOp) (hop : ∀ t idx cls, op ≠ .add t idx cls) : CfgSame db (step db op) :=
  step_frame (fun _ _ _ _ _ => rfl) db op hop

theorem CfgSame.keys {db db' : Db} (h : CfgSame db db') : KeysSame db db' := h.1.comp Prod.fst

theorem CfgSame.svar {db db' : Db} (h : CfgSame db db') (t : PtType) (v : Nat)
    (hv : ∀ p ∈ db.map t, p.2.svar = v) : ∀ p ∈ db'.map t, p.2.svar = v :=
  h.1.forall (fun x => x.2 = v) t hv

theorem addCfg_frame (db : Db) (hs : StaticSorted db) (t : PtType) (idx cls sv ev dbd : Nat) :
    StaticSorted (db.addCfg t idx cls sv ev dbd).1 ∧ (db.addCfg t idx cls sv ev dbd).1.czero = db.czero ∧
    ∀ u, ∀ p ∈ (db.addCfg t idx cls sv ev dbd).1.map u, p ∈ db.map u ∨ (u = t ∧ p.1 = idx ∧ p.2.svar = sv) := by
  rcases addCfg_cases db t idx cls sv ev dbd with h | ⟨m, hm, h⟩ <;> rw [h]
  · exact ⟨hs, rfl, fun _ _ hp => .inl hp⟩
  · have hi := pmInsert_spec _ _ _ _ hm (hs t)
    refine ⟨fun u => ?_, rfl, fun u p hp => ?_⟩
    · rw [Db.map_setMap']
      split
      · exact hi.1
      · exact hs u
    · rw [Db.map_setMap'] at hp
      split at hp
      · next e =>
        rcases (hi.2 p).mp hp with rfl | hp
        · exact .inr ⟨e, rfl, rfl⟩
        · exact .inl (by rw [e]; exact hp)
      · exact .inl hp

theorem sorted_step (db : Db) (op : DbOp) (hs : StaticSorted db) : StaticSorted (step db op) := by
  cases op with
  | add t idx cls => exact (addCfg_frame db hs t _ cls _ _ _).1
  | _ => exact (step_cfg db _ (by intro _ _ _ h; cases h)).keys.sorted hs

theorem sorted_run (db : Db) (ops : List DbOp) (h : StaticSorted db) : StaticSorted (run db ops) :=
  List.foldlRecOn ops step h fun db h op _ => sorted_step db op h

def StSame (db db' : Db) : Prop :=
  (∀ t, selView (db'.map t) = selView (db.map t)) ∧ db'.queue = db.queue

theorem StSame.refl (db : Db) : StSame db db := ⟨fun _ => rfl, rfl⟩
theorem StSame.trans {a b c : Db} (h1 : StSame a b) (h2 : StSame b c) : StSame a c :=
  ⟨fun t => (h2.1 t).trans (h1.1 t), h2.2.trans h1.2⟩

theorem StSame.sorted {db db' : Db} (h : StSame db db') (hs : StaticSorted db) : StaticSorted db' :=
  KeysSame.sorted (MapsSame.comp (f := fun x => (x.1, x.2.selected, x.2.svar, x.2.deadband)) Prod.fst h.1) hs

theorem pending_congr {db db' : Db} (h : ∀ t, selView (db'.map t) = selView (db.map t)) (q : List SelItem) :
    pending db' q = pending db q := by
  unfold pending
  congr 1
  apply List.map_congr_left
  intro it _
  exact itemObjs_congr db db' it h

theorem StSame.pending {db db' : Db} (h : StSame db db') (q : List SelItem) : pending db' q = pending db q :=
  pending_congr h.1 q

theorem StSame.of_maps {db db' : Db} (hm : db'.maps = db.maps) (hq : db'.queue = db.queue) : StSame db db' :=
  ⟨fun t => by unfold Db.map; rw [hm], hq⟩

theorem updateOpt_stSame (db : Db) (t : PtType) (idx : Nat) (m : Meas) (o : UpdOpts) :
    StSame db (db.updateOpt t idx m o).1 :=
  have h := updateOpt_frame (f := fun x => (x.1, x.2.selected, x.2.svar, x.2.deadband)) (fun _ _ _ _ => rfl) db t idx m o
  ⟨h.1, h.2.1⟩

theorem updateM_stSame (db : Db) (hs : StaticSorted db) (t : PtType) (idx : Nat) (m : Meas) :
    StSame db (db.updateM t idx m).1 := updateOpt_stSame db t idx m {}

theorem update_stSame (db : Db) (t : PtType) (idx : Nat) (v : Int) (f tm : Nat) :
    StSame db (db.update t idx v f tm).1 := updateOpt_stSame db _ _ _ _

theorem writeEvents_stSame (db : Db) (cap : Nat) : StSame db (db.writeEvents cap).1 := StSame.of_maps rfl rfl


theorem writeResponse_static (db : Db) (hs : StaticSorted db) (cap : Nat) :
    (db.writeResponse cap).2.1 =
      encodeEvents none (db.writeEvents cap).2.1 ++ (writeStaticObjs db cap).flatMap (encodeStatic none) ∧
    (∀ t, selView ((db.writeResponse cap).1.map t) = selView (db.map t)) ∧
    (db.writeResponse cap).1.czero = db.czero ∧
    (writeStaticObjs db cap).flatten ++ pending db (db.writeResponse cap).1.queue = pending db db.queue ∧
    ((db.writeResponse cap).2.2.2 = true ↔ (db.writeResponse cap).1.queue = [] ∧ (db.writeEvents cap).2.2 = true) := by
  have hsame := writeEvents_stSame db cap
  rcases writeResponse_cases db cap with ⟨hc, hw, he⟩ | ⟨hc, q, u, hq, he⟩ <;> rw [he, hc]
  · rw [hw]; exact ⟨by simp, hsame.1, rfl, by simp [hsame.2], by simp⟩
  · have hcons := hq.conserves (hsame.sorted hs)
    rw [hsame.pending, hsame.pending, hsame.2] at hcons
    exact ⟨rfl, hsame.1, rfl, hcons, by simp [List.isEmpty_iff]⟩

/-- the operations that may occur between the request and the last fragment of its answer -/
inductive SOp where
  | write (cap : Nat)
  | update (t : PtType) (idx : Nat) (value : Int) (flags time : Nat)
  | clear
deriving DecidableEq, Repr

def sstep (db : Db) : SOp → Db
  | .write cap => (db.writeResponse cap).1
  | .update t idx v f tm => (db.update t idx v f tm).1
  | .clear => db.clearWritten.1

def sobjs (db : Db) : SOp → List SObj
  | .write cap => (writeStaticObjs db cap).flatten
  | _ => []

def seriesEnd (db : Db) (ops : List SOp) : Db := ops.foldl sstep db

def seriesObjs : Db → List SOp → List SObj
  | _, [] => []
  | db, op :: ops => sobjs db op ++ seriesObjs (sstep db op) ops

theorem sstep_conserves (db : Db) (hs : StaticSorted db) (op : SOp) :
    StaticSorted (sstep db op) ∧
    sobjs db op ++ pending (sstep db op) (sstep db op).queue = pending db db.queue := by
  cases op with
  | write cap =>
    obtain ⟨_, h2, _, h4, _⟩ := writeResponse_static db hs cap
    refine ⟨sorted_step db (.write cap) hs, ?_⟩
    show (writeStaticObjs db cap).flatten ++ pending (db.writeResponse cap).1 (db.writeResponse cap).1.queue = _
    rw [pending_congr h2, h4]
  | update t idx v f tm =>
    have h := update_stSame db t idx v f tm
    refine ⟨sorted_step db (.update t idx v f tm) hs, ?_⟩
    show [] ++ pending (db.update t idx v f tm).1 (db.update t idx v f tm).1.queue = _
    rw [List.nil_append, h.2, h.pending]
  | clear =>
    have h : StSame db db.clearWritten.1 := StSame.of_maps (clear_st db).1 (clear_st db).2.1
    refine ⟨sorted_step db .clear hs, ?_⟩
    show [] ++ pending db.clearWritten.1 db.clearWritten.1.queue = _
    rw [List.nil_append, h.2, h.pending]

theorem series_conserves (ops : List SOp) : ∀ (db : Db), StaticSorted db →
    seriesObjs db ops ++ pending (seriesEnd db ops) (seriesEnd db ops).queue = pending db db.queue := by
  induction ops with
  | nil => intro db _; simp [seriesObjs, seriesEnd]
  | cons op ops ih =>
    intro db hs
    obtain ⟨hs', hc⟩ := sstep_conserves db hs op
    have := ih (sstep db op) hs'
    simp only [seriesObjs, seriesEnd, List.foldl_cons] at this ⊢
    rw [List.append_assoc, this, hc]

theorem itemObjs_typed (db : Db) (it : SelItem) (k : PtType) (var : Option Nat) (hk : it.kind = .typed k var) :
    (itemObjs db it).map (fun o => (o.idx, o.m)) =
      ((db.map k).filter (fun p => inRange it p.1)).map (fun p => (p.1, p.2.selected)) := by
  rw [itemObjs_eq, mapOf_typed db it k var hk, List.map_map]
  apply List.map_congr_left
  intro p _
  simp only [Function.comp, objOf_idx, objOf_m_typed it k var hk]

theorem snapshot_filter {β : Type} (F : Nat × Point → β) (it : SelItem) (m : List (Nat × Point)) :
    ((snapshot it.start it.stop m).filter (fun p => inRange it p.1)).map F =
      (m.filter (fun p => inRange it p.1)).map (fun p => F (p.1, { p.2 with selected := p.2.current })) := by
  induction m with
  | nil => rfl
  | cons x rest ih =>
    obtain ⟨i, p⟩ := x
    simp only [snapshot]
    by_cases hr : it.start ≤ i ∧ i ≤ it.stop
    · have hf : inRange it i = true := by simp [inRange, hr]
      rw [if_pos hr, List.filter_cons_of_pos (by exact hf), List.filter_cons_of_pos (by exact hf), List.map_cons,
        List.map_cons, ih]
    · have hf : ¬ inRange it i = true := by simpa [inRange] using hr
      rw [if_neg hr, List.filter_cons_of_neg (by exact hf), List.filter_cons_of_neg (by exact hf), ih]

/-- `select` of a static header snapshots: the entry it queues stands for the CURRENT values of
    the existing points of the range at that moment -/
theorem selectStatic_snapshot (db : Db) (t : PtType) (var : Option Nat) (a b : Nat)
    (hroom : db.queue.length ≠ db.selCap) :
    let db' := (db.selectStatic t var (some (a, b))).1
    let it : SelItem := { kind := kindOf t var, start := a, stop := b }
    db'.queue = db.queue ++ [it] ∧
    (itemObjs db' it).map (fun o => (o.idx, o.m)) =
      ((db.map t).filter (fun p => inRange it p.1)).map (fun p => (p.1, p.2.current)) := by
  simp only []
  rw [selectStatic_some, pushSel_room (db.setMap t (snapshot a b (db.map t))) _ hroom]
  refine ⟨rfl, ?_⟩
  rw [itemObjs_typed _ _ t _ (kindOf_eq' t var)]
  have hm : (db.setMap t (snapshot a b (db.map t))).map t = snapshot a b (db.map t) := Db.map_setMap_same' db t _
  exact (congrArg (fun M : List (Nat × Point) => (M.filter (fun p => inRange ⟨kindOf t var, a, b⟩ p.1)).map
    (fun p => (p.1, p.2.selected))) hm).trans (snapshot_filter (fun p => (p.1, p.2.selected)) ⟨kindOf t var, a, b⟩ (db.map t))

theorem newCfg_sorted (ev : TyVec Nat) (cz : TyVec Bool) (sel : Option Nat) : StaticSorted (Db.newCfg ev cz sel) := by
  intro t; cases t <;> exact List.Pairwise.nil

theorem new_sorted (evMax : Nat) (sel : Option Nat) : StaticSorted (Db.new evMax sel) :=
  newCfg_sorted _ _ sel

/-! the hypotheses used above are satisfiable -/

example : StaticSorted ((((Db.new 0 none).add .analog 3 0).1.add .counter 9 1).1.add .counter 2 1).1 := by decide
example : ¬ StaticSorted { maps := (TyVec.const []).set .counter [(3, {}), (1, {})] } := by decide
example : (Db.new 0 none).queue.length ≠ (Db.new 0 none).selCap := by decide

/-- same keys and `selected` cells, different configured static variation: a header without a
    variation writes different objects — so the view `itemObjs_congr` compares must contain `svar` -/
example :
    itemObjs { maps := (TyVec.const []).set .counter [(1, { svar := 1 })] } ⟨.typed .counter none, 0, 9⟩ ≠
    itemObjs { maps := (TyVec.const []).set .counter [(1, { svar := 2 })] } ⟨.typed .counter none, 0, 9⟩ := by
  decide

end Dnp3.DbProofs
