import Dnp3.Proofs.OutstationIin
import Dnp3.Proofs.FreezeAtTime
import Dnp3.Proofs.OutstationUpd
/-!
# The primitives of the outstation session model: equations, case types, effects

For each request handler and session primitive: its exact equation or the type of its cases, and its effect
`X_eff : Eff F D P a a'` (`Proofs/OutstationUpd.lean`): which observations of the state it may change, by which
database operations, and the class of its outputs.  `Db.*` stays opaque.
-/
namespace Dnp3.Proofs.Frame
open Dnp3
open Dnp3.Proofs.FreezeAtTime

-- safety net for the sentence above
attribute [local irreducible] Db.new Db.add Db.update Db.readSupported Db.select Db.writeResponse
  Db.writeUnsolicited Db.clearWritten Db.reset Db.unwrittenClasses Db.isOverflown

def Cb.isApp : Cb → Bool
  | .beginFragment | .endFragment | .control .. | .writeTime _ | .coldRestart | .warmRestart
  | .freezeAll _ | .freezeRange .. => true
  | _ => false

def OOut.isApp : OOut → Bool
  | .cb c => Cb.isApp c
  | _ => false

/-- the status `ctlHeader.go` decides on for one object (verbatim): the handler's callback, TooManyOps, or the
    fixed status -/
def ctlStatus (kind : Option CtlKind) (fixedStatus : Nat) (maxctl : Option Nat) (h : ObjHdr) (ix obj : List Nat)
    (r : CtlRun) : CtlRun × Nat × Bool :=
  match kind with
  | none => (r, fixedStatus, false)
  | some k =>
    if (match maxctl with | none => true | some m => r.num < m) then
      let (s', st) := nextStatus r.acc.1
      let acc : Acc := (s', r.acc.2)
      let acc := if r.started then acc else emitCb acc .beginFragment
      let acc := emitCb acc (.control k h.group h.var (idxVal ix) obj st)
      ({ r with acc := acc, started := true }, st, true)
    else (r, 8, false)

theorem ctlStatus_inv {I : Acc → Prop} (hn : ∀ a : Acc, I a → I ((nextStatus a.1).1, a.2))
    (hc : ∀ (a : Acc) (c : Cb), Cb.isApp c = true → I a → I (emitCb a c))
    {kind : Option CtlKind} {fixedStatus : Nat} {maxctl : Option Nat} {h : ObjHdr} {ix obj : List Nat} {r r' : CtlRun}
    {st : Nat} {called : Bool} (hx : ctlStatus kind fixedStatus maxctl h ix obj r = (r', st, called))
    (hr : I r.acc) : I r'.acc := by
  unfold ctlStatus at hx
  split at hx
  · cases hx; exact hr
  · by_cases hm : (match (generalizing := false) maxctl with | none => true | some m => decide (r.num < m)) = true
    · rw [if_pos hm] at hx
      cases hx
      by_cases hs : r.started
      · simp only [hs, if_true]
        exact hc _ _ rfl (hn _ hr)
      · simp only [hs]
        exact hc _ _ rfl (hc _ _ rfl (hn _ hr))
    · rw [if_neg hm] at hx
      cases hx; exact hr

abbrev AppP : OOut → Prop := fun o => OOut.isApp o = true

/-- **the control loop as a fold.**  Per object `ctlHeader.go` decides a status (`ctlStatus`: at most one
    handler call) and then only keeps books: `out`, `overflow`, `num`, and — unless the function is `donr` —
    `status := firstError status st`.  An invariant of the run is closed under these two. -/
theorem ctlHeader_go_inv {I : CtlRun → Prop} {kind : Option CtlKind} {fs : Nat} {maxctl : Option Nat}
    (hbook : ∀ r (o : List Nat) (ov : Bool) (n : Nat), I r → I { r with out := o, overflow := ov, num := n })
    (hcall : ∀ h ix obj r r' st called, I r → ctlStatus kind fs maxctl h ix obj r = (r', st, called) →
      (kind = some .donr → I r') ∧ (kind ≠ some .donr → I { r' with status := firstError r'.status st }))
    (h : ObjHdr) (isz : Nat) (hb : List Nat) (items : List (List Nat × List Nat)) (r : CtlRun) (count : Nat)
    (ho body : List Nat) (hr : I r) : I (ctlHeader.go kind fs maxctl h isz hb items r count ho body) := by
  fun_induction ctlHeader.go kind fs maxctl h isz hb items r count ho body
  · exact hbook _ _ _ _ hr
  · exact hbook _ _ _ _ hr
  · rename_i hx hk ih
    exact ih (hbook _ _ _ _ ((hcall _ _ _ _ _ _ _ hr hx).1 hk))
  · rename_i hx hk _ _ _ _
    exact hbook _ _ _ _ ((hcall _ _ _ _ _ _ _ hr hx).2 hk)
  · rename_i hx hk _ _ _ _ _ _ _ ih
    exact ih (hbook _ _ _ _ ((hcall _ _ _ _ _ _ _ hr hx).2 hk))

theorem ctlAll_inv {I : CtlRun → Prop} {kind : Option CtlKind} {fs : Nat} {maxctl : Option Nat}
    (hbook : ∀ r (o : List Nat) (ov : Bool) (n : Nat), I r → I { r with out := o, overflow := ov, num := n })
    (hcall : ∀ h ix obj r r' st called, I r → ctlStatus kind fs maxctl h ix obj r = (r', st, called) →
      (kind = some .donr → I r') ∧ (kind ≠ some .donr → I { r' with status := firstError r'.status st }))
    (hs : List ObjHdr) (r : CtlRun) (hr : I r) : I (ctlAll kind fs maxctl hs r) := by
  unfold ctlAll
  refine foldl_inv I _ (fun r h hr => ?_) hs r hr
  split
  · exact hr
  · exact ctlHeader_go_inv hbook hcall _ _ _ _ _ _ _ _ hr

/-- the echo of a finished run of the control loop written behind the response header (`finish` in `handleControls`) -/
def ctlEcho (seq : Nat) (r : CtlRun) (iin2 : Nat) : Acc × Option Resp :=
  (({ (ctlFinish r).acc.1 with solBuf := writeAt (ctlFinish r).acc.1.solBuf 4 (ctlFinish r).out }, (ctlFinish r).acc.2),
    some (singleResponse seq iin2 (4 + (ctlFinish r).out.length)))

inductive CtlCase (a : Acc) (func seq fid : Nat) (hs : List ObjHdr) (raw : List Nat) : Acc × Option Resp → Prop
  | param : hs.all isControlHdr = false →
      CtlCase a func seq fid hs raw (a, if func = 6 then none else some (emptySolicited seq iin2ParamError))
  | select (r : CtlRun) : hs.all isControlHdr = true → func = 3 →
      r = ctlFinish (ctlAll (some .select) 0 a.1.cfg.maxctl hs { acc := a, cap := a.1.cfg.sol - 4 }) →
      CtlCase a func seq fid hs raw
        (({ r.acc.1 with
            select := if !r.overflow ∧ r.status = 0 then some ⟨seq, fid, r.acc.1.now, raw⟩ else r.acc.1.select,
            solBuf := writeAt r.acc.1.solBuf 4 r.out }, r.acc.2),
          some (singleResponse seq (if !r.overflow ∧ r.status = 4 then iin2ParamError else 0) (4 + r.out.length)))
  | reject (st : Nat) (r : CtlRun) : hs.all isControlHdr = true → func = 4 →
      (match a.1.select with
        | none => some 2
        | some sel => matchOperate sel a.1.cfg.stimeout a.1.now seq fid raw) = some st →
      r = ctlAll none st none hs { acc := a, cap := a.1.cfg.sol - 4 } →
      CtlCase a func seq fid hs raw (ctlEcho seq r (if !r.overflow ∧ st = 4 then iin2ParamError else 0))
  | operate (k : CtlKind) (r : CtlRun) : hs.all isControlHdr = true →
      (func = 4 ∧ k = .sbo ∧ (match a.1.select with
        | none => some 2
        | some sel => matchOperate sel a.1.cfg.stimeout a.1.now seq fid raw) = none) ∨ (func = 5 ∧ k = .dop) →
      r = ctlAll (some k) 0 a.1.cfg.maxctl hs { acc := a, cap := a.1.cfg.sol - 4 } →
      CtlCase a func seq fid hs raw (ctlEcho seq r (if !r.overflow ∧ r.status = 4 then iin2ParamError else 0))
  | noAck : hs.all isControlHdr = true → func ≠ 3 → func ≠ 4 → func ≠ 5 →
      CtlCase a func seq fid hs raw
        ((ctlFinish (ctlAll (some .donr) 0 a.1.cfg.maxctl hs { acc := a, cap := a.1.cfg.sol - 4 })).acc, none)

theorem handleControls_cases (a : Acc) (func seq fid : Nat) (hs : List ObjHdr) (raw : List Nat) :
    ∃ x, handleControls a func seq fid hs raw = some x ∧ CtlCase a func seq fid hs raw x := by
  unfold handleControls
  cases hall : hs.all isControlHdr
  · exact ⟨_, rfl, .param hall⟩
  simp only [Bool.not_true, Bool.false_eq_true, if_false]
  by_cases h3 : func = 3
  · rw [if_pos h3]
    refine ⟨_, ?_, .select _ hall h3 rfl⟩
    dsimp only
    split <;> rfl
  rw [if_neg h3]
  by_cases h4 : func = 4
  · rw [if_pos h4]
    split
    · rename_i st hv; exact ⟨_, rfl, .reject st _ hall h4 hv rfl⟩
    · rename_i hv; exact ⟨_, rfl, .operate .sbo _ hall (.inl ⟨h4, rfl, hv⟩) rfl⟩
  rw [if_neg h4]
  by_cases h5 : func = 5
  · rw [if_pos h5]; exact ⟨_, rfl, .operate .dop _ hall (.inr ⟨h5, rfl⟩) rfl⟩
  · rw [if_neg h5]; exact ⟨_, rfl, .noAck hall h3 h4 h5⟩

/-! The class `P` of the outputs is `KP ks`, a list of kinds; it is left a parameter where a property asks for a finer one
(C12 reads the octets transmitted: `TxOk`).  A new `X_eff` states `KP`. -/

theorem nextStatus_state (s : OState) :
    ∃ p, (nextStatus s).1 = { s with script := { s.script with ctlPos := p } } := by
  unfold nextStatus
  split
  · exact ⟨s.script.ctlPos, rfl⟩
  · exact ⟨_, rfl⟩

theorem nextStatus_upd (s : OState) : Upd [.script] s (nextStatus s).1 := by
  obtain ⟨sc, h⟩ := nextStatus_state s
  rw [h]; upd_rfl

theorem ctlStatus_eff {kind : Option CtlKind} {fixedStatus : Nat} {maxctl : Option Nat} {h : ObjHdr}
    {ix obj : List Nat} {r r' : CtlRun} {st : Nat} {called : Bool}
    (hx : ctlStatus kind fixedStatus maxctl h ix obj r = (r', st, called)) : Eff [.script] [] AppP r.acc r'.acc :=
  ctlStatus_inv (I := Eff [.script] [] AppP r.acc)
    (fun b h => h.trans (.state _ (nextStatus_upd b.1) (.of_eq ((nextStatus_upd b.1).get .db))))
    (fun _ _ hc h => h.trans (.emitCb hc)) hx .refl

theorem ctlAll_eff (kind : Option CtlKind) (fs : Nat) (maxctl : Option Nat) (hs : List ObjHdr) (r : CtlRun) :
    Eff [.script] [] AppP r.acc (ctlAll kind fs maxctl hs r).acc :=
  ctlAll_inv (I := fun x => Eff [.script] [] AppP r.acc x.acc) (fun _ _ _ _ h => h)
    (fun _ _ _ _ _ _ _ h hx =>
      have f := h.trans (ctlStatus_eff hx)
      ⟨fun _ => f, fun _ => f⟩) hs r .refl

theorem ctlFinish_eff (r : CtlRun) : Eff [.script] [] AppP r.acc (ctlFinish r).acc := by
  unfold ctlFinish
  split
  · exact .emitCb rfl
  · exact .refl

theorem ctlEcho_eff (r : CtlRun) :
    Eff [.script, .select, .solBuf, .solLen] [] AppP r.acc
      ({ (ctlFinish r).acc.1 with solBuf := writeAt (ctlFinish r).acc.1.solBuf 4 (ctlFinish r).out }, (ctlFinish r).acc.2) :=
  ((ctlFinish_eff r).wide).trans (.set _ (by upd_rfl))

theorem handleControls_eff {a a' : Acc} {func seq fid : Nat} {hs : List ObjHdr} {raw : List Nat} {r : Option Resp}
    (h : handleControls a func seq fid hs raw = some (a', r)) :
    Eff [.script, .select, .solBuf, .solLen] [] AppP a a' := by
  have w := fun (k : Option CtlKind) (fs : Nat) (m : Option Nat) =>
    (ctlAll_eff k fs m hs { acc := a, cap := a.1.cfg.sol - 4 }).mono
      (G := [.script, .select, .solBuf, .solLen]) (E := []) (fun _ ho => ho)
  obtain ⟨x, hx, c⟩ := handleControls_cases a func seq fid hs raw
  cases hx.symm.trans h
  cases c with
  | param => exact .refl
  | select R _ _ hR =>
    subst hR; exact ((w _ _ _).trans ((ctlFinish_eff _).wide)).trans (.set _ (by upd_rfl))
  | reject st R _ _ _ hR => subst hR; exact (w _ _ _).trans (ctlEcho_eff _)
  | operate k R _ _ hR => subst hR; exact (w _ _ _).trans (ctlEcho_eff _)
  | noAck => exact (w _ _ _).trans ((ctlFinish_eff _).wide)

def clearOut : OOut := .cb .clearRestartIin

theorem handleWriteIin_eff (a : Acc) (start stop : Nat) (data : List Nat) :
    Eff [.restart] [] (fun o => o = clearOut) a (handleWriteIin a start stop data).1 := by
  unfold handleWriteIin
  refine Eff.foldl2 _ (fun p i => ?_) _ (a, 0)
  dsimp only
  split
  · split
    · exact .refl
    · exact .pre (.emitCb rfl) (by upd_rfl) .refl
  · exact .refl

theorem handleWriteHeader_time_eff {P : OOut → Prop} (ht : ∀ t, P (.cb (.writeTime t))) (a : Acc) (h : ObjHdr)
    (h80 : ¬ (h.group = 80 ∧ h.var = 1 ∧ h.qual = 0x00)) : Eff [.lastRecorded] [] P a (handleWriteHeader a h).1 := by
  unfold handleWriteHeader
  rw [if_neg h80]
  refine .ite (fun _ => .ite (fun _ => .emitCb (ht _)) fun _ => .refl) fun _ =>
    .ite (fun _ => .ite (fun _ => .refl) fun _ => ?_) fun _ => .refl
  split
  · exact .refl
  · exact .ite (fun _ => .refl) fun _ => .pre (.emitCb (ht _)) (by upd_rfl) .refl

theorem handleWriteHeader_eff {P : OOut → Prop} (hc : P clearOut) (ht : ∀ t, P (.cb (.writeTime t)))
    (a : Acc) (h : ObjHdr) : Eff [.restart, .lastRecorded] [] P a (handleWriteHeader a h).1 := by
  by_cases h80 : h.group = 80 ∧ h.var = 1 ∧ h.qual = 0x00
  · unfold handleWriteHeader
    rw [if_pos h80]
    exact (handleWriteIin_eff _ _ _ _).mono (fun _ ho => ho ▸ hc)
  · exact (handleWriteHeader_time_eff ht a h h80).wide

theorem handleWrite_eff {P : OOut → Prop} (hc : P clearOut) (ht : ∀ t, P (.cb (.writeTime t)))
    (a : Acc) (seq : Nat) (hs : List ObjHdr) : Eff [.restart, .lastRecorded] [] P a (handleWrite a seq hs).1 := by
  unfold handleWrite
  dsimp only
  refine Eff.foldl2 _ (fun p h => ?_) hs (a, 0)
  exact handleWriteHeader_eff hc ht _ _

theorem handleFreezeHeader_eff {P : OOut → Prop} (h1 : ∀ k, P (.cb (.freezeAll k)))
    (h2 : ∀ x y k, P (.cb (.freezeRange x y k))) (a : Acc) (k : FreezeKind) (h : ObjHdr) :
    Eff [] [] P a (handleFreezeHeader a k h).1 :=
  .ite (fun _ => .emitCb (h1 _)) fun _ => .ite (fun _ => .emitCb (h2 _ _ _)) fun _ => .refl

theorem handleFreeze_eff {P : OOut → Prop} (h1 : ∀ k, P (.cb (.freezeAll k)))
    (h2 : ∀ x y k, P (.cb (.freezeRange x y k))) (a : Acc) (seq : Nat) (k : FreezeKind) (hs : List ObjHdr) :
    Eff [] [] P a (handleFreeze a seq k hs).1 := by
  unfold handleFreeze
  dsimp only
  refine Eff.foldl2 _ (fun p h => ?_) hs (a, 0)
  exact handleFreezeHeader_eff h1 h2 _ _ _

theorem handleFreezeAtTime_eff {P : OOut → Prop} (h1 : ∀ k, P (.cb (.freezeAll k)))
    (h2 : ∀ x y k, P (.cb (.freezeRange x y k))) (a : Acc) (seq : Nat) (hs : List ObjHdr) :
    Eff [] [] P a (handleFreezeAtTime a seq hs).1 :=
  handleFreezeAtTime_inv (fun b => Eff [] [] P a b)
    (fun b h hb => hb.trans (handleFreezeHeader_eff h1 h2 b .atTime h)) a seq hs .refl

theorem handleEnableDisable_eff (P : OOut → Prop) (a : Acc) (en : Bool) (seq : Nat) (hs : List ObjHdr) :
    Eff [.en1, .en2, .en3] [] P a (handleEnableDisable a en seq hs).1 := by
  unfold handleEnableDisable
  refine .ite (fun _ => .refl) fun _ => .set _ (Upd.foldl2 _ (fun p h => ?_) hs (a.1, 0))
  dsimp only
  by_cases h2 : h.group = 60 ∧ h.qual = 0x06 ∧ h.var = 2
  · rw [if_pos h2]; exact Upd.enables p.1 en p.1.en2 p.1.en3
  rw [if_neg h2]
  by_cases h3 : h.group = 60 ∧ h.qual = 0x06 ∧ h.var = 3
  · rw [if_pos h3]; exact Upd.enables p.1 p.1.en1 en p.1.en3
  rw [if_neg h3]
  by_cases h4 : h.group = 60 ∧ h.qual = 0x06 ∧ h.var = 4
  · rw [if_pos h4]; exact Upd.enables p.1 p.1.en1 p.1.en2 en
  rw [if_neg h4]
  exact .refl _ _

theorem countOfOne_eff (P : OOut → Prop) (a : Acc) (seq g v value : Nat) :
    Eff [.solBuf, .solLen] [] P a (countOfOne a seq g v value).1 :=
  .state _ (by upd_rfl) .refl

theorem handleRestart_eff {P : OOut → Prop} (a : Acc) (seq : Nat) (name : Cb) (hn : P (.cb name)) :
    Eff [.solBuf, .solLen] [] P a (handleRestart a seq name).1 := by
  unfold handleRestart
  dsimp only
  split
  · exact .emitCb hn
  · split
    · exact (Eff.emitCb hn).trans (countOfOne_eff ..)
    · exact (Eff.emitCb hn).trans (countOfOne_eff ..)


def OOut.isCtl : OOut → Bool
  | .cb (.control ..) => true
  | _ => false

/-- the dispatch table of `handle_non_read` (before the "objects not allowed" IIN2 patch) -/
def nonReadRes (a : Acc) (func seq frameId : Nat) (hs : List ObjHdr) (raw : List Nat) : Option (Acc × Option Resp) :=
  if func = 2 then some ((handleWrite a seq hs).1, some (handleWrite a seq hs).2)
  else if func = 23 then some ((countOfOne a seq 52 2 a.1.script.delayMs).1, some (countOfOne a seq 52 2 a.1.script.delayMs).2)
  else if func = 24 then some (({ a.1 with lastRecorded := some a.1.now }, a.2), some (emptySolicited seq 0))
  else if func = 13 then some ((handleRestart a seq .coldRestart).1, some (handleRestart a seq .coldRestart).2)
  else if func = 14 then some ((handleRestart a seq .warmRestart).1, some (handleRestart a seq .warmRestart).2)
  else if func = 3 ∨ func = 4 ∨ func = 5 ∨ func = 6 then handleControls a func seq frameId hs raw
  else if func = 7 then some ((handleFreeze a seq .immediate hs).1, some (handleFreeze a seq .immediate hs).2)
  else if func = 8 then some ((handleFreeze a seq .immediate hs).1, none)
  else if func = 9 then some ((handleFreeze a seq .clear hs).1, some (handleFreeze a seq .clear hs).2)
  else if func = 10 then some ((handleFreeze a seq .clear hs).1, none)
  else if func = 11 then some ((handleFreezeAtTime a seq hs).1, some (handleFreezeAtTime a seq hs).2)
  else if func = 12 then some ((handleFreezeAtTime a seq hs).1, none)
  else if func = 20 then some ((handleEnableDisable a true seq hs).1, some (handleEnableDisable a true seq hs).2)
  else if func = 21 then some ((handleEnableDisable a false seq hs).1, some (handleEnableDisable a false seq hs).2)
  else some (a, some (emptySolicited seq iin2NoFunc))

def extraIin2 (func : Nat) (raw : List Nat) : Nat :=
  if objectsAllowed func then 0 else if raw.isEmpty then 0 else iin2ParamError

theorem handleNonRead_eq (a : Acc) (func seq frameId : Nat) (hs : List ObjHdr) (raw : List Nat) :
    handleNonRead a func seq frameId hs raw =
      match nonReadRes a func seq frameId hs raw with
      | none => none
      | some (a, none) => some (a, none)
      | some (a, some r) => some (a, some { r with iin2 := r.iin2 ||| extraIin2 func raw }) := rfl

theorem handleNonRead_res {a a' : Acc} {func seq fid : Nat} {hs : List ObjHdr} {raw : List Nat} {r : Option Resp}
    (h : handleNonRead a func seq fid hs raw = some (a', r)) :
    ∃ r0, nonReadRes a func seq fid hs raw = some (a', r0) ∧
      r = r0.map fun x => { x with iin2 := x.iin2 ||| extraIin2 func raw } := by
  rw [handleNonRead_eq] at h
  split at h
  · cases h
  · cases h; exact ⟨none, ‹_›, rfl⟩
  · cases h; exact ⟨some _, ‹_›, rfl⟩

theorem handleEnableDisable_func (a : Acc) (en : Bool) (seq : Nat) (hs : List ObjHdr) :
    (handleEnableDisable a en seq hs).2.func = 0x81 := by
  unfold handleEnableDisable
  split <;> rfl

theorem handleRestart_func (a : Acc) (seq : Nat) (name : Cb) : (handleRestart a seq name).2.func = 0x81 := by
  unfold handleRestart
  dsimp only
  split
  · rfl
  · split <;> rfl

theorem handleControls_func {a : Acc} {func seq fid : Nat} {hs : List ObjHdr} {raw : List Nat} {a' : Acc} {r : Resp}
    (h : handleControls a func seq fid hs raw = some (a', some r)) : r.func = 0x81 := by
  obtain ⟨x, hx, c⟩ := handleControls_cases a func seq fid hs raw
  have e : x.2 = some r := congrArg Prod.snd (Option.some.inj (hx.symm.trans h))
  cases c with
  | param =>
    dsimp only at e
    split at e
    · cases e
    · cases e; rfl
  | noAck => cases e
  | _ => cases e; rfl

inductive NRCase (a : Acc) (func seq fid : Nat) (hs : List ObjHdr) (raw : List Nat) (a' : Acc) (r : Option Resp) : Prop
  | write : func = 2 → a' = (handleWrite a seq hs).1 → r = some (handleWrite a seq hs).2 →
      NRCase a func seq fid hs raw a' r
  | enable : func = 20 → a' = (handleEnableDisable a true seq hs).1 →
      r = some (handleEnableDisable a true seq hs).2 → NRCase a func seq fid hs raw a' r
  | disable : func = 21 → a' = (handleEnableDisable a false seq hs).1 →
      r = some (handleEnableDisable a false seq hs).2 → NRCase a func seq fid hs raw a' r
  | control : (func = 3 ∨ func = 4 ∨ func = 5 ∨ func = 6) →
      handleControls a func seq fid hs raw = some (a', r) → NRCase a func seq fid hs raw a' r
  | misc : func ≠ 2 → func ≠ 20 → func ≠ 21 →
      Eff [.lastRecorded, .solBuf, .solLen] [] (fun o => AppP o ∧ OOut.isCtl o = false) a a' →
      ¬(func = 3 ∨ func = 4 ∨ func = 5 ∨ func = 6) → (∀ x, r = some x → x.func = 0x81) →
      NRCase a func seq fid hs raw a' r

theorem nonReadRes_cases (a : Acc) (func seq fid : Nat) (hs : List ObjHdr) (raw : List Nat) :
    ∃ a' r0, nonReadRes a func seq fid hs raw = some (a', r0) ∧ NRCase a func seq fid hs raw a' r0 := by
  unfold nonReadRes
  have misc : func ≠ 2 ∧ func ≠ 20 ∧ func ≠ 21 ∧ ¬(func = 3 ∨ func = 4 ∨ func = 5 ∨ func = 6) →
      ∀ {b : Acc} {r : Option Resp},
      Eff [.lastRecorded, .solBuf, .solLen] [] (fun o => AppP o ∧ OOut.isCtl o = false) a b →
      (∀ x, r = some x → x.func = 0x81) → NRCase a func seq fid hs raw b r :=
    fun ⟨h1, h2, h3, h4⟩ _ _ e hf => .misc h1 h2 h3 e h4 hf
  have sol : ∀ {r1 : Resp}, r1.func = 0x81 → ∀ x, some r1 = some x → x.func = 0x81 :=
    fun h1 _ e => Option.some.inj e ▸ h1
  have restart : ∀ name, Cb.isApp name = true ∧ OOut.isCtl (.cb name) = false →
      Eff [.lastRecorded, .solBuf, .solLen] [] (fun o => AppP o ∧ OOut.isCtl o = false) a (handleRestart a seq name).1 :=
    fun name hn => (handleRestart_eff a seq name hn).wide
  have freeze : ∀ k, Eff [.lastRecorded, .solBuf, .solLen] [] (fun o => AppP o ∧ OOut.isCtl o = false) a
      (handleFreeze a seq k hs).1 := fun k =>
    (handleFreeze_eff (fun _ => ⟨rfl, rfl⟩) (fun _ _ _ => ⟨rfl, rfl⟩) a seq k hs).wide
  have freezeAt : Eff [.lastRecorded, .solBuf, .solLen] [] (fun o => AppP o ∧ OOut.isCtl o = false) a
      (handleFreezeAtTime a seq hs).1 :=
    (handleFreezeAtTime_eff (fun _ => ⟨rfl, rfl⟩) (fun _ _ _ => ⟨rfl, rfl⟩) a seq hs).wide
  by_cases hc0 : func = 2
  · rw [if_pos hc0]; exact ⟨_, _, rfl, .write hc0 rfl rfl⟩
  rw [if_neg hc0]
  by_cases hc1 : func = 23
  · rw [if_pos hc1]; exact ⟨_, _, rfl, misc (by omega) ((countOfOne_eff _ _ _ _ _ _).wide) (sol rfl)⟩
  rw [if_neg hc1]
  by_cases hc2 : func = 24
  · rw [if_pos hc2]; exact ⟨_, _, rfl, misc (by omega) (.set _ (by upd_rfl)) (sol rfl)⟩
  rw [if_neg hc2]
  by_cases hc3 : func = 13
  · rw [if_pos hc3]; exact ⟨_, _, rfl, misc (by omega) (restart _ ⟨rfl, rfl⟩) (sol (handleRestart_func ..))⟩
  rw [if_neg hc3]
  by_cases hc4 : func = 14
  · rw [if_pos hc4]; exact ⟨_, _, rfl, misc (by omega) (restart _ ⟨rfl, rfl⟩) (sol (handleRestart_func ..))⟩
  rw [if_neg hc4]
  by_cases hc5 : func = 3 ∨ func = 4 ∨ func = 5 ∨ func = 6
  · rw [if_pos hc5]
    obtain ⟨x, hx, -⟩ := handleControls_cases a func seq fid hs raw
    exact ⟨x.1, x.2, hx, .control hc5 hx⟩
  rw [if_neg hc5]
  by_cases hc6 : func = 7
  · rw [if_pos hc6]; exact ⟨_, _, rfl, misc (by omega) (freeze _) (sol rfl)⟩
  rw [if_neg hc6]
  by_cases hc7 : func = 8
  · rw [if_pos hc7]; exact ⟨_, _, rfl, misc (by omega) (freeze _) nofun⟩
  rw [if_neg hc7]
  by_cases hc8 : func = 9
  · rw [if_pos hc8]; exact ⟨_, _, rfl, misc (by omega) (freeze _) (sol rfl)⟩
  rw [if_neg hc8]
  by_cases hc9 : func = 10
  · rw [if_pos hc9]; exact ⟨_, _, rfl, misc (by omega) (freeze _) nofun⟩
  rw [if_neg hc9]
  by_cases hc10 : func = 11
  · rw [if_pos hc10]; exact ⟨_, _, rfl, misc (by omega) freezeAt (sol rfl)⟩
  rw [if_neg hc10]
  by_cases hc11 : func = 12
  · rw [if_pos hc11]; exact ⟨_, _, rfl, misc (by omega) freezeAt nofun⟩
  rw [if_neg hc11]
  by_cases hc12 : func = 20
  · rw [if_pos hc12]; exact ⟨_, _, rfl, .enable hc12 rfl rfl⟩
  rw [if_neg hc12]
  by_cases hc13 : func = 21
  · rw [if_pos hc13]; exact ⟨_, _, rfl, .disable hc13 rfl rfl⟩
  rw [if_neg hc13]
  exact ⟨_, _, rfl, misc ⟨hc0, hc12, hc13, hc5⟩ .refl (sol rfl)⟩

theorem handleNonRead_cases {a : Acc} {func seq fid : Nat} {hs : List ObjHdr} {raw : List Nat}
    {a' : Acc} {r : Option Resp} (h : handleNonRead a func seq fid hs raw = some (a', r)) :
    ∃ r0, NRCase a func seq fid hs raw a' r0 ∧
      r = r0.map fun x => { x with iin2 := x.iin2 ||| extraIin2 func raw } := by
  obtain ⟨r0, hr, e⟩ := handleNonRead_res h
  obtain ⟨_, _, hr', c⟩ := nonReadRes_cases a func seq fid hs raw
  cases hr.symm.trans hr'
  exact ⟨r0, c, e⟩

theorem handleNonRead_func {a : Acc} {func seq fid : Nat} {hs : List ObjHdr} {raw : List Nat} {a' : Acc} {r : Resp}
    (h : handleNonRead a func seq fid hs raw = some (a', some r)) : r.func = 0x81 := by
  obtain ⟨r0, c, e⟩ := handleNonRead_cases h
  cases r0 with
  | none => cases e
  | some r1 =>
    cases e
    show r1.func = 0x81
    cases c with
    | write _ _ e => cases e; rfl
    | enable _ _ e => cases e; exact handleEnableDisable_func ..
    | disable _ _ e => cases e; exact handleEnableDisable_func ..
    | control _ e => exact handleControls_func e
    | misc _ _ _ _ _ e => exact e _ rfl

theorem isApp_kind (o : OOut) (h : OOut.isApp o = true) : OOut.kind o = .app := by
  cases o with
  | cb c => cases c <;> simp_all [OOut.isApp, Cb.isApp, OOut.kind, Cb.kind]
  | _ => simp [OOut.isApp] at h

open Dnp3.Proofs.Iin

/-- `kS`: fields no primitive below writes (`popRequest` alone may drop `pending`); `kR` adds those only
    `afterUnsolSeries` (`unsol`) and the request handlers (`restart`, the class enables) may touch -/
def kS (s : OState) := (s.cfg, s.pending, s.now, s.frameId, s.script.appIin)
def kR (s : OState) := (kS s, s.unsol, s.restart, s.en1, s.en2, s.en3)

theorem writeAt_zero (buf data : List Nat) : writeAt buf 0 data = data ++ buf.drop data.length := by
  simp [writeAt]

theorem writeAt_zero_idem (buf data : List Nat) : writeAt (writeAt buf 0 data) 0 data = writeAt buf 0 data := by
  simp [writeAt_zero]

theorem writeAt_length (buf : List Nat) (off : Nat) (data : List Nat) (h : off + data.length ≤ buf.length) :
    (writeAt buf off data).length = buf.length := by
  unfold writeAt
  simp only [List.length_append, List.length_take, List.length_drop]
  omega

/-- what `repeat_solicited` / `repeat_unsolicited` put on the wire: the 4 header octets of `r`
    followed by `max 4 size - 4` octets of the buffer -/
theorem hdr_take (buf : List Nat) (r : Resp) (n : Nat) :
    (writeAt buf 0 (respHeader r)).take (max 4 n) = respHeader r ++ (buf.drop 4).take (max 4 n - 4) := by
  obtain ⟨m, hm⟩ : ∃ m, max 4 n = m + 4 := ⟨max 4 n - 4, by omega⟩
  rw [hm]
  simp [writeAt, respHeader]

theorem hdr_func (buf : List Nat) (r : Resp) (n : Nat) :
    ((writeAt buf 0 (respHeader r)).take (max 4 n)).getD 1 0 = r.func := by
  rw [hdr_take]; rfl

theorem seq4Next_lt (s : Nat) (h : s < 16) : seq4Next s < 16 := by
  unfold seq4Next; split <;> omega

theorem txFrags_append (l l' : List OOut) : txFrags (l ++ l') = txFrags l ++ txFrags l' := by
  unfold txFrags; exact List.filterMap_append

theorem txFrags_cbs (l : List OOut) (hc : ∀ o ∈ l, ∃ c, o = OOut.cb c) : txFrags l = [] := by
  unfold txFrags
  rw [List.filterMap_eq_nil_iff]
  intro o ho
  obtain ⟨c, rfl⟩ := hc o ho
  rfl

theorem repeatSolicited_eq (a : Acc) (dst : Nat) (r : Resp) :
    repeatSolicited a dst r = ({ a.1 with solBuf := writeAt a.1.solBuf 0 (respHeader r) },
      a.2 ++ [.tx dst ((writeAt a.1.solBuf 0 (respHeader r)).take (max 4 r.size))]) := rfl

theorem repeatUnsolicited_eq (a : Acc) (r : Resp) :
    repeatUnsolicited a r = ({ a.1 with unsolBuf := writeAt a.1.unsolBuf 0 (respHeader r) },
      a.2 ++ [.tx a.1.cfg.master ((writeAt a.1.unsolBuf 0 (respHeader r)).take (max 4 r.size))]) := rfl

/-- the retry of an unsolicited response (`unsolWaitTimeout`, the events `uwRetry`) as one update of `a.1` -/
theorem unsolRetry_eq (a : Acc) (resp : Resp) (m : Mode) :
    (({ (repeatUnsolicited (emitCb a (.unsolTimeout resp.ctrl.seq true)) resp).1 with mode := m },
      (repeatUnsolicited (emitCb a (.unsolTimeout resp.ctrl.seq true)) resp).2) : Acc) =
    ({ a.1 with unsolBuf := writeAt a.1.unsolBuf 0 (respHeader resp), mode := m },
      a.2 ++ [.cb (.unsolTimeout resp.ctrl.seq true),
        .tx a.1.cfg.master ((writeAt a.1.unsolBuf 0 (respHeader resp)).take (max 4 resp.size))]) := by
  rw [repeatUnsolicited_eq]
  exact congrArg (Prod.mk _) (List.append_assoc _ _ _)

theorem writeSolicited_eq {a a' : Acc} {dst : Nat} {r r' : Resp} (h : writeSolicited a dst r = some (a', r')) :
    ∃ c1 c2 c3, a.1.db.unwrittenClasses = some (c1, c2, c3) ∧
      r' = { r with
        iin1 := r.iin1 ||| iin1Of a.1.lastBroadcast.isSome c1 c2 c3 (a.1.script.appIin.testBit 0)
          (a.1.script.appIin.testBit 1) (a.1.script.appIin.testBit 2) a.1.restart,
        iin2 := r.iin2 ||| iin2Of a.1.db.isOverflown (a.1.script.appIin.testBit 3),
        ctrl := { r.ctrl with con := r.ctrl.con || decide (a.1.lastBroadcast = some 1) } } ∧
      a' = repeatSolicited (afterIin a.1, a.2) dst r' := by
  unfold writeSolicited at h
  split at h
  · cases h
  · rename_i s i1 i2 hg
    obtain ⟨c1, c2, c3, hu, rfl, rfl, rfl⟩ := getResponseIin_some _ _ _ _ hg
    cases h
    refine ⟨c1, c2, c3, hu, ?_, rfl⟩
    rw [afterIin_eq]
    by_cases hb : a.1.lastBroadcast = some 1 <;> simp [hb]

theorem writeSolicited_of_iin {a : Acc} {s : OState} {i1 i2 : Nat} (h : getResponseIin a.1 = some (s, i1, i2))
    (dst : Nat) (r : Resp) :
    writeSolicited a dst r =
      let r' := { r with iin1 := r.iin1 ||| i1, iin2 := r.iin2 ||| i2,
                         ctrl := { r.ctrl with con := r.ctrl.con || decide (s.lastBroadcast = some 1) } }
      some (repeatSolicited (s, a.2) dst r', r') := by
  unfold writeSolicited
  rw [h]
  by_cases hb : s.lastBroadcast = some 1 <;> simp [hb]

theorem writeSolicited_eq_none {a : Acc} {dst : Nat} {r : Resp} :
    writeSolicited a dst r = none ↔ a.1.db.unwrittenClasses = none := by
  rw [← getResponseIin_eq_none]
  unfold writeSolicited
  cases getResponseIin a.1 with
  | none => exact iff_of_true rfl rfl
  | some x => exact iff_of_false nofun nofun

theorem writeUnsolicited_eq {a a' : Acc} {r r' : Resp} (h : writeUnsolicited a r = some (a', r')) :
    ∃ c1 c2 c3, a.1.db.unwrittenClasses = some (c1, c2, c3) ∧
      r' = { r with
        iin1 := r.iin1 ||| iin1Of a.1.lastBroadcast.isSome c1 c2 c3 (a.1.script.appIin.testBit 0)
          (a.1.script.appIin.testBit 1) (a.1.script.appIin.testBit 2) a.1.restart,
        iin2 := r.iin2 ||| iin2Of a.1.db.isOverflown (a.1.script.appIin.testBit 3) } ∧
      a' = repeatUnsolicited (afterIin a.1, a.2) r' := by
  unfold writeUnsolicited at h
  split at h
  · cases h
  · rename_i s i1 i2 hg
    obtain ⟨c1, c2, c3, hu, rfl, rfl, rfl⟩ := getResponseIin_some _ _ _ _ hg
    cases h
    exact ⟨c1, c2, c3, hu, rfl, rfl⟩

theorem writeUnsolicited_eq_none {a : Acc} {r : Resp} :
    writeUnsolicited a r = none ↔ a.1.db.unwrittenClasses = none := by
  rw [← getResponseIin_eq_none]
  unfold writeUnsolicited
  cases getResponseIin a.1 with
  | none => exact iff_of_true rfl rfl
  | some x => exact iff_of_false nofun nofun

theorem Frame.kemit {κ} (K : OState → κ) (ks : List OKind) (a : Acc) (o : OOut) (h : OOut.kind o ∈ ks) :
    Frame K (KP ks) a (Dnp3.emit a o) := Frame.emit _ _ _ _ h

theorem writeUnsolicited_frame (a : Acc) (r : Resp) (a' : Acc) (r' : Resp)
    (h : writeUnsolicited a r = some (a', r')) : Frame kR (KP [.tx]) a a' := by
  obtain ⟨_, _, _, _, _, rfl⟩ := writeUnsolicited_eq h
  exact ⟨by rw [afterIin_eq]; rfl, _, rfl, by simp [KP, OOut.kind]⟩

theorem repeatUnsolicited_frame (a : Acc) (r : Resp) :
    Frame kR (KP [.tx]) a (repeatUnsolicited a r) :=
  ⟨rfl, _, rfl, by simp [KP, OOut.kind]⟩

theorem formatReadResponse_eq (s : OState) (fir : Bool) (seq iin2 : Nat) :
    formatReadResponse s fir seq iin2 =
      let w := s.db.writeResponse (s.cfg.sol - 4)
      ({ s with db := w.1, solBuf := writeAt s.solBuf 4 w.2.1 },
       { ctrl := ⟨fir, w.2.2.2, w.2.2.1 || !w.2.2.2, false, seq⟩, func := 0x81, iin2 := iin2, size := 4 + w.2.1.length },
       if (w.2.2.1 || !w.2.2.2) = true then some ⟨seq, w.2.2.2⟩ else none) := rfl

theorem formatReadResponse_kR (s : OState) (fir : Bool) (seq iin2 : Nat) :
    kR (formatReadResponse s fir seq iin2).1 = kR s := rfl

theorem foldl_emitCb {α} (f : α → Cb) (l : List α) (a : Acc) :
    l.foldl (fun a x => Dnp3.emitCb a (f x)) a = (a.1, a.2 ++ l.map (fun x => OOut.cb (f x))) := by
  induction l generalizing a with
  | nil => simp
  | cons x xs ih =>
    simp only [List.foldl_cons, List.map_cons]
    rw [ih]
    simp [Dnp3.emitCb, Dnp3.emit]

theorem clearWrittenEvents_eq (a : Acc) :
    clearWrittenEvents a = ({ a.1 with db := a.1.db.clearWritten.1 },
      a.2 ++ ([.cb .beginConfirm] ++ a.1.db.clearWritten.2.1.map (fun id => OOut.cb (.eventCleared id)) ++
        [.cb (.endConfirm a.1.db.clearWritten.2.2.1 a.1.db.clearWritten.2.2.2.1 a.1.db.clearWritten.2.2.2.2)])) := by
  unfold clearWrittenEvents
  dsimp only
  rw [foldl_emitCb]
  simp [Dnp3.emitCb, Dnp3.emit]

theorem finishPass_cases (a : Acc) (next : NextIdle) :
    ((∀ t, a.1.nextLinkStatus = some t → a.1.now < t) ∧
      finishPass a next = ({ a.1 with mode := .idle (next.earliest a.1.nextLinkStatus) }, a.2)) ∨
    ((∃ t, a.1.nextLinkStatus = some t ∧ t ≤ a.1.now) ∧
      finishPass a next =
        ({ a.1 with nextLinkStatus := a.1.cfg.keepalive.map (· + a.1.now),
                    mode := .idle (next.earliest (a.1.cfg.keepalive.map (· + a.1.now))) },
         a.2 ++ [.txLink 0x49 a.1.cfg.master 1024])) := by
  unfold finishPass
  cases hn : a.1.nextLinkStatus with
  | none => exact .inl ⟨nofun, by dsimp only; rw [hn]⟩
  | some t =>
    dsimp only
    split
    · exact .inl ⟨fun _ e => Option.some.inj e ▸ ‹_›, by rw [hn]⟩
    · exact .inr ⟨⟨t, rfl, by omega⟩, rfl⟩

theorem finishPass_eq (a : Acc) (next : NextIdle) :
    ∃ ls l, finishPass a next =
        ({ a.1 with nextLinkStatus := ls, mode := .idle (next.earliest ls) }, a.2 ++ l) ∧
      (l = [] ∨ l = [.txLink 0x49 a.1.cfg.master 1024]) := by
  rcases finishPass_cases a next with ⟨-, e⟩ | ⟨-, e⟩
  · exact ⟨_, [], by rw [e, List.append_nil], .inl rfl⟩
  · exact ⟨_, _, e, .inr rfl⟩

theorem deferredSet_kR (s : OState) (f : Frag) (seq : Nat) (hs : List ObjHdr) :
    kR (deferredSet s f seq hs) = kR s := rfl

theorem startUnsolSeries_eq (a : Acc) (r : Resp) (isNull : Bool) (a' : Acc)
    (h : startUnsolSeries a r isNull = some a') :
    ∃ c1 c2 c3 r', a.1.db.unwrittenClasses = some (c1, c2, c3) ∧
      r' = { r with
        iin1 := r.iin1 ||| iin1Of a.1.lastBroadcast.isSome c1 c2 c3 (a.1.script.appIin.testBit 0)
          (a.1.script.appIin.testBit 1) (a.1.script.appIin.testBit 2) a.1.restart,
        iin2 := r.iin2 ||| iin2Of a.1.db.isOverflown (a.1.script.appIin.testBit 3) } ∧
      a' = ({ afterIin a.1 with
              unsolBuf := writeAt (afterIin a.1).unsolBuf 0 (respHeader r'),
              mode := .unsolWait r' isNull (if isNull then some 0 else a.1.cfg.retries) (a.1.now + a.1.cfg.ctimeout),
              unsolReported := r'.iin1.testBit 0 },
            a.2 ++ [.tx a.1.cfg.master ((writeAt (afterIin a.1).unsolBuf 0 (respHeader r')).take (max 4 r'.size)),
                    .cb (.unsolWait r.ctrl.seq)]) := by
  unfold startUnsolSeries at h
  split at h
  · cases h
  · rename_i a1 r1 hw
    obtain ⟨c1, c2, c3, hu, hr, rfl⟩ := writeUnsolicited_eq hw
    refine ⟨c1, c2, c3, r1, hu, hr, ?_⟩
    cases h
    rw [hr, afterIin_eq]
    simp [repeatUnsolicited_eq, Dnp3.emitCb, Dnp3.emit]

theorem startUnsolSeries_eq_none {a : Acc} {r : Resp} {isNull : Bool} :
    startUnsolSeries a r isNull = none ↔ a.1.db.unwrittenClasses = none := by
  rw [← writeUnsolicited_eq_none (r := r)]
  unfold startUnsolSeries
  cases writeUnsolicited a r with
  | none => exact iff_of_true rfl rfl
  | some x => exact iff_of_false nofun nofun

theorem startUnsolSeries_mode {a a' : Acc} {r : Resp} {n : Bool} (h : startUnsolSeries a r n = some a') :
    ∃ r n t d, a'.1.mode = .unsolWait r n t d := by
  obtain ⟨_, _, _, _, _, _, rfl⟩ := startUnsolSeries_eq _ _ _ _ h
  exact ⟨_, _, _, _, rfl⟩

/-- the state `checkUnsolicited` hands to `startUnsolSeries` / returns after asking the database -/
def afterDbWrite (s : OState) : OState :=
  { s with db := (s.db.writeUnsolicited s.en1 s.en2 s.en3 (s.cfg.unsol - 4)).1,
           unsolBuf := writeAt s.unsolBuf 4 (s.db.writeUnsolicited s.en1 s.en2 s.en3 (s.cfg.unsol - 4)).2.1 }

inductive ChkCase (a : Acc) : Acc ⊕ (Acc × NextIdle) → Prop
  | unsupported : a.1.cfg.unsolicited = false → ChkCase a (.inr (a, .untilEvent))
  | null (a' : Acc) : a.1.cfg.unsolicited = true → a.1.unsol = .nullRequired →
      startUnsolSeries ({ a.1 with unsolSeq := seq4Next a.1.unsolSeq }, a.2) (unsolHeader a.1.unsolSeq 0) true = some a' →
      ChkCase a (.inl a')
  | tooEarly (d : Nat) : a.1.cfg.unsolicited = true → a.1.unsol = .ready (some d) → a.1.now < d →
      ChkCase a (.inr (a, .until d))
  | disabled (dl : Option Nat) : a.1.cfg.unsolicited = true → a.1.unsol = .ready dl →
      (∀ d, dl = some d → d ≤ a.1.now) → (a.1.en1 || a.1.en2 || a.1.en3) = false →
      ChkCase a (.inr (a, .untilEvent))
  | noEvents (dl : Option Nat) : a.1.cfg.unsolicited = true → a.1.unsol = .ready dl →
      (∀ d, dl = some d → d ≤ a.1.now) → (a.1.en1 || a.1.en2 || a.1.en3) = true →
      (a.1.db.writeUnsolicited a.1.en1 a.1.en2 a.1.en3 (a.1.cfg.unsol - 4)).2.2 = 0 →
      ChkCase a (.inr ((afterDbWrite a.1, a.2), .untilEvent))
  | data (dl : Option Nat) (a' : Acc) : a.1.cfg.unsolicited = true → a.1.unsol = .ready dl →
      (∀ d, dl = some d → d ≤ a.1.now) → (a.1.en1 || a.1.en2 || a.1.en3) = true →
      (a.1.db.writeUnsolicited a.1.en1 a.1.en2 a.1.en3 (a.1.cfg.unsol - 4)).2.2 ≠ 0 →
      startUnsolSeries ({ afterDbWrite a.1 with unsolSeq := seq4Next a.1.unsolSeq }, a.2)
        (unsolHeader a.1.unsolSeq (4 + (a.1.db.writeUnsolicited a.1.en1 a.1.en2 a.1.en3 (a.1.cfg.unsol - 4)).2.1.length)) false = some a' →
      ChkCase a (.inl a')

theorem checkUnsolicited_unsupported (a : Acc) (h : a.1.cfg.unsolicited = false) :
    checkUnsolicited a = some (.inr (a, .untilEvent)) := by
  unfold checkUnsolicited
  dsimp only
  rw [h]
  rfl

theorem checkUnsolicited_null (a : Acc) (hu : a.1.cfg.unsolicited = true) (hn : a.1.unsol = .nullRequired) :
    checkUnsolicited a =
      (startUnsolSeries ({ a.1 with unsolSeq := seq4Next a.1.unsolSeq }, a.2) (unsolHeader a.1.unsolSeq 0) true).map .inl := by
  unfold checkUnsolicited
  simp only [hu, Bool.not_true, Bool.false_eq_true, if_false]
  split
  · cases startUnsolSeries _ _ true <;> rfl
  · rename_i dl heq; rw [hn] at heq; cases heq

theorem checkUnsolicited_tooEarly (a : Acc) (d : Nat) (hu : a.1.cfg.unsolicited = true)
    (hr : a.1.unsol = .ready (some d)) (hlt : a.1.now < d) :
    checkUnsolicited a = some (.inr (a, .until d)) := by
  unfold checkUnsolicited
  simp only [hu, Bool.not_true, Bool.false_eq_true, if_false]
  split
  · rename_i heq; rw [hr] at heq; cases heq
  · rename_i dl heq
    rw [hr] at heq; cases heq
    simp only [hlt, decide_true, if_true, Option.getD_some]

theorem checkUnsolicited_ready (a : Acc) {dl : Option Nat} (hu : a.1.cfg.unsolicited = true) (hr : a.1.unsol = .ready dl)
    (hd : ∀ d, dl = some d → d ≤ a.1.now) :
    checkUnsolicited a =
      if (a.1.en1 || a.1.en2 || a.1.en3) = false then some (.inr (a, .untilEvent))
      else if (a.1.db.writeUnsolicited a.1.en1 a.1.en2 a.1.en3 (a.1.cfg.unsol - 4)).2.2 = 0 then
        some (.inr ((afterDbWrite a.1, a.2), .untilEvent))
      else (startUnsolSeries ({ afterDbWrite a.1 with unsolSeq := seq4Next a.1.unsolSeq }, a.2)
        (unsolHeader a.1.unsolSeq (4 + (a.1.db.writeUnsolicited a.1.en1 a.1.en2 a.1.en3 (a.1.cfg.unsol - 4)).2.1.length))
        false).map .inl := by
  unfold checkUnsolicited
  simp only [hu, Bool.not_true, Bool.false_eq_true, if_false]
  split
  · rename_i heq; rw [hr] at heq; cases heq
  · rename_i dl' heq
    rw [hr] at heq; cases heq
    rw [if_neg]
    case hnc =>
      intro hc
      cases dl with
      | none => cases hc
      | some d => exact absurd (of_decide_eq_true hc) (Nat.not_lt.2 (hd d rfl))
    cases (a.1.en1 || a.1.en2 || a.1.en3) with
    | false => rfl
    | true =>
      simp only [Bool.not_true, Bool.false_eq_true, if_false]
      by_cases hz : (a.1.db.writeUnsolicited a.1.en1 a.1.en2 a.1.en3 (a.1.cfg.unsol - 4)).2.2 = 0
      · rw [if_pos hz, if_pos hz]; rfl
      · rw [if_neg hz, if_neg hz]
        unfold afterDbWrite
        cases startUnsolSeries _ _ false <;> rfl

theorem early_or_due (now : Nat) (dl : Option Nat) : (∃ d, dl = some d ∧ now < d) ∨ ∀ d, dl = some d → d ≤ now := by
  cases dl with
  | none => exact .inr nofun
  | some d => exact (Nat.lt_or_ge now d).imp (fun h => ⟨d, rfl, h⟩) fun h _ e => Option.some.inj e ▸ h

theorem checkUnsolicited_cases (a : Acc) (res : Acc ⊕ (Acc × NextIdle))
    (h : checkUnsolicited a = some res) : ChkCase a res := by
  cases hcu : a.1.cfg.unsolicited with
  | false => rw [checkUnsolicited_unsupported a hcu] at h; cases h; exact .unsupported hcu
  | true =>
    cases hun : a.1.unsol with
    | nullRequired =>
      rw [checkUnsolicited_null a hcu hun] at h
      obtain ⟨a', hs, rfl⟩ := Option.map_eq_some_iff.1 h
      exact .null a' hcu hun hs
    | ready dl =>
      rcases early_or_due a.1.now dl with ⟨d, rfl, hlt⟩ | hd
      · rw [checkUnsolicited_tooEarly a d hcu hun hlt] at h; cases h; exact .tooEarly d hcu hun hlt
      rw [checkUnsolicited_ready a hcu hun hd] at h
      cases hen : (a.1.en1 || a.1.en2 || a.1.en3) with
      | false => rw [if_pos hen] at h; cases h; exact .disabled dl hcu hun hd hen
      | true =>
        rw [if_neg (by rw [hen]; nofun)] at h
        by_cases hz : (a.1.db.writeUnsolicited a.1.en1 a.1.en2 a.1.en3 (a.1.cfg.unsol - 4)).2.2 = 0
        · rw [if_pos hz] at h; cases h; exact .noEvents dl hcu hun hd hen hz
        · rw [if_neg hz] at h
          obtain ⟨a', hs, rfl⟩ := Option.map_eq_some_iff.1 h
          exact .data dl a' hcu hun hd hen hz hs

theorem checkUnsolicited_inl_mode {a a' : Acc} (h : checkUnsolicited a = some (.inl a')) :
    ∃ r n t d, a'.1.mode = .unsolWait r n t d := by
  cases checkUnsolicited_cases a _ h with
  | null _ _ _ hs => exact startUnsolSeries_mode hs
  | data _ _ _ _ _ _ _ hs => exact startUnsolSeries_mode hs

theorem checkUnsolicited_eq_none {a : Acc} (h : checkUnsolicited a = none) :
    ∃ s r n, startUnsolSeries (s, a.2) r n = none ∧ (s.db = a.1.db ∨ s.db = (afterDbWrite a.1).db) := by
  cases hcu : a.1.cfg.unsolicited with
  | false => rw [checkUnsolicited_unsupported a hcu] at h; cases h
  | true =>
    cases hun : a.1.unsol with
    | nullRequired =>
      rw [checkUnsolicited_null a hcu hun] at h
      exact ⟨_, _, _, Option.map_eq_none_iff.1 h, .inl rfl⟩
    | ready dl =>
      rcases early_or_due a.1.now dl with ⟨d, rfl, hlt⟩ | hd
      · rw [checkUnsolicited_tooEarly a d hcu hun hlt] at h; cases h
      rw [checkUnsolicited_ready a hcu hun hd] at h
      split at h
      · cases h
      · split at h
        · cases h
        · exact ⟨_, _, _, Option.map_eq_none_iff.1 h, .inr rfl⟩

/-- selection of the deferred READ's headers on a freshly reset database (verbatim) -/
def deferredSelect (db : Db) (hdrs : List ReadHdr) : Db × Nat :=
  hdrs.foldl (fun (p : Db × Nat) h => let (db', i) := p.1.select h; (db', p.2 ||| i)) (db.reset, 0)

def deferredFormat (s : OState) (d : Deferred) : OState × Resp × Option Series :=
  formatReadResponse { s with db := (deferredSelect s.db d.hdrs).1, deferred := none, notified := true }
    true d.seq (d.iin2 ||| (deferredSelect s.db d.hdrs).2)

/-- in the namespace of C14, whose statements name it -/
def _root_.Dnp3.Proofs.C14.keptHdrs (max : Nat) (hs : List ObjHdr) : List ReadHdr × Nat :=
  hs.foldl (fun (p : List ReadHdr × Nat) h =>
    let rh := toReadHdr h
    if Db.readSupported rh then
      (if p.1.length < max then p.1 ++ [rh] else p.1, p.2)
    else (p.1, iin2ParamError)) ([], 0)

theorem deferredSet_spec (s : OState) (f : Frag) (seq : Nat) (hs : List ObjHdr) :
    deferredSet s f seq hs =
      { s with deferred := some ⟨f.data, seq, f.src, (C14.keptHdrs s.cfg.maxReadHeaders hs).2,
                                  (C14.keptHdrs s.cfg.maxReadHeaders hs).1⟩ } := rfl

/-- every way `handleDeferredRead` can return.  `awaiting` does not say which series `sr` is (the model takes it from
    `deferredFormat`, or `⟨r2.ctrl.seq, true⟩` when only the CON bit asks for a confirm) -/
inductive DefCase (a : Acc) (next : NextIdle) : Acc ⊕ Acc → Prop
  | none : a.1.deferred = none → DefCase a next (.inr a)
  | answered (d : Deferred) (a2 : Acc) (r2 : Resp) : a.1.deferred = some d →
      writeSolicited ((deferredFormat a.1 d).1, a.2) d.addr (deferredFormat a.1 d).2.1 = some (a2, r2) →
      ¬ (r2.ctrl.con = true) → (deferredFormat a.1 d).2.2 = Option.none →
      DefCase a next (.inr ({ a2.1 with lastReq := some ⟨d.seq, d.frag, some r2, (deferredFormat a.1 d).2.2⟩ }, a2.2))
  | awaiting (d : Deferred) (a2 : Acc) (r2 : Resp) (sr : Series) : a.1.deferred = some d →
      writeSolicited ((deferredFormat a.1 d).1, a.2) d.addr (deferredFormat a.1 d).2.1 = some (a2, r2) →
      DefCase a next (.inl (enterSolWait
        ({ a2.1 with lastReq := some ⟨d.seq, d.frag, some r2, (deferredFormat a.1 d).2.2⟩ }, a2.2) sr (.fromDeferred next)))

theorem handleDeferredRead_eq_none {a : Acc} {next : NextIdle} (h : handleDeferredRead a next = none) :
    ∃ d, a.1.deferred = some d ∧
      writeSolicited ((deferredFormat a.1 d).1, a.2) d.addr (deferredFormat a.1 d).2.1 = none := by
  unfold handleDeferredRead at h
  split at h
  · cases h
  · rename_i d hd
    dsimp only at h
    split at h
    · rename_i hw; exact ⟨d, hd, hw⟩
    · split at h <;> cases h

theorem handleDeferredRead_cases (a : Acc) (next : NextIdle) (res : Acc ⊕ Acc)
    (h : handleDeferredRead a next = some res) : DefCase a next res := by
  unfold handleDeferredRead at h
  split at h
  · rename_i hd; cases h; exact .none hd
  · rename_i d hd
    dsimp only at h
    split at h
    · cases h
    · rename_i a2 r2 hw
      split at h
      · rename_i sr hs
        cases h
        exact .awaiting d a2 r2 sr hd hw
      · rename_i hs
        cases h
        by_cases hc : r2.ctrl.con = true ∧ (deferredFormat a.1 d).2.2.isNone = true
        · exfalso
          have : (if r2.ctrl.con = true ∧ (deferredFormat a.1 d).2.2.isNone = true then
              some (⟨r2.ctrl.seq, true⟩ : Series) else (deferredFormat a.1 d).2.2) = Option.none := hs
          rw [if_pos hc] at this; cases this
        · have h2 : (deferredFormat a.1 d).2.2 = Option.none := by
            have : (if r2.ctrl.con = true ∧ (deferredFormat a.1 d).2.2.isNone = true then
                some (⟨r2.ctrl.seq, true⟩ : Series) else (deferredFormat a.1 d).2.2) = Option.none := hs
            rw [if_neg hc] at this; exact this
          refine .answered d a2 r2 hd hw ?_ h2
          intro hcon
          exact hc ⟨hcon, by rw [h2]; rfl⟩

theorem handleDeferredRead_inl_mode {a a' : Acc} {next : NextIdle} (h : handleDeferredRead a next = some (.inl a')) :
    ∃ sr dl, a'.1.mode = .solWait sr dl (.fromDeferred next) := by
  cases handleDeferredRead_cases a next _ h with
  | awaiting d a2 r2 sr _ _ => exact ⟨_, _, rfl⟩

theorem handleDeferredRead_idle (a : Acc) (next : NextIdle) (h : a.1.deferred = none) :
    handleDeferredRead a next = some (.inr a) := by
  unfold handleDeferredRead
  rw [h]

/-- which handler `processBroadcast` ran on `a0` (the state with `lastBroadcast` already set).  `freeze` stands for
    functions 8 (`k = .immediate`) and 10 (`k = .clear`) and records of the function only that it is none of those the
    restart bit and the class enables depend on (2, 20, 21) -/
inductive BCCase (a0 : Acc) (f : Frag) (ctrl : AppCtrl) (func : Nat) (objs : Except Nat (List ObjHdr))
    (raw : List Nat) : Acc → Prop
  | nothing : BCCase a0 f ctrl func objs raw a0
  | write (hs : List ObjHdr) : func = 2 → objs = .ok hs →
      BCCase a0 f ctrl func objs raw (handleWrite a0 ctrl.seq hs).1
  | control (hs : List ObjHdr) (a1 : Acc) (r : Option Resp) : func = 6 → objs = .ok hs →
      handleControls a0 6 ctrl.seq f.id hs raw = some (a1, r) → BCCase a0 f ctrl func objs raw a1
  | freeze (hs : List ObjHdr) (k : FreezeKind) : func ≠ 2 → func ≠ 20 → func ≠ 21 → objs = .ok hs →
      BCCase a0 f ctrl func objs raw (handleFreeze a0 ctrl.seq k hs).1
  | freezeAt (hs : List ObjHdr) : func = 12 → objs = .ok hs →
      BCCase a0 f ctrl func objs raw (handleFreezeAtTime a0 ctrl.seq hs).1
  | record : func = 24 → BCCase a0 f ctrl func objs raw ({ a0.1 with lastRecorded := some a0.1.now }, a0.2)
  | enable (hs : List ObjHdr) : func = 20 → objs = .ok hs →
      BCCase a0 f ctrl func objs raw (handleEnableDisable a0 true ctrl.seq hs).1
  | disable (hs : List ObjHdr) : func = 21 → objs = .ok hs →
      BCCase a0 f ctrl func objs raw (handleEnableDisable a0 false ctrl.seq hs).1

theorem processBroadcast_total (a : Acc) (f : Frag) (m : Nat) (ctrl : AppCtrl) (func : Nat)
    (objs : Except Nat (List ObjHdr)) (raw : List Nat) :
    ∃ a1 action, BCCase ({ a.1 with lastBroadcast := some m }, a.2) f ctrl func objs raw a1 ∧
      processBroadcast a f m ctrl func objs raw = some (Dnp3.emitCb a1 (.broadcast func action)) := by
  unfold processBroadcast
  generalize (({ a.1 with lastBroadcast := some m }, a.2) : Acc) = a0
  dsimp only
  by_cases hb : (!a0.1.cfg.broadcast) = true
  · rw [if_pos hb]; exact ⟨_, _, .nothing, rfl⟩
  rw [if_neg hb]
  cases objs with
  | error e => exact ⟨_, _, .nothing, rfl⟩
  | ok hs =>
  dsimp only
  by_cases h2 : func = 2
  · rw [if_pos h2]; exact ⟨_, _, .write hs h2 rfl, rfl⟩
  rw [if_neg h2]
  by_cases h6 : func = 6
  · obtain ⟨p, hc, -⟩ := handleControls_cases a0 6 ctrl.seq f.id hs raw
    rw [if_pos h6, hc]
    exact ⟨_, _, .control hs p.1 p.2 h6 rfl hc, rfl⟩
  rw [if_neg h6]
  by_cases h8 : func = 8
  · rw [if_pos h8]; subst h8
    exact ⟨_, _, .freeze hs .immediate (by decide) (by decide) (by decide) rfl, rfl⟩
  rw [if_neg h8]
  by_cases h10 : func = 10
  · rw [if_pos h10]; subst h10
    exact ⟨_, _, .freeze hs .clear (by decide) (by decide) (by decide) rfl, rfl⟩
  rw [if_neg h10]
  by_cases h12 : func = 12
  · rw [if_pos h12]; exact ⟨_, _, .freezeAt hs h12 rfl, rfl⟩
  rw [if_neg h12]
  by_cases h24 : func = 24
  · rw [if_pos h24]; exact ⟨_, _, .record h24, rfl⟩
  rw [if_neg h24]
  by_cases h21 : func = 21
  · rw [if_pos h21]; exact ⟨_, _, .disable hs h21 rfl, rfl⟩
  rw [if_neg h21]
  by_cases h20 : func = 20
  · rw [if_pos h20]; exact ⟨_, _, .enable hs h20 rfl, rfl⟩
  rw [if_neg h20]
  exact ⟨_, _, .nothing, rfl⟩

theorem processBroadcast_cases {a : Acc} {f : Frag} {m : Nat} {ctrl : AppCtrl} {func : Nat}
    {objs : Except Nat (List ObjHdr)} {raw : List Nat} {a' : Acc}
    (h : processBroadcast a f m ctrl func objs raw = some a') :
    ∃ a1 action, BCCase ({ a.1 with lastBroadcast := some m }, a.2) f ctrl func objs raw a1 ∧
      a' = Dnp3.emitCb a1 (.broadcast func action) :=
  let ⟨a1, action, c, e⟩ := processBroadcast_total a f m ctrl func objs raw
  ⟨a1, action, c, Option.some.inj (h.symm.trans e)⟩

theorem classify_confirm (s : OState) (f : Frag) (ctrl : AppCtrl) (objects : Except Nat (List ObjHdr)) :
    classify s f ctrl 0 objects = if ctrl.uns then .unsolConfirm ctrl.seq else .solConfirm ctrl.seq := by
  simp [classify]

theorem classify_broadcast (s : OState) (f : Frag) (ctrl : AppCtrl) (func : Nat)
    (objects : Except Nat (List ObjHdr)) (m : Nat) (hb : f.broadcast = some m) (hf : func ≠ 0) :
    classify s f ctrl func objects = .broadcast m := by
  unfold classify
  rw [if_neg hf, hb]

theorem classify_malformed {s : OState} {f : Frag} {ctrl : AppCtrl} {func : Nat} {e : Nat}
    (hf : func ≠ 0) (hb : f.broadcast = none) : classify s f ctrl func (.error e) = .malformed e := by
  unfold classify
  rw [if_neg hf, hb]

theorem classify_ok (s : OState) (f : Frag) (ctrl : AppCtrl) {func : Nat} (hs : List ObjHdr)
    (h0 : func ≠ 0) (hb : f.broadcast = none) :
    classify s f ctrl func (.ok hs) =
      match s.lastReq with
      | some last =>
        if last.seq = ctrl.seq ∧ last.frag = f.data then
          (if func = 1 then .repeatRead last.response hs else .repeatNonRead last.response)
        else (if func = 1 then .newRead hs else .newNonRead hs)
      | none => if func = 1 then .newRead hs else .newNonRead hs := by
  unfold classify
  rw [if_neg h0, hb]
  dsimp only
  cases s.lastReq with
  | none => rfl
  | some last =>
    dsimp only
    by_cases hd : last.seq = ctrl.seq ∧ last.frag = f.data
    · rw [if_pos hd, if_pos hd]
    · rw [if_neg hd, if_neg hd]

def ClassifyFacts (f : Frag) (ctrl : AppCtrl) (func : Nat) (objs : Except Nat (List ObjHdr)) : FragType → Prop
  | .malformed e => func ≠ 0 ∧ f.broadcast = none ∧ objs = .error e
  | .newRead hs => func = 1 ∧ f.broadcast = none ∧ objs = .ok hs
  | .repeatRead _ hs => func = 1 ∧ f.broadcast = none ∧ objs = .ok hs
  | .newNonRead hs => func ≠ 0 ∧ func ≠ 1 ∧ f.broadcast = none ∧ objs = .ok hs
  | .repeatNonRead _ => func ≠ 0 ∧ func ≠ 1 ∧ f.broadcast = none
  | .broadcast m => func ≠ 0 ∧ f.broadcast = some m
  | .solConfirm seq => func = 0 ∧ ctrl.uns = false ∧ seq = ctrl.seq
  | .unsolConfirm seq => func = 0 ∧ ctrl.uns = true ∧ seq = ctrl.seq

def ClassifyDup (s : OState) (f : Frag) (ctrl : AppCtrl) (objs : Except Nat (List ObjHdr)) : FragType → Prop
  | .newRead _ | .newNonRead _ => ¬ ∃ last, s.lastReq = some last ∧ last.seq = ctrl.seq ∧ last.frag = f.data
  | .repeatRead resp _ =>
    ∃ last, s.lastReq = some last ∧ last.seq = ctrl.seq ∧ last.frag = f.data ∧ resp = last.response
  | .repeatNonRead resp => (∃ hs, objs = .ok hs) ∧
    ∃ last, s.lastReq = some last ∧ last.seq = ctrl.seq ∧ last.frag = f.data ∧ resp = last.response
  | _ => True

theorem classify_both (s : OState) (f : Frag) (ctrl : AppCtrl) (func : Nat) (objs : Except Nat (List ObjHdr)) :
    ClassifyFacts f ctrl func objs (classify s f ctrl func objs) ∧
    ClassifyDup s f ctrl objs (classify s f ctrl func objs) := by
  by_cases h0 : func = 0
  · subst h0
    rw [classify_confirm]
    cases hu : ctrl.uns <;> exact ⟨⟨rfl, hu, rfl⟩, trivial⟩
  cases hb : f.broadcast with
  | some m => rw [classify_broadcast s f ctrl func objs m hb h0]; exact ⟨⟨h0, hb⟩, trivial⟩
  | none =>
    cases objs with
    | error e => rw [classify_malformed h0 hb]; exact ⟨⟨h0, hb, rfl⟩, trivial⟩
    | ok hs =>
      rw [classify_ok s f ctrl hs h0 hb]
      have new : (¬ ∃ l, s.lastReq = some l ∧ l.seq = ctrl.seq ∧ l.frag = f.data) →
          ClassifyFacts f ctrl func (.ok hs) (if func = 1 then .newRead hs else .newNonRead hs) ∧
          ClassifyDup s f ctrl (.ok hs) (if func = 1 then .newRead hs else .newNonRead hs) := fun nodup => by
        by_cases h1 : func = 1
        · rw [if_pos h1]; exact ⟨⟨h1, hb, rfl⟩, nodup⟩
        · rw [if_neg h1]; exact ⟨⟨h0, h1, hb, rfl⟩, nodup⟩
      cases hl : s.lastReq with
      | none => exact new fun ⟨l, e, _⟩ => by rw [hl] at e; cases e
      | some last =>
        dsimp only
        by_cases hd : last.seq = ctrl.seq ∧ last.frag = f.data
        · rw [if_pos hd]
          by_cases h1 : func = 1
          · rw [if_pos h1]; exact ⟨⟨h1, hb, rfl⟩, last, hl, hd.1, hd.2, rfl⟩
          · rw [if_neg h1]; exact ⟨⟨h0, h1, hb⟩, ⟨hs, rfl⟩, last, hl, hd.1, hd.2, rfl⟩
        · rw [if_neg hd]
          exact new fun ⟨l, e, h1, h2⟩ => by rw [hl] at e; cases e; exact hd ⟨h1, h2⟩

theorem classify_facts (s : OState) (f : Frag) (ctrl : AppCtrl) (func : Nat) (objs : Except Nat (List ObjHdr)) :
    ClassifyFacts f ctrl func objs (classify s f ctrl func objs) := (classify_both s f ctrl func objs).1

theorem classify_repeat {s : OState} {f : Frag} {ctrl : AppCtrl} {func : Nat} {objs : Except Nat (List ObjHdr)}
    {resp : Option Resp}
    (h : (∃ hs, classify s f ctrl func objs = .repeatRead resp hs) ∨ classify s f ctrl func objs = .repeatNonRead resp) :
    ∃ last, s.lastReq = some last ∧ last.seq = ctrl.seq ∧ last.frag = f.data ∧ resp = last.response := by
  have d := (classify_both s f ctrl func objs).2
  rcases h with ⟨hs, h⟩ | h <;> rw [h] at d
  · exact d
  · exact d.2


theorem handleRequestFromIdle_confirm (a : Acc) (f : Frag) (ctrl : AppCtrl) (objects : Except Nat (List ObjHdr))
    (raw : List Nat) : handleRequestFromIdle a f ctrl 0 objects raw = some (a, none) := by
  unfold handleRequestFromIdle
  rw [classify_confirm]
  cases ctrl.uns <;> rfl

theorem classify_read (s : OState) (f : Frag) (ctrl : AppCtrl) (hs : List ObjHdr) (hb : f.broadcast = none) :
    classify s f ctrl 1 (.ok hs) = .newRead hs ∨ ∃ r, classify s f ctrl 1 (.ok hs) = .repeatRead r hs := by
  rw [classify_ok s f ctrl hs (by decide) hb]
  cases s.lastReq with
  | none => exact .inl rfl
  | some last =>
    dsimp only
    by_cases hd : last.seq = ctrl.seq ∧ last.frag = f.data
    · rw [if_pos hd]; exact .inr ⟨_, rfl⟩
    · rw [if_neg hd]; exact .inl rfl

theorem classify_newNonRead {s : OState} {f : Frag} {ctrl : AppCtrl} {func : Nat} {hs : List ObjHdr}
    (h0 : func ≠ 0) (h1 : func ≠ 1) (hb : f.broadcast = none)
    (hnew : ∀ lr, s.lastReq = some lr → ¬ (lr.seq = ctrl.seq ∧ lr.frag = f.data)) :
    classify s f ctrl func (.ok hs) = .newNonRead hs := by
  rw [classify_ok s f ctrl hs h0 hb]
  cases hl : s.lastReq with
  | none => exact if_neg h1
  | some lr => exact (if_neg (hnew lr hl)).trans (if_neg h1)

theorem parseRequest_request {d : List Nat} {ctrl : AppCtrl} {func : Nat} {objects : Except Nat (List ObjHdr)}
    {raw : List Nat} (h : parseRequest d = .request ctrl func objects raw) :
    ∃ c, d = c :: func :: raw ∧ ctrl = AppCtrl.ofNat c ∧ ctrl.fir = true ∧ ctrl.fin = true ∧
      (ctrl.uns = true → func = 0) ∧ knownFunction func = true ∧ func ≠ 129 ∧ func ≠ 130 ∧
      objects = parseObjects (func = 1) raw.length raw := by
  unfold parseRequest at h
  -- the guards of `parseRequest` in order, each failing on the way to `.request`: `h1` the function is known,
  -- `h2` it is no response (129, 130), `h3` FIR and FIN, `h4` UNS only on a CONFIRM
  split at h
  · rename_i c f objs
    dsimp only at h
    split at h
    · simp at h
    · split at h
      · split at h <;> simp at h
      · split at h
        · simp at h
        · split at h
          · simp at h
          · rename_i h1 h2 h3 h4
            simp only [ReqParse.request.injEq] at h
            obtain ⟨rfl, rfl, rfl, rfl⟩ := h
            refine ⟨c, rfl, rfl, ?_, ?_, ?_, ?_, ?_, ?_, rfl⟩
            · revert h3; cases (AppCtrl.ofNat c).fir <;> simp
            · revert h3; cases (AppCtrl.ofNat c).fir <;> simp
            · intro hu; by_cases hf : f = 0
              · exact hf
              · exact absurd (by simp [hu, hf]) h4
            · simpa using h1
            · intro hf; exact h2 (Or.inl hf)
            · intro hf; exact h2 (Or.inr hf)
  · simp at h

theorem parseRequest_func {d : List Nat} {ctrl : AppCtrl} {func : Nat} {objects : Except Nat (List ObjHdr)}
    {raw : List Nat} (h : parseRequest d = .request ctrl func objects raw) : d.getD 1 0 = func := by
  obtain ⟨c, rfl, _⟩ := parseRequest_request h
  rfl

theorem writeErrorResponse_eq (a : Acc) (dst : Nat) (bc : Bool) (seq : Option Nat) :
    writeErrorResponse a dst bc seq =
      match bc, seq with
      | false, some q => (writeSolicited a dst (emptySolicited q iin2NoFunc)).map Prod.fst
      | _, _ => some a := by
  unfold writeErrorResponse
  cases bc <;> cases seq <;> try rfl
  dsimp only
  cases writeSolicited a dst _ <;> rfl

theorem writeErrorResponse_cases {a a' : Acc} {src : Nat} {bc : Bool} {seq : Option Nat}
    (h : writeErrorResponse a src bc seq = some a') :
    a' = a ∨ ∃ q r', seq = some q ∧ writeSolicited a src (emptySolicited q iin2NoFunc) = some (a', r') := by
  rw [writeErrorResponse_eq] at h
  split at h
  · obtain ⟨⟨_, r'⟩, hw, rfl⟩ := Option.map_eq_some_iff.1 h
    exact .inr ⟨_, r', rfl, hw⟩
  · exact .inl (Option.some.inj h).symm

theorem writeErrorResponse_eq_none {a : Acc} {dst : Nat} {bc : Bool} {seq : Option Nat} :
    writeErrorResponse a dst bc seq = none ↔ bc = false ∧ seq ≠ none ∧ a.1.db.unwrittenClasses = none := by
  rw [writeErrorResponse_eq]
  cases bc <;> cases seq <;> simp [writeSolicited_eq_none]

theorem AppP.cb {o : OOut} (h : AppP o) : ∃ c, o = .cb c := by
  cases o with
  | cb c => exact ⟨c, rfl⟩
  | _ => cases h

theorem KP.app_cb {o : OOut} (h : KP [.app, .clear] o) : ∃ c, o = .cb c := by
  cases o with
  | cb c => exact ⟨c, rfl⟩
  | _ => simp [KP, OOut.kind] at h

theorem KP.bcast_cb {o : OOut} (h : KP [.app, .clear, .bcast] o) : ∃ c, o = .cb c := by
  cases o with
  | cb c => exact ⟨c, rfl⟩
  | _ => simp [KP, OOut.kind] at h

theorem ctl_status_out (kind : Option CtlKind) (fixedStatus : Nat) (maxctl : Option Nat) (h : ObjHdr)
    (ix obj : List Nat) (r r' : CtlRun) (st : Nat) (called : Bool)
    (hx : ctlStatus kind fixedStatus maxctl h ix obj r = (r', st, called)) :
    r'.cap = r.cap ∧ r'.out = r.out := by
  unfold ctlStatus at hx
  split at hx
  · cases hx; exact ⟨rfl, rfl⟩
  · by_cases hc : (match (generalizing := false) maxctl with | none => true | some m => decide (r.num < m)) = true
    · rw [if_pos hc] at hx; cases hx; exact ⟨rfl, rfl⟩
    · rw [if_neg hc] at hx; cases hx; exact ⟨rfl, rfl⟩

/-- `handle_non_read` always returns: no request handler panics (`handle_operate` keeps the `Result` of its echo
    writers like `handle_select` / `handle_direct_operate`, D1 repaired, so no `unwrap` on a `WriteError` is left) -/
theorem handleNonRead_ne_none (a : Acc) (func seq fid : Nat) (hs : List ObjHdr) (raw : List Nat) :
    handleNonRead a func seq fid hs raw ≠ none := by
  obtain ⟨_, r0, hr, -⟩ := nonReadRes_cases a func seq fid hs raw
  rw [handleNonRead_eq, hr]
  cases r0 <;> nofun

theorem processBroadcast_ne_none (a : Acc) (f : Frag) (mode : Nat) (ctrl : AppCtrl) (func : Nat)
    (objects : Except Nat (List ObjHdr)) (raw : List Nat) :
    processBroadcast a f mode ctrl func objects raw ≠ none := by
  obtain ⟨_, _, -, e⟩ := processBroadcast_total a f mode ctrl func objects raw
  rw [e]; nofun

theorem DbPath.deferredSelect {D : List DbStep} (hr : .reset ∈ D := by decide) (hD : .select ∈ D := by decide)
    (db : Db) (hdrs : List ReadHdr) : DbPath D db (deferredSelect db hdrs).1 := by
  unfold Frame.deferredSelect
  refine foldl_inv (fun p : Db × Nat => DbPath D db p.1) _ (fun p h hp => ?_) hdrs _ (.reset db hr .refl)
  exact .select p.1 h hD hp

theorem DbPath.selectAll {D : List DbStep} (hD : .select ∈ D := by decide) (db0 db : Db) (hs : List ObjHdr)
    (h : DbPath D db0 db) : DbPath D db0 (dbSelectAll db hs).1 := by
  induction hs generalizing db with
  | nil => exact h
  | cons x xs ih =>
    show DbPath D db0 (dbSelectAll (db.select (toReadHdr x)).1 xs).1
    exact ih _ (.select _ _ hD h)

theorem AppP.kind {o : OOut} (h : AppP o) : KP [.app, .clear] o := by simp [KP, isApp_kind o h]

theorem BCCase.eff {a0 : Acc} {f : Frag} {ctrl : AppCtrl} {func : Nat} {objs : Except Nat (List ObjHdr)}
    {raw : List Nat} {a1 : Acc} (h : BCCase a0 f ctrl func objs raw a1) :
    Eff [.script, .restart, .en1, .en2, .en3, .lastRecorded, .select, .solBuf, .solLen] [] (KP [.app, .clear])
      a0 a1 := by
  have app : ∀ k, KP [.app, .clear] (.cb (.freezeAll k)) := fun _ => by simp [KP, OOut.kind, Cb.kind]
  have app2 : ∀ x y k, KP [.app, .clear] (.cb (.freezeRange x y k)) := fun _ _ _ => by simp [KP, OOut.kind, Cb.kind]
  cases h with
  | nothing => exact .refl
  | write hs _ _ => exact (handleWrite_eff (P := KP [.app, .clear]) (by simp [KP, clearOut, OOut.kind, Cb.kind])
      (fun _ => by simp [KP, OOut.kind, Cb.kind]) _ _ _).wide
  | control hs a1 r _ _ hc => exact (handleControls_eff hc).mono fun _ => AppP.kind
  | freeze hs k _ _ _ _ => exact (handleFreeze_eff app app2 _ _ _ _).wide
  | freezeAt hs _ _ => exact (handleFreezeAtTime_eff app app2 _ _ _).wide
  | record _ => exact .set _ (by upd_rfl)
  | enable hs _ _ => exact (handleEnableDisable_eff _ _ _ _ _).wide
  | disable hs _ _ => exact (handleEnableDisable_eff _ _ _ _ _).wide

theorem repeatSolicited_eff (a : Acc) (dst : Nat) (r : Resp) :
    Eff [.solBuf, .solLen] [] (KP [.tx]) a (repeatSolicited a dst r) :=
  .upd (l := [_]) (by upd_rfl) .refl (by simp [KP, OOut.kind])

theorem repeatUnsolicited_eff (a : Acc) (r : Resp) :
    Eff [.unsolBuf] [] (KP [.tx]) a (repeatUnsolicited a r) :=
  .upd (l := [_]) (by upd_rfl) .refl (by simp [KP, OOut.kind])

theorem writeSolicited_eff {a a' : Acc} {dst : Nat} {r r' : Resp} (h : writeSolicited a dst r = some (a', r')) :
    Eff [.lastBroadcast, .solBuf, .solLen] [] (KP [.tx]) a a' := by
  obtain ⟨_, _, _, _, _, rfl⟩ := writeSolicited_eq h
  rw [afterIin_eq]
  exact .upd (l := [_]) (by upd_rfl) .refl (by simp [KP, OOut.kind])

theorem writeErrorResponse_eff {a a' : Acc} {src : Nat} {bc : Bool} {seq : Option Nat}
    (h : writeErrorResponse a src bc seq = some a') : Eff [.lastBroadcast, .solBuf, .solLen] [] (KP [.tx]) a a' := by
  rcases writeErrorResponse_cases h with rfl | ⟨q, r2, _, hw⟩
  · exact .refl
  · exact writeSolicited_eff hw

theorem formatReadResponse_eff (a : Acc) (s : OState) (hs : Upd [.db, .deferred, .notified] a.1 s)
    (hd : DbPath [.reset, .select, .writeResponse] a.1.db s.db) (fir : Bool) (seq iin2 : Nat) :
    Eff [.db, .deferred, .notified, .solBuf, .solLen] [.reset, .select, .writeResponse] (KP [])
      a ((formatReadResponse s fir seq iin2).1, a.2) :=
  .state _ (hs.mono.trans (by upd_rfl)) (.writeResponse _ _ (by decide) hd)

theorem clearWrittenEvents_eff (a : Acc) : Eff [.db] [.clearWritten] (KP [.confirm]) a (clearWrittenEvents a) := by
  rw [clearWrittenEvents_eq]
  refine .upd (by upd_rfl) (.clearWritten _ (by decide) .refl) fun o ho => ?_
  simp only [List.mem_append, List.mem_singleton, List.mem_map] at ho
  rcases ho with (rfl | ⟨_, _, rfl⟩) | rfl <;> simp [KP, OOut.kind, Cb.kind]

theorem enterSolWait_eff (a : Acc) (sr : Series) (c : SolCont) :
    Eff [.mode] [] (KP [.sol]) a (enterSolWait a sr c) :=
  .upd (l := [_]) (by upd_rfl) .refl (by simp [KP, OOut.kind, Cb.kind])

/-- what `startUnsolSeries` puts out: the callback of the confirm wait, and a transmission whose function octet is
    that of the response (0x82); `KP [.tx, .unsolWait]` forgets the octet -/
def UnsolP (fn : Nat) (o : OOut) : Prop := OOut.kind o = .unsolWait ∨ ∃ d b, o = .tx d b ∧ b.getD 1 0 = fn

theorem UnsolP.kind {fn : Nat} {o : OOut} (h : UnsolP fn o) : KP [.tx, .unsolWait] o := by
  rcases h with h | ⟨_, _, rfl, _⟩
  · exact List.mem_cons_of_mem _ (h ▸ List.mem_singleton_self _)
  · exact List.mem_cons_self

theorem startUnsolSeries_eff {a a' : Acc} {r : Resp} {isNull : Bool} (h : startUnsolSeries a r isNull = some a') :
    Eff [.lastBroadcast, .unsolBuf, .mode, .unsolReported] [] (UnsolP r.func) a a' := by
  obtain ⟨c1, c2, c3, r', _, hr', rfl⟩ := startUnsolSeries_eq a r isNull a' h
  rw [afterIin_eq]
  refine .upd (by upd_rfl) .refl fun o ho => ?_
  simp only [List.mem_cons, List.not_mem_nil, or_false] at ho
  rcases ho with rfl | rfl
  · exact .inr ⟨_, _, rfl, by rw [hdr_func, hr']⟩
  · exact .inl rfl

theorem ChkCase.effU {a : Acc} {res : Acc ⊕ (Acc × NextIdle)} (h : ChkCase a res) :
    Eff [.unsolSeq, .db, .lastBroadcast, .unsolBuf, .mode, .unsolReported] [.writeUnsolicited] (UnsolP 0x82)
      a (Sum.elim id Prod.fst res) := by
  have wrote : DbPath [.writeUnsolicited] a.1.db (afterDbWrite a.1).db := .writeUnsolicited _ _ _ _ _ (by decide) .refl
  cases h with
  | unsupported => exact .refl
  | null a1 _ _ hs => exact .pre ((startUnsolSeries_eff hs).wide) (by upd_rfl) .refl
  | tooEarly => exact .refl
  | disabled => exact .refl
  | noEvents => exact .state _ (by unfold afterDbWrite; upd_rfl) wrote
  | data dl a1 _ _ _ _ _ hs =>
    exact .pre ((startUnsolSeries_eff hs).wide) (by unfold afterDbWrite; upd_rfl) wrote

theorem ChkCase.eff {a : Acc} {res : Acc ⊕ (Acc × NextIdle)} (h : ChkCase a res) :
    Eff [.unsolSeq, .db, .lastBroadcast, .unsolBuf, .mode, .unsolReported] [.writeUnsolicited] (KP [.tx, .unsolWait])
      a (Sum.elim id Prod.fst res) :=
  h.effU.imp fun _ => UnsolP.kind

theorem afterUnsolSeries_null (a : Acc) (c : Bool) :
    afterUnsolSeries a true c =
      (({ a.1 with unsol := if c then .ready none else .nullRequired }, a.2), .noSleep) := rfl

theorem afterUnsolSeries_confirmed (a : Acc) :
    afterUnsolSeries a false true =
      (({ (clearWrittenEvents a).1 with unsol := .ready none }, (clearWrittenEvents a).2), .noSleep) := rfl

theorem afterUnsolSeries_failed (a : Acc) :
    afterUnsolSeries a false false =
      (({ a.1 with db := a.1.db.reset, unsol := .ready (some (a.1.now + a.1.cfg.rdelay)) }, a.2),
        .until (a.1.now + a.1.cfg.rdelay)) := rfl

theorem afterUnsolSeries_eff (a : Acc) (isNull confirmed : Bool) :
    Eff [.unsol, .db] [.clearWritten, .reset] (KP [.confirm]) a (afterUnsolSeries a isNull confirmed).1 := by
  cases isNull with
  | true => rw [afterUnsolSeries_null]; exact .state _ (by upd_rfl) .refl
  | false =>
    cases confirmed with
    | true =>
      rw [afterUnsolSeries_confirmed]
      exact .trans (clearWrittenEvents_eff a).kmono (.state _ (by upd_rfl) .refl)
    | false => rw [afterUnsolSeries_failed]; exact .state _ (by upd_rfl) (.reset _ (by decide) .refl)

theorem afterUnsolSeries_emitCb_outs (b : Acc) (c : Cb) (isNull conf : Bool) :
    ∃ l2, (afterUnsolSeries (emitCb b c) isNull conf).1.2 = b.2 ++ (.cb c :: l2) ∧ ∀ o ∈ l2, OOut.kind o = .confirm := by
  obtain ⟨l2, e2, h2⟩ := (afterUnsolSeries_eff (emitCb b c) isNull conf).2.2
  exact ⟨l2, e2.trans (List.append_assoc _ _ _), fun o ho => List.mem_singleton.1 (h2 o ho)⟩

theorem deferredFormat_eff (a : Acc) (d : Deferred) :
    Eff [.db, .deferred, .notified, .solBuf, .solLen] [.reset, .select, .writeResponse] (KP [])
      a ((deferredFormat a.1 d).1, a.2) :=
  formatReadResponse_eff a _ (by upd_rfl) (.deferredSelect (by decide) (by decide) _ _) _ _ _

theorem DefCase.deferred {a : Acc} {next : NextIdle} {res : Acc ⊕ Acc} (h : DefCase a next res) :
    (res.elim id id).1.deferred = Option.none := by
  cases h with
  | none hd => exact hd
  | answered d a2 r2 _ hw => exact (writeSolicited_eff hw).get .deferred
  | awaiting d a2 r2 sr _ hw => exact (writeSolicited_eff hw).get .deferred

theorem DefCase.eff {a : Acc} {next : NextIdle} {res : Acc ⊕ Acc} (h : DefCase a next res) :
    Eff [.db, .deferred, .notified, .solBuf, .solLen, .lastBroadcast, .lastReq, .mode]
      [.reset, .select, .writeResponse] (KP [.tx, .sol]) a (Sum.elim id id res) := by
  have wr : ∀ {d a2 r2}, writeSolicited ((deferredFormat a.1 d).1, a.2) d.addr (deferredFormat a.1 d).2.1 = some (a2, r2) →
      ∀ lr, Eff [.db, .deferred, .notified, .solBuf, .solLen, .lastBroadcast, .lastReq, .mode]
        [.reset, .select, .writeResponse] (KP [.tx, .sol]) a ({ a2.1 with lastReq := lr }, a2.2) := fun hw lr =>
    .trans (deferredFormat_eff a _).kmono (.trans (writeSolicited_eff hw).kmono (.state _ (by upd_rfl) .refl))
  cases h with
  | none => exact .refl
  | answered d a2 r2 _ hw _ _ => exact wr hw _
  | awaiting d a2 r2 sr _ hw => exact .trans (wr hw _) (enterSolWait_eff _ _ _).kmono

theorem finishPass_eff (a : Acc) (next : NextIdle) :
    Eff [.nextLinkStatus, .mode] [] (KP [.txLink]) a (finishPass a next) := by
  obtain ⟨ls, l, e, hl⟩ := finishPass_eq a next
  rw [e]
  exact .upd (by upd_rfl) .refl (by rcases hl with rfl | rfl <;> simp [KP, OOut.kind])

theorem NRCase.eff {a a' : Acc} {func seq fid : Nat} {hs : List ObjHdr} {raw : List Nat} {r : Option Resp}
    (h : NRCase a func seq fid hs raw a' r) :
    Eff [.script, .restart, .en1, .en2, .en3, .lastRecorded, .select, .solBuf, .solLen] [] (KP [.app, .clear]) a a' := by
  cases h with
  | write _ e => subst e; exact (handleWrite_eff (P := KP [.app, .clear]) (by simp [KP, clearOut, OOut.kind, Cb.kind])
      (fun _ => by simp [KP, OOut.kind, Cb.kind]) _ _ _).wide
  | enable _ e => subst e; exact (handleEnableDisable_eff _ _ _ _ _).wide
  | disable _ e => subst e; exact (handleEnableDisable_eff _ _ _ _ _).wide
  | control _ e => exact (handleControls_eff e).mono fun _ => AppP.kind
  | misc _ _ _ e => exact (e.imp fun _ h => AppP.kind h.1).kmono

theorem handleNonRead_eff {a a' : Acc} {func seq fid : Nat} {hs : List ObjHdr} {raw : List Nat} {r : Option Resp}
    (h : handleNonRead a func seq fid hs raw = some (a', r)) :
    Eff [.script, .restart, .en1, .en2, .en3, .lastRecorded, .select, .solBuf, .solLen] [] (KP [.app, .clear]) a a' :=
  have ⟨_, c, _⟩ := handleNonRead_cases h
  c.eff

theorem processBroadcast_lastBroadcast {a a' : Acc} {f : Frag} {m : Nat} {ctrl : AppCtrl} {func : Nat}
    {objs : Except Nat (List ObjHdr)} {raw : List Nat} (h : processBroadcast a f m ctrl func objs raw = some a') :
    a'.1.lastBroadcast = some m := by
  obtain ⟨a1, action, hc, rfl⟩ := processBroadcast_cases h
  exact hc.eff.get .lastBroadcast

theorem processBroadcast_eff {a a' : Acc} {f : Frag} {m : Nat} {ctrl : AppCtrl} {func : Nat}
    {objs : Except Nat (List ObjHdr)} {raw : List Nat} (h : processBroadcast a f m ctrl func objs raw = some a') :
    Eff [.script, .restart, .en1, .en2, .en3, .lastRecorded, .select, .solBuf, .solLen, .lastBroadcast] []
      (KP [.app, .clear, .bcast]) a a' := by
  obtain ⟨a1, action, hc, rfl⟩ := processBroadcast_cases h
  exact .pre (hc.eff.kmono.trans (.emitCb (by simp [KP, OOut.kind, Cb.kind]))) (by upd_rfl) .refl

end Dnp3.Proofs.Frame
