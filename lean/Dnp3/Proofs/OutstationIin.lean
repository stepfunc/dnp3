import Dnp3.Model.OutstationTrace
/-!
# IIN octets built by `getResponseIin` — bit-level facts

`Db.*` is treated as opaque throughout: nothing here unfolds a `Db` function.
-/
namespace Dnp3.Proofs.Iin
open Dnp3

-- safety net for the sentence above
attribute [local irreducible] Db.new Db.add Db.update Db.readSupported Db.select Db.writeResponse
  Db.writeUnsolicited Db.clearWritten Db.reset Db.unwrittenClasses Db.isOverflown

theorem and_two_pow_ne_zero (a k : Nat) : (a &&& 2 ^ k ≠ 0) ↔ a.testBit k = true := by
  constructor
  · intro h
    cases hb : a.testBit k with
    | true => rfl
    | false =>
      exfalso; apply h
      apply Nat.eq_of_testBit_eq
      intro i
      simp only [Nat.testBit_and, Nat.zero_testBit, Nat.testBit_two_pow]
      by_cases hik : k = i
      · subst hik; simp [hb]
      · simp [hik]
  · intro h h0
    have : (a &&& 2 ^ k).testBit k = true := by
      simp [Nat.testBit_and, h]
    rw [h0] at this
    simp at this

def iin1Of (bc c1 c2 c3 needTime localCtl trouble restart : Bool) : Nat :=
  (if bc then 0x01 else 0) + (if c1 then 0x02 else 0) + (if c2 then 0x04 else 0) + (if c3 then 0x08 else 0) +
  (if needTime then 0x10 else 0) + (if localCtl then 0x20 else 0) + (if trouble then 0x40 else 0) +
  (if restart then 0x80 else 0)

def iin2Of (overflow corrupt : Bool) : Nat :=
  (if overflow then 0x08 else 0) + (if corrupt then 0x20 else 0)

theorem iin1Of_bits (b0 b1 b2 b3 b4 b5 b6 b7 : Bool) :
    (iin1Of b0 b1 b2 b3 b4 b5 b6 b7).testBit 0 = b0 ∧ (iin1Of b0 b1 b2 b3 b4 b5 b6 b7).testBit 1 = b1 ∧
    (iin1Of b0 b1 b2 b3 b4 b5 b6 b7).testBit 2 = b2 ∧ (iin1Of b0 b1 b2 b3 b4 b5 b6 b7).testBit 3 = b3 ∧
    (iin1Of b0 b1 b2 b3 b4 b5 b6 b7).testBit 4 = b4 ∧ (iin1Of b0 b1 b2 b3 b4 b5 b6 b7).testBit 5 = b5 ∧
    (iin1Of b0 b1 b2 b3 b4 b5 b6 b7).testBit 6 = b6 ∧ (iin1Of b0 b1 b2 b3 b4 b5 b6 b7).testBit 7 = b7 ∧
    iin1Of b0 b1 b2 b3 b4 b5 b6 b7 < 256 := by
  revert b0 b1 b2 b3 b4 b5 b6 b7; decide

theorem iin2Of_bits (o c : Bool) :
    (iin2Of o c).testBit 3 = o ∧ (iin2Of o c).testBit 5 = c ∧
    (∀ i, i ≠ 3 → i ≠ 5 → (iin2Of o c).testBit i = false) := by
  refine ⟨by revert o c; decide, by revert o c; decide, ?_⟩
  intro i h3 h5
  by_cases h : i < 6
  · have : i = 0 ∨ i = 1 ∨ i = 2 ∨ i = 4 := by omega
    rcases this with rfl | rfl | rfl | rfl <;> revert o c <;> decide
  · apply Nat.testBit_lt_two_pow
    have : iin2Of o c < 64 := by revert o c; decide
    have : 2 ^ 6 ≤ 2 ^ i := Nat.pow_le_pow_right (by decide) (by omega)
    omega

/-- the OR-chain of `getResponseIin` equals `iin1Of` -/
theorem or_chain1 (b0 b1 b2 b3 b4 b5 b6 b7 : Bool) :
    ((((if b7 then 0x80 else 0) ||| (if b1 then 0x02 else 0) ||| (if b2 then 0x04 else 0) |||
      (if b3 then 0x08 else 0)) ||| (if b0 then 0x01 else 0)) ||| (if b4 then 0x10 else 0) |||
      (if b5 then 0x20 else 0) ||| (if b6 then 0x40 else 0) : Nat) = iin1Of b0 b1 b2 b3 b4 b5 b6 b7 := by
  revert b0 b1 b2 b3 b4 b5 b6 b7; decide

theorem or_chain2 (o c : Bool) :
    (((if o then 0x08 else 0) ||| (if c then 0x20 else 0)) : Nat) = iin2Of o c := by
  revert o c; decide

/-- the state `getResponseIin` leaves: a reported broadcast is forgotten unless it demands a confirm -/
def afterIin (s : OState) : OState :=
  match s.lastBroadcast with
  | some m => if m ≠ 1 then { s with lastBroadcast := none } else s
  | none => s

theorem afterIin_eq (s : OState) :
    afterIin s = { s with lastBroadcast := if s.lastBroadcast = some 1 then some 1 else none } := by
  cases s
  rename_i lb _ _ _ _ _ _ _ _
  simp only [afterIin]
  cases lb with
  | none => simp
  | some m =>
    by_cases h1 : m = 1
    · subst h1; simp
    · simp [h1]

theorem getResponseIin_eq (s : OState) (c1 c2 c3 : Bool) (h : s.db.unwrittenClasses = some (c1, c2, c3)) :
    getResponseIin s = some (afterIin s,
      iin1Of s.lastBroadcast.isSome c1 c2 c3 (s.script.appIin.testBit 0) (s.script.appIin.testBit 1)
        (s.script.appIin.testBit 2) s.restart,
      iin2Of s.db.isOverflown (s.script.appIin.testBit 3)) := by
  have e1 : (s.script.appIin &&& 1 ≠ 0) ↔ _ := and_two_pow_ne_zero _ 0
  have e2 : (s.script.appIin &&& 2 ≠ 0) ↔ _ := and_two_pow_ne_zero _ 1
  have e4 : (s.script.appIin &&& 4 ≠ 0) ↔ _ := and_two_pow_ne_zero _ 2
  have e8 : (s.script.appIin &&& 8 ≠ 0) ↔ _ := and_two_pow_ne_zero _ 3
  unfold getResponseIin afterIin
  rw [h]
  rw [← or_chain1, ← or_chain2]
  cases hb : s.lastBroadcast with
  | none =>
    simp only [Option.isSome_none, Bool.false_eq_true, if_false, Nat.or_zero, e1, e2, e4, e8]
  | some m =>
    by_cases hm : m = 1
    · subst hm
      simp only [Option.isSome_some, if_true, ne_eq, not_true_eq_false, if_false, e1, e2, e4, e8]
    · simp only [Option.isSome_some, if_true, ne_eq, hm, not_false_eq_true, e1, e2, e4, e8]

theorem getResponseIin_eq_none {s : OState} : getResponseIin s = none ↔ s.db.unwrittenClasses = none := by
  cases hu : s.db.unwrittenClasses with
  | none => unfold getResponseIin; rw [hu]; exact iff_of_true rfl rfl
  | some c => rw [getResponseIin_eq s c.1 c.2.1 c.2.2 hu]; exact iff_of_false nofun nofun

theorem getResponseIin_some (s s' : OState) (i1 i2 : Nat) (h : getResponseIin s = some (s', i1, i2)) :
    ∃ c1 c2 c3, s.db.unwrittenClasses = some (c1, c2, c3) ∧ s' = afterIin s ∧
      i1 = iin1Of s.lastBroadcast.isSome c1 c2 c3 (s.script.appIin.testBit 0) (s.script.appIin.testBit 1)
        (s.script.appIin.testBit 2) s.restart ∧
      i2 = iin2Of s.db.isOverflown (s.script.appIin.testBit 3) := by
  cases hu : s.db.unwrittenClasses with
  | none => rw [getResponseIin_eq_none.2 hu] at h; cases h
  | some c =>
    obtain ⟨c1, c2, c3⟩ := c
    rw [getResponseIin_eq s c1 c2 c3 hu] at h
    injection h with h
    injection h with h1 h2
    injection h2 with h2 h3
    exact ⟨c1, c2, c3, rfl, h1.symm, h2.symm, h3.symm⟩

end Dnp3.Proofs.Iin
