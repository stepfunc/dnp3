import Dnp3.Proofs.OutstationAct
/-!
# C14 — unsolicited reporting: start-up, enable, retry and deferral rules (session level)

`Db.*` is opaque: no `Db` function is unfolded; every theorem holds for any database component.

Which layer of the session library each rule is read off: `null_until_confirmed`, `series_spacing`, `data_only_enabled`
the chain of actions of a step (`OutstationAct`: `step_acts`, with one relation per rule along it — `NU`, `Acts.ready`,
`Acts.en`); `one_outstanding` the handlers (`Skel.Step`, `step_steps`, through `Stands` / `outstanding`, which are generic
in what may be put out during a wait and in what ends it); `read_deferred_not_dropped` the events (`Ev.defRule`);
`retries_bounded_unchanged` and `wake_on_update` the equation of the one step they speak of (`step_tick_eq`,
`step_txn_eq`).  All are statements about ONE step; the forms over whole traces are in `Proofs/OutstationC14Trace.lean`.
-/
namespace Dnp3.Proofs.C14
open Dnp3 Dnp3.Proofs.Frame Dnp3.Proofs.Iin Dnp3.Proofs.Skel Dnp3.Proofs.Skel2 Dnp3.Proofs.Act

attribute [local irreducible] Db.new Db.add Db.update Db.readSupported Db.select Db.writeResponse
  Db.writeUnsolicited Db.clearWritten Db.reset Db.unwrittenClasses Db.isOverflown

/-- **C14.2 (a)**: stated for the property, and described, as `Props.C14.data_series_start` -/
theorem data_series_start (a a' : Acc) (dl : Option Nat) (h : checkUnsolicited a = some (.inl a'))
    (hr : a.1.unsol = .ready dl) :
    a.1.cfg.unsolicited = true ∧ (∀ d, dl = some d → d ≤ a.1.now) ∧ (a.1.en1 || a.1.en2 || a.1.en3) = true ∧
    (a.1.db.writeUnsolicited a.1.en1 a.1.en2 a.1.en3 (a.1.cfg.unsol - 4)).2.2 ≠ 0 ∧
    startUnsolSeries ({ afterDbWrite a.1 with unsolSeq := seq4Next a.1.unsolSeq }, a.2)
      (unsolHeader a.1.unsolSeq (4 + (a.1.db.writeUnsolicited a.1.en1 a.1.en2 a.1.en3 (a.1.cfg.unsol - 4)).2.1.length))
      false = some a' := by
  cases checkUnsolicited_cases _ _ h with
  | null a1 _ hn _ => rw [hr] at hn; cases hn
  | data dl' a1 hu hr' hd hen hz hs =>
    rw [hr] at hr'; cases hr'
    exact ⟨hu, hd, hen, hz, hs⟩


/-- consistency of the unsolicited wait with `unsol` (holds in every reachable state, `Props.C14.nullInv_reachable`) -/
def NullInv (s : OState) : Prop :=
  ∀ r isNull rt dl, s.mode = .unsolWait r isNull rt dl →
    (isNull = true → rt = some 0 ∧ r.size = 0) ∧ (s.unsol = .nullRequired → isNull = true)

theorem NullInv.of_wait {s : OState} {r : Resp} {isNull : Bool} {rt : Option Nat} {dl : Nat}
    (hm : s.mode = .unsolWait r isNull rt dl) (h0 : isNull = true → rt = some 0 ∧ r.size = 0)
    (hn : s.unsol = .nullRequired → isNull = true) : NullInv s := by
  intro r' isNull' rt' dl' hmode
  rw [hm] at hmode
  cases hmode
  exact ⟨h0, hn⟩


/-- how `unsol = nullRequired` evolves between two accumulators of one step -/
def NU (pf : Option Frag) (a a' : Acc) : Prop :=
  NullInv a.1 → NullInv a'.1 ∧ ∃ l, a'.2 = a.2 ++ l ∧
    (a.1.unsol = .nullRequired → a'.1.unsol = .nullRequired ∨
      ((∃ q, OOut.cb (.unsolConfirmed q) ∈ l) ∧ IsUnsolConfirm pf))

theorem NU.refl (pf : Option Frag) (a : Acc) : NU pf a a := fun h => ⟨h, [], by simp, fun hn => Or.inl hn⟩

theorem NU.trans {pf : Option Frag} {a b c : Acc} (h1 : NU pf a b) (h2 : NU pf b c) : NU pf a c := by
  intro hi
  obtain ⟨hib, l1, e1, c1⟩ := h1 hi
  obtain ⟨hic, l2, e2, c2⟩ := h2 hib
  refine ⟨hic, l1 ++ l2, by rw [e2, e1, List.append_assoc], ?_⟩
  intro hn
  rcases c1 hn with hb | ⟨⟨q, hq⟩, hu⟩
  · rcases c2 hb with hc | ⟨⟨q, hq⟩, hu⟩
    · exact Or.inl hc
    · exact Or.inr ⟨⟨q, by simp [hq]⟩, hu⟩
  · exact Or.inr ⟨⟨q, by simp [hq]⟩, hu⟩

theorem NU.same {pf : Option Frag} {a b : Acc} (hm : b.1.mode = a.1.mode) (hu : b.1.unsol = a.1.unsol)
    (l : List OOut) (e : b.2 = a.2 ++ l) : NU pf a b := by
  intro hi
  refine ⟨?_, l, e, fun hn => Or.inl (hu.trans hn)⟩
  intro r isNull rt dl hmode
  rw [hm] at hmode
  rw [hu]
  exact hi r isNull rt dl hmode

theorem NU.leave {pf : Option Frag} {a b : Acc} (hm : ∀ r isNull rt dl, b.1.mode ≠ .unsolWait r isNull rt dl)
    (hu : b.1.unsol = a.1.unsol) (l : List OOut) (e : b.2 = a.2 ++ l) : NU pf a b := by
  intro _
  exact ⟨fun r isNull rt dl hmode => absurd hmode (hm r isNull rt dl), l, e, fun hn => Or.inl (hu.trans hn)⟩

theorem Acts.nu {pf : Option Frag} {a a' : Acc} (h : Acts pf a a') : NU pf a a' := by
  obtain ⟨l, p', e, h, -, -, -, hu, -, -, hm⟩ := Acts.out h
  cases h with
  | calm | request | bcast | report | solConf | solConfInWait | bcastSeen => exact NU.same hm hu _ e
  | leave l m _ hn => exact NU.leave (fun r n t d h => hn r n t d (hm.symm.trans h)) hu l e
  | start dst bytes q r n t d _ _ hnull hdata =>
    refine fun _ => ⟨.of_wait hm (fun hn => (hnull hn).2) (fun hnr => ?_), _, e, fun h => Or.inl (hu.trans h)⟩
    cases n with
    | true => rfl
    | false =>
      obtain ⟨dl, hr, _⟩ := hdata rfl
      exact nomatch hr.symm.trans (hu.symm.trans hnr)
  | retry l r n t t' d d' hm0 hrt =>
    intro hi
    cases n with
    | true =>
      -- a null wait has retry counter `some 0`: it is never retried
      have := ((hi _ _ _ _ hm0).1 rfl).1
      rcases hrt with ⟨h1, _⟩ | ⟨k, h1, _⟩ <;> rw [h1] at this <;> cases this
    | false =>
      have hnr : a.1.unsol ≠ .nullRequired := fun h => nomatch (hi _ _ _ _ hm0).2 h
      exact ⟨.of_wait hm (fun h => nomatch h) (fun h => absurd (hu.symm.trans h) hnr), l, e, fun hn => absurd hn hnr⟩
  | unsolConf r n t d l hm0 hc =>
    exact fun hi => ⟨.of_wait (hm.trans hm0) (hi _ _ _ _ hm0).1 (fun h => nomatch hu.symm.trans h), _, e,
      fun _ => Or.inr ⟨⟨_, List.mem_cons_self⟩, hc⟩⟩
  | endFailed r n t d u hm0 hiff =>
    exact fun hi => ⟨.of_wait (hm.trans hm0) (hi _ _ _ _ hm0).1 (fun h => hiff.1 (hu.symm.trans h)), [], e,
      fun hn => Or.inl (hu.trans (hiff.2 ((hi _ _ _ _ hm0).2 hn)))⟩

theorem NU.failed {pf : Option Frag} (a : Acc) (resp : Resp) (isNull : Bool) (rt : Option Nat) (dl : Nat)
    (hm : a.1.mode = .unsolWait resp isNull rt dl) : NU pf a (afterUnsolSeries a isNull false).1 :=
  Acts.nu (endFailed_acts hm)

theorem ActsStar.nu {pf : Option Frag} {a a' : Acc} (h : ActsStar pf a a') : NU pf a a' :=
  Star.lift (NU.refl _) (fun _ _ _ => NU.trans) (fun _ _ => Acts.nu) h

/-- **C14.1**: stated for the property, and described, as `Props.C14.null_until_confirmed` -/
theorem null_until_confirmed (env : OEnv) (s : OState) (inp : OInput) (hi : NullInv s) :
    NullInv (Outstation.step env s inp).1 ∧
    (s.unsol = .nullRequired →
      (Outstation.step env s inp).1.unsol = .nullRequired ∨
      ((∃ q, OOut.cb (.unsolConfirmed q) ∈ (Outstation.step env s inp).2) ∧
        ∃ pf, StepFrag env s inp pf ∧ IsUnsolConfirm pf)) := by
  obtain ⟨pf, hf, he⟩ := step_acts env s inp
  obtain ⟨hi1, l, e, c⟩ := ActsStar.nu he hi
  obtain rfl : (Outstation.step env s inp).2 = l := e.trans (List.nil_append l)
  exact ⟨hi1, fun hn => (c hn).imp_right fun ⟨hq, hc⟩ => ⟨hq, pf, hf, hc⟩⟩

/-- the octets a (re)transmission of the stored unsolicited response `resp` puts on the wire: its own
    header over whatever the buffer holds — `resp` itself is unchanged -/
def unsolBytes (s : OState) (resp : Resp) : List Nat :=
  (writeAt s.unsolBuf 0 (respHeader resp)).take (max 4 resp.size)

/-- the retry counter is `some 0` always for null responses; `none` = unbounded -/
theorem unsolWaitTimeout_spec (a : Acc) (resp : Resp) (isNull : Bool) (retries : Option Nat) :
    ((a.1.deferred.isSome = true ∨ retries = some 0) →
      unsolWaitTimeout a resp isNull retries =
        finishUnsol (emitCb a (.unsolTimeout resp.ctrl.seq false)) isNull false) ∧
    (a.1.deferred = none → ∀ retries', (retries = none ∧ retries' = none) ∨ (∃ n, retries = some (n + 1) ∧ retries' = some n) →
      unsolWaitTimeout a resp isNull retries =
        .blocked ({ a.1 with unsolBuf := writeAt a.1.unsolBuf 0 (respHeader resp),
                             mode := .unsolWait resp isNull retries' (a.1.now + a.1.cfg.ctimeout) },
                  a.2 ++ [.cb (.unsolTimeout resp.ctrl.seq true), .tx a.1.cfg.master (unsolBytes a.1 resp)])) := by
  -- the two cases of `Skel.UWTCase`, with the accumulators written out (`repeatUnsolicited_eq`)
  constructor
  · intro h
    unfold unsolWaitTimeout
    rcases h with h | h
    · simp [h]
    · subst h
      cases a.1.deferred <;> simp
  · intro hd retries' h
    unfold unsolWaitTimeout
    rcases h with ⟨h1, h2⟩ | ⟨n, h1, h2⟩
    · subst h1 h2
      simp [hd, repeatUnsolicited_eq, emitCb, emit, unsolBytes]
    · subst h1 h2
      simp [hd, repeatUnsolicited_eq, emitCb, emit, unsolBytes]

theorem dispatch_unsolWait_idle (a : Acc) (resp : Resp) (isNull : Bool) (retries : Option Nat) (dl : Nat)
    (hm : a.1.mode = .unsolWait resp isNull retries dl) (hp : a.1.pending = none) :
    dispatch a = if dl ≤ a.1.now then unsolWaitTimeout a resp isNull retries else .blocked a := by
  rw [dispatch_unsolWait_eq hm, hp]
  rfl

/-- **C14.4**: stated for the property, and described, as `Props.C14.retries_bounded_unchanged` -/
theorem retries_bounded_unchanged (env : OEnv) (s : OState) (ms : Nat) (resp : Resp) (isNull : Bool)
    (retries : Option Nat) (dl : Nat)
    (hm : s.mode = .unsolWait resp isNull retries dl) (hp : s.pending = none) :
    (s.now + ms < dl → Outstation.step env s (.tick ms) = ({ s with now := s.now + ms }, [])) ∧
    (dl ≤ s.now + ms → s.deferred = none →
      ∀ retries', (retries = none ∧ retries' = none) ∨ (∃ n, retries = some (n + 1) ∧ retries' = some n) →
      Outstation.step env s (.tick ms) =
        ({ s with now := s.now + ms, unsolBuf := writeAt s.unsolBuf 0 (respHeader resp),
                  mode := .unsolWait resp isNull retries' (s.now + ms + s.cfg.ctimeout) },
         [.cb (.unsolTimeout resp.ctrl.seq true), .tx s.cfg.master (unsolBytes s resp)])) ∧
    (dl ≤ s.now + ms → (s.deferred.isSome = true ∨ retries = some 0) →
      Outstation.step env s (.tick ms) =
        finishStep (settle 8 (finishUnsol
          (emitCb ({ s with now := s.now + ms }, []) (.unsolTimeout resp.ctrl.seq false)) isNull false))) := by
  have hd := dispatch_unsolWait_idle ({ s with now := s.now + ms }, []) resp isNull retries dl hm hp
  have step_tick_eq := step_tick_eq env s ms (by rw [hm]; intro h; cases h)
  refine ⟨?_, ?_, ?_⟩
  · intro hlt
    rw [step_tick_eq, hd, if_neg (by simp; omega)]
    rw [settle_blocked_no_pending _ _ hp]
    rfl
  · intro hle hdef retries' hr
    rw [step_tick_eq, hd, if_pos (by simpa using hle)]
    rw [(unsolWaitTimeout_spec _ resp isNull retries).2 hdef retries' hr]
    rw [settle_blocked_no_pending _ _ hp]
    rfl
  · intro hle hr
    rw [step_tick_eq, hd, if_pos (by simpa using hle)]
    rw [(unsolWaitTimeout_spec _ resp isNull retries).1 hr]

/-! One rule for both confirm waits: as long as the task stands blocked in the wait, what the handlers dispatched from
there do decides (`UWFCase` / `UWTCase` here, `SWFCase` in `OutstationC14Trace`); once the wait has ended, whatever
runs only appends outputs. -/

section
variable {Q : OOut → Prop} {W : OState → Prop} {E : List OOut → Prop}

/-- how a step that began blocked in a wait stands at the point `x`: still blocked in it (`W`), or panicked in it,
    with outputs `Q` only; or past its end, the reason (`E`) among the outputs `pre` up to there, all `Q` -/
def Stands (Q : OOut → Prop) (W : OState → Prop) (E : List OOut → Prop) (x : Pt × Acc) : Prop :=
  ((∀ o ∈ x.2.2, Q o) ∧ ((x.1 = .blk ∧ W x.2.1) ∨ (x.1 = .halt ∧ x.2.1.mode = .dead ∧ OOut.panic ∈ x.2.2))) ∨
  ∃ pre post, x.2.2 = pre ++ post ∧ (∀ o ∈ pre, Q o) ∧ E pre

theorem quiet_snoc {l : List OOut} {x : OOut} (hq : ∀ o ∈ l, Q o) (hx : Q x) : ∀ o ∈ l ++ [x], Q o :=
  fun _ h => (List.mem_append.1 h).elim (hq _) (fun h => List.mem_singleton.1 h ▸ hx)

theorem mem_snoc (l : List OOut) (x : OOut) : x ∈ l ++ [x] := List.mem_append_right _ (List.mem_singleton_self _)

theorem Stands.stay {b : Acc} (hq : ∀ o ∈ b.2, Q o) (hw : W b.1) : Stands Q W E (.blk, b) :=
  .inl ⟨hq, .inl ⟨rfl, hw⟩⟩

theorem Stands.die (hp : Q .panic) {b : Acc} (hq : ∀ o ∈ b.2, Q o) : Stands Q W E (diePt b) :=
  .inl ⟨quiet_snoc hq hp, .inr ⟨rfl, rfl, mem_snoc _ _⟩⟩

theorem Stands.ended {b : Acc} {y : Pt × Acc} (hb : Base b y.2) (hq : ∀ o ∈ b.2, Q o) (he : E b.2) : Stands Q W E y :=
  let ⟨_, _, l, el⟩ := hb
  .inr ⟨b.2, l, el, hq, he⟩

theorem Stands.steps {pf : Option Frag}
    (hwait : ∀ {a y}, PendOk pf a → (∀ o ∈ a.2, Q o) → W a.1 → Step (.blk, a) y → Stands Q W E y)
    {x z : Pt × Acc} (hp : PendOk pf x.2) (hx : Stands Q W E x) (h : Star Step x z) : Stands Q W E z := by
  refine (Star.inv (I := fun x => PendOk pf x.2 ∧ Stands Q W E x) (fun x y r ⟨hp, hx⟩ => ?_) h ⟨hp, hx⟩).2
  have hb := r.base
  refine ⟨PendOk.ofBase hb hp, ?_⟩
  obtain ⟨pt, a⟩ := x
  rcases hx with ⟨hq, ⟨hpt, hw⟩ | ⟨hpt, _⟩⟩ | ⟨pre, post, e, hq, he⟩
  · cases hpt; exact hwait hp hq hw r
  · cases hpt; cases r
  · obtain ⟨_, _, l, el⟩ := hb
    exact .inr ⟨pre, post ++ l, by rw [el, e, List.append_assoc], hq, he⟩

end

/-- **one wait outstanding**, for either confirm wait: a step from a state blocked in the wait (`W s`) leaves it there
    (or dead) with outputs `Q` only, or is a disconnect, or shows the reason `E` the wait ended before anything else -/
theorem outstanding {Q : OOut → Prop} {W : OState → Prop} {E : Option Frag → List OOut → Prop} (env : OEnv) (s : OState)
    (inp : OInput) (hline : ∀ o, OOut.kind o = .line → Q o) (hs : W s)
    (hscript : ∀ f : Script → Script, W { s with script := f s.script })
    (hinit : ∀ {pf s0 o0}, StepInit env s inp pf s0 o0 → inp ≠ .cut → W s0)
    (hwait : ∀ {pf a y}, PendOk pf a → (∀ o ∈ a.2, Q o) → W a.1 → Step (.blk, a) y → Stands Q W (E pf) y) :
    ((∀ o ∈ (Outstation.step env s inp).2, Q o) ∧ (W (Outstation.step env s inp).1 ∨
      ((Outstation.step env s inp).1.mode = .dead ∧ OOut.panic ∈ (Outstation.step env s inp).2))) ∨
    inp = .cut ∨
    ∃ pf pre post, StepFrag env s inp pf ∧ (Outstation.step env s inp).2 = pre ++ post ∧ (∀ o ∈ pre, Q o) ∧
      E pf pre := by
  rcases step_steps env s inp with ⟨f, _, e⟩ | e | ⟨pf, s0, o0, z, hi, hz, hf, e⟩
  · rw [e]; exact .inl ⟨fun _ => nofun, .inl (hscript f)⟩
  · rw [e]; exact .inl ⟨fun _ => nofun, .inl hs⟩
  · by_cases hc : inp = .cut
    · exact .inr (.inl hc)
    have h0 : Stands Q W (E pf) (.blk, (s0, o0)) := .stay (fun o ho => hline o (hi.keep o ho)) (hinit hi hc)
    rw [e]
    rcases Stands.steps hwait hi.pendOk h0 hz with ⟨hq, ⟨_, hw⟩ | ⟨_, hd⟩⟩ | ⟨pre, post, el, hq, he⟩
    · exact .inl ⟨hq, .inl hw⟩
    · exact .inl ⟨hq, .inr hd⟩
    · exact .inr (.inr ⟨pf, pre, post, hi.frag, el, hq, he⟩)

/-- the fragment of this step is a DISABLE_UNSOLICITED request (function 21) -/
def IsDisable (pf : Option Frag) : Prop :=
  ∃ f ctrl hs raw, pf = some f ∧ parseRequest f.data = .request ctrl 21 (.ok hs) raw

def UEnd (pf : Option Frag) (pre : List OOut) : Prop :=
  (∃ q, OOut.cb (.unsolConfirmed q) ∈ pre) ∨ (∃ q, OOut.cb (.unsolTimeout q false) ∈ pre) ∨ IsDisable pf

abbrev NoStart : OOut → Prop := fun o => OOut.kind o ≠ .unsolWait

theorem NoStart.of_eff {F D ks} {a b : Acc} (h : Frame.Eff F D (KP ks) a b) (hq : ∀ o ∈ a.2, NoStart o)
    (hF : Fld.mode ∉ F := by decide) (hk : OKind.unsolWait ∉ ks := by decide) :
    b.1.mode = a.1.mode ∧ ∀ o ∈ b.2, NoStart o := by
  obtain ⟨l, e, hl⟩ := h.2.2
  refine ⟨h.get .mode hF, fun o ho => ?_⟩
  rcases List.mem_append.1 (e ▸ ho) with h | h
  · exact hq o h
  · exact fun hk' => hk (hk' ▸ hl o h)

theorem finishUnsolPt_base (b : Acc) (n c : Bool) : Base b (finishUnsolPt b n c).2 :=
  .of_eff (afterUnsolSeries_eff b n c)

theorem uwfCase_stands {pf : Option Frag} {a : Acc} {resp : Resp} {isNull : Bool} {rt : Option Nat} {dl : Nat}
    {y : Pt × Acc} (hp : PendOk pf a) (hq : ∀ o ∈ a.2, NoStart o) (hm : a.1.mode = .unsolWait resp isNull rt dl)
    (hc : UWFCase a resp isNull y) :
    Stands NoStart (fun s => ∃ rt dl, s.mode = .unsolWait resp isNull rt dl) (UEnd pf) y := by
  obtain ⟨s, p, hpop, hc⟩ := hc
  have pm : s.mode = .unsolWait resp isNull rt dl := (House2.of_pop hpop).mode.trans hm
  cases hc with
  | nothing | otherConfirm | read => exact .stay hq ⟨rt, dl, pm⟩
  | errorDie | malformedDie => exact .die nofun hq
  | error a' hw =>
    have ⟨m, q⟩ := NoStart.of_eff (Frame.writeErrorResponse_eff hw) hq
    exact .stay q ⟨rt, dl, m.trans pm⟩
  | unsolConfirm =>
    exact .ended (finishUnsolPt_base _ _ _) (quiet_snoc (Q := NoStart) hq nofun) (.inl ⟨_, mem_snoc _ _⟩)
  | solConfirm => split <;> exact .stay hq ⟨rt, dl, pm⟩
  | bcast m a' _ _ hb =>
    have ⟨m, q⟩ := NoStart.of_eff (Frame.processBroadcast_eff hb) hq
    exact .stay q ⟨rt, dl, m.trans pm⟩
  | malformed a' r' _ _ hw =>
    have ⟨m, q⟩ := NoStart.of_eff (Frame.writeSolicited_eff hw) hq
    exact .stay q ⟨rt, dl, m.trans pm⟩
  | nonReadWriteDie a4 r _ _ _ hn => exact .die nofun (NoStart.of_eff (Frame.handleNonRead_eff hn) hq).2
  | nonRead a4 r4 a5 r5 _ _ _ hn hw =>
    have ⟨m4, q4⟩ := NoStart.of_eff (Frame.handleNonRead_eff hn) hq
    rcases hw with ⟨_, rfl, _⟩ | ⟨_, _, _, hws, _⟩
    · exact .stay q4 ⟨rt, dl, m4.trans pm⟩
    · have ⟨m5, q5⟩ := NoStart.of_eff (Frame.writeSolicited_eff hws) q4
      exact .stay q5 ⟨rt, dl, m5.trans (m4.trans pm)⟩
  | disable a4 r4 a5 r5 _ hn hw =>
    have hreq := ReqOf.of_pop hp hpop
    have q4 := (NoStart.of_eff (Frame.handleNonRead_eff hn) hq).2
    refine .ended (finishUnsolPt_base _ _ _) ?_ (.inr (.inr ⟨_, _, _, _, hreq.1, hreq.2⟩))
    rcases hw with ⟨_, rfl, _⟩ | ⟨_, _, _, hws, _⟩
    · exact q4
    · exact (NoStart.of_eff (Frame.writeSolicited_eff hws) q4).2
  | @echo f _ _ _ _ last =>
    unfold uwEchoAcc
    cases last with
    | none => exact .stay hq ⟨rt, dl, pm⟩
    | some r =>
      exact .stay (NoStart.of_eff (Frame.repeatSolicited_eff (onLinkActivity { s with pending := none }, a.2) f.src r)
        hq).2 ⟨rt, dl, pm⟩

/-- **C14.3**: stated for the property, and described, as `Props.C14.one_outstanding` -/
theorem one_outstanding (env : OEnv) (s : OState) (inp : OInput) (resp : Resp) (isNull : Bool)
    (rt : Option Nat) (dl : Nat) (hm : s.mode = .unsolWait resp isNull rt dl) :
    ((∀ o ∈ (Outstation.step env s inp).2, OOut.kind o ≠ .unsolWait) ∧
      ((∃ rt' dl', (Outstation.step env s inp).1.mode = .unsolWait resp isNull rt' dl') ∨
        OOut.panic ∈ (Outstation.step env s inp).2)) ∨
    inp = .cut ∨
    (∃ pre post, (Outstation.step env s inp).2 = pre ++ post ∧ (∀ o ∈ pre, OOut.kind o ≠ .unsolWait) ∧
      ((∃ q, OOut.cb (.unsolConfirmed q) ∈ pre) ∨ (∃ q, OOut.cb (.unsolTimeout q false) ∈ pre) ∨
        ∃ pf, StepFrag env s inp pf ∧ IsDisable pf)) := by
  refine (outstanding (Q := NoStart) (W := fun s => ∃ rt dl, s.mode = .unsolWait resp isNull rt dl) (E := UEnd) env s inp
    (fun o h => by rw [NoStart, h]; nofun) ⟨rt, dl, hm⟩ (fun _ => ⟨rt, dl, hm⟩) (fun hi hc => ?_) ?_).imp
    (And.imp_right (Or.imp_right And.right))
    (Or.imp_right fun ⟨pf, pre, post, hf, e, hq, he⟩ =>
      ⟨pre, post, e, hq, he.imp_right (Or.imp_right fun hd => ⟨pf, hf, hd⟩)⟩)
  · rcases hi.mode with ⟨h, _, _⟩ | ⟨h, _, _⟩
    · exact ⟨rt, dl, h.trans hm⟩
    · exact absurd h hc
  · intro pf a y hp hq ⟨rt, dl, hm⟩ h
    cases h with
    | pass _ n y hm' => exact nomatch hm.symm.trans hm'
    | solFragment _ sr dl' c y hm' | solTimeout _ sr dl' c hm' => exact nomatch hm.symm.trans hm'
    | unsolFragment _ r n rt' dl' y hm' _ hc => cases hm.symm.trans hm'; exact uwfCase_stands hp hq hm hc
    | unsolTimeout _ r n rt' dl' y hm' _ _ hc =>
      cases hm.symm.trans hm'
      cases hc with
      | finish =>
        exact .ended (finishUnsolPt_base _ _ _) (quiet_snoc (Q := NoStart) hq nofun) (.inr (.inl ⟨_, mem_snoc _ _⟩))
      | retry rt'' =>
        exact .stay (NoStart.of_eff (Frame.repeatUnsolicited_eff (emitCb a (.unsolTimeout resp.ctrl.seq true)) resp)
          (quiet_snoc (Q := NoStart) hq nofun)).2 ⟨_, _, rfl⟩

theorem Acts.ready {pf : Option Frag} {a a' : Acc} (h : Acts pf a a') (hm : NotUW a.1.mode) {dl : Option Nat}
    (hu : a.1.unsol = .ready dl) :
    (a'.1.unsol = .ready dl ∧ NotUW a'.1.mode ∧ a'.1.now = a.1.now ∧
      ∃ l, a'.2 = a.2 ++ l ∧ ∀ o ∈ l, OOut.kind o ≠ .unsolWait) ∨
    ((∀ d, dl = some d → d ≤ a.1.now) ∧ (a.1.en1 || a.1.en2 || a.1.en3) = true) := by
  obtain ⟨l, p', e, h, hn, -, -, hu', -, -, hm'⟩ := Acts.out h
  have same : p'.unsol = a.1.unsol → p'.mode = a.1.mode → p'.now = a.1.now → (∀ o ∈ l, OOut.kind o ≠ .unsolWait) →
      a'.1.unsol = .ready dl ∧ NotUW a'.1.mode ∧ a'.1.now = a.1.now ∧
        ∃ l, a'.2 = a.2 ++ l ∧ ∀ o ∈ l, OOut.kind o ≠ .unsolWait :=
    fun h1 h2 h3 hl => ⟨(hu'.trans h1).trans hu, by rw [hm'.trans h2]; exact hm, hn.trans h3, l, e, hl⟩
  cases h with
  | calm l hl => exact .inl <| same rfl rfl rfl fun o ho => (hl o ho).2.2
  | request l r en hk => exact .inl <| same rfl rfl rfl fun o ho => (hk o ho).2
  | bcast l r en m _ _ hk => exact .inl <| same rfl rfl rfl hk
  | report | solConfInWait | bcastSeen => exact .inl <| same rfl rfl rfl (by simp [OOut.kind])
  | solConf e0 l hl => exact .inl <| same rfl rfl rfl (kinds_cons_confirm nofun nofun hl)
  | leave l m hl hnm => exact Or.inl ⟨hu'.trans hu, by rw [hm']; exact hnm, hn, l, e, fun o ho => (hl o ho).2.2⟩
  | start dst bytes q r n t d _ _ hnull hdata =>
    cases n with
    | true => exact nomatch (hnull rfl).1.symm.trans hu
    | false =>
      obtain ⟨dl', hr, hd, hen⟩ := hdata rfl
      cases hr.symm.trans hu
      exact Or.inr ⟨hd, hen⟩
  | retry l r n t t' d d' hm0 | unsolConf r n t d l hm0 | endFailed r n t d u hm0 => exact absurd hm0 (hm _ _ _ _)

theorem ActsStar.keeps {pf : Option Frag} {I : OState → Prop}
    (hstep : ∀ {a a' : Acc}, Acts pf a a' → I a.1 →
      I a'.1 ∧ ∃ l, a'.2 = a.2 ++ l ∧ ∀ o ∈ l, OOut.kind o ≠ .unsolWait)
    {a a' : Acc} (h : ActsStar pf a a') (hi : I a.1) :
    I a'.1 ∧ ∃ l, a'.2 = a.2 ++ l ∧ ∀ o ∈ l, OOut.kind o ≠ .unsolWait := by
  induction h with
  | refl => exact ⟨hi, [], by simp, by simp⟩
  | tail _ r ih =>
    obtain ⟨hb, l1, e1, n1⟩ := ih
    obtain ⟨hc, l2, e2, n2⟩ := hstep r hb
    exact ⟨hc, l1 ++ l2, by rw [e2, e1, List.append_assoc], fun o ho => (List.mem_append.1 ho).elim (n1 o) (n2 o)⟩

/-- the clock value a step runs at, read off the input alone (`C04.stepNow` is another function: it stands still once
    the task is dead) -/
def stepNow (s : OState) : OInput → Nat
  | .tick ms => s.now + ms
  | _ => s.now

theorem step_now_le (env : OEnv) (s : OState) (inp : OInput) : (Outstation.step env s inp).1.now ≤ stepNow s inp := by
  have h0 : s.now ≤ stepNow s inp := by cases inp <;> simp [stepNow]
  rcases step_reach env s inp with ⟨f, _, e⟩ | e | ⟨pf, s0, o0, hi, hr⟩
  · rw [e]; exact h0
  · rw [e]; exact h0
  · rw [(Reach.base hr).now]
    cases hi with
    | txn items => exact Nat.le_of_eq ((txnFold_upd s items).get .now)
    | _ => exact Nat.le_refl _

/-- **C14.5**: stated for the property, and described, as `Props.C14.series_spacing` -/
theorem series_spacing (env : OEnv) (s : OState) (inp : OInput) (d : Nat)
    (hu : s.unsol = .ready (some d)) (hm : NotUW s.mode) (hlt : stepNow s inp < d) :
    (Outstation.step env s inp).1.unsol = .ready (some d) ∧ NotUW (Outstation.step env s inp).1.mode ∧
    ∀ o ∈ (Outstation.step env s inp).2, OOut.kind o ≠ .unsolWait := by
  obtain ⟨pf, _, he⟩ := step_acts env s inp
  have hnow := step_now_le env s inp
  obtain ⟨⟨u, _, m⟩, l, e, n⟩ := ActsStar.keeps
    (I := fun t => t.unsol = .ready (some d) ∧ t.now < d ∧ NotUW t.mode) (fun r ⟨hu, hlt, hm⟩ => by
      rcases Acts.ready r hm hu with ⟨u, m, hn, hl⟩ | ⟨hd, _⟩
      · exact ⟨⟨u, hn ▸ hlt, m⟩, hl⟩
      · have := hd d rfl
        omega) he
    -- `step_acts` starts the chain from `s` with the clock already at its value after the step: `hnow`
    ⟨hu, by show (Outstation.step env s inp).1.now < d; omega, hm⟩
  exact ⟨u, m, fun o ho => n o ((e.trans (List.nil_append l)) ▸ ho)⟩

/-- **C14.6 (a)**, described at `Props.C14.read_deferred_not_dropped` -/
theorem read_deferred (a : Acc) (resp : Resp) (isNull : Bool) (f : Frag) (ctrl : AppCtrl) (hs : List ObjHdr)
    (raw : List Nat) (hp : a.1.pending = some f) (hq : parseRequest f.data = .request ctrl 1 (.ok hs) raw)
    (hm : a.1.cfg.anymaster = true ∨ f.src = a.1.cfg.master) (hb : f.broadcast = none) :
    unsolWaitOnFragment a resp isNull =
      .blocked (deferredSet (onLinkActivity { a.1 with pending := none }) f ctrl.seq hs, a.2) := by
  unfold unsolWaitOnFragment
  rw [popRequest_eq_request hp hq hm]
  dsimp only
  rcases classify_read (onLinkActivity { a.1 with pending := none }) f ctrl hs hb with h | ⟨r, h⟩
  · rw [h]
  · rw [h]


/-- **C14.6 (b)**, described at `Props.C14.read_deferred_not_dropped` -/
theorem deferred_answered (a : Acc) (next : NextIdle) (d : Deferred) (res : Acc ⊕ Acc)
    (hd : a.1.deferred = some d) (h : handleDeferredRead a next = some res) :
    ∃ a' r2 bytes post, (res = .inl a' ∨ res = .inr a') ∧ a'.1.deferred = none ∧
      a'.2 = a.2 ++ [.tx d.addr bytes] ++ post ∧
      bytes.take 2 = [r2.ctrl.toNat, 0x81] ∧ r2.ctrl.fir = true ∧ r2.ctrl.seq = d.seq ∧ r2.ctrl.uns = false ∧
      a'.1.lastReq = some ⟨d.seq, d.frag, some r2, (deferredFormat a.1 d).2.2⟩ := by
  have key : ∀ (a2 : Acc) (r2 : Resp),
      writeSolicited ((deferredFormat a.1 d).1, a.2) d.addr (deferredFormat a.1 d).2.1 = some (a2, r2) →
      a2.1.deferred = none ∧ (∃ bytes, a2.2 = a.2 ++ [.tx d.addr bytes] ∧ bytes.take 2 = [r2.ctrl.toNat, 0x81]) ∧
      r2.ctrl.fir = true ∧ r2.ctrl.seq = d.seq ∧ r2.ctrl.uns = false := by
    intro a2 r2 hw
    have hdef := (Frame.writeSolicited_eff hw).get .deferred
    obtain ⟨_, _, _, _, rfl, rfl⟩ := writeSolicited_eq hw
    exact ⟨hdef, ⟨_, rfl, by rw [hdr_take]; rfl⟩, rfl, rfl, rfl⟩
  cases handleDeferredRead_cases a next res h with
  | none hn => rw [hd] at hn; cases hn
  | answered d' a2 r2 hd' hw _ _ =>
    rw [hd] at hd'; cases hd'
    obtain ⟨h1, ⟨bytes, h2, h3⟩, h4, h5, h6⟩ := key a2 r2 hw
    exact ⟨_, r2, bytes, [], Or.inr rfl, h1, by simp [h2], h3, h4, h5, h6, rfl⟩
  | awaiting d' a2 r2 sr hd' hw =>
    rw [hd] at hd'; cases hd'
    obtain ⟨h1, ⟨bytes, h2, h3⟩, h4, h5, h6⟩ := key a2 r2 hw
    refine ⟨_, r2, bytes, [.cb (.solWait sr.ecsn)], Or.inl rfl, h1, ?_, h3, h4, h5, h6, rfl⟩
    show a2.2 ++ [OOut.cb (.solWait sr.ecsn)] = _
    rw [h2]

/-- the READ's answer as it appears in a step's outputs: a fragment to `d.addr` whose first octets are a
    solicited-response header with FIR and the READ's own sequence number -/
def AnswerIn (d : Deferred) (outs : List OOut) : Prop :=
  ∃ (r2 : Resp) (bytes : List Nat) (pre post : List OOut), outs = pre ++ [.tx d.addr bytes] ++ post ∧
    bytes.take 2 = [r2.ctrl.toNat, 0x81] ∧ r2.ctrl.fir = true ∧ r2.ctrl.seq = d.seq ∧ r2.ctrl.uns = false

/-- **C14.6 (c), core**: stated for the property, and described, as `Props.C14.deferred_answered_when_series_ends` -/
theorem deferred_answered_when_series_ends {pf : Option Frag} (n : Nat) (a : Acc) (isNull c : Bool) (d : Deferred)
    (hp : PendOk pf (afterUnsolSeries a isNull c).1) (hd : a.1.deferred = some d) :
    OOut.panic ∈ (finishStep (settle n (finishUnsol a isNull c))).2 ∨
    AnswerIn d (finishStep (settle n (finishUnsol a isNull c))).2 := by
  have hd1 : (afterUnsolSeries a isNull c).1.1.deferred = some d :=
    ((afterUnsolSeries_eff a isNull c).get .deferred).trans hd
  unfold finishUnsol afterUnsol
  dsimp only
  -- however the deferred READ was answered, what runs afterwards only appends to the outputs
  have answered : ∀ (res : Acc ⊕ Acc) (a' r : Acc),
      handleDeferredRead (afterUnsolSeries a isNull c).1 (afterUnsolSeries a isNull c).2 = some res →
      (res = .inl a' ∨ res = .inr a') → (PendOk pf a' → Reach pf a' r) → AnswerIn d r.2 := by
    intro res a' r hdr hres hr
    obtain ⟨a'', r2, bytes, post, hres', _, e, h1, h2, h3, h4, _⟩ := deferred_answered _ _ d _ hd1 hdr
    have : a'' = a' := by rcases hres with h | h <;> subst h <;> rcases hres' with h | h <;> cases h <;> rfl
    subst this
    have hb : Base (afterUnsolSeries a isNull c).1 a'' := by
      rcases hres with rfl | rfl <;> exact .of_eff (handleDeferredRead_cases _ _ _ hdr).eff
    obtain ⟨_, _, l, el⟩ := (hr (PendOk.ofBase hb hp)).base
    exact ⟨r2, bytes, (afterUnsolSeries a isNull c).1.2, post ++ l, by rw [el, e]; simp, h1, h2, h3, h4⟩
  split
  · left
    unfold die
    rw [settle_panicked]
    show OOut.panic ∈ (afterUnsolSeries a isNull c).1.2 ++ [OOut.panic]
    simp
  · rename_i a' hdr
    exact Or.inr (answered _ a' _ hdr (Or.inl rfl) fun hp' => settle_reach hp' n _ (Star.refl _))
  · rename_i a' hdr
    exact Or.inr (answered _ a' _ hdr (Or.inr rfl) fun hp' => settle_reach hp' n _
      (run_reach hp' (.dfr _ _, a') (Star.refl _)))

def DefRule (pf : Option Frag) (a a' : Acc) : Prop :=
  a'.1.deferred = a.1.deferred ∨
  a' = ({ a.1 with deferred := none }, a.2) ∨
  (∃ f ctrl hs raw, ReqOf pf f ctrl 1 (.ok hs) raw ∧ f.broadcast = none ∧ a' = (deferredSet a.1 f ctrl.seq hs, a.2)) ∨
  (∃ n d, a.1.deferred = some d ∧ a'.1.deferred = none ∧
    (handleDeferredRead a n = some (.inl a') ∨ handleDeferredRead a n = some (.inr a')))

theorem handleDeferredRead_defRule {pf : Option Frag} {a : Acc} {n : NextIdle} {res : Acc ⊕ Acc} {a' : Acc}
    (h : handleDeferredRead a n = some res) (hr : res = .inl a' ∨ res = .inr a') : DefRule pf a a' := by
  cases hd : a.1.deferred with
  | none =>
    cases handleDeferredRead_cases a n res h with
    | none => rcases hr with hr | hr <;> cases hr; exact .inl rfl
    | answered d _ _ hd' | awaiting d _ _ _ hd' => rw [hd] at hd'; cases hd'
  | some d =>
    obtain ⟨a'', _, _, _, hr', hn, _⟩ := deferred_answered a n d res hd h
    obtain rfl : a'' = a' := by rcases hr with h | h <;> subst h <;> rcases hr' with h | h <;> cases h <;> rfl
    refine .inr (.inr (.inr ⟨n, d, hd, hn, ?_⟩))
    rcases hr with rfl | rfl
    · exact .inl h
    · exact .inr h

/-- **C14.6**: stated for the property (`DefRule` written out), and described, as `Props.C14.deferred_only_changed_by` -/
theorem Ev.defRule {pf : Option Frag} {a a' : Acc} (h : Ev pf a a') : DefRule pf a a' := by
  cases h with
  | house s' hh => obtain ⟨n, l, lr, p, hp, rfl⟩ := hh; exact .inl rfl
  | plainCb | die | rsol | dbReset | enterSol | setSolWait | fmtRead | uwBcastSeen | uwRetry => exact .inl rfl
  | clrDeferred => exact .inr (.inl rfl)
  | deferSet f ctrl hs raw hq hb => exact .inr (.inr (.inl ⟨f, ctrl, hs, raw, hq, hb, rfl⟩))
  | defWait n a' hd => exact handleDeferredRead_defRule hd (.inl rfl)
  | defDone n a' hd => exact handleDeferredRead_defRule hd (.inr rfl)
  | wsol dst r a' r' hw => exact .inl ((Frame.writeSolicited_eff hw).get .deferred)
  | reqIdle f ctrl func objs raw a' ser _ hh => exact .inl ((handleRequestFromIdle_eff hh).get .deferred)
  | bcast f m ctrl func objs raw a' _ _ _ hp => exact .inl ((Frame.processBroadcast_eff hp).get .deferred)
  | nonRead f ctrl func hs raw a' r _ _ _ _ hn => exact .inl ((Frame.handleNonRead_eff hn).get .deferred)
  | chkStart a' hc => exact .inl ((checkUnsolicited_cases _ _ hc).eff.get .deferred)
  | chkIdle a' n hc => exact .inl ((checkUnsolicited_cases _ _ hc).eff.get .deferred)
  | finishPass n => exact .inl ((finishPass_eff a n).get .deferred)
  | solConf => exact .inl ((clearWrittenEvents_eff _).get .deferred)
  | uwSolConfirm => split <;> exact .inl rfl
  | unsolConf | uwDisable | uwTimeoutEnd => exact .inl ((afterUnsolSeries_eff _ _ _).get .deferred)

theorem Acts.en {pf : Option Frag} {a a' : Acc} (h : Acts pf a a') : EnRule pf (EnOf a.1) (EnOf a'.1) := by
  obtain ⟨l, p', e, h, -, -, hen, -⟩ := Acts.out h
  rw [hen]
  cases h with
  | request l r en _ _ he | bcast l r en m _ _ _ _ he => exact he
  | _ => exact EnRule.refl _ _

theorem ActsStar.en {pf : Option Frag} {a a' : Acc} (h : ActsStar pf a a') : EnRule pf (EnOf a.1) (EnOf a'.1) :=
  Star.lift (Q := fun a a' => EnRule pf (EnOf a.1) (EnOf a'.1)) (fun _ => EnRule.refl _ _) (fun _ _ _ => EnRule.trans)
    (fun _ _ => Acts.en) h

theorem chk_ready_start (a : Acc) (hu : a.1.cfg.unsolicited = true) (hr : a.1.unsol = .ready none)
    (hen : (a.1.en1 || a.1.en2 || a.1.en3) = true) (a' : Acc) :
    checkUnsolicited a = some (.inl a') ↔
      (a.1.db.writeUnsolicited a.1.en1 a.1.en2 a.1.en3 (a.1.cfg.unsol - 4)).2.2 ≠ 0 ∧
      startUnsolSeries ({ afterDbWrite a.1 with unsolSeq := seq4Next a.1.unsolSeq }, a.2)
        (unsolHeader a.1.unsolSeq (4 + (a.1.db.writeUnsolicited a.1.en1 a.1.en2 a.1.en3 (a.1.cfg.unsol - 4)).2.1.length))
        false = some a' := by
  rw [checkUnsolicited_ready a hu hr nofun, if_neg (by rw [hen]; nofun)]
  by_cases hz : (a.1.db.writeUnsolicited a.1.en1 a.1.en2 a.1.en3 (a.1.cfg.unsol - 4)).2.2 = 0
  · rw [if_pos hz]
    exact ⟨(fun h => nomatch h), fun h => absurd hz h.1⟩
  · rw [if_neg hz]
    cases startUnsolSeries _ _ false with
    | none => exact ⟨(fun h => nomatch h), fun h => nomatch h.2⟩
    | some x => exact ⟨fun h => ⟨hz, by cases h; rfl⟩, fun h => by rw [h.2]; rfl⟩

theorem chk_null (a : Acc) (hu : a.1.cfg.unsolicited = true) (hn : a.1.unsol = .nullRequired) :
    checkUnsolicited a =
      (startUnsolSeries ({ a.1 with unsolSeq := seq4Next a.1.unsolSeq }, a.2) (unsolHeader a.1.unsolSeq 0) true).map .inl :=
  checkUnsolicited_null a hu hn

/-- the accumulator on which the idle pass triggered by a database update evaluates `checkUnsolicited` -/
def wakeAcc (s : OState) (items : List TxnItem) : Acc :=
  ({ (txnFold s items).1 with notified := false, pending := none }, (txnFold s items).2)

/-- **C14.7**: stated for the property, and described, as `Props.C14.wake_on_update`.  `runPass 63`: `dispatch` starts the
    pass with `passFuel = 64` (Model/Outstation.lean) and this is its first iteration; `settle 8` likewise is the model's
    bound, see `Skel.start_chain` -/
theorem wake_on_update (env : OEnv) (s : OState) (items : List TxnItem) (next : NextIdle)
    (hm : s.mode = .idle next) (hp : s.pending = none)
    (hu : s.cfg.unsolicited = true) (hr : s.unsol = .ready none) (hen : (s.en1 || s.en2 || s.en3) = true) :
    Outstation.step env s (.txn items) =
      finishStep (settle 8 (afterRequest (runPass 63) (wakeAcc s items))) ∧
    (∀ a', checkUnsolicited (wakeAcc s items) = some (.inl a') ↔
      ((wakeAcc s items).1.db.writeUnsolicited s.en1 s.en2 s.en3 (s.cfg.unsol - 4)).2.2 ≠ 0 ∧
      startUnsolSeries ({ afterDbWrite (wakeAcc s items).1 with unsolSeq := seq4Next s.unsolSeq }, (wakeAcc s items).2)
        (unsolHeader s.unsolSeq (4 + ((wakeAcc s items).1.db.writeUnsolicited s.en1 s.en2 s.en3 (s.cfg.unsol - 4)).2.1.length))
        false = some a') ∧
    (∀ a', checkUnsolicited (wakeAcc s items) = some (.inl a') → Outstation.step env s (.txn items) = a') := by
  have k := txnFold_upd s items
  have e1 : Outstation.step env s (.txn items) =
      finishStep (settle 8 (afterRequest (runPass 63) (wakeAcc s items))) := by
    rw [step_txn_eq env s items (by rw [hm]; intro h; cases h)]
    rw [dispatch_idle (a := ({ (txnFold s items).1 with notified := true }, (txnFold s items).2))
      ((k.get .mode).trans hm) (by unfold idleWakes; simp)]
    show finishStep (settle 8 (runPass (63 + 1) _)) = _
    rw [runPass_no_fragment 63 ({ (txnFold s items).1 with notified := true }, (txnFold s items).2)
      ((k.get .pending).trans hp)]
    rfl
  have hw1 : (wakeAcc s items).1.en1 = s.en1 := k.get .en1
  have hw2 : (wakeAcc s items).1.en2 = s.en2 := k.get .en2
  have hw3 : (wakeAcc s items).1.en3 = s.en3 := k.get .en3
  have hwc : (wakeAcc s items).1.cfg = s.cfg := k.get .cfg
  have hws : (wakeAcc s items).1.unsolSeq = s.unsolSeq := k.get .unsolSeq
  have hwu : (wakeAcc s items).1.unsol = s.unsol := k.get .unsol
  have iff1 := chk_ready_start (wakeAcc s items) (by rw [hwc]; exact hu) (hwu.trans hr)
    (by rw [hw1, hw2, hw3]; exact hen)
  rw [hw1, hw2, hw3, hwc, hws] at iff1
  refine ⟨e1, iff1, ?_⟩
  intro a' hc
  rw [e1]
  unfold afterRequest
  rw [hc]
  have hs := ((iff1 a').1 hc).2
  rw [settle_blocked_no_pending _ _ ((Frame.startUnsolSeries_eff hs).get .pending)]
  rfl

/-- **C14.2**: stated for the property, and described, as `Props.C14.data_only_enabled` -/
theorem data_only_enabled (env : OEnv) (s : OState) (inp : OInput) :
    (∀ (a a' : Acc) (dl : Option Nat), checkUnsolicited a = some (.inl a') → a.1.unsol = .ready dl →
      a.1.cfg.unsolicited = true ∧ (∀ d, dl = some d → d ≤ a.1.now) ∧ (a.1.en1 || a.1.en2 || a.1.en3) = true ∧
      (a.1.db.writeUnsolicited a.1.en1 a.1.en2 a.1.en3 (a.1.cfg.unsol - 4)).2.2 ≠ 0 ∧
      startUnsolSeries ({ afterDbWrite a.1 with unsolSeq := seq4Next a.1.unsolSeq }, a.2)
        (unsolHeader a.1.unsolSeq (4 + (a.1.db.writeUnsolicited a.1.en1 a.1.en2 a.1.en3 (a.1.cfg.unsol - 4)).2.1.length))
        false = some a') ∧
    (EnOf (Outstation.step env s inp).1 = EnOf s ∨
      ∃ pf, StepFrag env s inp pf ∧ (IsFunc pf 20 ∨ (IsFunc pf 21 ∧
        Lowered s.en1 (Outstation.step env s inp).1.en1 ∧ Lowered s.en2 (Outstation.step env s inp).1.en2 ∧
        Lowered s.en3 (Outstation.step env s inp).1.en3))) ∧
    (EnOf s = (false, false, false) → (∃ dl, s.unsol = .ready dl) → NotUW s.mode →
      (∀ pf, StepFrag env s inp pf → ¬ IsFunc pf 20) →
      EnOf (Outstation.step env s inp).1 = (false, false, false) ∧
      (∃ dl, (Outstation.step env s inp).1.unsol = .ready dl) ∧ NotUW (Outstation.step env s inp).1.mode ∧
      ∀ o ∈ (Outstation.step env s inp).2, OOut.kind o ≠ .unsolWait) := by
  refine ⟨fun a a' dl h hr => data_series_start a a' dl h hr, ?_, fun hen hu hm hpf => ?_⟩
  · obtain ⟨pf, hf, he⟩ := step_acts env s inp
    have hr : EnRule pf (EnOf s) (EnOf (Outstation.step env s inp).1) := ActsStar.en he
    by_cases h20 : IsFunc pf 20
    · exact Or.inr ⟨pf, hf, Or.inl h20⟩
    by_cases h21 : IsFunc pf 21
    · exact Or.inr ⟨pf, hf, Or.inr ⟨h21, (hr h20).1⟩⟩
    · exact Or.inl ((hr h20).2 h21)
  · obtain ⟨pf, hf, he⟩ := step_acts env s inp
    obtain ⟨⟨e1, u1, m1⟩, l, e, n⟩ := ActsStar.keeps
      (I := fun t => EnOf t = (false, false, false) ∧ (∃ dl, t.unsol = .ready dl) ∧ NotUW t.mode)
      (fun {a a'} r ⟨hen, ⟨dl, hu⟩, hm⟩ => by
        have hl := ((Acts.en r) (hpf pf hf)).1
        simp only [EnOf, Prod.mk.injEq] at hen hl ⊢
        rw [hen.1] at hl; rw [hen.2.1] at hl; rw [hen.2.2] at hl
        rcases Acts.ready r hm hu with ⟨u, m, _, hl'⟩ | ⟨_, he⟩
        · exact ⟨⟨⟨hl.1.elim id id, hl.2.1.elim id id, hl.2.2.elim id id⟩, ⟨dl, u⟩, m⟩, hl'⟩
        · rw [hen.1, hen.2.1, hen.2.2] at he
          cases he) he ⟨hen, hu, hm⟩
    exact ⟨e1, u1, m1, fun o ho => n o ((e.trans (List.nil_append l)) ▸ ho)⟩

/-- **C14.6**: stated for the property, and described, as `Props.C14.read_deferred_not_dropped` -/
theorem read_deferred_not_dropped :
    (∀ (a : Acc) (resp : Resp) (isNull : Bool) (f : Frag) (ctrl : AppCtrl) (hs : List ObjHdr) (raw : List Nat),
      a.1.pending = some f → parseRequest f.data = .request ctrl 1 (.ok hs) raw →
      (a.1.cfg.anymaster = true ∨ f.src = a.1.cfg.master) → f.broadcast = none →
      unsolWaitOnFragment a resp isNull =
        .blocked ({ onLinkActivity { a.1 with pending := none } with
          deferred := some ⟨f.data, ctrl.seq, f.src, (keptHdrs a.1.cfg.maxReadHeaders hs).2,
            (keptHdrs a.1.cfg.maxReadHeaders hs).1⟩ }, a.2)) ∧
    (∀ (a : Acc) (next : NextIdle) (d : Deferred) (res : Acc ⊕ Acc), a.1.deferred = some d →
      handleDeferredRead a next = some res →
      ∃ (a' : Acc) (r2 : Resp) (bytes : List Nat) (post : List OOut), (res = .inl a' ∨ res = .inr a') ∧ a'.1.deferred = none ∧
        a'.2 = a.2 ++ [.tx d.addr bytes] ++ post ∧ bytes.take 2 = [r2.ctrl.toNat, 0x81] ∧
        r2.ctrl.fir = true ∧ r2.ctrl.seq = d.seq ∧ r2.ctrl.uns = false) ∧
    (∀ (env : OEnv) (s : OState) (ms : Nat) (resp : Resp) (isNull : Bool) (retries : Option Nat) (dl : Nat)
      (d : Deferred), s.mode = .unsolWait resp isNull retries dl → s.pending = none → s.deferred = some d →
      dl ≤ s.now + ms →
      OOut.panic ∈ (Outstation.step env s (.tick ms)).2 ∨ AnswerIn d (Outstation.step env s (.tick ms)).2) := by
  refine ⟨?_, ?_, ?_⟩
  · intro a resp isNull f ctrl hs raw hp hq hm hb
    rw [read_deferred a resp isNull f ctrl hs raw hp hq hm hb, deferredSet_spec]
    rfl
  · intro a next d res hd h
    obtain ⟨a', r2, bytes, post, h1, h2, h3, h4, h5, h6, h7, _⟩ := deferred_answered a next d res hd h
    exact ⟨a', r2, bytes, post, h1, h2, h3, h4, h5, h6, h7⟩
  · intro env s ms resp isNull retries dl d hm hp hd hle
    rw [(retries_bounded_unchanged env s ms resp isNull retries dl hm hp).2.2 hle (Or.inl (by rw [hd]; rfl))]
    refine deferred_answered_when_series_ends (pf := none) 8 _ isNull false d ?_ hd
    exact .inl (((afterUnsolSeries_eff _ isNull false).get .pending).trans hp)

/-! ## examples: the hypotheses of the theorems above are satisfiable by concrete, non-trivial states
(the database stays a parameter: where a theorem needs the database to answer, that answer is assumed) -/

/-- idle, unsolicited supported, start-up null response confirmed, class 1 enabled, 2 retries configured -/
def exIdle (db : Db) : OState :=
  { cfg := { unsolicited := true, retries := some 2 }, now := 4000, mode := .idle .untilEvent, restart := false,
    en1 := true, unsol := .ready none, unsolSeq := 6,
    solBuf := List.replicate 8 0, unsolBuf := List.replicate 8 0, db := db }

/-- a data response (sequence 5, 14 octets) awaiting its confirmation, two retries left, deadline 9000 -/
def exResp : Resp := { ctrl := ⟨true, true, true, true, 5⟩, func := 0x82, iin1 := 0x02, size := 14 }

def exWait (db : Db) : OState := { exIdle db with mode := .unsolWait exResp false (some 2) 9000 }

/-- start-up: the null response (sequence 0) is awaiting its confirmation -/
def exNullWait (db : Db) : OState :=
  { exIdle db with unsol := .nullRequired, unsolSeq := 1,
                   mode := .unsolWait { ctrl := ⟨true, true, true, true, 0⟩, func := 0x82, iin1 := 0x80 } true (some 0) 9000 }

theorem startUnsolSeries_some (a : Acc) (r : Resp) (n : Bool) (c : Bool × Bool × Bool)
    (h : a.1.db.unwrittenClasses = some c) : ∃ a', startUnsolSeries a r n = some a' := by
  cases hs : startUnsolSeries a r n with
  | none => cases (startUnsolSeries_eq_none.1 hs).symm.trans h
  | some a' => exact ⟨a', rfl⟩

/-- `null_series_start`: right after start-up `checkUnsolicited` does return something -/
example (db : Db) (c : Bool × Bool × Bool) (h : db.unwrittenClasses = some c) :
    ∃ res, checkUnsolicited ({ exIdle db with unsol := .nullRequired }, []) = some res ∧
      ({ exIdle db with unsol := .nullRequired } : OState).cfg.unsolicited = true ∧
      ({ exIdle db with unsol := .nullRequired } : OState).unsol = .nullRequired := by
  obtain ⟨a', hs⟩ := startUnsolSeries_some
    ({ exIdle db with unsol := .nullRequired, unsolSeq := seq4Next 6 }, []) (unsolHeader 6 0) true c h
  refine ⟨.inl a', ?_, rfl, rfl⟩
  rw [chk_null _ rfl rfl]
  show Option.map Sum.inl (startUnsolSeries ({ exIdle db with unsol := .nullRequired, unsolSeq := seq4Next 6 }, [])
    (unsolHeader 6 0) true) = _
  rw [hs]; rfl

/-- `null_until_confirmed`, `null_never_retried`: the null wait satisfies the consistency invariant -/
example (db : Db) : NullInv (exNullWait db) ∧ (exNullWait db).unsol = .nullRequired := by
  refine ⟨?_, rfl⟩
  intro r isNull rt dl hm
  cases hm
  exact ⟨fun _ => ⟨rfl, rfl⟩, fun _ => rfl⟩

example (db : Db) : NullInv (exWait db) := by
  intro r isNull rt dl hm
  cases hm
  exact ⟨fun h => (by cases h), fun h => (by cases h)⟩

/-- `retries_bounded_unchanged`, `one_outstanding`: hypotheses on `exWait`; the timeout at 9000 is a retry
    leaving one retry, re-armed at 14000 -/
example (env : OEnv) (db : Db) :
    (exWait db).mode = .unsolWait exResp false (some 2) 9000 ∧ (exWait db).pending = none ∧
    (Outstation.step env (exWait db) (.tick 5000)).1.mode = .unsolWait exResp false (some 1) 14000 ∧
    (Outstation.step env (exWait db) (.tick 5000)).2 =
      [.cb (.unsolTimeout 5 true), .tx 1 (unsolBytes (exWait db) exResp)] := by
  have h := (retries_bounded_unchanged env (exWait db) 5000 exResp false (some 2) 9000 rfl rfl).2.1
    (Nat.le_of_eq (by rfl)) rfl (some 1) (Or.inr ⟨1, rfl, rfl⟩)
  refine ⟨rfl, rfl, ?_, ?_⟩
  · rw [h]
    show Mode.unsolWait exResp false (some 1) (4000 + 5000 + 5000) = _
    rfl
  · rw [h]; rfl

/-- `series_spacing`: a series failed at 4000 with `rdelay = 5000`; a tick to 5000 is still too early -/
example (db : Db) :
    ({ exIdle db with unsol := .ready (some 9000) } : OState).unsol = .ready (some 9000) ∧
    NotUW ({ exIdle db with unsol := .ready (some 9000) } : OState).mode ∧
    stepNow { exIdle db with unsol := .ready (some 9000) } (.tick 1000) < 9000 :=
  ⟨rfl, (by intro _ _ _ _ h; cases h), (by show 4000 + 1000 < 9000; decide)⟩

/-- `read_deferred`: a class-1 READ (`C1 01 3C 02 06`) from the master arrives during the wait -/
example (db : Db) :
    let a : Acc := ({ exWait db with pending := some ⟨7, 1, none, [0xC1, 1, 60, 2, 6]⟩ }, [])
    a.1.pending = some ⟨7, 1, none, [0xC1, 1, 60, 2, 6]⟩ ∧
    parseRequest [0xC1, 1, 60, 2, 6] =
      .request ⟨true, true, false, false, 1⟩ 1 (.ok [⟨60, 2, 6, 0, 0, []⟩]) [60, 2, 6] ∧
    (a.1.cfg.anymaster = true ∨ (1 : Nat) = a.1.cfg.master) :=
  ⟨rfl, by rfl, Or.inr rfl⟩

/-- `deferred_answered`, `read_deferred_not_dropped` (c), `deferred_answered_when_series_ends`:
    a deferred READ (sequence 1, from address 1) in the data wait -/
def exDeferred : Deferred := ⟨[0xC1, 1, 60, 2, 6], 1, 1, 0, [⟨60, 2, 6, 0, 0⟩]⟩

example (db : Db) :
    ({ exWait db with deferred := some exDeferred } : OState).mode = .unsolWait exResp false (some 2) 9000 ∧
    ({ exWait db with deferred := some exDeferred } : OState).pending = none ∧
    ({ exWait db with deferred := some exDeferred } : OState).deferred = some exDeferred ∧
    9000 ≤ ({ exWait db with deferred := some exDeferred } : OState).now + 5000 :=
  ⟨rfl, rfl, rfl, Nat.le_of_eq (by rfl)⟩

example (db : Db) (c : Bool × Bool × Bool)
    (h : (deferredFormat { exWait db with deferred := some exDeferred } exDeferred).1.db.unwrittenClasses = some c) :
    ∃ res, handleDeferredRead ({ exWait db with deferred := some exDeferred }, []) .noSleep = some res := by
  cases hr : handleDeferredRead ({ exWait db with deferred := some exDeferred }, []) .noSleep with
  | some res => exact ⟨res, rfl⟩
  | none =>
    obtain ⟨d, hd, hw⟩ := handleDeferredRead_eq_none hr
    cases hd
    cases (writeSolicited_eq_none.1 hw).symm.trans h

/-- `nonread_answered_in_wait`: DISABLE_UNSOLICITED class 1 (`C5 15 3C 02 06`) arrives during the wait -/
example (db : Db) :
    let f : Frag := ⟨7, 1, none, [0xC5, 21, 60, 2, 6]⟩
    let a : Acc := ({ exWait db with pending := some f }, [])
    parseRequest f.data = .request ⟨true, true, false, false, 5⟩ 21 (.ok [⟨60, 2, 6, 0, 0, []⟩]) [60, 2, 6] ∧
    classify (onLinkActivity { a.1 with pending := none }) f ⟨true, true, false, false, 5⟩ 21 (.ok [⟨60, 2, 6, 0, 0, []⟩]) =
      .newNonRead [⟨60, 2, 6, 0, 0, []⟩] ∧
    ∃ a4 r, handleNonRead ({ onLinkActivity { a.1 with pending := none } with deferred := none }, a.2)
      21 5 7 [⟨60, 2, 6, 0, 0, []⟩] [60, 2, 6] = some (a4, some r) ∧ a4.1.en1 = false :=
  ⟨by rfl, by rfl, _, _, by rfl, by rfl⟩

/-- `wake_on_update`, `data_series_start`: hypotheses on `exIdle`; with three events reported a series starts -/
example (db : Db) : (exIdle db).mode = .idle .untilEvent ∧ (exIdle db).pending = none ∧
    (exIdle db).cfg.unsolicited = true ∧ (exIdle db).unsol = .ready none ∧
    ((exIdle db).en1 || (exIdle db).en2 || (exIdle db).en3) = true := ⟨rfl, rfl, rfl, rfl, rfl⟩

example (db : Db) (c : Bool × Bool × Bool) (hc : (db.writeUnsolicited true false false 2044).2.2 = 3)
    (hu : (db.writeUnsolicited true false false 2044).1.unwrittenClasses = some c) :
    ∃ a', checkUnsolicited (exIdle db, []) = some (.inl a') ∧ (exIdle db).unsol = .ready none := by
  have hk := (checkUnsolicited_ready (exIdle db, []) rfl rfl nofun).trans (if_neg nofun)
  have hc' : ((exIdle db, ([] : List OOut)).1.db.writeUnsolicited (exIdle db).en1 (exIdle db).en2 (exIdle db).en3
      ((exIdle db).cfg.unsol - 4)).2.2 = 3 := hc
  rw [if_neg (by rw [hc']; decide)] at hk
  obtain ⟨a', hs⟩ := startUnsolSeries_some
    ({ afterDbWrite (exIdle db) with unsolSeq := seq4Next (exIdle db).unsolSeq }, [])
    (unsolHeader (exIdle db).unsolSeq (4 + ((exIdle db).db.writeUnsolicited (exIdle db).en1 (exIdle db).en2 (exIdle db).en3
      ((exIdle db).cfg.unsol - 4)).2.1.length)) false c hu
  refine ⟨a', ?_, rfl⟩
  rw [hk]
  show Option.map Sum.inl (startUnsolSeries _ _ false) = _
  rw [hs]; rfl

/-- `data_only_enabled` (c): all classes disabled, a clock tick -/
example (env : OEnv) (db : Db) :
    EnOf { exIdle db with en1 := false } = (false, false, false) ∧
    (∃ dl, ({ exIdle db with en1 := false } : OState).unsol = .ready dl) ∧
    NotUW ({ exIdle db with en1 := false } : OState).mode ∧
    ∀ pf, StepFrag env { exIdle db with en1 := false } (.tick 100) pf → ¬ IsFunc pf 20 := by
  refine ⟨rfl, ⟨none, rfl⟩, (by intro _ _ _ _ h; cases h), ?_⟩
  intro pf h ⟨f, _, _, _, e, _⟩
  have : pf = none := h
  rw [this] at e; cases e

example : IsDisable (some ⟨7, 1, none, [0xC5, 21, 60, 2, 6]⟩) :=
  ⟨_, ⟨true, true, false, false, 5⟩, [⟨60, 2, 6, 0, 0, []⟩], [60, 2, 6], rfl, by rfl⟩

example : IsUnsolConfirm (some ⟨7, 1, none, [0xD5, 0]⟩) :=
  ⟨_, ⟨true, true, false, true, 5⟩, .ok [], [], rfl, by rfl, rfl⟩

end Dnp3.Proofs.C14

