import Dnp3.Model.OutstationTrace
/-!
# What a primitive of the outstation session may do, by label

`Frame K P a a'`: the projection `K` of the state is unchanged and the outputs were only appended to, each in `P`.
`Eff F D P a a'` says the same in three lists: only the observations `F` of the state may differ (`Upd F`), the
database moved by operations from `D` only (`DbPath D`), outputs were only appended, each in `P` (usually `KP ks`, a
list of kinds).  A primitive states its lists once (`X_eff`, beside its equation or case type); a relation of a
property file names what it watches in ONE bridge from `Eff`; that the two lists do not meet is decided.

`Eff` / `Upd` / `Kept` is the vocabulary.  `Frame K P` over a tuple `K` of fields is the older form of the same; it
stays for the tuples that statements of property modules mention (`kS`, `kR`; `kB` of `Skel.Base`).  `Skel.House` /
`Skel2.House2` (the housekeeping of `popRequest`) and `Skel.Base` (what no event changes) are particular `Upd` / `Kept`
facts under names of their own (`popRequest_upd`, `Base.of_eff`).
-/
namespace Dnp3.Proofs.Frame
open Dnp3

attribute [local irreducible] Db.new Db.add Db.update Db.readSupported Db.select Db.writeResponse
  Db.writeUnsolicited Db.clearWritten Db.reset Db.unwrittenClasses Db.isOverflown

def Frame {κ : Type} (K : OState → κ) (P : OOut → Prop) (a a' : Acc) : Prop :=
  K a'.1 = K a.1 ∧ ∃ l, a'.2 = a.2 ++ l ∧ ∀ o ∈ l, P o

theorem Frame.refl {κ} (K : OState → κ) (P : OOut → Prop) (a : Acc) : Frame K P a a :=
  ⟨rfl, [], by simp, by simp⟩

theorem Frame.trans {κ} {K : OState → κ} {P : OOut → Prop} {a b c : Acc}
    (h1 : Frame K P a b) (h2 : Frame K P b c) : Frame K P a c := by
  obtain ⟨k1, l1, e1, p1⟩ := h1
  obtain ⟨k2, l2, e2, p2⟩ := h2
  refine ⟨k2.trans k1, l1 ++ l2, by rw [e2, e1, List.append_assoc], ?_⟩
  intro o ho
  rcases List.mem_append.1 ho with h | h
  · exact p1 o h
  · exact p2 o h

theorem Frame.mono {κ} {K : OState → κ} {P Q : OOut → Prop} {a b : Acc}
    (h : Frame K P a b) (hpq : ∀ o, P o → Q o) : Frame K Q a b := by
  obtain ⟨k1, l1, e1, p1⟩ := h
  exact ⟨k1, l1, e1, fun o ho => hpq o (p1 o ho)⟩

theorem Frame.weaken {κ κ'} {K : OState → κ} {K' : OState → κ'} {P : OOut → Prop} {a b : Acc}
    (h : Frame K P a b) (hk : ∀ s s', K s' = K s → K' s' = K' s) : Frame K' P a b :=
  ⟨hk _ _ h.1, h.2⟩

theorem Frame.emit {κ} (K : OState → κ) (P : OOut → Prop) (a : Acc) (o : OOut) (h : P o) :
    Frame K P a (emit a o) :=
  ⟨rfl, [o], rfl, by simpa using h⟩

theorem Frame.emitCb {κ} (K : OState → κ) (P : OOut → Prop) (a : Acc) (c : Cb) (h : P (.cb c)) :
    Frame K P a (emitCb a c) := Frame.emit K P a _ h

theorem Frame.state {κ} (K : OState → κ) (P : OOut → Prop) (a : Acc) (s' : OState) (h : K s' = K a.1) :
    Frame K P a (s', a.2) :=
  ⟨h, [], by simp, by simp⟩

theorem foldl_inv {σ α} (P : σ → Prop) (f : σ → α → σ) (hf : ∀ p x, P p → P (f p x))
    (l : List α) (p : σ) (h : P p) : P (l.foldl f p) := by
  induction l generalizing p with
  | nil => exact h
  | cons x xs ih => exact ih _ (hf p x h)

theorem Frame.foldl {κ α} {K : OState → κ} {P : OOut → Prop} (f : Acc → α → Acc)
    (hf : ∀ a x, Frame K P a (f a x)) (l : List α) (a : Acc) : Frame K P a (l.foldl f a) :=
  foldl_inv (Frame K P a) f (fun b x h => h.trans (hf b x)) l a (Frame.refl K P a)

/-! ## label lists as bit masks

Membership, inclusion and disjointness of the short label lists below are side conditions of nearly every use of an
effect, closed by `decide`.  Through the `List` instances one such decision costs three to four times what it costs
on masks (`2 ^ ctorIdx`), so the three label types get instances of their own from the iffs of this section. -/

section
variable {α : Type} (idx : α → Nat)

def mask : List α → Nat
  | [] => 0
  | x :: xs => 2 ^ idx x ||| mask xs

theorem testBit_mask (L : List α) (i : Nat) : (mask idx L).testBit i = true ↔ ∃ x ∈ L, idx x = i := by
  induction L with
  | nil => simp [mask]
  | cons x xs ih => simp [mask, Nat.testBit_or, Nat.testBit_two_pow, ih]

variable {idx} (inj : ∀ x y, idx x = idx y → x = y)
include inj

theorem mem_iff_mask (x : α) (L : List α) : x ∈ L ↔ (mask idx L).testBit (idx x) = true := by
  rw [testBit_mask]
  exact ⟨fun h => ⟨x, h, rfl⟩, fun ⟨y, hy, e⟩ => inj y x e ▸ hy⟩

theorem sub_iff_mask (F G : List α) : (∀ x ∈ F, x ∈ G) ↔ mask idx F ||| mask idx G = mask idx G := by
  constructor
  · intro h
    apply Nat.eq_of_testBit_eq
    intro i
    cases hF : (mask idx F).testBit i with
    | false => simp [Nat.testBit_or, hF]
    | true =>
      obtain ⟨x, hx, rfl⟩ := (testBit_mask idx F i).1 hF
      simp [Nat.testBit_or, (mem_iff_mask inj x G).1 (h x hx)]
  · intro h x hx
    rw [mem_iff_mask inj, ← h, Nat.testBit_or, (mem_iff_mask inj x F).1 hx]
    rfl

theorem apart_iff_mask (W F : List α) : (∀ x ∈ W, x ∉ F) ↔ mask idx W &&& mask idx F = 0 := by
  constructor
  · intro h
    apply Nat.eq_of_testBit_eq
    intro i
    cases hW : (mask idx W).testBit i with
    | false => simp [Nat.testBit_and, hW]
    | true =>
      obtain ⟨x, hx, rfl⟩ := (testBit_mask idx W i).1 hW
      cases hF : (mask idx F).testBit (idx x) with
      | false => simp [Nat.testBit_and, hF]
      | true => exact absurd ((mem_iff_mask inj x F).2 hF) (h x hx)
  · intro h x hx hf
    have := congrArg (·.testBit (idx x)) h
    simp [Nat.testBit_and, (mem_iff_mask inj x W).1 hx, (mem_iff_mask inj x F).1 hf] at this

end

inductive OKind where
  | app | clear | confirm | bcast | sol | unsolWait | unsolTimeout | unsolConfirmed | fuel | tx | txLink | line | panic
deriving DecidableEq

theorem OKind.idx_inj (x y : OKind) (h : x.ctorIdx = y.ctorIdx) : x = y := by
  rw [← OKind.ofNat_ctorIdx x, h, OKind.ofNat_ctorIdx]

instance (k : OKind) (L : List OKind) : Decidable (k ∈ L) := decidable_of_iff _ (mem_iff_mask OKind.idx_inj k L).symm
instance (F G : List OKind) : Decidable (∀ k ∈ F, k ∈ G) := decidable_of_iff _ (sub_iff_mask OKind.idx_inj F G).symm

def Cb.kind : Cb → OKind
  | .beginFragment | .endFragment | .control .. | .writeTime _ | .coldRestart | .warmRestart
  | .freezeAll _ | .freezeRange .. => .app
  | .clearRestartIin => .clear
  | .beginConfirm | .eventCleared _ | .endConfirm .. => .confirm
  | .broadcast .. => .bcast
  | .solWait _ | .solTimeout _ | .solConfirmed _ | .solNewRequest | .solWrongSeq .. | .unexpectedConfirm .. => .sol
  | .unsolWait _ => .unsolWait
  | .unsolTimeout .. => .unsolTimeout
  | .unsolConfirmed _ => .unsolConfirmed
  | .modelFuelExhausted => .fuel

def OOut.kind : OOut → OKind
  | .cb c => Cb.kind c
  | .tx .. => .tx
  | .txLink .. => .txLink
  | .line _ => .line
  | .panic => .panic

abbrev KP (ks : List OKind) : OOut → Prop := fun o => OOut.kind o ∈ ks

/-- the observations frame statements speak of: the fields of `OState`; of `script` and `solBuf` also the part that
    survives the changes made to the whole (`nextStatus` moves `ctlPos`, the control echo keeps the length); and two
    that are no equations: `alive` (the mode may change, `dead` is not entered) and `pend` (the retained fragment is
    kept or dropped, never replaced) -/
inductive Fld where
  | cfg | script | appIin | now | mode | alive | restart | en1 | en2 | en3 | lastReq | select | unsol | unsolSeq
  | deferred | lastRecorded | lastBroadcast | unsolReported | solBuf | solLen | unsolBuf | db | frameId
  | nextLinkStatus | pending | pend | notified
deriving DecidableEq

theorem Fld.idx_inj (x y : Fld) (h : x.ctorIdx = y.ctorIdx) : x = y := by
  rw [← Fld.ofNat_ctorIdx x, h, Fld.ofNat_ctorIdx]

instance (f : Fld) (L : List Fld) : Decidable (f ∈ L) := decidable_of_iff _ (mem_iff_mask Fld.idx_inj f L).symm
instance (F G : List Fld) : Decidable (∀ f ∈ F, f ∈ G) := decidable_of_iff _ (sub_iff_mask Fld.idx_inj F G).symm
instance (W F : List Fld) : Decidable (∀ f ∈ W, f ∉ F) := decidable_of_iff _ (apart_iff_mask Fld.idx_inj W F).symm

def Fld.eqOn : Fld → OState → OState → Prop
  | .cfg, s, t => t.cfg = s.cfg
  | .script, s, t => t.script = s.script
  | .appIin, s, t => t.script.appIin = s.script.appIin
  | .now, s, t => t.now = s.now
  | .mode, s, t => t.mode = s.mode
  | .alive, s, t => t.mode = .dead → s.mode = .dead
  | .restart, s, t => t.restart = s.restart
  | .en1, s, t => t.en1 = s.en1
  | .en2, s, t => t.en2 = s.en2
  | .en3, s, t => t.en3 = s.en3
  | .lastReq, s, t => t.lastReq = s.lastReq
  | .select, s, t => t.select = s.select
  | .unsol, s, t => t.unsol = s.unsol
  | .unsolSeq, s, t => t.unsolSeq = s.unsolSeq
  | .deferred, s, t => t.deferred = s.deferred
  | .lastRecorded, s, t => t.lastRecorded = s.lastRecorded
  | .lastBroadcast, s, t => t.lastBroadcast = s.lastBroadcast
  | .unsolReported, s, t => t.unsolReported = s.unsolReported
  | .solBuf, s, t => t.solBuf = s.solBuf
  | .solLen, s, t => t.solBuf.length = s.solBuf.length
  | .unsolBuf, s, t => t.unsolBuf = s.unsolBuf
  | .db, s, t => t.db = s.db
  | .frameId, s, t => t.frameId = s.frameId
  | .nextLinkStatus, s, t => t.nextLinkStatus = s.nextLinkStatus
  | .pending, s, t => t.pending = s.pending
  | .pend, s, t => t.pending = s.pending ∨ t.pending = none
  | .notified, s, t => t.notified = s.notified

def Upd (F : List Fld) (s t : OState) : Prop := ∀ f, f ∉ F → f.eqOn s t

/-- `Upd F s t` where `t` is `s` with fields set: by inspection, observation by observation.  An equation holds by
    `rfl`; `alive` because the mode is the old one (`id`) or a constructor other than `dead` (`cases`); `pend` because
    the fragment is the old one or `none`; and an observation listed in `F` is not asked for.  If it fails on `alive`,
    `pend`, `solLen` or `appIin`, the sub-observation is missing from `F`: writing `mode` (`pending`, `solBuf`, `script`)
    in `F` does not give up the part of it that has a label of its own -/
macro "upd_rfl" : tactic =>
  `(tactic| (intro f hf; cases f <;>
      first | exact rfl | exact id | (intro h; cases h; done) | exact .inl rfl | exact .inr rfl | exact absurd (by decide) hf))

theorem Upd.refl (F : List Fld) (s : OState) : Upd F s s := by
  intro f _; cases f <;> first | exact rfl | exact id | exact .inl rfl

theorem Upd.trans {F : List Fld} {s t u : OState} (h1 : Upd F s t) (h2 : Upd F t u) : Upd F s u := by
  intro f hf
  have a := h1 f hf
  have b := h2 f hf
  cases f
  case alive => exact fun h => a (b h)
  case pend => exact b.elim (fun e => a.elim (fun e' => .inl (e.trans e')) fun e' => .inr (e.trans e')) .inr
  all_goals exact Eq.trans b a

theorem Upd.mono {F G : List Fld} {s t : OState} (h : Upd F s t) (hs : ∀ f ∈ F, f ∈ G := by decide) : Upd G s t :=
  fun f hf => h f fun hm => hf (hs f hm)

theorem Upd.foldl2 {F : List Fld} {α β} (f : OState × β → α → OState × β) (hf : ∀ p x, Upd F p.1 (f p x).1)
    (l : List α) (p : OState × β) : Upd F p.1 (l.foldl f p).1 :=
  foldl_inv (fun q : OState × β => Upd F p.1 q.1) f (fun q x h => h.trans (hf q x)) l p (.refl _ _)

/-- read as an equation: `h.get .mode : t.mode = s.mode`.  The membership proof is the next positional argument: apply
    the implication of `.alive` as `(h.get .alive) hd` -/
theorem Upd.get {F : List Fld} {s t : OState} (h : Upd F s t) (f : Fld) (hf : f ∉ F := by decide) : f.eqOn s t :=
  h f hf

/-! two updates that recur, so that `upd_rfl` walks the labels once for them -/

theorem Upd.lastReq (s : OState) (lr : Option LastReq) : Upd [.lastReq] s { s with lastReq := lr } := by upd_rfl

theorem Upd.enables (s : OState) (e1 e2 e3 : Bool) :
    Upd [.en1, .en2, .en3] s { s with en1 := e1, en2 := e2, en3 := e3 } := by upd_rfl

abbrev Apart (W F : List Fld) : Prop := ∀ f ∈ W, f ∉ F

def Kept (W : List Fld) (s t : OState) : Prop := ∀ f, f ∈ W → f.eqOn s t

theorem Kept.get {W : List Fld} {s t : OState} (k : Kept W s t) (f : Fld) (hf : f ∈ W := by decide) : f.eqOn s t :=
  k f hf

theorem Upd.on {F W : List Fld} {s t : OState} (h : Upd F s t) (hF : Apart W F) : Kept W s t :=
  fun f hf => h f (hF f hf)

/-- the operations the session applies to its database (`update` and `add` come with the inputs, not from a
    primitive) -/
inductive DbStep where
  | select | writeResponse | writeUnsolicited | clearWritten | reset
deriving DecidableEq

theorem DbStep.idx_inj (x y : DbStep) (h : x.ctorIdx = y.ctorIdx) : x = y := by
  rw [← DbStep.ofNat_ctorIdx x, h, DbStep.ofNat_ctorIdx]

instance (o : DbStep) (L : List DbStep) : Decidable (o ∈ L) := decidable_of_iff _ (mem_iff_mask DbStep.idx_inj o L).symm
instance (F G : List DbStep) : Decidable (∀ o ∈ F, o ∈ G) := decidable_of_iff _ (sub_iff_mask DbStep.idx_inj F G).symm

inductive DbPath (D : List DbStep) (db0 : Db) : Db → Prop
  | refl : DbPath D db0 db0
  | select (db) (h : ReadHdr) : .select ∈ D → DbPath D db0 db → DbPath D db0 (db.select h).1
  | writeResponse (db) (cap : Nat) : .writeResponse ∈ D → DbPath D db0 db → DbPath D db0 (db.writeResponse cap).1
  | writeUnsolicited (db) (c1 c2 c3 : Bool) (cap : Nat) : .writeUnsolicited ∈ D → DbPath D db0 db →
      DbPath D db0 (db.writeUnsolicited c1 c2 c3 cap).1
  | clearWritten (db) : .clearWritten ∈ D → DbPath D db0 db → DbPath D db0 db.clearWritten.1
  | reset (db) : .reset ∈ D → DbPath D db0 db → DbPath D db0 db.reset

theorem DbPath.of_eq {D : List DbStep} {a b : Db} (h : b = a) : DbPath D a b := h ▸ .refl

theorem DbPath.trans {D : List DbStep} {a b c : Db} (h1 : DbPath D a b) (h2 : DbPath D b c) : DbPath D a c := by
  induction h2 with
  | refl => exact h1
  | select db h m _ ih => exact .select db h m ih
  | writeResponse db cap m _ ih => exact .writeResponse db cap m ih
  | writeUnsolicited db c1 c2 c3 cap m _ ih => exact .writeUnsolicited db c1 c2 c3 cap m ih
  | clearWritten db m _ ih => exact .clearWritten db m ih
  | reset db m _ ih => exact .reset db m ih

theorem DbPath.mono {D E : List DbStep} {a b : Db} (h : DbPath D a b) (hs : ∀ o ∈ D, o ∈ E := by decide) :
    DbPath E a b := by
  induction h with
  | refl => exact .refl
  | select db h m _ ih => exact .select db h (hs _ m) ih
  | writeResponse db cap m _ ih => exact .writeResponse db cap (hs _ m) ih
  | writeUnsolicited db c1 c2 c3 cap m _ ih => exact .writeUnsolicited db c1 c2 c3 cap (hs _ m) ih
  | clearWritten db m _ ih => exact .clearWritten db (hs _ m) ih
  | reset db m _ ih => exact .reset db (hs _ m) ih

def Eff (F : List Fld) (D : List DbStep) (P : OOut → Prop) (a a' : Acc) : Prop :=
  Upd F a.1 a'.1 ∧ DbPath D a.1.db a'.1.db ∧ ∃ l, a'.2 = a.2 ++ l ∧ ∀ o ∈ l, P o

theorem Eff.get {F : List Fld} {D : List DbStep} {P : OOut → Prop} {a a' : Acc} (h : Eff F D P a a') (f : Fld)
    (hf : f ∉ F := by decide) : f.eqOn a.1 a'.1 := h.1 f hf

theorem Eff.on {F W : List Fld} {D : List DbStep} {P : OOut → Prop} {a a' : Acc} (h : Eff F D P a a')
    (hF : Apart W F) : Kept W a.1 a'.1 := h.1.on hF

theorem Eff.outs {F : List Fld} {D : List DbStep} {P : OOut → Prop} {a a' : Acc} (h : Eff F D P a a') :
    Frame (fun _ => ()) P a a' := ⟨rfl, h.2.2⟩

theorem Eff.refl {F : List Fld} {D : List DbStep} {P : OOut → Prop} {a : Acc} : Eff F D P a a :=
  ⟨.refl _ _, .refl, [], by simp, by simp⟩

theorem Eff.trans {F : List Fld} {D : List DbStep} {P : OOut → Prop} {a b c : Acc} (h1 : Eff F D P a b)
    (h2 : Eff F D P b c) : Eff F D P a c :=
  ⟨h1.1.trans h2.1, h1.2.1.trans h2.2.1, (h1.outs.trans h2.outs).2⟩

theorem Eff.mono {F G : List Fld} {D E : List DbStep} {P Q : OOut → Prop} {a b : Acc} (h : Eff F D P a b)
    (hpq : ∀ o, P o → Q o) (hF : ∀ f ∈ F, f ∈ G := by decide) (hD : ∀ o ∈ D, o ∈ E := by decide) : Eff G E Q a b :=
  ⟨h.1.mono hF, h.2.1.mono hD, (h.outs.mono hpq).2⟩

theorem Eff.wide {F G : List Fld} {D E : List DbStep} {P : OOut → Prop} {a b : Acc} (h : Eff F D P a b)
    (hF : ∀ f ∈ F, f ∈ G := by decide) (hD : ∀ o ∈ D, o ∈ E := by decide) : Eff G E P a b :=
  h.mono (fun _ ho => ho) hF hD

theorem Eff.imp {F : List Fld} {D : List DbStep} {P Q : OOut → Prop} {a b : Acc} (h : Eff F D P a b)
    (hpq : ∀ o, P o → Q o) : Eff F D Q a b :=
  ⟨h.1, h.2.1, (h.outs.mono hpq).2⟩

theorem Eff.kmono {F G : List Fld} {D E : List DbStep} {ks ks' : List OKind} {a b : Acc} (h : Eff F D (KP ks) a b)
    (hF : ∀ f ∈ F, f ∈ G := by decide) (hD : ∀ o ∈ D, o ∈ E := by decide) (hk : ∀ k ∈ ks, k ∈ ks' := by decide) :
    Eff G E (KP ks') a b :=
  h.mono (fun _ ho => hk _ ho) hF hD

/-- the form the exact equations of the primitives (`writeSolicited_eq`, `finishPass_eq`, …) give -/
theorem Eff.upd {F : List Fld} {D : List DbStep} {P : OOut → Prop} {a : Acc} {s' : OState} {l : List OOut}
    (h : Upd F a.1 s') (hd : DbPath D a.1.db s'.db) (hl : ∀ o ∈ l, P o) : Eff F D P a (s', a.2 ++ l) :=
  ⟨h, hd, l, rfl, hl⟩

theorem Eff.state {F : List Fld} {D : List DbStep} (P : OOut → Prop) {a : Acc} {s' : OState} (h : Upd F a.1 s')
    (hd : DbPath D a.1.db s'.db) : Eff F D P a (s', a.2) :=
  ⟨h, hd, [], by simp, by simp⟩

/-- a change of the state, then `h2`; in this order, so that the changed state is read off `h2` -/
theorem Eff.pre {F : List Fld} {D : List DbStep} {P : OOut → Prop} {a c : Acc} {s' : OState}
    (h2 : Eff F D P (s', a.2) c) (h : Upd F a.1 s') (hd : DbPath D a.1.db s'.db) : Eff F D P a c :=
  (Eff.state P h hd).trans h2

theorem Eff.set {F : List Fld} {D : List DbStep} (P : OOut → Prop) {a : Acc} {s' : OState} (h : Upd F a.1 s')
    (hf : Fld.db ∉ F := by decide) : Eff F D P a (s', a.2) :=
  .state P h (.of_eq (h.get .db hf))

theorem Eff.emitCb {F : List Fld} {D : List DbStep} {P : OOut → Prop} {a : Acc} {c : Cb} (h : P (.cb c)) :
    Eff F D P a (emitCb a c) :=
  .upd (l := [_]) (.refl _ _) .refl (by simpa using h)

theorem Eff.foldl2 {F : List Fld} {D : List DbStep} {P : OOut → Prop} {α β} (f : Acc × β → α → Acc × β)
    (hf : ∀ p x, Eff F D P p.1 (f p x).1) (l : List α) (p : Acc × β) : Eff F D P p.1 (l.foldl f p).1 :=
  foldl_inv (fun q : Acc × β => Eff F D P p.1 q.1) f (fun q x h => h.trans (hf q x)) l p .refl

theorem Eff.ite {F : List Fld} {D : List DbStep} {P : OOut → Prop} {β} {a : Acc} {c : Prop} [Decidable c]
    {x y : Acc × β} (hx : c → Eff F D P a x.1) (hy : ¬c → Eff F D P a y.1) : Eff F D P a (if c then x else y).1 := by
  split
  · exact hx ‹_›
  · exact hy ‹_›

end Dnp3.Proofs.Frame
