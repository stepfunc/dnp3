import Dnp3.Proofs.SessionDb
import Dnp3.Proofs.C02Static
import Dnp3.Proofs.NoPanicOutstationDb
import Dnp3.Proofs.Pair
/-!
# C02 — states reachable in the pair model, and what is kept along them

`ReachableVia ok`: the states reached over inputs satisfying `ok`.  `PairInv`: a predicate on the two endpoints that their
activations keep holds of every reachable state (`reachable_keeps`).  `DbInv`: a predicate on the database kept by every
operation of the session but `add`; `Class0Db`, the database hypotheses of the class-0 theorems, is one
(`class0Db_inv`).  That `Class0Db` holds of every state reachable by ops that add binary / analog inputs only is
`reachable_class0Db`, proved in `Props/C02.lean` from `step_dbInv` there.
-/
namespace Dnp3.Pair
open Dnp3

inductive ReachableVia (ok : PInput → Prop) (ocfg : OCfg) (evMax : Nat) (env : OEnv) (txSize : Nat)
    (acfg : Master.ACfg) (base : Option Nat) (dm2o do2m : Nat) : PState → Prop where
  | start : ReachableVia ok ocfg evMax env txSize acfg base dm2o do2m
      (Pair.start ocfg evMax env txSize acfg base dm2o do2m).1
  | step (s : PState) (i : PInput) : ok i → ReachableVia ok ocfg evMax env txSize acfg base dm2o do2m s →
      ReachableVia ok ocfg evMax env txSize acfg base dm2o do2m (Pair.step s i).1

abbrev Reachable (ocfg : OCfg) (evMax : Nat) (env : OEnv) (txSize : Nat)
    (acfg : Master.ACfg) (base : Option Nat) (dm2o do2m : Nat) : PState → Prop :=
  ReachableVia (fun _ => True) ocfg evMax env txSize acfg base dm2o do2m

def AddsBinAn : PInput → Prop
  | .add t _ _ => t = .binary ∨ t = .analog
  | .addMany t _ _ _ => t = .binary ∨ t = .analog
  | _ => True

theorem ReachableVia.mono {ok ok' : PInput → Prop} (h : ∀ i, ok i → ok' i) {ocfg : OCfg} {evMax : Nat} {env : OEnv}
    {txSize : Nat} {acfg : Master.ACfg} {base : Option Nat} {dm2o do2m : Nat} {s : PState}
    (hr : ReachableVia ok ocfg evMax env txSize acfg base dm2o do2m s) :
    ReachableVia ok' ocfg evMax env txSize acfg base dm2o do2m s := by
  induction hr with
  | start => exact .start
  | step s i hi _ ih => exact .step s i (h i hi) ih

theorem ReachableVia.run {ok : PInput → Prop} {ocfg : OCfg} {evMax : Nat} {env : OEnv}
    {txSize : Nat} {acfg : Master.ACfg} {base : Option Nat} {dm2o do2m : Nat} (ops : List PInput) :
    ∀ {s : PState}, ReachableVia ok ocfg evMax env txSize acfg base dm2o do2m s → (∀ op ∈ ops, ok op) →
      ReachableVia ok ocfg evMax env txSize acfg base dm2o do2m (Pair.run s ops).1 := by
  induction ops with
  | nil => intro s h _; exact h
  | cons i is ih =>
    intro s h hok
    exact ih (.step s i (hok i (List.mem_cons_self ..)) h) (fun o ho => hok o (List.mem_cons_of_mem _ ho))

end Dnp3.Pair

namespace Dnp3.Proofs.C02Reach
open Dnp3 Dnp3.DbM Dnp3.DbProofs Dnp3.Pair Dnp3.Proofs.Pair Dnp3.Proofs.SessionDb Dnp3.Proofs.C02Static

structure PairInv (okO : OInput → Prop) (Q : PState → Prop) : Prop where
  m : ∀ (s : PState) (i : Master.MInput), Q s → Q (mstep s i).1
  o : ∀ (s : PState) (i : OInput), okO i → Q s → Q (ostep s i).1
  same : ∀ (s s' : PState), SameEnds s' s → Q s → Q s'

section
variable {okO : OInput → Prop} {Q : PState → Prop} {inj : Prop}

theorem PairInv.move (K : PairInv okO Q) {x y : PState × List Group} (mv : Move okO inj x y) (h : Q x.1) : Q y.1 := by
  cases mv with
  | m r =>
    refine K.same _ _ (enqM_ends _ _) ?_
    induction r with
    | nil => exact h
    | @snoc s1 _ i _ ih => exact K.m s1 i ih
  | o r =>
    refine K.same _ _ (enqO_ends _ _) ?_
    induction r with
    | nil => exact h
    | @snoc s1 _ i hi _ ih => exact K.o s1 i hi ih
  | relay he _ _ => exact K.same _ _ he h
  | takeO _ he _ _ => exact K.same _ _ he h
  | takeM _ he _ _ => exact K.same _ _ he h
  | note _ _ => exact h
  | inject _ _ _ => exact h

/-- Stated over the components: against `Q y.1` the unifier evaluates `Pair.start …` looking for the pair. -/
theorem PairInv.chain (K : PairInv okO Q) {s s' : PState} {hist hist' : List Group}
    (c : Chain okO inj (s, hist) (s', hist')) (h : Q s) : Q s' :=
  Skel.Star.inv (I := fun x => Q x.1) (fun _ _ mv => K.move mv) c h

theorem reachable_keeps (K : PairInv okO Q) (B : OkBase okO) {ok : PInput → Prop}
    (hok : ∀ inp, ok inp → ∀ i, addsOf inp i → okO i)
    {ocfg : OCfg} {evMax : Nat} {env : OEnv} {txSize : Nat} {acfg : Master.ACfg} {base : Option Nat} {dm2o do2m : Nat}
    (h0 : Q { m := Master.start txSize, o := (Outstation.start ocfg evMax).1, env := env, base := base,
              m2o := { delay := dm2o }, o2m := { delay := do2m } })
    {s : PState} (hr : ReachableVia ok ocfg evMax env txSize acfg base dm2o do2m s) : Q s := by
  induction hr with
  | start =>
    exact K.chain (start_chain (inj := True) B ocfg evMax env txSize acfg base dm2o do2m) (K.same _ _ (enqO_ends _ _) h0)
  | step s i hi _ ih => exact K.chain (step_chain (inj := True) B s i (hok i hi) (fun _ => trivial) []) ih

end

structure DbInv (I : Db → Prop) : Prop where
  select : ∀ (db : Db) (h : ReadHdr), I db → I (db.select h).1
  write : ∀ (db : Db) (cap : Nat), I db → I (db.writeResponse cap).1
  unsol : ∀ (db : Db) (c1 c2 c3 : Bool) (cap : Nat), I db → I (db.writeUnsolicited c1 c2 c3 cap).1
  clear : ∀ db : Db, I db → I db.clearWritten.1
  reset : ∀ db : Db, I db → I db.reset
  update : ∀ (db : Db) (t : PtType) (idx : Nat) (v : Int) (f tm : Nat), I db → I (db.update t idx v f tm).1

section
variable {I : Db → Prop}

theorem DbInv.step (K : DbInv I) (db : Db) (op : DbOp) (hop : NotAdd op) (h : I db) : I (DbProofs.step db op) := by
  cases op with
  | add t idx cls => exact absurd rfl (hop t idx cls)
  | update t idx v f tm => exact K.update db t idx v f tm h
  | select hd => exact K.select db hd h
  | write cap => exact K.write db cap h
  | unsol c1 c2 c3 cap => exact K.unsol db c1 c2 c3 cap h
  | clear => exact K.clear db h
  | reset => exact K.reset db h

theorem DbInv.run (K : DbInv I) {a b : Db} (h : RunVia NotAdd a b) (ha : I a) : I b := h.inv K.step ha

end

theorem add_selCap (db : Db) (t : PtType) (idx cls : Nat) : (db.add t idx cls).1.selCap = db.selCap := by
  unfold Db.add Db.addCfg
  split <;> rfl

def KeysLt (db : Db) : Prop := ∀ t, ∀ p ∈ db.map t, p.1 < 65536

theorem CfgSame.keysLt {db db' : Db} (h : CfgSame db db') (hk : KeysLt db) : KeysLt db' :=
  fun t => h.1.forall (fun x => x.1 < 65536) t (hk t)

theorem add_keysLt (db : Db) (hs : StaticSorted db) (t : PtType) (idx cls : Nat) (hk : KeysLt db) :
    KeysLt (db.add t idx cls).1 := fun u p hp => by
  rcases (addCfg_frame db hs t _ cls _ _ _).2.2 u p hp with h | ⟨_, h, _⟩
  · exact hk u p h
  · rw [h]; exact Nat.mod_lt _ (by decide)

theorem keysLt_step (db : Db) (op : DbOp) (hs : StaticSorted db) (hk : KeysLt db) : KeysLt (DbProofs.step db op) := by
  cases op with
  | add t idx cls => exact add_keysLt db hs t idx cls hk
  | _ => exact CfgSame.keysLt (step_cfg db _ (by intro _ _ _ h; cases h)) hk

/-- `2 ≤ db.selCap`: room for the two class-0 selections -/
def Class0Db (db : Db) : Prop := StaticSorted db ∧ PairDb db ∧ 2 ≤ db.selCap ∧ KeysLt db

theorem class0Db_step (db : Db) (op : DbOp) (hop : ∀ t idx cls, op = .add t idx cls → t = .binary ∨ t = .analog)
    (h : Class0Db db) : Class0Db (DbProofs.step db op) := by
  refine ⟨sorted_step db op h.1, pairDb_step db op hop h.1 h.2.1, ?_, keysLt_step db op h.1 h.2.2.2⟩
  cases op with
  | add t idx cls => exact Nat.le_trans h.2.2.1 (Nat.le_of_eq (add_selCap db t idx cls).symm)
  | _ => exact Nat.le_trans h.2.2.1 (Nat.le_of_eq (step_cfg db _ (by intro _ _ _ h; cases h)).2.2.symm)

theorem class0Db_inv : DbInv Class0Db where
  select db hd h := class0Db_step db (.select hd) (fun _ _ _ e => by cases e) h
  write db cap h := class0Db_step db (.write cap) (fun _ _ _ e => by cases e) h
  unsol db c1 c2 c3 cap h := class0Db_step db (.unsol c1 c2 c3 cap) (fun _ _ _ e => by cases e) h
  clear db h := class0Db_step db .clear (fun _ _ _ e => by cases e) h
  reset db h := class0Db_step db .reset (fun _ _ _ e => by cases e) h
  update db t idx v f tm h := class0Db_step db (.update t idx v f tm) (fun _ _ _ e => by cases e) h

theorem class0Db_new (n : Nat) (sel : Option Nat) : Class0Db (Db.new (legacyEv n) sel) := by
  refine ⟨new_sorted _ sel, pairDb_new n sel, ?_, ?_⟩
  · unfold Db.new Db.newCfg
    cases sel with
    | none => simp [defaultMaxReadHeaders]
    | some k => simp only [defaultMaxReadHeaders]; omega
  · intro t p hp
    have : (Db.new (legacyEv n) sel).map t = [] := by cases t <;> rfl
    rw [this] at hp; cases hp

theorem class0Db_start (ocfg : OCfg) (n : Nat) : Class0Db (Outstation.start ocfg (legacyEv n)).1.db :=
  class0Db_inv.run (start_db_run ocfg (legacyEv n)) (class0Db_new n none)

def OAddsBinAn : OInput → Prop
  | .add t _ _ => t = .binary ∨ t = .analog
  | _ => True

end Dnp3.Proofs.C02Reach
