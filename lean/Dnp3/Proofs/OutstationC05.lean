import Dnp3.Proofs.OutstationC04
/-!
# C05 — a retransmitted request is answered from memory and never executed twice

Every `Db.*` function is treated as opaque.
-/
namespace Dnp3.Proofs.C05
open Dnp3 Dnp3.Proofs.C04
open Dnp3.Proofs.Frame (repeatSolicited_eq)

/-- the hypotheses of "this fragment is a retransmission of the last recorded non-READ request" -/
structure IsRepeat (s : OState) (f : Frag) (ctrl : AppCtrl) (func : Nat) (objects : Except Nat (List ObjHdr))
    (last : LastReq) : Prop where
  lastReq : s.lastReq = some last
  seq : last.seq = ctrl.seq
  frag : last.frag = f.data
  notConfirm : func ≠ 0
  notRead : func ≠ 1
  unicast : f.broadcast = none
  objectsOk : ∃ hs, objects = .ok hs

theorem IsRepeat.classify {s : OState} {f : Frag} {ctrl : AppCtrl} {func : Nat}
    {objects : Except Nat (List ObjHdr)} {last : LastReq} (h : IsRepeat s f ctrl func objects last) :
    Dnp3.classify s f ctrl func objects = .repeatNonRead last.response := by
  obtain ⟨hs, rfl⟩ := h.objectsOk
  rw [Frame.classify_ok _ _ _ _ h.notConfirm h.unicast, h.lastReq]
  exact (if_pos ⟨h.seq, h.frag⟩).trans (if_neg h.notRead)

/-- **C05.1 (idle path)** -/
theorem repeat_nonread_not_executed_idle {a a' : Acc} {f : Frag} {ctrl : AppCtrl} {func : Nat}
    {objects : Except Nat (List ObjHdr)} {raw : List Nat} {sr : Option Series} {last : LastReq}
    (hr : IsRepeat a.1 f ctrl func objects last)
    (h : handleRequestFromIdle a f ctrl func objects raw = some (a', sr)) :
    ∃ l, a'.2 = a.2 ++ l ∧ ∀ o ∈ l, isExec o = false := by
  obtain ⟨l, hl, -, hrep, -⟩ := (idle_spec h).outs
  exact ⟨l, hl, hrep ⟨_, hr.classify⟩⟩

/-- **C05.1 (any pass)**: idle, solicited confirm wait → `NewRequest` → idle, unsolicited confirm wait, any
    `settle` rounds -/
theorem repeat_nonread_not_executed_pass {a0 c : Acc} {f : Frag} {ctrl : AppCtrl} {func : Nat}
    {objects : Except Nat (List ObjHdr)} {raw : List Nat} {last : LastReq}
    (hp : Pass a0 c) (h0 : ∀ o ∈ a0.2, isExec o = false) (hd : a0.1.deferred = none)
    (hf : a0.1.pending = some f) (hq : parseRequest f.data = .request ctrl func objects raw)
    (hr : IsRepeat a0.1 f ctrl func objects last) :
    ∀ o ∈ c.2, isExec o = false := by
  have hinv := PassInv.of_pass hp (PassInv.start h0)
  rcases hinv.cases with q | ⟨f', ctrl', func', objects', raw', s1, hh⟩
  · exact q.outs
  · have hff : f' = f := by
      have := hh.was; rw [hf] at this; simp at this; exact this.symm
    subst hff
    have hpp := hh.parse
    rw [hq] at hpp
    simp only [ReqParse.request.injEq] at hpp
    obtain ⟨rfl, rfl, rfl, rfl⟩ := hpp
    -- `s1` records a request with the same sequence number and octets (its stored response may differ)
    obtain ⟨last1, hl1, hs1, hf1⟩ :=
      (lrKey_dup (hh.keep1 hd) ctrl.seq f'.data).mpr ⟨last, hr.lastReq, hr.seq, hr.frag⟩
    have hr1 : IsRepeat s1 f' ctrl func objects last1 :=
      ⟨hl1, hs1, hf1, hr.notConfirm, hr.notRead, hr.unicast, hr.objectsOk⟩
    exact hh.rep ⟨_, hr1.classify⟩

/-- **C05.1 (step level)**: stated for the property, and described, as `Props.C05.repeat_nonread_not_executed` -/
theorem repeat_nonread_not_executed (env : OEnv) (s : OState) (src dst : Nat) (data : List Nat) (f : Frag)
    {ctrl : AppCtrl} {func : Nat} {objects : Except Nat (List ObjHdr)} {raw : List Nat} {last : LastReq}
    (hacc : rxAccept env s src dst data = some f)
    (hq : parseRequest data = .request ctrl func objects raw)
    (hd : s.deferred = none)
    (hr : IsRepeat s f ctrl func objects last) :
    ∀ o ∈ (Outstation.step env s (.rx src dst data)).2, isExec o = false := by
  rw [step_rx, hacc]
  dsimp only
  have hdata := (rxAccept_id hacc).2.1
  have hq' : parseRequest f.data = .request ctrl func objects raw := by rw [hdata]; exact hq
  exact repeat_nonread_not_executed_pass (f := f) (last := last) (quiesce_pass _) (by simp) hd rfl hq'
    ⟨hr.lastReq, hr.seq, hr.frag, hr.notConfirm, hr.notRead, hr.unicast, hr.objectsOk⟩

theorem repeatUnsolicited_eq (a : Acc) (r : Resp) :
    repeatUnsolicited a r =
      ({ a.1 with unsolBuf := writeAt a.1.unsolBuf 0 (respHeader r) },
        a.2 ++ [.tx a.1.cfg.master ((writeAt a.1.unsolBuf 0 (respHeader r)).take (max 4 r.size))]) :=
  Frame.repeatUnsolicited_eq a r

/-- **C05.1 / C05.2 (unsolicited confirm wait)**: stated for the property, and described, as `Props.C05.repeat_nonread_unsolwait` -/
theorem repeat_nonread_unsolwait {a : Acc} {f : Frag} {ctrl : AppCtrl} {func : Nat}
    {objects : Except Nat (List ObjHdr)} {raw : List Nat} {last : LastReq} (resp : Resp) (isNull : Bool)
    (hp : a.1.pending = some f) (hq : parseRequest f.data = .request ctrl func objects raw)
    (hm : a.1.cfg.anymaster = true ∨ f.src = a.1.cfg.master)
    (hr : IsRepeat a.1 f ctrl func objects last) :
    unsolWaitOnFragment a resp isNull = .blocked
      (match last.response with
       | some r =>
         ({ (popped a).1 with deferred := none, solBuf := writeAt a.1.solBuf 0 (respHeader r) },
           a.2 ++ [.tx f.src ((writeAt a.1.solBuf 0 (respHeader r)).take (max 4 r.size))])
       | none => ({ (popped a).1 with deferred := none }, a.2)) := by
  have hr' : IsRepeat (popped a).1 f ctrl func objects last :=
    ⟨hr.lastReq, hr.seq, hr.frag, hr.notConfirm, hr.notRead, hr.unicast, hr.objectsOk⟩
  have hc := hr'.classify
  unfold unsolWaitOnFragment
  rw [Skel.popRequest_eq_request hp hq hm]
  dsimp only
  change (match classify (popped a).1 f ctrl func objects with
        | .unsolConfirm seq => _ | .solConfirm _ => _ | .broadcast mode => _ | .malformed e => _
        | .newNonRead hs => _ | .newRead hs => _ | .repeatRead _ hs => _ | .repeatNonRead last => _) = _
  rw [hc]
  dsimp only
  cases last.response <;> rfl

/-- the state `handleRequestFromIdle` answers a repeat in: the stored SELECT's frame id is re-based exactly if
    the fragment is a retransmission of that SELECT (function 3, its sequence number, its object octets) that
    directly follows it (`update_frame_id_on_repeat`); every other field is `s`'s -/
def rebased (s : OState) (f : Frag) (ctrl : AppCtrl) (func : Nat) (raw : List Nat) : OState :=
  match s.select with
  | some sel =>
    if func = 3 ∧ sel.seq = ctrl.seq ∧ (sel.frameId + 1) % 4294967296 = f.id ∧ sel.objects = raw then
      { s with select := some { sel with frameId := f.id } }
    else s
  | none => s

theorem rebased_shape (s : OState) (f : Frag) (ctrl : AppCtrl) (func : Nat) (raw : List Nat) :
    ∃ sel, rebased s f ctrl func raw = { s with select := sel } := by
  unfold rebased
  split
  · split
    · exact ⟨_, rfl⟩
    · exact ⟨s.select, rfl⟩
  · exact ⟨s.select, rfl⟩

theorem idleStage1_repeat {a : Acc} {f : Frag} {ctrl : AppCtrl} {func : Nat}
    {objects : Except Nat (List ObjHdr)} {raw : List Nat} {last : LastReq}
    (hr : IsRepeat a.1 f ctrl func objects last) :
    Skel.idleStage1 a f ctrl func objects raw =
      some ((rebased a.1 f ctrl func raw, a.2), some (last, true)) := by
  have hl : (rebased a.1 f ctrl func raw).lastReq = some last := by
    obtain ⟨sel, h⟩ := rebased_shape a.1 f ctrl func raw
    rw [h]; exact hr.lastReq
  have hlast : (⟨ctrl.seq, f.data, last.response, last.series⟩ : LastReq) = last := by
    rw [← hr.seq, ← hr.frag]
  unfold Skel.idleStage1
  rw [hr.classify]
  show some ((rebased a.1 f ctrl func raw, a.2),
    some ((⟨ctrl.seq, f.data, last.response, (rebased a.1 f ctrl func raw).lastReq.bind (·.series)⟩ : LastReq), true)) = _
  rw [hl]
  show some ((rebased a.1 f ctrl func raw, a.2),
    some ((⟨ctrl.seq, f.data, last.response, last.series⟩ : LastReq), true)) = _
  rw [hlast]

/-- **C05.2 (`repeat_nonread_idle`, idle path; defect D14 is repaired)**: stated for the property, and described, as `Props.C05.repeat_nonread_idle` -/
theorem repeat_nonread_idle {a : Acc} {f : Frag} {ctrl : AppCtrl} {func : Nat}
    {objects : Except Nat (List ObjHdr)} {raw : List Nat} {last : LastReq}
    (hr : IsRepeat a.1 f ctrl func objects last) :
    ∃ a', handleRequestFromIdle a f ctrl func objects raw = some (a', last.series) ∧
      a'.2 = a.2 ++ (match last.response with
        | some r => [.tx f.src ((writeAt a.1.solBuf 0 (respHeader r)).take (max 4 r.size))]
        | none => []) ∧
      a'.1 = { rebased a.1 f ctrl func raw with
                solBuf := match last.response with
                  | some r => writeAt a.1.solBuf 0 (respHeader r)
                  | none => a.1.solBuf } ∧
      a'.1.lastReq = a.1.lastReq ∧ a'.1.lastBroadcast = a.1.lastBroadcast ∧ a'.1.restart = a.1.restart ∧
      a'.1.db = a.1.db ∧ a'.1.deferred = a.1.deferred ∧ a'.1.mode = a.1.mode ∧
      ∀ o ∈ a'.2, o ∈ a.2 ∨ isExec o = false := by
  obtain ⟨sel, hsh⟩ := rebased_shape a.1 f ctrl func raw
  rw [Skel.handleRequestFromIdle_eq, idleStage1_repeat hr, hsh]
  cases hresp : last.response with
  | none =>
    simp only [Skel.idleStage2, hresp]
    exact ⟨_, rfl, (List.append_nil _).symm, by rw [← hr.lastReq], hr.lastReq.symm, rfl, rfl, rfl, rfl, rfl,
      fun o ho => .inl ho⟩
  | some r =>
    simp only [Skel.idleStage2, hresp, if_true, repeatSolicited_eq]
    exact ⟨_, rfl, rfl, by rw [← hr.lastReq], hr.lastReq.symm, rfl, rfl, rfl, rfl, rfl,
      fun o ho => (List.mem_append.mp ho).imp id (fun h => by rw [List.mem_singleton.mp h]; rfl)⟩

/-- **C05.2 (`repeat_nonread_same_bytes_idle`)**: stated for the property, and described, as `Props.C05.repeat_nonread_same_bytes_idle` -/
theorem repeat_nonread_same_bytes_idle {a : Acc} {f : Frag} {ctrl : AppCtrl} {func : Nat}
    {objects : Except Nat (List ObjHdr)} {raw : List Nat} {last : LastReq} (r : Resp)
    (b0 : List Nat) (a00 : Acc) (dst0 : Nat)
    (hr : IsRepeat a.1 f ctrl func objects last) (hresp : last.response = some r)
    (horig : a00.1.solBuf = b0)                                -- the original transmission was from `b0`
    (hbuf : a.1.solBuf = (repeatSolicited a00 dst0 r).1.solBuf)  -- and the buffer was not overwritten since
    : ∃ bytes a', (repeatSolicited a00 dst0 r).2 = a00.2 ++ [.tx dst0 bytes] ∧
        handleRequestFromIdle a f ctrl func objects raw = some (a', last.series) ∧
        a'.2 = a.2 ++ [.tx f.src bytes] ∧ a'.1.solBuf = a.1.solBuf ∧ a'.1.lastReq = a.1.lastReq := by
  obtain ⟨a', h1, h2, h3, h4, -⟩ := repeat_nonread_idle (raw := raw) hr
  obtain ⟨sel, hsh⟩ := rebased_shape a.1 f ctrl func raw
  refine ⟨(writeAt b0 0 (respHeader r)).take (max 4 r.size), a', by rw [repeatSolicited_eq, horig], h1, ?_, ?_, h4⟩
  · rw [h2, hresp]
    dsimp only
    rw [hbuf, repeatSolicited_eq, horig]
    dsimp only
    rw [Frame.writeAt_zero_idem]
  · rw [h3, hresp, hsh]
    dsimp only
    rw [hbuf, repeatSolicited_eq, horig]
    dsimp only
    rw [Frame.writeAt_zero_idem]

/-- the trace that exhibited defect D14: DELAY MEASURE seq 0, then a broadcast RECORD CURRENT TIME, then DELAY MEASURE seq 0
    again (a retransmission, handled from idle) -/
def d14Inputs : List OInput := [.rx 1 1024 [0xC0, 23], .rx 1 0xFFFF [0xC1, 24], .rx 1 1024 [0xC0, 23]]

/-- the witness of finding D31, the residue of D14 (not of D27, whatever the name suggests: that finding concerns
    `HeaderWriter::write_attribute`): DISABLE UNSOLICITED seq 0 whose object header is truncated (`3C 02`), then a
    broadcast RECORD CURRENT TIME, then the same octets again -/
def d27Inputs : List OInput :=
  [.rx 1 1024 [0xC0, 21, 0x3C, 0x02], .rx 1 0xFFFF [0xC1, 24], .rx 1 1024 [0xC0, 21, 0x3C, 0x02]]

example : classify (Outstation.start {} 10).1 ⟨0, 1, none, [0xC0, 21, 0x3C, 0x02]⟩ (AppCtrl.ofNat 0xC0) 21 (.error 4) =
    .malformed 4 :=
  Frame.classify_malformed (by decide) rfl

/-- what `Props.C05.unsolWaitOnFragment_keeps_unsolBuf` says of a fragment handled in the unsolicited confirm wait -/
structure KeepsUnsol (a a' : Acc) : Prop where
  unsolBuf : a'.1.unsolBuf = a.1.unsolBuf
  mode : a'.1.mode = a.1.mode ∨ a'.1.mode = .dead

theorem KeepsUnsol.of_shape {a : Acc} {s' : OState} {l : List OOut}
    (h1 : s'.unsolBuf = a.1.unsolBuf) (h2 : s'.mode = a.1.mode) : KeepsUnsol a (s', l) := ⟨h1, .inl h2⟩

/-- a state that recorded DELAY MEASURE seq 0 as its last request -/
def exS : OState := { OState.init {} 0 with lastReq := some ⟨0, [0xC0, 23], some (emptySolicited 0 0), none⟩ }
def exF : Frag := ⟨0, 1, none, [0xC0, 23]⟩

example : IsRepeat exS exF (AppCtrl.ofNat 0xC0) 23 (.ok []) ⟨0, [0xC0, 23], some (emptySolicited 0 0), none⟩ :=
  ⟨rfl, by decide, rfl, by decide, by decide, rfl, ⟨[], rfl⟩⟩
example : rxAccept {} exS 1 1024 [0xC0, 23] = some exF := by rfl
example : parseRequest [0xC0, 23] = .request (AppCtrl.ofNat 0xC0) 23 (.ok []) [] := by rfl
example : exS.deferred = none := rfl
example : exS.cfg.anymaster = true ∨ exF.src = exS.cfg.master := .inr rfl

example := repeat_nonread_idle (a := (exS, [])) (f := exF) (ctrl := AppCtrl.ofNat 0xC0) (func := 23)
  (objects := .ok []) (raw := []) (last := ⟨0, [0xC0, 23], some (emptySolicited 0 0), none⟩)
  ⟨rfl, by decide, rfl, by decide, by decide, rfl, ⟨[], rfl⟩⟩
-- in the state right after the original transmission from `exS`
example := repeat_nonread_same_bytes_idle
  (a := ((repeatSolicited (exS, []) 1 (emptySolicited 0 0)).1, [])) (f := exF) (ctrl := AppCtrl.ofNat 0xC0) (func := 23)
  (objects := .ok []) (raw := []) (last := ⟨0, [0xC0, 23], some (emptySolicited 0 0), none⟩)
  (emptySolicited 0 0) exS.solBuf (exS, []) 1
  ⟨rfl, by decide, rfl, by decide, by decide, rfl, ⟨[], rfl⟩⟩ rfl rfl rfl

/-- `unsol_retry_identical` / `repeat_nonread_same_bytes_unsolwait` / `repeat_nonread_same_bytes_idle`: the
    "buffer not overwritten" hypothesis holds e.g. directly after the original transmission -/
example (a00 : Acc) (resp : Resp) :
    (repeatUnsolicited a00 resp).1.unsolBuf = (repeatUnsolicited a00 resp).1.unsolBuf := rfl
example : (some 3 : Option Nat) ≠ some 0 := by decide

/-- **C05.4 (`resend_is_stored_fragment`)**: stated for the property, and described, as `Props.C05.resend_is_stored_fragment` -/
theorem resend_is_stored_fragment {a : Acc} {f : Frag} {ctrl : AppCtrl}
    {objects : Except Nat (List ObjHdr)} {raw : List Nat} {last : LastReq} {hs : List ObjHdr} {r : Resp}
    (series : Series) (deadline : Nat) (cont : SolCont) (a00 : Acc) (dst0 : Nat)
    (hp : a.1.pending = some f) (hq : parseRequest f.data = .request ctrl 1 objects raw)
    (hm : a.1.cfg.anymaster = true ∨ f.src = a.1.cfg.master)
    (hl : a.1.lastReq = some last) (hseq : last.seq = ctrl.seq) (hfrag : last.frag = f.data)
    (hu : f.broadcast = none) (hobj : objects = .ok hs) (hresp : last.response = some r)
    (hbuf : a.1.solBuf = (repeatSolicited a00 dst0 r).1.solBuf) :
    ∃ bytes a', (repeatSolicited a00 dst0 r).2 = a00.2 ++ [.tx dst0 bytes] ∧
      solWaitOnFragment a series deadline cont = .blocked a' ∧
      a'.2 = a.2 ++ [.tx f.src bytes] ∧ a'.1.solBuf = a.1.solBuf ∧ a'.1.lastReq = a.1.lastReq := by
  have hc : classify (onLinkActivity a.1) f ctrl 1 objects = .repeatRead (some r) hs := by
    subst hobj
    rw [Frame.classify_ok _ _ _ _ (by decide) hu, show (onLinkActivity a.1).lastReq = some last from hl, ← hresp]
    exact (if_pos ⟨hseq, hfrag⟩).trans (if_pos rfl)
  refine ⟨(writeAt a00.1.solBuf 0 (respHeader r)).take (max 4 r.size), ?_⟩
  unfold solWaitOnFragment
  rw [Skel.popRequest_eq_request hp hq hm]
  dsimp only
  rw [hc]
  dsimp only
  have e : (onLinkActivity a.1).solBuf = writeAt a00.1.solBuf 0 (respHeader r) := hbuf
  refine ⟨_, rfl, rfl, ?_, ?_, rfl⟩
  · simp [repeatSolicited_eq, e, Frame.writeAt_zero_idem]
  · simp only [repeatSolicited_eq]
    rw [e, Frame.writeAt_zero_idem]
    exact hbuf.symm

theorem clearWrittenEvents_shape (a : Acc) :
    ∃ db l, clearWrittenEvents a = ({ a.1 with db := db }, a.2 ++ l) ∧ ∀ o ∈ l, ∃ c, o = OOut.cb c := by
  refine ⟨_, _, Frame.clearWrittenEvents_eq a, fun o ho => ?_⟩
  simp only [List.mem_append, List.mem_singleton, List.mem_map] at ho
  rcases ho with (rfl | ⟨_, _, rfl⟩) | rfl <;> exact ⟨_, rfl⟩

/-- the accumulator the session continues from after the continuation fragment `r2` was transmitted
    from `a00` to `dst` -/
def afterContinuation (a00 : Acc) (dst : Nat) (r2 : Resp) : Acc :=
  ({ (repeatSolicited a00 dst r2).1 with
      lastReq := (repeatSolicited a00 dst r2).1.lastReq.map (fun lr => { lr with response := some r2 }) },
    (repeatSolicited a00 dst r2).2)

/-- a matching CONFIRM on a non-final fragment, step by step; the task dies when the IIN is not computable -/
theorem continuation_shape {a : Acc} {f : Frag} {ctrl : AppCtrl} {objects : Except Nat (List ObjHdr)}
    {raw : List Nat} (series : Series) (dl : Nat) (cont : SolCont)
    (hp : a.1.pending = some f) (hq : parseRequest f.data = .request ctrl 0 objects raw)
    (hm : a.1.cfg.anymaster = true ∨ f.src = a.1.cfg.master)
    (hu : ctrl.uns = false) (hs : ctrl.seq = series.ecsn) (hfin : series.fin = false) :
    (∃ a1, solWaitOnFragment a series dl cont = die a1) ∨
    ∃ (a00 : Acc) (r2 : Resp) (next : Option Series) (l : List OOut),
      a00.2 = a.2 ++ l ∧ (∀ o ∈ l, ∃ c, o = OOut.cb c) ∧ a00.1.lastReq = a.1.lastReq ∧
      solWaitOnFragment a series dl cont =
        (match next with
         | none => resumeAfterSol (afterContinuation a00 f.src r2) cont
         | some sr => .blocked ({ (afterContinuation a00 f.src r2).1 with
             mode := .solWait sr ((afterContinuation a00 f.src r2).1.now +
               (afterContinuation a00 f.src r2).1.cfg.ctimeout) cont }, (afterContinuation a00 f.src r2).2)) := by
  have hpop := Skel.popRequest_eq_request hp hq hm
  obtain ⟨y, hc, e⟩ := Skel.solWaitOnFragment_cases a series dl cont
  rw [e]
  -- of the leaves of the wait only `confirmed` fits the fragment
  have hcc : Skel.SolConfCase (clearWrittenEvents ({ onLinkActivity a.1 with pending := none, lastBroadcast := none },
      a.2 ++ [.cb (.solConfirmed series.ecsn)])) series cont f.src y := by
    obtain ⟨s, p, h, hc⟩ := hc
    rw [hpop] at h
    cases h
    cases hc with
    | newRequest hf => exact absurd rfl hf
    | unsolConfirm hu' => rw [hu] at hu'; cases hu'
    | wrongSeq _ hne => exact absurd hs hne
    | confirmed _ _ hcc => exact hcc
  obtain ⟨db, l, hcw, hl⟩ := clearWrittenEvents_shape
    ({ onLinkActivity a.1 with pending := none, lastBroadcast := none }, a.2 ++ [.cb (.solConfirmed series.ecsn)])
  generalize clearWrittenEvents _ = a5 at hcw hcc
  -- the continuation fragment goes out by `repeatSolicited` from `(afterIin s6, a5.2)`
  have key : ∀ {s6 r6 next a7 r7}, formatReadResponse a5.1 false (seq4Next series.ecsn) 0 = (s6, r6, next) →
      writeSolicited (s6, a5.2) f.src r6 = some (a7, r7) →
      ∃ a00 l, a00.2 = a.2 ++ l ∧ (∀ o ∈ l, ∃ c, o = OOut.cb c) ∧ a00.1.lastReq = a.1.lastReq ∧
        ({ a7.1 with lastReq := a7.1.lastReq.map (fun lr => { lr with response := some r7 }) }, a7.2) =
          afterContinuation a00 f.src r7 := by
    intro s6 r6 next a7 r7 hf hw
    obtain ⟨_, _, _, _, _, rfl⟩ := Frame.writeSolicited_eq hw
    have h6 : s6 = (formatReadResponse a5.1 false (seq4Next series.ecsn) 0).1 := by rw [hf]
    refine ⟨(Iin.afterIin s6, a5.2), .cb (.solConfirmed series.ecsn) :: l, by rw [hcw]; simp, ?_, ?_, rfl⟩
    · intro o ho
      rcases List.mem_cons.mp ho with h | h
      · exact ⟨_, h⟩
      · exact hl o h
    · rw [Iin.afterIin_eq, h6, hcw]; rfl
  cases hcc with
  | done hf => rw [hfin] at hf; cases hf
  | die s6 r6 next _ _ _ => exact .inl ⟨a5, rfl⟩
  | last s6 r6 a7 r7 _ hf hw =>
    obtain ⟨a00, l', h1, h2, h3, e⟩ := key hf hw
    exact .inr ⟨a00, r7, none, l', h1, h2, h3, by rw [Skel.run_resumePt, e]⟩
  | next s6 r6 sr' a7 r7 _ hf hw =>
    obtain ⟨a00, l', h1, h2, h3, e⟩ := key hf hw
    exact .inr ⟨a00, r7, some sr', l', h1, h2, h3, by rw [← e]; rfl⟩

/-- **C05.4 (`continuation_is_stored`, the D5 repair)**: stated for the property, and described, as `Props.C05.continuation_is_stored` -/
theorem continuation_is_stored {a : Acc} {f : Frag} {ctrl : AppCtrl} {objects : Except Nat (List ObjHdr)}
    {raw : List Nat} (series : Series) (dl : Nat) (cont : SolCont)
    (hp : a.1.pending = some f) (hq : parseRequest f.data = .request ctrl 0 objects raw)
    (hm : a.1.cfg.anymaster = true ∨ f.src = a.1.cfg.master)
    (hu : ctrl.uns = false) (hs : ctrl.seq = series.ecsn) (hfin : series.fin = false) :
    (∃ a1, solWaitOnFragment a series dl cont = die a1) ∨
    ∃ (a00 : Acc) (r2 : Resp) (bytes : List Nat) (a2 : Acc) (next : Option Series),
      (repeatSolicited a00 f.src r2).2 = a00.2 ++ [.tx f.src bytes] ∧
      a2.2 = a00.2 ++ [.tx f.src bytes] ∧
      a2.1.solBuf = (repeatSolicited a00 f.src r2).1.solBuf ∧
      a2.1.lastReq = a.1.lastReq.map (fun lr => { lr with response := some r2 }) ∧
      solWaitOnFragment a series dl cont =
        (match next with
         | none => resumeAfterSol a2 cont
         | some sr => .blocked ({ a2.1 with mode := .solWait sr (a2.1.now + a2.1.cfg.ctimeout) cont }, a2.2)) := by
  rcases continuation_shape series dl cont hp hq hm hu hs hfin with h | ⟨a00, r2, next, l, -, -, hlr, he⟩
  · exact .inl h
  · refine .inr ⟨a00, r2, (writeAt a00.1.solBuf 0 (respHeader r2)).take (max 4 r2.size),
      afterContinuation a00 f.src r2, next, rfl, rfl, rfl, ?_, he⟩
    rw [← hlr]; rfl

/-- **C05.4 (`resend_is_awaited_fragment`, full statement)**: stated for the property, and described, as `Props.C05.resend_is_awaited_fragment` -/
theorem resend_is_awaited_fragment {a : Acc} {f : Frag} {ctrl : AppCtrl} {objects : Except Nat (List ObjHdr)}
    {raw : List Nat} {last : LastReq} (series : Series) (dl : Nat) (cont : SolCont)
    (hp : a.1.pending = some f) (hq : parseRequest f.data = .request ctrl 0 objects raw)
    (hm : a.1.cfg.anymaster = true ∨ f.src = a.1.cfg.master)
    (hu : ctrl.uns = false) (hs : ctrl.seq = series.ecsn) (hfin : series.fin = false)
    (hl : a.1.lastReq = some last) :
    (∃ a1, solWaitOnFragment a series dl cont = die a1) ∨
    ∃ (bytes : List Nat) (a2 : Acc) (next : Option Series),
      (∃ l, a2.2 = a.2 ++ l ++ [.tx f.src bytes] ∧ ∀ o ∈ l, ∃ c, o = OOut.cb c) ∧
      solWaitOnFragment a series dl cont =
        (match next with
         | none => resumeAfterSol a2 cont
         | some sr => .blocked ({ a2.1 with mode := .solWait sr (a2.1.now + a2.1.cfg.ctimeout) cont }, a2.2)) ∧
      ∀ (b : Acc) (f' : Frag) (ctrl' : AppCtrl) (hs' : List ObjHdr) (raw' : List Nat)
        (series' : Series) (deadline' : Nat) (cont' : SolCont),
        b.1.solBuf = a2.1.solBuf → b.1.lastReq = a2.1.lastReq →
        b.1.pending = some f' → parseRequest f'.data = .request ctrl' 1 (.ok hs') raw' →
        (b.1.cfg.anymaster = true ∨ f'.src = b.1.cfg.master) → f'.broadcast = none →
        last.seq = ctrl'.seq → last.frag = f'.data →
        ∃ b', solWaitOnFragment b series' deadline' cont' = .blocked b' ∧
          b'.2 = b.2 ++ [.tx f'.src bytes] ∧ b'.1.solBuf = b.1.solBuf ∧ b'.1.lastReq = b.1.lastReq := by
  rcases continuation_shape series dl cont hp hq hm hu hs hfin with h | ⟨a00, r2, next, l, ho, hlcb, hlr, he⟩
  · exact .inl h
  · refine .inr ⟨(writeAt a00.1.solBuf 0 (respHeader r2)).take (max 4 r2.size), afterContinuation a00 f.src r2, next,
      ⟨l, by rw [← ho]; rfl, hlcb⟩, he, ?_⟩
    intro b f' ctrl' hs' raw' series' deadline' cont' hbuf hblr hp' hq' hm' hu' hseq' hfrag'
    have hl' : b.1.lastReq = some { last with response := some r2 } := by
      rw [hblr]
      show a00.1.lastReq.map _ = _
      rw [hlr, hl]
      rfl
    obtain ⟨bytes', b', e1, e2, e3, e4, e5⟩ :=
      resend_is_stored_fragment (last := { last with response := some r2 }) (hs := hs') (r := r2)
        series' deadline' cont' a00 f.src hp' hq' hm' hl' hseq' hfrag' hu' rfl rfl hbuf
    have hbytes : bytes' = (writeAt a00.1.solBuf 0 (respHeader r2)).take (max 4 r2.size) := by
      have : a00.2 ++ [OOut.tx f.src _] = a00.2 ++ [.tx f.src bytes'] := e1
      simpa using this.symm
    subst hbytes
    exact ⟨b', e2, e3, e4, e5⟩

/-- READ class 1, sequence number 0 -/
def exRead : Frag := ⟨0, 1, none, [0xC0, 1, 60, 2, 6]⟩
/-- a stored response fragment: FIR, not FIN, CON, sequence 0, six octets -/
def exResp : Resp := { ctrl := ⟨true, false, true, false, 0⟩, func := 0x81, size := 6 }
/-- the accumulator `exResp` was transmitted from -/
def exA00 : Acc := (OState.init {} 0, [])
/-- in the confirm wait of `exResp`, the READ that was answered by it arrives again -/
def exWait : Acc :=
  ({ (repeatSolicited exA00 1 exResp).1 with
      pending := some exRead, lastReq := some ⟨0, exRead.data, some exResp, some ⟨0, false⟩⟩ }, [])

example : ∃ bytes a', (repeatSolicited exA00 1 exResp).2 = exA00.2 ++ [.tx 1 bytes] ∧
    solWaitOnFragment exWait ⟨0, false⟩ 5000 .fromRequest = .blocked a' ∧
    a'.2 = exWait.2 ++ [.tx exRead.src bytes] ∧ a'.1.solBuf = exWait.1.solBuf ∧
    a'.1.lastReq = exWait.1.lastReq :=
  resend_is_stored_fragment (a := exWait) (f := exRead) (ctrl := AppCtrl.ofNat 0xC0)
    (raw := [60, 2, 6]) (last := ⟨0, exRead.data, some exResp, some ⟨0, false⟩⟩) (r := exResp)
    ⟨0, false⟩ 5000 .fromRequest exA00 1 rfl (by rfl) (.inr rfl) rfl (by decide) rfl rfl rfl rfl rfl

/-- CONFIRM, sequence number 0 -/
def exConfirm : Frag := ⟨1, 1, none, [0xC0, 0]⟩
/-- in the confirm wait of a non-final fragment with sequence number 0, the CONFIRM arrives -/
def exWaitC : Acc := ({ exWait.1 with pending := some exConfirm }, [])

-- the hypotheses of `continuation_is_stored` / `resend_is_awaited_fragment` hold for `exWaitC` with the
-- series `⟨0, false⟩`
example : exWaitC.1.pending = some exConfirm := rfl
example : parseRequest exConfirm.data = .request (AppCtrl.ofNat 0xC0) 0 (.ok []) [] := by rfl
example : exWaitC.1.cfg.anymaster = true ∨ exConfirm.src = exWaitC.1.cfg.master := .inr rfl
example : (AppCtrl.ofNat 0xC0).uns = false := by decide
example : (AppCtrl.ofNat 0xC0).seq = (⟨0, false⟩ : Series).ecsn := by decide
example : exWaitC.1.lastReq = some ⟨0, exRead.data, some exResp, some ⟨0, false⟩⟩ := rfl
example := continuation_is_stored (a := exWaitC) (f := exConfirm) (ctrl := AppCtrl.ofNat 0xC0)
  (objects := .ok []) (raw := []) ⟨0, false⟩ 5000 .fromRequest rfl (by rfl) (.inr rfl) (by decide) (by decide) rfl
example := resend_is_awaited_fragment (a := exWaitC) (f := exConfirm) (ctrl := AppCtrl.ofNat 0xC0)
  (objects := .ok []) (raw := []) (last := ⟨0, exRead.data, some exResp, some ⟨0, false⟩⟩)
  ⟨0, false⟩ 5000 .fromRequest rfl (by rfl) (.inr rfl) (by decide) (by decide) rfl rfl
-- and the repeated READ `exRead` satisfies the premises of the `∀ b f' …` part of `resend_is_awaited_fragment`
example : parseRequest exRead.data =
    .request (AppCtrl.ofNat 0xC0) 1 (.ok [{ group := 60, var := 2, qual := 6 }]) [60, 2, 6] := by rfl
example : exRead.broadcast = none := rfl
example : (0 : Nat) = (AppCtrl.ofNat 0xC0).seq := by decide

end Dnp3.Proofs.C05
