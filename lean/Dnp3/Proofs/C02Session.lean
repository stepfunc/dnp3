import Dnp3.Model.Outstation
import Dnp3.Proofs.C02Static
import Dnp3.Proofs.OutstationSkel
/-!
# C02 — the outstation session model around one response fragment

A fragment prepared by `formatReadResponse` and sent by `writeSolicited` is
`[control, 0x81, iin1, iin2] ++` the octets `Db.writeResponse` produced (`formatRead_written`);
`read_from_idle` is `handleRequestFromIdle` on a READ, `unsol_from_ready` the same for an unsolicited
response sent from `ready`.  Then: what `dbSelectAll` selects for class 0 and for any list of
READ headers, in terms of the database (same event cores, sorted maps, same keys, objects of existing
points only), which the multi-fragment series reuses.
-/
namespace Dnp3.Proofs.C02Session
open Dnp3 Dnp3.DbM

theorem writeAt_hdr (buf hdr bytes : List Nat) (hl : hdr.length = 4) (hb : 4 + bytes.length ≤ buf.length) :
    (writeAt (writeAt buf 4 bytes) 0 hdr).take (max 4 (4 + bytes.length)) = hdr ++ bytes := by
  unfold writeAt
  have h1 : (buf.take 4).length = 4 := by rw [List.length_take]; omega
  simp only [List.take_zero, List.nil_append, Nat.zero_add, hl]
  rw [List.append_assoc, List.drop_left' h1]
  have h2 : max 4 (4 + bytes.length) = (hdr ++ bytes).length := by
    rw [List.length_append, hl]; omega
  rw [h2, ← List.append_assoc, List.take_left' rfl]

section
open Dnp3.Proofs.Iin Dnp3.Proofs.Frame Dnp3.Proofs.Skel

/-- IIN2 bits 0–2, the request errors, are clear: `i2 &&& 7 = 0` here and in the C02 series is `Master.badIin2 i2 = false`, what
    the master demands of a response it accepts (`processReadResponse_accept_iff`) -/
theorem iin2Of_low (o c : Bool) : iin2Of o c &&& 7 = 0 := by
  cases o <;> cases c <;> rfl

theorem formatRead_written (s : OState) (outs : List OOut) (fir : Bool) (seq iin2 dst : Nat)
    (hbuf : s.cfg.sol ≤ s.solBuf.length) (h4 : 4 ≤ s.cfg.sol) (a2 : Acc) (r2 : Resp)
    (hw : writeSolicited ((formatReadResponse s fir seq iin2).1, outs) dst (formatReadResponse s fir seq iin2).2.1 =
      some (a2, r2)) :
    ∃ con i1 i2, i2 &&& 7 = 0 ∧
      r2.ctrl = ⟨fir, (s.db.writeResponse (s.cfg.sol - 4)).2.2.2, con, false, seq⟩ ∧
      a2.2 = outs ++ [.tx dst ([(⟨fir, (s.db.writeResponse (s.cfg.sol - 4)).2.2.2, con, false, seq⟩ : AppCtrl).toNat,
          0x81, i1, iin2 ||| i2] ++ (s.db.writeResponse (s.cfg.sol - 4)).2.1)] ∧
      a2.1.db = (s.db.writeResponse (s.cfg.sol - 4)).1 ∧
      (s.lastBroadcast = none →
        con = ((s.db.writeResponse (s.cfg.sol - 4)).2.2.1 || !(s.db.writeResponse (s.cfg.sol - 4)).2.2.2)) ∧
      a2.1.cfg = s.cfg ∧ a2.1.pending = s.pending ∧ a2.1.solBuf.length = s.solBuf.length ∧
      a2.1.mode = s.mode ∧ a2.1.now = s.now := by
  have hcap := DbProofs.response_within_capacity s.db (s.cfg.sol - 4)
  rw [formatReadResponse_eq] at hw
  generalize s.db.writeResponse (s.cfg.sol - 4) = w at hw hcap ⊢
  obtain ⟨c1, c2, c3, _, hr, rfl⟩ := writeSolicited_eq hw
  rw [afterIin_eq]
  dsimp only at hr ⊢
  have hlen : 4 + w.2.1.length ≤ s.solBuf.length := by omega
  have hsz : r2.size = 4 + w.2.1.length := hr ▸ rfl
  refine ⟨r2.ctrl.con, r2.iin1, iin2Of w.1.isOverflown (s.script.appIin.testBit 3), iin2Of_low _ _, ?_, ?_, rfl, ?_,
    rfl, rfl, ?_, rfl, rfl⟩
  · rw [hr]
  · show _ ++ [OOut.tx dst ((writeAt (writeAt s.solBuf 4 w.2.1) 0 (respHeader r2)).take (max 4 r2.size))] = _
    rw [hsz, writeAt_hdr _ _ _ rfl hlen, hr]
    rfl
  · intro hnb
    rw [hr, hnb]; exact Bool.or_false _
  · show (writeAt (writeAt s.solBuf 4 w.2.1) 0 (respHeader r2)).length = _
    rw [writeAt_length _ _ _ (by rw [writeAt_length _ _ _ (by omega)]; simp [respHeader]; omega),
      writeAt_length _ _ _ (by omega)]

theorem read_from_idle (a : Acc) (f : Frag) (ctrl : AppCtrl) (func : Nat) (objects : Except Nat (List ObjHdr))
    (raw : List Nat) (hs : List ObjHdr)
    (hcl : classify a.1 f ctrl func objects = .newRead hs ∨ ∃ x, classify a.1 f ctrl func objects = .repeatRead x hs)
    (hbuf : a.1.cfg.sol ≤ a.1.solBuf.length) (h4 : 4 ≤ a.1.cfg.sol)
    (a' : Acc) (series : Option Series)
    (h : handleRequestFromIdle a f ctrl func objects raw = some (a', series)) :
    ∃ con i1 i2, i2 &&& 7 = 0 ∧
      a'.2 = a.2 ++ [.tx f.src ([(⟨true, ((dbSelectAll a.1.db hs).1.writeResponse (a.1.cfg.sol - 4)).2.2.2, con, false,
          ctrl.seq⟩ : AppCtrl).toNat, 0x81, i1, (dbSelectAll a.1.db hs).2 ||| i2] ++
        ((dbSelectAll a.1.db hs).1.writeResponse (a.1.cfg.sol - 4)).2.1)] ∧
      a'.1.db = ((dbSelectAll a.1.db hs).1.writeResponse (a.1.cfg.sol - 4)).1 ∧
      (a.1.lastBroadcast = none →
        con = (((dbSelectAll a.1.db hs).1.writeResponse (a.1.cfg.sol - 4)).2.2.1 ||
          !((dbSelectAll a.1.db hs).1.writeResponse (a.1.cfg.sol - 4)).2.2.2) ∧
        series = if con = true then some ⟨ctrl.seq, ((dbSelectAll a.1.db hs).1.writeResponse (a.1.cfg.sol - 4)).2.2.2⟩
          else none) ∧
      a'.1.cfg = a.1.cfg ∧ a'.1.pending = a.1.pending ∧ a'.1.solBuf.length = a.1.solBuf.length ∧
      a'.1.mode = a.1.mode ∧ a'.1.now = a.1.now := by
  have h1 : idleStage1 a f ctrl func objects raw =
      (let fr := formatReadResponse { a.1 with db := (dbSelectAll a.1.db hs).1 } true ctrl.seq (dbSelectAll a.1.db hs).2
       some ((fr.1, a.2), some (⟨ctrl.seq, f.data, some fr.2.1, fr.2.2⟩, false))) := by
    unfold idleStage1
    rcases hcl with hcl | ⟨x, hcl⟩ <;> rw [hcl]
  rw [handleRequestFromIdle_eq, h1] at h
  simp only [idleStage2, Bool.false_eq_true, if_false] at h
  generalize hws : writeSolicited _ _ _ = ws at h
  cases ws with
  | none => cases h
  | some p =>
    obtain ⟨a2, r2⟩ := p
    simp only [Option.some.injEq, Prod.mk.injEq] at h
    obtain ⟨rfl, rfl⟩ := h
    obtain ⟨con, i1, i2, hi2, hct, htx, hdb, hcon, hrest⟩ := formatRead_written { a.1 with db := (dbSelectAll a.1.db hs).1 } a.2 true ctrl.seq
      (dbSelectAll a.1.db hs).2 f.src hbuf h4 a2 r2 hws
    refine ⟨con, i1, i2, hi2, htx, hdb, fun hnb => ⟨hcon hnb, ?_⟩, hrest⟩
    rw [formatReadResponse_eq, hct, hcon hnb]
    dsimp only
    generalize (dbSelectAll a.1.db hs).1.writeResponse (a.1.cfg.sol - 4) = w
    obtain ⟨db2, bytes, hasEv, complete⟩ := w
    cases hasEv <;> cases complete <;> rfl

end

def class0Hdr : ObjHdr := ⟨60, 1, 0x06, 0, 0, []⟩

/-- `hempty`: the database holds binary and analog inputs only (two selections at most) -/
theorem selectClass0_iin (db : Db) (hs : DbProofs.StaticSorted db) (hq : db.queue = []) (hcap : 2 ≤ db.selCap)
    (hempty : ∀ t, t ≠ .binary → t ≠ .analog → db.map t = []) : db.selectClass0.2 = 0 := by
  rw [C02Static.selectClass0_foldl]
  obtain ⟨_, _, h2, _⟩ := C02Static.czFold_spec Gen.DbT.Ty.all (by decide) (db, 0) rfl hs
    (C02Static.czNeed_pair db hq hcap hempty)
  exact h2

/-- `DatabaseHandle::select` for the single header g60v1 / 0x06 is `select_class_zero` -/
theorem dbSelectAll_class0 (db : Db) :
    (dbSelectAll db [class0Hdr]).1 = db.selectClass0.1 ∧ (dbSelectAll db [class0Hdr]).2 = db.selectClass0.2 ||| 0 := by
  simp only [dbSelectAll, show toReadHdr class0Hdr = ⟨60, 1, 6, 0, 0⟩ from rfl, C02Static.select_class0]
  exact ⟨trivial, trivial⟩

theorem dbSelectAll_inv {P : Db → Prop} (hsel : ∀ (db : Db) (h : ReadHdr), P db → P (db.select h).1) (hs : List ObjHdr) :
    ∀ db : Db, P db → P (dbSelectAll db hs).1 := by
  induction hs with
  | nil => exact fun _ h => h
  | cons h hs ih => exact fun db hp => ih _ (hsel db (toReadHdr h) hp)

theorem dbSelectAll_core (hs : List ObjHdr) (db : Db) :
    (dbSelectAll db hs).1.events.map DbProofs.core = db.events.map DbProofs.core :=
  dbSelectAll_inv (P := fun d => d.events.map DbProofs.core = db.events.map DbProofs.core)
    (fun d h e => ((DbProofs.select_sel d h).1.map_eq DbProofs.core fun _ _ hs => hs.core.1).trans e) hs db rfl

theorem dbSelectAll_keys (hs : List ObjHdr) (db : Db) : DbProofs.KeysSame db (dbSelectAll db hs).1 :=
  dbSelectAll_inv (P := DbProofs.KeysSame db) (fun d h k => k.trans (DbProofs.select_keys d h)) hs db (.refl db)

theorem mem_itemObjs_ty (db : Db) (it : SelItem) (o : SObj) (h : o ∈ itemObjs db it) :
    (∃ t, o.g = staticGroup t ∧ ∃ p ∈ db.map t, o.idx = p.1 ∧ o.m = p.2.selected) ∨
    (o.g = 34 ∧ ∃ p ∈ db.ans, o.idx = p.1 ∧ o.m = { value := p.2.deadband, flags := 0 }) := by
  rw [DbProofs.itemObjs_eq] at h
  obtain ⟨p, hp, rfl⟩ := List.mem_map.mp h
  have hp := (List.mem_filter.mp hp).1
  unfold DbProofs.mapOf at hp
  unfold DbProofs.objOf
  cases hk : it.kind with
  | typed k var =>
    rw [hk] at hp
    exact .inl ⟨k, rfl, p, hp, rfl, rfl⟩
  | deadband var =>
    rw [hk] at hp
    exact .inr ⟨rfl, p, hp, rfl, rfl⟩

theorem mem_writeStaticObjs (db : Db) (hs : DbProofs.StaticSorted db) (cap : Nat) (o : SObj)
    (h : o ∈ (DbProofs.writeStaticObjs db cap).flatten) : ∃ it ∈ db.queue, o ∈ itemObjs db it := by
  have h4 := (DbProofs.writeResponse_static db hs cap).2.2.2.1
  have : o ∈ DbProofs.pending db db.queue := by rw [← h4]; exact List.mem_append_left _ h
  unfold DbProofs.pending at this
  simp only [List.mem_flatten, List.mem_map] at this
  obtain ⟨l, ⟨it, hit, rfl⟩, ho⟩ := this
  exact ⟨it, hit, ho⟩

open Dnp3.Proofs.Frame in
theorem unsol_from_ready (a a' : Acc) (dl : Option Nat) (hu : a.1.unsol = .ready dl)
    (hbuf : a.1.cfg.unsol ≤ a.1.unsolBuf.length) (h4 : 4 ≤ a.1.cfg.unsol)
    (h : checkUnsolicited a = some (.inl a')) :
    ∃ hdr4 : List Nat, hdr4.length = 4 ∧ ∃ seq,
      a'.2 = a.2 ++ [.tx a.1.cfg.master
        (hdr4 ++ (a.1.db.writeUnsolicited a.1.en1 a.1.en2 a.1.en3 (a.1.cfg.unsol - 4)).2.1), .cb (.unsolWait seq)] ∧
      a'.1.db = (a.1.db.writeUnsolicited a.1.en1 a.1.en2 a.1.en3 (a.1.cfg.unsol - 4)).1 := by
  have hcapacity := DbProofs.unsolicited_within_capacity a.1.db a.1.en1 a.1.en2 a.1.en3 (a.1.cfg.unsol - 4)
  cases checkUnsolicited_cases _ _ h with
  | null _ _ hn _ => rw [hu] at hn; cases hn
  | data _ _ _ _ _ _ _ hs =>
    obtain ⟨c1, c2, c3, r', _, hr', rfl⟩ := startUnsolSeries_eq _ _ _ _ hs
    have hsz : r'.size = 4 + (a.1.db.writeUnsolicited a.1.en1 a.1.en2 a.1.en3 (a.1.cfg.unsol - 4)).2.1.length := by rw [hr']; rfl
    rw [Iin.afterIin_eq]
    refine ⟨respHeader r', rfl, a.1.unsolSeq, ?_, rfl⟩
    show _ ++ [OOut.tx _ ((writeAt (writeAt a.1.unsolBuf 4 _) 0 (respHeader r')).take (max 4 r'.size)), _] = _
    rw [hsz, writeAt_hdr _ _ _ rfl (by omega)]
    rfl

end Dnp3.Proofs.C02Session
