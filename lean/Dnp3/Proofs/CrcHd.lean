import Dnp3.Proofs.LinkParser
import Dnp3.Proofs.CrcLinear
import Dnp3.Proofs.CrcSyndromeTable
/-!
# CRC-16/DNP detects every error of weight 1, 2 or 3 in every link-layer block

A link-layer block is `n ≤ 16` data octets followed by the two CRC octets (little endian); the header
block is `05 64` + 6 octets + CRC.

Chain: table = serial (`CrcLinear`), linearity (`crcIncS_xor`), syndrome of an error pattern is the xor
of the single-bit syndromes of its one bits (`syndrome_eq_xorSel`), no 1..3 of which cancel
(`noDep3_synTable`: odd parity, and distinct as an orbit of the serial step).
-/
namespace Dnp3.Proofs.Crc
open Dnp3

def popcount8 (b : Nat) : Nat :=
  b % 2 + b / 2 % 2 + b / 4 % 2 + b / 8 % 2 + b / 16 % 2 + b / 32 % 2 + b / 64 % 2 + b / 128 % 2

def weight (e : List Nat) : Nat := (e.map popcount8).sum

example : popcount8 0xFF = 8 ∧ popcount8 0 = 0 ∧ popcount8 0x81 = 2 ∧ weight [0, 0x10, 0x03] = 3 := by
  decide

def blockImage (d : List Nat) : List Nat := d ++ le16 (calcCrc d)

/-- the test `checkBody` applies to one block whose CRC register starts at `init` -/
def blockValidFrom (init : Nat) (w : List Nat) : Prop :=
  ∃ lo hi, w.drop (w.length - 2) = [lo, hi] ∧
    rd16 lo hi = 0xFFFF ^^^ crcIncT init (w.take (w.length - 2))

/-- received body block is accepted by the parser's test (`checkBody`) -/
def blockValid (w : List Nat) : Prop :=
  ∃ lo hi, w.drop (w.length - 2) = [lo, hi] ∧ rd16 lo hi = calcCrc (w.take (w.length - 2))

/-- received header octets `LEN CTRL DSTlo DSThi SRClo SRChi CRClo CRChi` (the octets after `05 64`)
    are accepted by the test of `parseHeader` -/
def headerValid (w : List Nat) : Prop :=
  ∃ lo hi, w.drop (w.length - 2) = [lo, hi] ∧ rd16 lo hi = calcCrc0564 (w.take (w.length - 2))

theorem blockValid_iff_from (w : List Nat) : blockValid w ↔ blockValidFrom 0 w := Iff.rfl
theorem headerValid_iff_from (w : List Nat) : headerValid w ↔ blockValidFrom Gen.crcOf0564 w := Iff.rfl

theorem mul256_xor (x y : Nat) : 256 * (x ^^^ y) = 256 * x ^^^ 256 * y := by
  have h : ∀ z, 256 * z = z <<< 8 := by intro z; rw [Nat.shiftLeft_eq]; omega
  rw [h, h, h, Nat.shiftLeft_xor_distrib]

theorem rd16_eq_xor {lo : Nat} (hlo : lo < 256) (hi : Nat) : rd16 lo hi = lo ^^^ 256 * hi := by
  have h := split_low_octet (rd16 lo hi)
  rwa [rd16, Nat.add_mul_mod_self_left, Nat.mod_eq_of_lt hlo, Nat.add_mul_div_left _ _ (by decide),
    Nat.div_eq_of_lt hlo, Nat.zero_add] at h

theorem rd16_xor {a b : Nat} (ha : a < 256) (hb : b < 256) (c d : Nat) :
    rd16 (a ^^^ b) (c ^^^ d) = rd16 a c ^^^ rd16 b d := by
  rw [rd16_eq_xor (Nat.xor_lt_two_pow (n := 8) ha hb), rd16_eq_xor ha, rd16_eq_xor hb, mul256_xor]
  ac_rfl

theorem zero_of_xor_hom {f : Nat → Nat} (h : ∀ x y, f (x ^^^ y) = f x ^^^ f y) : f 0 = 0 := by
  have := h 0 0
  rwa [Nat.xor_self, Nat.xor_self] at this

theorem bs8pow_xor (m x y : Nat) : bs8pow m (x ^^^ y) = bs8pow m x ^^^ bs8pow m y := by
  induction m generalizing x y with
  | zero => rfl
  | succ m ih => simp only [bs8pow, bitStep8_xor, ih]

theorem bs8pow_zero (m : Nat) : bs8pow m 0 = 0 := zero_of_xor_hom (bs8pow_xor m)

theorem contrib_xor (k x y : Nat) : contrib k (x ^^^ y) = contrib k x ^^^ contrib k y := by
  cases k with
  | zero => simp only [contrib, mul256_xor]
  | succ k => simp only [contrib, bs8pow_xor]

theorem contrib_zero (k : Nat) : contrib k 0 = 0 := zero_of_xor_hom (contrib_xor k)

def contribSum : List Nat → Nat
  | [] => 0
  | b :: rest => contrib rest.length b ^^^ contribSum rest

theorem crcIncS_contribSum (r : Nat) (l : List Nat) (e0 e1 : Nat) :
    crcIncS r l ^^^ (e0 ^^^ 256 * e1) = bs8pow l.length r ^^^ contribSum (l ++ [e0, e1]) := by
  induction l generalizing r with
  | nil =>
    simp [crcIncS, bs8pow, contribSum, contrib]
  | cons b l ih =>
    rw [crcIncS_cons, crcStepS, ih]
    simp only [List.cons_append, contribSum, List.length_append, List.length_cons, List.length_nil,
      bs8pow, contrib, bitStep8_xor, bs8pow_xor]
    ac_rfl

/-- the syndrome of an error pattern `eD ++ [e0, e1]` (data part, CRC part) -/
theorem syndrome_eq_contribSum (eD : List Nat) {e0 : Nat} (h0 : e0 < 256) (e1 : Nat) :
    crcIncS 0 eD ^^^ rd16 e0 e1 = contribSum (eD ++ [e0, e1]) := by
  rw [rd16_eq_xor h0, crcIncS_contribSum, bs8pow_zero, Nat.zero_xor]

def bitsOfByte (b : Nat) : List Bool :=
  [decide (b % 2 = 1), decide (b / 2 % 2 = 1), decide (b / 4 % 2 = 1), decide (b / 8 % 2 = 1),
   decide (b / 16 % 2 = 1), decide (b / 32 % 2 = 1), decide (b / 64 % 2 = 1),
   decide (b / 128 % 2 = 1)]

def errBits (e : List Nat) : List Bool := e.flatMap bitsOfByte

def xorSel : List Nat → List Bool → Nat
  | t :: T, c :: cs => (if c then t else 0) ^^^ xorSel T cs
  | _, _ => 0

theorem byte_as_bits : ∀ b : Fin 256, b.val =
    (if b.val % 2 = 1 then 1 else 0) ^^^ ((if b.val / 2 % 2 = 1 then 2 else 0) ^^^
    ((if b.val / 4 % 2 = 1 then 4 else 0) ^^^ ((if b.val / 8 % 2 = 1 then 8 else 0) ^^^
    ((if b.val / 16 % 2 = 1 then 16 else 0) ^^^ ((if b.val / 32 % 2 = 1 then 32 else 0) ^^^
    ((if b.val / 64 % 2 = 1 then 64 else 0) ^^^ (if b.val / 128 % 2 = 1 then 128 else 0))))))) := by
  decide +kernel

theorem contrib_as_bits (k : Nat) {b : Nat} (hb : b < 256) :
    contrib k b = xorSel (synRow k) (bitsOfByte b) := by
  have h := byte_as_bits ⟨b, hb⟩
  simp only at h
  conv => lhs; rw [h]
  simp only [contrib_xor, apply_ite (contrib k), contrib_zero, synRow, bitsOfByte, xorSel,
    decide_eq_true_eq, Nat.xor_zero]

theorem xorSel_row_append (k b : Nat) (T : List Nat) (cs : List Bool) :
    xorSel (synRow k ++ T) (bitsOfByte b ++ cs) = xorSel (synRow k) (bitsOfByte b) ^^^ xorSel T cs := by
  simp only [synRow, bitsOfByte, List.cons_append, List.nil_append, xorSel, Nat.xor_zero,
    Nat.xor_assoc]

theorem contribSum_eq_xorSel (e : List Nat) (he : ∀ b ∈ e, b < 256) :
    contribSum e = xorSel (synTable e.length) (errBits e) := by
  induction e with
  | nil => rfl
  | cons b e ih =>
    have hb : b < 256 := he b (by simp)
    simp only [contribSum, List.length_cons, synTable, errBits, List.flatMap_cons]
    rw [xorSel_row_append, ← contrib_as_bits _ hb, ih (fun x hx => he x (by simp [hx]))]
    rfl

theorem syndrome_eq_xorSel (eD : List Nat) (e0 e1 : Nat) (he : ∀ b ∈ eD ++ [e0, e1], b < 256) :
    crcIncS 0 eD ^^^ rd16 e0 e1 =
      xorSel (synTable (eD.length + 2)) (errBits (eD ++ [e0, e1])) := by
  have h0 : e0 < 256 := he e0 (by simp)
  rw [syndrome_eq_contribSum eD h0, contribSum_eq_xorSel _ he]
  simp

theorem popcount8_eq_count (b : Nat) : popcount8 b = (bitsOfByte b).count true := by
  have h : ∀ x : Nat, (if (decide (x % 2 = 1) == true) = true then 1 else 0) = x % 2 := by
    intro x; rcases Nat.mod_two_eq_zero_or_one x with h | h <;> simp [h]
  simp only [popcount8, bitsOfByte, List.count_cons, List.count_nil, h]
  ac_rfl

theorem weight_eq_count (e : List Nat) : weight e = (errBits e).count true := by
  induction e with
  | nil => rfl
  | cons b e ih =>
    unfold weight errBits at *
    simp only [List.map_cons, List.sum_cons, List.flatMap_cons, List.count_append, ih,
      popcount8_eq_count]

theorem errBits_length (e : List Nat) : (errBits e).length = 8 * e.length := by
  induction e with
  | nil => rfl
  | cons b e ih =>
    unfold errBits at *
    simp only [List.flatMap_cons, List.length_append, ih, List.length_cons]
    simp [bitsOfByte]; omega

theorem synTable_length (n : Nat) : (synTable n).length = 8 * n := by
  induction n with
  | zero => rfl
  | succ n ih => simp only [synTable, List.length_append, ih]; simp [synRow]; omega

theorem xorSel_eq_sublist (T : List Nat) (cs : List Bool) (hlen : cs.length ≤ T.length) :
    ∃ l : List Nat, l.Sublist T ∧ l.length = cs.count true ∧ xorSel T cs = l.foldr (· ^^^ ·) 0 := by
  induction T generalizing cs with
  | nil =>
    cases cs with
    | nil => exact ⟨[], .slnil, rfl, rfl⟩
    | cons _ _ => simp at hlen
  | cons t T ih =>
    cases cs with
    | nil => exact ⟨[], List.nil_sublist _, rfl, rfl⟩
    | cons c cs =>
      obtain ⟨l, hl, hn, e⟩ := ih cs (by simpa using hlen)
      cases c with
      | false => exact ⟨l, hl.cons t, by simpa using hn, by simp [xorSel, e]⟩
      | true => exact ⟨t :: l, hl.cons_cons t, by simpa using hn, by simp [xorSel, e]⟩

theorem NoDep3.xorSel_ne_zero {T : List Nat} (h : NoDep3 T) (cs : List Bool)
    (hlen : cs.length ≤ T.length) (h1 : 1 ≤ cs.count true) (h3 : cs.count true ≤ 3) :
    xorSel T cs ≠ 0 := by
  obtain ⟨l, hl, hn, e⟩ := xorSel_eq_sublist T cs hlen
  rw [e]
  exact h l hl (hn ▸ h1) (hn ▸ h3)

/-- `noDep3_synTable` for the longest block, in readable form: the 144 single-bit syndromes are
    non-zero, pairwise distinct, and no xor of two of them equals a third -/
theorem synTable18_no_dependency_le3 (cs : List Bool) (hlen : cs.length ≤ 144)
    (h1 : 1 ≤ cs.count true) (h3 : cs.count true ≤ 3) : xorSel (synTable 18) cs ≠ 0 :=
  (noDep3_synTable (Nat.le_refl 18)).xorSel_ne_zero cs (by rw [synTable_length]; omega) h1 h3

theorem syndrome_ne_zero (eD : List Nat) (e0 e1 : Nat) (hlen : eD.length ≤ 16)
    (he : ∀ b ∈ eD ++ [e0, e1], b < 256)
    (hw : 1 ≤ weight (eD ++ [e0, e1]) ∧ weight (eD ++ [e0, e1]) ≤ 3) :
    crcIncS 0 eD ≠ rd16 e0 e1 := by
  intro heq
  have hz : crcIncS 0 eD ^^^ rd16 e0 e1 = 0 := by rw [heq, Nat.xor_self]
  rw [syndrome_eq_xorSel eD e0 e1 he] at hz
  rw [weight_eq_count] at hw
  refine (noDep3_synTable (n := eD.length + 2) (by omega)).xorSel_ne_zero _ ?_ hw.1 hw.2 hz
  rw [errBits_length, synTable_length]
  simp

example : crcIncS 0 [0x80, 0, 0] ≠ rd16 0x01 0x01 :=
  syndrome_ne_zero [0x80, 0, 0] 0x01 0x01 (by decide) (by decide) (by decide)

theorem split_last_two {e : List Nat} {n : Nat} (he : e.length = n + 2) :
    ∃ eD e0 e1, e = eD ++ [e0, e1] ∧ eD.length = n := by
  have h1 : (e.drop n).length = 2 := by simp [he]
  match hd : e.drop n, h1 with
  | [e0, e1], _ =>
    refine ⟨e.take n, e0, e1, ?_, by simp [he]⟩
    rw [← hd, List.take_append_drop]

theorem blockValidFrom_append (init : Nat) (z : List Nat) (a b : Nat) :
    blockValidFrom init (z ++ [a, b]) ↔ rd16 a b = 0xFFFF ^^^ crcIncT init z := by
  have hl : (z ++ [a, b]).length - 2 = z.length := by simp
  unfold blockValidFrom
  rw [hl, List.drop_left, List.take_left]
  constructor
  · rintro ⟨lo, hi, h, hc⟩
    injection h with h1 h2
    injection h2 with h2 _
    subst h1 h2
    exact hc
  · intro h
    exact ⟨a, b, rfl, h⟩

theorem zipWith_xor_lt (d e : List Nat) (hd : ∀ b ∈ d, b < 256) (he : ∀ b ∈ e, b < 256) :
    ∀ b ∈ List.zipWith (· ^^^ ·) d e, b < 256 := by
  intro b hbm
  obtain ⟨i, hi1, hi2⟩ := List.getElem_of_mem hbm
  rw [List.getElem_zipWith] at hi2
  rw [← hi2]
  exact Nat.xor_lt_two_pow (n := 8) (hd _ (List.getElem_mem _)) (he _ (List.getElem_mem _))

/-- the block passes the CRC test iff the syndrome of the error pattern is zero: the plain register
    (start 0, no complement) over the data errors equals the error on the CRC octets -/
theorem valid_iff_syndrome {init : Nat} (hinit : init < 65536) (d : List Nat)
    (hb : ∀ b ∈ d, b < 256) (eD : List Nat) (hlen : eD.length = d.length) (hD : ∀ b ∈ eD, b < 256)
    {e0 : Nat} (h0 : e0 < 256) (e1 : Nat) :
    blockValidFrom init
        (List.zipWith (· ^^^ ·) (d ++ le16 (0xFFFF ^^^ crcIncT init d)) (eD ++ [e0, e1])) ↔
      crcIncS 0 eD = rd16 e0 e1 := by
  have hw2 : List.zipWith (· ^^^ ·) (d ++ le16 (0xFFFF ^^^ crcIncT init d)) (eD ++ [e0, e1]) =
      List.zipWith (· ^^^ ·) d eD ++
        [(0xFFFF ^^^ crcIncT init d) % 256 ^^^ e0, (0xFFFF ^^^ crcIncT init d) / 256 % 256 ^^^ e1] := by
    rw [List.zipWith_append hlen.symm]; rfl
  have hc : 0xFFFF ^^^ crcIncT init d < 65536 :=
    Nat.xor_lt_two_pow (n := 16) (by decide) (crcIncT_lt init d hinit)
  rw [hw2, blockValidFrom_append, rd16_xor (Nat.mod_lt _ (by decide)) h0, rd16_le16 _ hc,
    crcIncT_eq_serial _ _ hb, crcIncT_eq_serial _ _ (zipWith_xor_lt d eD hb hD)]
  have hlin := crcIncS_xor init 0 d eD hlen.symm
  rw [Nat.xor_zero] at hlin
  rw [hlin, Nat.xor_assoc]
  constructor
  · intro h; exact (xor_cancel_left (xor_cancel_left h)).symm
  · intro h; rw [h]

example : blockValidFrom 0 (List.zipWith (· ^^^ ·) (blockImage [1, 2]) ([0, 0] ++ [0, 0])) :=
  (valid_iff_syndrome (init := 0) (by decide) [1, 2] (by decide) [0, 0] rfl (by decide)
    (e0 := 0) (by decide) 0).mpr (by decide)

theorem detects_le3_from {init : Nat} (hinit : init < 65536) (d : List Nat) (hd : d.length ≤ 16)
    (hb : ∀ b ∈ d, b < 256) (e : List Nat) (he : e.length = d.length + 2) (heb : ∀ b ∈ e, b < 256)
    (hw : 1 ≤ weight e ∧ weight e ≤ 3) :
    ¬ blockValidFrom init
        (List.zipWith (· ^^^ ·) (d ++ le16 (0xFFFF ^^^ crcIncT init d)) e) := by
  obtain ⟨eD, e0, e1, rfl, hlen⟩ := split_last_two he
  have h0 : e0 < 256 := heb e0 (by simp)
  have hD : ∀ b ∈ eD, b < 256 := fun b hb' => heb b (by simp [hb'])
  rw [valid_iff_syndrome hinit d hb eD hlen hD h0 e1]
  exact syndrome_ne_zero eD e0 e1 (by omega) heb hw

/-- C06 error detection, data blocks (`Props.C06.crc_detects_le3`) -/
theorem crc_detects_le3 (d : List Nat) (hd : d.length ≤ 16) (hb : ∀ b ∈ d, b < 256)
    (e : List Nat) (he : e.length = d.length + 2) (heb : ∀ b ∈ e, b < 256)
    (hw : 1 ≤ weight e ∧ weight e ≤ 3) :
    ¬ blockValid (List.zipWith (· ^^^ ·) (blockImage d) e) :=
  detects_le3_from (init := 0) (by decide) d hd hb e he heb hw

example : ¬ blockValid (List.zipWith (· ^^^ ·) (blockImage [0xC0, 0xC1, 0x01]) [0x01, 0, 0x80, 0, 0x04]) :=
  crc_detects_le3 _ (by decide) (by decide) _ (by decide) (by decide) (by decide)

/-- `CRC_OF_0564` is the register after the start octets (as `Props.C06.crc_of_0564`), so the header
    CRC is the CRC of the 8 octets `05 64 LEN CTRL DST SRC` -/
theorem calcCrc0564_eq (hf : List Nat) : calcCrc0564 hf = calcCrc ([0x05, 0x64] ++ hf) := by
  have h : crcIncT 0 [0x05, 0x64] = Gen.crcOf0564 := by decide +kernel
  unfold calcCrc0564 calcCrc crcIncT at *
  rw [List.foldl_append, h]

/-- **Header block**, errors within the 8 octets after the start octets.  `hf` are the six octets
    `LEN CTRL DSTlo DSThi SRClo SRChi`; the transmitted header is `05 64 ++ hf ++ CRC`. -/
theorem header_crc_detects_le3 (hf : List Nat) (hlen : hf.length = 6) (hb : ∀ b ∈ hf, b < 256)
    (e : List Nat) (he : e.length = 8) (heb : ∀ b ∈ e, b < 256)
    (hw : 1 ≤ weight e ∧ weight e ≤ 3) :
    ¬ headerValid (List.zipWith (· ^^^ ·) (hf ++ le16 (calcCrc0564 hf)) e) :=
  detects_le3_from (init := Gen.crcOf0564) (by decide) hf (by omega) hb e (by omega) heb hw

example : ¬ headerValid (List.zipWith (· ^^^ ·)
    ([5, 0xC0, 1, 0, 0, 4] ++ le16 (calcCrc0564 [5, 0xC0, 1, 0, 0, 4])) [0, 0, 3, 0, 0, 0, 0, 0x80]) :=
  header_crc_detects_le3 _ (by decide) (by decide) _ (by decide) (by decide) (by decide)

theorem blockValid_iff_getElem (w : List Nat) :
    blockValid w ↔ 2 ≤ w.length ∧
      rd16 (w[w.length - 2]!) (w[w.length - 1]!) = calcCrc (w.take (w.length - 2)) := by
  by_cases h2 : 2 ≤ w.length
  · obtain ⟨z, lo, hi, rfl, _⟩ := split_last_two (n := w.length - 2) (e := w) (by omega)
    rw [blockValid_iff_from, blockValidFrom_append]
    simp [calcCrc]
  · constructor
    · rintro ⟨lo, hi, h, _⟩
      have := congrArg List.length h
      simp at this; omega
    · exact fun h => absurd h.1 h2

/-- from the block test to the parser's function: with `crc_detects_le3`, `Props.C06.body_block_rejected_le3` -/
theorem checkBody_rejects (fuel : Nat) (blk : List Nat) (h3 : 3 ≤ blk.length)
    (h18 : blk.length ≤ 18) (hv : ¬ blockValid blk) :
    checkBody (fuel + 1) blk = .error .bodyCrc := by
  have hlen : (blk.drop (blk.length - 2)).length = 2 := by rw [List.length_drop]; omega
  match hd : blk.drop (blk.length - 2), hlen with
  | [lo, hi], _ =>
    have hne : rd16 lo hi ≠ calcCrc (blk.take (blk.length - 2)) := fun h => hv ⟨lo, hi, hd, h⟩
    match blk, h3 with
    | x :: xs, _ =>
      rw [checkBody_cons, List.take_of_length_le h18, if_neg (by omega), hd]
      simp only [hne, ne_eq, not_false_eq_true, if_true]

theorem eq_zero_of_xor_eq_self {a x : Nat} (h : a ^^^ x = a) : x = 0 :=
  xor_cancel_left (h.trans (Nat.xor_zero a).symm)

theorem weight_zero_cons (e : List Nat) : weight (0 :: e) = weight e := Nat.zero_add _

/-- the same for the header block: with `header_crc_detects_le3`, `Props.C06.header_rejected_le3` -/
theorem parseSync1_error (x0 x1 : Nat) (w rest : List Nat) (hw : w.length = 8)
    (hv : x0 = 0x05 → x1 = 0x64 → ¬ headerValid w) :
    ∃ err, (parseSync1 (x0 :: x1 :: (w ++ rest))).2.2 = .error err := by
  match w, hw with
  | [len, ctrl, d0, d1, s0, s1, c0, c1], _ =>
    simp only [List.cons_append, List.nil_append, parseSync1, parseSync2, parseHeader]
    by_cases h0 : x0 = 5
    · by_cases h1 : x1 = 100
      · have hcrc : rd16 c0 c1 ≠ calcCrc0564 [len, ctrl, d0, d1, s0, s1] :=
          fun h => hv h0 h1 ⟨c0, c1, rfl, h⟩
        rw [if_neg (not_not_intro h0), if_neg (not_not_intro h1)]
        by_cases hl : len < 5
        · rw [if_pos hl]; exact ⟨_, rfl⟩
        · rw [if_neg hl, if_pos hcrc]; exact ⟨_, rfl⟩
      · rw [if_neg (not_not_intro h0), if_pos h1]; exact ⟨_, rfl⟩
    · rw [if_pos h0]; exact ⟨_, rfl⟩

end Dnp3.Proofs.Crc
