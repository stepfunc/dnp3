import Dnp3.Proofs.DatabaseEv
import Dnp3.Proofs.DatabaseStatic
import Dnp3.Proofs.DatabaseCap
/-!
# The database operations in full generality, and the two facts behind the event rule

`DbOp` (`Dnp3.Proofs.DatabaseEv`) is the vocabulary of the session model: `Db.add` (the engines' point
configuration) and `Db.update` (the default `UpdateOptions`, or the encoded ones).  `DbOpX` adds the two
operations with every parameter free — `Db.addCfg` (any configured static / event variation and
dead-band) and `Db.updateOpt` (any measurement, any `UpdateOptions`) — and the invariants of the event
buffer (`EbInv`) and of the static database (`StaticSorted`) are invariants of every `DbOpX` sequence.

The event rule (`StaticDatabase::update`, arm `EventMode::Detect`) is stated and proved in `Dnp3.Props.C03`.  Here are
its two ingredients: `isEvent` spelled out per detector (`isEvent_iff`), and the point an update leaves behind
(`updateOpt_point`).
-/
namespace Dnp3.DbProofs
open Dnp3 Dnp3.DbM

inductive DbOpX where
  | base (op : DbOp)
  | addCfg (t : PtType) (idx cls svar evar deadband : Nat)
  | updateOpt (t : PtType) (idx : Nat) (m : Meas) (o : UpdOpts)
deriving DecidableEq, Repr

def stepX (db : Db) : DbOpX → Db
  | .base op => step db op
  | .addCfg t idx cls sv ev dbd => (db.addCfg t idx cls sv ev dbd).1
  | .updateOpt t idx m o => (db.updateOpt t idx m o).1

def runX (db : Db) (ops : List DbOpX) : Db := ops.foldl stepX db

theorem runX_base (db : Db) (ops : List DbOp) : runX db (ops.map .base) = run db ops := by
  induction ops generalizing db with
  | nil => rfl
  | cons op ops ih => simp only [List.map_cons, runX, run, List.foldl_cons] at ih ⊢; exact ih _

theorem EbInv.stepX {P : Db → Prop} (hP : EbInv P) (db : Db) (op : DbOpX) (h : P db) : P (stepX db op) := by
  cases op with
  | base op => exact hP.step db op h
  | addCfg t idx cls sv ev dbd => exact hP.eq (addCfg_eb db t idx cls sv ev dbd) h
  | updateOpt t idx m o => exact hP.updateOpt db t idx m o h

theorem EbInv.runX {P : Db → Prop} (hP : EbInv P) (db : Db) (ops : List DbOpX) (h : P db) : P (runX db ops) :=
  List.foldlRecOn ops DbProofs.stepX h fun db h op _ => hP.stepX db op h

theorem sorted_stepX (db : Db) (op : DbOpX) (h : StaticSorted db) : StaticSorted (stepX db op) := by
  cases op with
  | base op => exact sorted_step db op h
  | addCfg t idx cls sv ev dbd => exact (addCfg_frame db h t idx cls sv ev dbd).1
  | updateOpt t idx m o => exact (updateOpt_stSame db t idx m o).sorted h

theorem sorted_runX (db : Db) (ops : List DbOpX) (h : StaticSorted db) : StaticSorted (runX db ops) :=
  List.foldlRecOn ops stepX h fun db h op _ => sorted_stepX db op h

theorem bounded_runX (ev : TyVec Nat) (cz : TyVec Bool) (sel : Option Nat) (ops : List DbOpX) :
    (TotalExact (runX (Db.newCfg ev cz sel) ops) ∧ TypeBounded (runX (Db.newCfg ev cz sel) ops)) ∧
    (runX (Db.newCfg ev cz sel) ops).evCfg = ev :=
  (bounded_inv.and (evCfg_inv ev)).runX _ ops ⟨⟨newCfg_total ev cz sel, newCfg_typeBounded ev cz sel⟩, rfl⟩

theorem type_capacityX (ev : TyVec Nat) (cz : TyVec Bool) (sel : Option Nat) (ops : List DbOpX) (t : PtType) :
    (runX (Db.newCfg ev cz sel) ops).events.countP (fun r => r.ty == t) ≤ ev.get t := by
  have h := countP_ty_le _ (bounded_runX ev cz sel ops).1 t
  rwa [(bounded_runX ev cz sel ops).2] at h

theorem pmLookup_pmSet_same (m : PMap) (idx : Nat) (p p' : Point) (hp : pmLookup m idx = some p) :
    pmLookup (pmSet m idx p') idx = some p' := by
  induction m with
  | nil => simp [pmLookup] at hp
  | cons a rest ih =>
    obtain ⟨i, x⟩ := a
    unfold pmLookup at hp
    unfold pmSet
    by_cases e : i = idx
    · simp only [e, if_true]; unfold pmLookup; simp
    · simp only [e, if_false] at hp ⊢
      by_cases lt : idx < i
      · simp [lt] at hp
      · simp only [lt, if_false] at hp
        unfold pmLookup
        simp only [e, if_false, lt]
        exact ih hp

theorem isEvent_iff (t : PtType) (d : Nat) (last new : Meas) :
    isEvent t d last new = true ↔
      match Gen.DbT.detector t with
      | .flags => last.wire t ≠ new.wire t
      | .deadband => last.wire t ≠ new.wire t ∨ (new.value - last.value).natAbs > d
      | .value => last.octets ≠ new.octets := by
  unfold isEvent
  cases Gen.DbT.detector t <;> simp

theorem updateOpt_point (db : Db) (t : PtType) (idx : Nat) (m : Meas) (o : UpdOpts) (p : Point)
    (hp : pmLookup (db.map t) idx = some p) :
    ∃ db0, EbEq db db0 ∧ db0.map t = pmSet (db.map t) idx (updPoint t p m o) ∧
      (∀ u, u ≠ t → db0.map u = db.map u) ∧
      ((¬ (wantsEvent t p m o.mode = true ∧ p.cls ≠ 0) ∧ db.updateOpt t idx m o = (db0, .noEvent)) ∨
       (wantsEvent t p m o.mode = true ∧ p.cls ≠ 0 ∧ db.updateOpt t idx m o =
          ((db0.insert idx p.cls t m p.evar).1, infoOf (db0.insert idx p.cls t m p.evar).2))) := by
  rcases updateOpt_cases db t idx m o with ⟨hn, _⟩ | ⟨q, db0, hl, rfl, h⟩
  · rw [hp] at hn; cases hn
  · cases hp.symm.trans hl
    exact ⟨_, setMap_eb _ _ _, Db.map_setMap_same' _ _ _, fun u hu => by rw [Db.map_setMap', if_neg hu], h⟩

end Dnp3.DbProofs
