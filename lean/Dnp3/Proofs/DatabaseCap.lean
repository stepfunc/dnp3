import Dnp3.Proofs.DatabaseStatic
/-!
# Proofs about the outstation database model — progress and capacity (C11 component level)

A response that is not complete carries at least one object when every object with its header fits
(22 octets suffice for every fixed-size variation of the eight point types; an octet string needs its
length + 7 — the library's defect D15 is that a long octet string may not fit a small buffer);
a response never exceeds the space it was given.  Both are read off the closed forms of the writers
(`evLoop_spec`, `QRun`); that the cost they charge is the length of what they write is `Dnp3.Proofs.DatabaseEnc`.
-/
namespace Dnp3.DbProofs
open Dnp3 Dnp3.DbM

def capExFits : Db :=
  { evCfg := TyVec.const 10
    events := [{ id := 0, index := 0, cls := 1, ty := .octetString, m := mkOctets [1, 2, 3], defVar := 0, selVar := 0,
                 st := .selected },
               { id := 1, index := 4, cls := 2, ty := .analog, m := { value := 7, flags := 1, time := 5 }, defVar := 8,
                 selVar := 8, st := .selected }]
    maps := (TyVec.const []).set .octetString [(0, { selected := mkOctets [9, 9] })]
    queue := [{ kind := .typed .octetString none, start := 0, stop := 0 }] }

def capExLong : Db :=
  { maps := (TyVec.const []).set .octetString [(0, { selected := mkOctets (List.replicate 20 0) })]
    queue := [{ kind := .typed .octetString none, start := 0, stop := 0 }] }

def capExFixed : Db :=
  { evCfg := TyVec.const 10
    events := [{ id := 0, index := 0, cls := 1, ty := .analog, m := { value := -3, flags := 1, time := 9 }, defVar := 8,
                 selVar := 8, st := .selected },
               { id := 1, index := 4, cls := 2, ty := .analog, m := { value := 7, flags := 1, time := 5 }, defVar := 8,
                 selVar := 8, st := .selected }]
    maps := (TyVec.const []).set .counter [(3, { selected := { value := 77, flags := 1 }, svar := 1 })]
    queue := [{ kind := .typed .counter none, start := 0, stop := 9 }] }

theorem evCost_le (cur : Option EvCur) (r : EvRec) (h : r.ty ≠ .octetString) : evCost cur r ≤ 22 := by
  have h1 : evObjSize r.ty r.wvar ≤ 15 := evObjSize_le _ _ h
  have h3 : (if usesCto r.ty r.wvar = true then 10 else 0) + 5 + 2 + evObjSize r.ty r.wvar ≤ 22 := by
    by_cases hc : usesCto r.ty r.wvar = true
    · rw [if_pos hc, evObjSize_cto _ _ hc]; decide
    · rw [if_neg hc]; omega
  unfold evCost
  split
  · split
    · omega
    · exact h3
  · exact h3

example : ∃ r ∈ capExFits.events, r.ty ≠ .octetString ∧ evCost none r = 22 := by decide

theorem evCost_le_octets (cur : Option EvCur) (r : EvRec) (h : r.ty = .octetString) :
    evCost cur r ≤ 7 + r.m.octets.length := by
  have hs : evObjSize r.ty r.wvar = r.m.octets.length := by
    rw [wvar_octets r h, h, evObjSize_octets]
  have hc : usesCto r.ty r.wvar = false := by rw [h, usesCto_octets]
  unfold evCost
  rw [hs, hc]
  split
  · split <;> simp <;> omega
  · simp

example : ∃ r ∈ capExFits.events, r.ty = .octetString ∧ evCost none r = 7 + r.m.octets.length := by decide

theorem stCost_le (cur : Option StCur) (o : SObj) (h : o.g ≠ 110) : stCost cur o ≤ 22 := by
  have h1 : stObjSize o.g o.v ≤ 11 := stObjSize_le _ _ h
  unfold stCost
  -- at most a new header (7) and, bits apart (1 octet), one object (`h1`): 18
  split <;> (try split) <;> (try split) <;> (try split) <;> omega

example : ∃ it ∈ capExFixed.queue, ∃ o ∈ itemObjs capExFixed it, o.g ≠ 110 ∧ stCost none o = 12 := by decide
/-- the bound 22 of `evCost_le` / `stCost_le` is reached by events (g2v3 / g4v3 with their g51v1 header, g32v8, g42v8);
    the largest static object, g21v5, needs 18 -/
example : stCost none { idx := 0, g := 21, v := 5, m := {} } = 18 := by decide

theorem stCost_le_octets (cur : Option StCur) (o : SObj) (h : o.g = 110) : stCost cur o ≤ 7 + o.v := by
  have hb : isBits o.g o.v = false := by rw [h, isBits_octets]
  have hs : stObjSize o.g o.v = o.v := by rw [h, stObjSize_octets]
  unfold stCost
  rw [hb, hs]
  split
  · split <;> simp
  · simp

example : ∃ it ∈ capExFits.queue, ∃ o ∈ itemObjs capExFits it, o.g = 110 ∧ stCost none o = 7 + o.v := by decide

theorem stCost_fits (cur : Option StCur) (o : SObj) {used cap : Nat} (hcap : used + 22 ≤ cap)
    (hoct : o.g = 110 → used + (o.v + 7) ≤ cap) : used + stCost cur o ≤ cap := by
  by_cases hg : o.g = 110
  · have := stCost_le_octets cur o hg
    have := hoct hg
    omega
  · have := stCost_le cur o hg
    omega

/-- every single object with its header fits `cap` octets: 22 suffice for every fixed-size variation; an octet
    string needs its length + 7.  7 is what starting a header costs: group, variation, qualifier, count and the object's
    index prefix for an event (5 + 2, `evCost`), group, variation, qualifier, start, stop for a static object (`stCost`);
    22 = 7 + 15, the dearest fixed-size objects g32v8 / g42v8 -/
def FitsCap (db : Db) (cap : Nat) : Prop :=
  22 ≤ cap ∧ (∀ r ∈ db.events, r.ty = .octetString → r.m.octets.length + 7 ≤ cap) ∧
  (∀ p ∈ db.map .octetString, p.2.selected.octets.length + 7 ≤ cap)

example : FitsCap capExFits 22 := by unfold FitsCap; decide
example : ¬ FitsCap capExLong 22 := by unfold FitsCap; decide
example : FitsCap capExLong 27 := by unfold FitsCap; decide

theorem evCost_fits (cur : Option EvCur) (r : EvRec) {used cap : Nat} (hcap : used + 22 ≤ cap)
    (hoct : r.ty = .octetString → used + (r.m.octets.length + 7) ≤ cap) : used + evCost cur r ≤ cap := by
  by_cases ho : r.ty = .octetString
  · have := evCost_le_octets cur r ho
    have := hoct ho
    omega
  · have := evCost_le cur r ho
    omega

theorem evLoop_progress (cap : Nat) (l : List EvRec) (used : Nat) (cur : Option EvCur)
    (hcap : used + 22 ≤ cap)
    (hoct : ∀ r ∈ l, r.ty = .octetString → used + (r.m.octets.length + 7) ≤ cap)
    (h : (evLoop cap l used cur).2.2 = false) : (evLoop cap l used cur).2.1 ≠ [] := by
  obtain ⟨n, hm, he⟩ := evLoop_spec cap l used cur (by omega)
  rw [he] at h ⊢
  cases hsel : l.filter isSelected with
  | nil =>
    rw [hsel] at hm h
    exact absurd (Nat.le_zero.mp hm.1) (by simpa using h)
  | cons r rs =>
    rw [hsel] at hm
    have hr : r ∈ l := (List.mem_filter.mp (hsel ▸ List.mem_cons_self ..)).1
    exact hm.take_ne_nil (by rw [encodeEvents_single]; exact evCost_fits cur r hcap (hoct r hr))

example : 0 + 22 ≤ 22 ∧ (∀ r ∈ capExFits.events, r.ty = .octetString → 0 + (r.m.octets.length + 7) ≤ 22) ∧
    (evLoop 22 capExFits.events 0 none).2.2 = false := by decide

theorem stLoop_progress (cap : Nat) (objs : List SObj) (used : Nat) (cur : Option StCur)
    (hcap : used + 22 ≤ cap)
    (hoct : ∀ o ∈ objs, o.g = 110 → used + (o.v + 7) ≤ cap) :
    ((stLoop cap objs used cur).1 = [] → (stLoop cap objs used cur).2.1 = used) ∧
    (∀ i, (stLoop cap objs used cur).2.2 = some i → (stLoop cap objs used cur).1 ≠ []) := by
  obtain ⟨n, hm, he⟩ := stLoop_spec cap objs used cur (by omega)
  rw [he]
  refine ⟨fun h => by rw [show objs.take n = [] from h]; rfl, fun i hi => ?_⟩
  cases objs with
  | nil => cases hi
  | cons o os =>
    exact hm.take_ne_nil (by rw [encodeStatic_single]; exact stCost_fits cur o hcap (hoct o (List.mem_cons_self ..)))

example : 16 + 22 ≤ 40 ∧ (∀ o ∈ itemObjs capExFits capExFits.queue.head!, o.g = 110 → 16 + (o.v + 7) ≤ 40) ∧
    (stLoop 40 (itemObjs capExFits capExFits.queue.head!) 16 none).1.length = 1 := by decide

example : 0 + 22 ≤ 22 ∧ (∀ it ∈ capExFits.queue, ∀ o ∈ itemObjs capExFits it, o.g = 110 → 0 + (o.v + 7) ≤ 22) := by decide

theorem itemObjs_octets (db : Db) (it : SelItem) (o : SObj) (ho : o ∈ itemObjs db it) (hg : o.g = 110) :
    ∃ p ∈ db.map .octetString, o.v = p.2.selected.octets.length := by
  obtain ⟨p, hp, _, rfl⟩ := mem_itemObjs.mp ho
  unfold mapOf at hp; unfold objOf at hg ⊢
  cases hk : it.kind with
  | typed k var =>
    rw [hk] at hp hg
    have : k = .octetString := by cases k <;> simp [staticGroup] at hg <;> rfl
    subst this; exact ⟨p, hp, rfl⟩
  | deadband var => rw [hk] at hg; simp at hg

theorem markFirst_mem : ∀ (n : Nat) (l : List EvRec), ∀ r' ∈ markFirst n l, ∃ r ∈ l, r'.ty = r.ty ∧ r'.m = r.m := by
  intro n l r' h
  obtain ⟨r, hr, rfl | ⟨_, rfl⟩⟩ := (markFirst_pointwise l n).mem_right r' h
  · exact ⟨_, hr, rfl, rfl⟩
  · exact ⟨_, hr, rfl, rfl⟩

theorem FitsCap_writeEvents (db : Db) (cap cap' : Nat) (hfit : FitsCap db cap) :
    FitsCap (db.writeEvents cap').1 cap := by
  obtain ⟨hcap, hev, hpt⟩ := hfit
  refine ⟨hcap, ?_, hpt⟩
  intro r' hr' ho
  obtain ⟨n, _, h1⟩ := writeEvents_spec db cap'
  rw [h1] at hr'
  obtain ⟨r, hr, e1, e2⟩ := markFirst_mem n db.events r' hr'
  rw [e2]
  exact hev r hr (e1 ▸ ho)

/-- `Props.C11.progress` -/
theorem write_progress (db : Db) (cap : Nat) (hfit : FitsCap db cap)
    (hinc : (db.writeResponse cap).2.2.2 = false) :
    (db.writeEvents cap).2.1 ≠ [] ∨ (writeStaticObjs db cap).flatten ≠ [] := by
  obtain ⟨hcap, hev, hpt⟩ := hfit
  by_cases hw : (db.writeEvents cap).2.1 = []
  · right
    rcases writeResponse_cases db cap with ⟨hc, _, _⟩ | ⟨_, q, u, hq, he⟩
    · -- the events stopped early with nothing written: the first selected record does not fit
      exact absurd hw (evLoop_progress cap db.events 0 none (by omega) (fun r hr ho => by have := hev r hr ho; omega) hc)
    · rw [he] at hinc
      rw [hw] at hq
      rcases hq.stops (by simpa using hinc) with h1 | ⟨it, _, o, ho, hc⟩
      · exact h1
      · have hc' : cap < 0 + stCost none o := hc
        refine absurd (stCost_fits none o (by omega) fun hg => ?_) (Nat.not_le.mpr hc')
        obtain ⟨p, hp, hv⟩ := itemObjs_octets _ it o ho hg
        have := hpt p hp
        omega
  · exact Or.inl hw

/-- the hypotheses hold with the events half written (22 octets: the octet string goes, g32v8 stays) and
    with the events written and the static octet string left (32 octets) -/
example : FitsCap capExFits 22 ∧ (capExFits.writeResponse 22).2.2.2 = false ∧ (capExFits.writeEvents 22).2.1.length = 1 := by
  unfold FitsCap; decide
example : FitsCap capExFits 32 ∧ (capExFits.writeResponse 32).2.2.2 = false ∧ (capExFits.writeEvents 32).2.1.length = 2 ∧
    (writeStaticObjs capExFits 32).flatten = [] := by
  unfold FitsCap; decide

/-- D15: the hypothesis on octet strings cannot be dropped — with 22 octets of space a selected 20-octet
    string is never written: the response carries nothing and is not complete -/
example : (22 ≤ 22) ∧ (capExLong.writeResponse 22).2.2.2 = false ∧ (capExLong.writeEvents 22).2.1 = [] ∧
    (writeStaticObjs capExLong 22).flatten = [] ∧ (capExLong.writeResponse 22).2.1 = [] := by decide

example : 22 ≤ 22 ∧ (∀ r ∈ capExFixed.events, r.ty ≠ .octetString) ∧ capExFixed.map .octetString = [] ∧
    (capExFixed.writeResponse 22).2.2.2 = false := by decide
example : 22 ≤ 50 ∧ (∀ r ∈ capExFixed.events, r.ty ≠ .octetString) ∧ capExFixed.map .octetString = [] ∧
    (capExFixed.writeResponse 50).2.2.2 = false ∧ (writeStaticObjs capExFixed 50).flatten = [] := by decide

theorem response_within_capacity (db : Db) (cap : Nat) : (db.writeResponse cap).2.1.length ≤ cap := by
  have hev := writeEvents_len db cap
  rcases writeResponse_cases db cap with ⟨_, _, he⟩ | ⟨_, q, u, hq, he⟩ <;> rw [he]
  · exact hev
  · rw [List.length_append, ← hq.used_eq]
    exact hq.le_cap hev

theorem unsolicited_within_capacity (db : Db) (c1 c2 c3 : Bool) (cap : Nat) :
    (db.writeUnsolicited c1 c2 c3 cap).2.1.length ≤ cap := by
  obtain ⟨evs, _, h⟩ := writeUnsolicited_cases db c1 c2 c3 cap
  rcases h _ rfl with he | he <;> rw [he]
  · exact Nat.zero_le _
  · exact writeEvents_len _ cap

end Dnp3.DbProofs
