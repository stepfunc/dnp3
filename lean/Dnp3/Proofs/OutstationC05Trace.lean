import Dnp3.Proofs.OutstationC05
import Dnp3.Proofs.OutstationSkel2
/-!
# C05 at trace level — a retransmitted non-READ request is never executed twice and is answered with
the octets sent for it before

`repeat_never_executes_twice`: in every run from `Outstation.start`, if inputs `i < j` deliver the
byte-identical, unicast, well-formed non-READ request from the accepted master, with nothing but clock ticks,
CONFIRM fragments and undeliverable frames in between, then step `j` fires no executing callback and its
solicited transmissions are exactly those of step `i` (or the task died on the way: `OOut.panic`).

Method.  A step is a first handler and then those that can follow it (`Skel.quiesce_chain`), so every fact about a
whole step is an invariant over the control points of the session, proved once per handler (`Skel.Chain.inv`):
`DefI` (no READ is deferred outside the unsolicited confirm wait); `After Φ` (the job of the step is done, `Φ` says
which, and since then only infrastructure ran: stored request and solicited buffer untouched, nothing solicited
transmitted, `TailI`); `NrI` (the request is still in the reader, or was handled: `After (Handled …)`); a tick or a
CONFIRM is done after its first handler (`between_first : After (Same s)`).  That a step does not end with the
request still in the reader (`settle` never stops short of it) is `C04.quiesce_done`.  `LRInv` is robust against the
abstraction of the event skeleton `Skel2.Ev2` and is proved per event.
-/
namespace Dnp3.Proofs.C05T
open Dnp3 Dnp3.Proofs Dnp3.Proofs.C05

attribute [local irreducible] Db.new Db.add Db.update Db.readSupported Db.select Db.writeResponse
  Db.writeUnsolicited Db.clearWritten Db.reset Db.unwrittenClasses Db.isOverflown

/-- the transmitted application fragments whose function octet is 0x81 (solicited response) -/
def solTx (outs : List OOut) : List (Nat × List Nat) :=
  (txFrags outs).filter (fun p => p.2.getD 1 0 = 0x81)

def NoSolL (l : List OOut) : Prop := ∀ d b, OOut.tx d b ∈ l → b.getD 1 0 ≠ 0x81

theorem solTx_append (l1 l2 : List OOut) : solTx (l1 ++ l2) = solTx l1 ++ solTx l2 := by
  simp [solTx, Frame.txFrags_append, List.filter_append]

theorem solTx_nil : solTx [] = [] := rfl

theorem mem_txFrags {l : List OOut} {p : Nat × List Nat} (h : p ∈ txFrags l) : OOut.tx p.1 p.2 ∈ l := by
  unfold txFrags at h
  obtain ⟨o, ho, he⟩ := List.mem_filterMap.1 h
  cases o with
  | tx d b => cases he; exact ho
  | _ => cases he

theorem solTx_of_noSol {l : List OOut} (h : NoSolL l) : solTx l = [] := by
  unfold solTx
  rw [List.filter_eq_nil_iff]
  intro p hp
  have := h p.1 p.2 (mem_txFrags hp)
  simpa using this

theorem NoSolL.nil : NoSolL [] := by intro d b h; cases h

theorem NoSolL.append {l l' : List OOut} (h : NoSolL l) (h' : NoSolL l') : NoSolL (l ++ l') := by
  intro d b hm
  rcases List.mem_append.1 hm with h1 | h1
  · exact h d b h1
  · exact h' d b h1

theorem NoSolL.of_notTx {l : List OOut} (h : ∀ o ∈ l, ∀ d b, o ≠ .tx d b) : NoSolL l := by
  intro d b hm
  exact absurd rfl (h _ hm d b)

theorem NoSolL.cb (c : Cb) : NoSolL [.cb c] := by
  intro d b hm
  rw [List.mem_singleton] at hm; cases hm

/-- the function octet of what `repeatSolicited` / `repeatUnsolicited` put on the wire -/
theorem NoSolL.unsolTx (d : Nat) (buf : List Nat) (r : Resp) (hr : r.func = 0x82) :
    NoSolL [.tx d ((writeAt buf 0 (respHeader r)).take (max 4 r.size))] := by
  intro d' b hm
  rw [List.mem_singleton] at hm
  cases hm
  rw [Frame.hdr_func, hr]; decide

/-- `a'` extends `a`: the stored request, the solicited buffer, the deferred READ, the reader and the
    configuration are untouched, and nothing solicited was transmitted -/
structure Ext (a a' : Acc) : Prop where
  lastReq : a'.1.lastReq = a.1.lastReq
  solBuf : a'.1.solBuf = a.1.solBuf
  deferred : a'.1.deferred = a.1.deferred
  pending : a'.1.pending = a.1.pending
  cfg : a'.1.cfg = a.1.cfg
  outs : ∃ l, a'.2 = a.2 ++ l ∧ NoSolL l

theorem Ext.refl (a : Acc) : Ext a a := ⟨rfl, rfl, rfl, rfl, rfl, [], by simp, NoSolL.nil⟩

theorem Ext.trans {a b c : Acc} (h1 : Ext a b) (h2 : Ext b c) : Ext a c := by
  obtain ⟨l1, e1, n1⟩ := h1.outs
  obtain ⟨l2, e2, n2⟩ := h2.outs
  exact ⟨h2.lastReq.trans h1.lastReq, h2.solBuf.trans h1.solBuf, h2.deferred.trans h1.deferred,
    h2.pending.trans h1.pending, h2.cfg.trans h1.cfg, l1 ++ l2, by rw [e2, e1, List.append_assoc], n1.append n2⟩

theorem Ext.state (a : Acc) (s' : OState) (h1 : s'.lastReq = a.1.lastReq) (h2 : s'.solBuf = a.1.solBuf)
    (h3 : s'.deferred = a.1.deferred) (h4 : s'.pending = a.1.pending) (h5 : s'.cfg = a.1.cfg) : Ext a (s', a.2) :=
  ⟨h1, h2, h3, h4, h5, [], by simp, NoSolL.nil⟩

theorem Ext.emitCb (a : Acc) (c : Cb) : Ext a (emitCb a c) :=
  ⟨rfl, rfl, rfl, rfl, rfl, [.cb c], rfl, NoSolL.cb c⟩

/-- the bridge from the effects: what leaves the five observations alone and puts out no solicited response -/
theorem Ext.of_eff {F : List Frame.Fld} {D : List Frame.DbStep} {P : OOut → Prop} {a a' : Acc} (h : Frame.Eff F D P a a')
    (hP : ∀ o, P o → ∀ d b, o = .tx d b → b.getD 1 0 ≠ 0x81)
    (hF : Frame.Apart [.lastReq, .solBuf, .deferred, .pending, .cfg] F := by decide) : Ext a a' :=
  have k := h.on hF
  have ⟨l, e, hl⟩ := h.2.2
  ⟨k.get .lastReq, k.get .solBuf, k.get .deferred, k.get .pending, k.get .cfg, l, e, fun d b hm => hP _ (hl _ hm) d b rfl⟩

theorem Ext.of_keff {F : List Frame.Fld} {D : List Frame.DbStep} {ks : List Frame.OKind} {a a' : Acc}
    (h : Frame.Eff F D (Frame.KP ks) a a')
    (hF : Frame.Apart [.lastReq, .solBuf, .deferred, .pending, .cfg] F := by decide)
    (hk : Frame.OKind.tx ∉ ks := by decide) : Ext a a' :=
  .of_eff h (fun _ ho _ _ e => absurd (show Frame.OKind.tx ∈ ks by subst e; exact ho) hk) hF

theorem checkUnsolicited_ext (a : Acc) (res : Acc ⊕ (Acc × NextIdle)) (h : checkUnsolicited a = some res) :
    Ext a (res.elim id Prod.fst) := by
  refine .of_eff (Frame.checkUnsolicited_cases a res h).effU fun o ho d b e => ?_
  subst e
  rcases ho with ho | ⟨_, _, e, hb⟩
  · cases ho
  · cases e; rw [hb]; decide

theorem finishPass_ext (a : Acc) (next : NextIdle) : Ext a (finishPass a next) :=
  .of_keff (Frame.finishPass_eff a next)

theorem clearWrittenEvents_ext (a : Acc) : Ext a (clearWrittenEvents a) :=
  .of_keff (Frame.clearWrittenEvents_eff a)

theorem clearWrittenEvents_mode (a : Acc) : (clearWrittenEvents a).1.mode = a.1.mode := by
  rw [Frame.clearWrittenEvents_eq]

theorem afterUnsolSeries_ext (a : Acc) (isNull confirmed : Bool) : Ext a (afterUnsolSeries a isNull confirmed).1 :=
  .of_keff (Frame.afterUnsolSeries_eff a isNull confirmed)

/-- a result predicate `F` that holds however a pass ends after `b`: dead, or blocked as a quiet extension of `b` -/
structure KitHyp (b : Acc) (F : StepRes → Prop) : Prop where
  deferred : b.1.deferred = none
  die : ∀ a, Ext b a → F (die a)
  blkU : ∀ a, Ext b a → (∃ r n t d, a.1.mode = .unsolWait r n t d) → F (.blocked a)
  blkI : ∀ a, Ext b a → (∃ n, a.1.mode = .idle n) → idleWakes a.1 = false → F (.blocked a)

def ModeFin (s : OState) : Prop := s.mode ≠ .dead ∧ ∀ sr dl c, s.mode = .solWait sr dl c → sr.fin = true

def Died (b a' : Acc) : Prop := ∃ l, a'.2 = b.2 ++ l ∧ OOut.panic ∈ l ∧ a'.1.mode = .dead

def Fin (b a' : Acc) : Prop := Died b a' ∨ (Ext b a' ∧ ModeFin a'.1)

theorem died_of_outs {b a : Acc} (h : ∃ l, a.2 = b.2 ++ l) : Died b (finishStep (die a)) := by
  obtain ⟨l, e⟩ := h
  exact ⟨l ++ [.panic], by simp [die, finishStep, emit, e], by simp, rfl⟩

theorem died_die {b a : Acc} (h : Ext b a) : Died b (finishStep (die a)) :=
  let ⟨l, e, _⟩ := h.outs
  died_of_outs ⟨l, e⟩

theorem modeFin_unsolWait {s : OState} (h : ∃ r n t d, s.mode = .unsolWait r n t d) : ModeFin s := by
  obtain ⟨r, n, t, d, h⟩ := h
  constructor
  · rw [h]; intro e; cases e
  · intro sr dl c e; rw [h] at e; cases e

theorem modeFin_idle {s : OState} (h : ∃ n, s.mode = .idle n) : ModeFin s := by
  obtain ⟨n, h⟩ := h
  constructor
  · rw [h]; intro e; cases e
  · intro sr dl c e; rw [h] at e; cases e

open Skel in
def TailI (b : Acc) : Pt × Acc → Prop
  | (.halt, a) => Died b a
  | (p, a) => Ext b a ∧ (p = .blk → ModeFin a.1)

theorem TailI.refl {p : Skel.Pt} {a : Acc} (hh : p ≠ .halt) (hb : p = .blk → ModeFin a.1) : TailI a (p, a) := by
  cases p with
  | halt => exact absurd rfl hh
  | _ => exact ⟨Ext.refl a, hb⟩

section Tail
variable {b : Acc} (hp : b.1.pending = none) (hd : b.1.deferred = none)
include hp

/-- with nothing in the reader an iteration of the idle pass goes straight on to `afterRequest` -/
theorem tailI_pass {a : Acc} {fuel : Nat} {y : Skel.Pt × Acc} (hc : Skel.PassCase a fuel y) (he : Ext b a) : TailI b y := by
  have hpn : ({ a.1 with notified := false } : OState).pending = none := he.pending.trans hp
  obtain ⟨s, p, hpop, hc⟩ := hc
  rw [Skel.popRequest_iff.2 (.empty hpn)] at hpop
  cases hpop
  cases hc
  exact ⟨he.trans (Ext.state a _ rfl rfl rfl hpn.symm rfl), nofun⟩

include hd

/-- with the reader empty no wait retains a fragment: after the first handler of a step only the idle pass runs on -/
theorem tailI_step {x y : Skel.Pt × Acc} (h : Skel.LStep x y) (hx : TailI b x) : TailI b y := by
  obtain ⟨h, hb⟩ := h
  cases h with
  | pass | solFragment | solTimeout | unsolFragment | unsolTimeout =>
    exact absurd (hb rfl).1 (by rw [hx.1.pending.trans hp]; nofun)
  | chkDie a _ _ => exact died_die hx.1
  | chkStart a _ a' he =>
    exact ⟨hx.1.trans (checkUnsolicited_ext a _ he), fun _ => modeFin_unsolWait (Frame.checkUnsolicited_inl_mode he)⟩
  | chkIdle a _ a' n he => exact ⟨hx.1.trans (checkUnsolicited_ext a _ he), nofun⟩
  | defDie a _ n he => exact died_die hx.1
  | defWait a _ n a' he => rw [Frame.handleDeferredRead_idle a n (hx.1.deferred.trans hd)] at he; cases he
  | defDone a _ n a' he => rw [Frame.handleDeferredRead_idle a n (hx.1.deferred.trans hd)] at he; cases he; exact ⟨hx.1, nofun⟩
  | finishPass a _ n _ =>
    exact ⟨hx.1.trans (finishPass_ext a n), fun _ => modeFin_idle (Skel2.finishPass_idle a n)⟩
  | again a _ n y _ hc => exact tailI_pass hp hc (hx.1.trans (finishPass_ext a n))
  | fuel a n _ =>
    exact ⟨(hx.1.trans (finishPass_ext a n)).trans (Ext.emitCb _ _), fun _ => modeFin_idle (Skel2.finishPass_idle a n)⟩

end Tail

/-- the job of the step is done: by `a1`, of which `Φ` holds, with nothing deferred and the reader empty, and since
    then only infrastructure ran.  `Φ` is what the step is for: the request handled (`Handled`), or stored
    request and solicited buffer left as they were (`Same`) -/
def After (Φ : Acc → Prop) (x : Skel.Pt × Acc) : Prop :=
  ∃ a1, Φ a1 ∧ a1.1.deferred = none ∧ a1.1.pending = none ∧ TailI a1 x

theorem After.step {Φ : Acc → Prop} {x y : Skel.Pt × Acc} (h : Skel.LStep x y) : After Φ x → After Φ y
  | ⟨a1, hΦ, hd, hp, ht⟩ => ⟨a1, hΦ, hd, hp, tailI_step hp hd h ht⟩

theorem After.fin {Φ : Acc → Prop} {z : Skel.Pt × Acc} (h : After Φ z) (hf : z.1 = .blk ∨ z.1 = .halt) :
    ∃ a1, Φ a1 ∧ a1.1.deferred = none ∧ a1.1.pending = none ∧ Fin a1 z.2 := by
  obtain ⟨a1, hΦ, hd, hp, ht⟩ := h
  obtain ⟨p, a⟩ := z
  refine ⟨a1, hΦ, hd, hp, ?_⟩
  rcases hf with rfl | rfl
  · exact .inr ⟨ht.1, ht.2 rfl⟩
  · exact .inl ht

theorem writeSolicited_fields {a a' : Acc} {dst : Nat} {r r' : Resp} (h : writeSolicited a dst r = some (a', r')) :
    a'.1.lastReq = a.1.lastReq ∧ a'.1.deferred = a.1.deferred ∧ a'.1.pending = a.1.pending ∧
    a'.1.cfg = a.1.cfg ∧ a'.1.mode = a.1.mode ∧ r'.func = r.func ∧ r'.ctrl.seq = r.ctrl.seq ∧
    a'.1.solBuf = writeAt a.1.solBuf 0 (respHeader r') ∧
    a'.2 = a.2 ++ [.tx dst ((writeAt a.1.solBuf 0 (respHeader r')).take (max 4 r'.size))] := by
  obtain ⟨_, _, _, _, rfl, rfl⟩ := Frame.writeSolicited_eq h
  rw [Iin.afterIin_eq]
  exact ⟨rfl, rfl, rfl, rfl, rfl, rfl, rfl, rfl, rfl⟩

/-- the first half of `handleRequestFromIdle` leaves alone what the trace invariants read -/
theorem idleStage1_kept {a a1 : Acc} {f : Frag} {ctrl : AppCtrl} {func : Nat} {objs : Except Nat (List ObjHdr)}
    {raw : List Nat} {olr : Option (LastReq × Bool)} (h : Skel.IdleStage1 a f ctrl func objs raw a1 olr) :
    Frame.Kept [.cfg, .mode, .lastReq, .deferred, .pending] a.1 a1.1 :=
  h.eff.on (by decide)

theorem hrfi_kept {a a' : Acc} {f : Frag} {ctrl : AppCtrl} {func : Nat} {objs : Except Nat (List ObjHdr)}
    {raw : List Nat} {ser : Option Series} (h : handleRequestFromIdle a f ctrl func objs raw = some (a', ser)) :
    Frame.Kept [.cfg, .mode, .deferred, .pending] a.1 a'.1 :=
  (Skel.handleRequestFromIdle_eff h).on (by decide)

theorem handleNonRead_kept {a a1 : Acc} {func seq fid : Nat} {hs : List ObjHdr} {raw : List Nat} {r : Option Resp}
    (h : handleNonRead a func seq fid hs raw = some (a1, r)) :
    Frame.Kept [.cfg, .mode, .lastReq, .deferred, .pending] a.1 a1.1 :=
  (Frame.handleNonRead_eff h).on (by decide)

def DefInv (s : OState) : Prop :=
  s.mode = .dead ∨ s.deferred = none ∨ ∃ r n t d, s.mode = .unsolWait r n t d

theorem DefInv.calm {s : OState} (h : DefInv s) (hm : (∃ n, s.mode = .idle n) ∨ ∃ sr dl c, s.mode = .solWait sr dl c) :
    s.deferred = none := by
  rcases h with h | h | ⟨_, _, _, _, h⟩
  · rcases hm with ⟨_, e⟩ | ⟨_, _, _, e⟩ <;> (rw [e] at h; cases h)
  · exact h
  · rcases hm with ⟨_, e⟩ | ⟨_, _, _, e⟩ <;> (rw [e] at h; cases h)

theorem writeErrorResponse_deferred {a a' : Acc} {src : Nat} {bc : Bool} {seq : Option Nat}
    (h : writeErrorResponse a src bc seq = some a') : a'.1.deferred = a.1.deferred ∧ a'.1.mode = a.1.mode :=
  ⟨(Frame.writeErrorResponse_eff h).get .deferred, (Frame.writeErrorResponse_eff h).get .mode⟩

open Skel in
/-- `DefInv` at the control points: it holds wherever the task blocks; once `handle_deferred_read` has run nothing
    is deferred; in between (`req`, `uns`) nothing is claimed -/
def DefI : Pt × Acc → Prop
  | (.blk, a) | (.halt, a) => DefInv a.1
  | (.dfr _ _, a) => a.1.deferred = none
  | _ => True

theorem defI_resumePt (a : Acc) (c : SolCont) : DefI (Skel.resumePt a c) := by
  cases c with
  | fromRequest => trivial
  | fromDeferred n => exact rfl

theorem defI_step {x y : Skel.Pt × Acc} (h : Skel.Step x y) (hx : DefI x) : DefI y := by
  have pass : ∀ {a : Acc} {fuel y}, Skel.PassCase a fuel y → a.1.deferred = none → DefI y := by
    intro a fuel y hc hd
    obtain ⟨s, p, hp, hc⟩ := hc
    cases hc with
    | requestWait a' sr hh =>
      exact .inr (.inl (((hrfi_kept hh).get .deferred).trans ((Skel.House.of_pop hp).deferred.trans hd)))
    | errorDie | requestDie => exact .inl rfl
    | nothing | error | request => trivial
  cases h with
  | pass a n y hm _ hc => exact pass hc (DefInv.calm hx (.inl ⟨n, hm⟩))
  | chkDie | defDie => exact .inl rfl
  | chkStart a _ a' he => exact .inr (.inr (Frame.checkUnsolicited_inl_mode he))
  | chkIdle => trivial
  | defWait a _ n a' he => exact .inr (.inl (Frame.handleDeferredRead_cases _ _ _ he).deferred)
  | defDone a _ n a' he => exact (Frame.handleDeferredRead_cases _ _ _ he).deferred
  | finishPass a _ n _ => exact .inr (.inl ((finishPass_ext a n).deferred.trans hx))
  | again a _ n y _ hc => exact pass hc ((finishPass_ext a n).deferred.trans hx)
  | fuel a n _ => exact .inr (.inl ((finishPass_ext a n).deferred.trans hx))
  | solTimeout a sr dl c _ _ _ => exact defI_resumePt _ c
  | solFragment a sr dl c y hm _ hc =>
    obtain ⟨s, p, hp, hc⟩ := hc
    have hs : s.deferred = none :=
      (Skel.House.of_pop hp).deferred.trans (DefInv.calm hx (.inr ⟨sr, dl, c, hm⟩))
    cases hc with
    | nothing | unsolConfirm | wrongSeq => exact .inr (.inl hs)
    | error | newRequest => exact defI_resumePt _ c
    | echo => exact .inr (.inl ((Skel2.solEchoAcc_fields _ _ _ _ _).2.trans hs))
    | confirmed _ _ ht =>
      cases ht with
      | done | last => exact defI_resumePt _ c
      | die => exact .inl rfl
      | next s6 r6 sr' a7 r7 _ hfr hw =>
        have h6 : (formatReadResponse _ false (seq4Next sr.ecsn) 0).1.deferred = s6.deferred :=
          congrArg (·.1.deferred) hfr
        exact .inr (.inl ((writeSolicited_fields hw).2.1.trans
          (h6.symm.trans ((clearWrittenEvents_ext _).deferred.trans hs))))
  | unsolFragment a resp isNull rt dl y hm _ hc =>
    cases C04.uwfCase_end hc with
    | blocked _ _ _ e => exact .inr (.inr ⟨_, _, _, _, e.trans hm⟩)
    | died => exact .inl rfl
    | finished => trivial
  | unsolTimeout a resp isNull rt dl y _ _ _ hc =>
    cases hc with
    | finish => trivial
    | retry => exact .inr (.inr ⟨_, _, _, _, rfl⟩)

theorem defInv_of_steps {x z : Skel.Pt × Acc} (hz : Skel.Star Skel.Step x z) (hf : z.1 = .blk ∨ z.1 = .halt)
    (hx : DefI x) : DefInv z.2.1 := by
  have := Skel.Star.inv (fun _ _ h => defI_step h) hz hx
  obtain ⟨p, a⟩ := z
  rcases hf with rfl | rfl <;> exact this

theorem defInv_step (env : OEnv) (s : OState) (inp : OInput) (h : DefInv s) :
    DefInv (Outstation.step env s inp).1 := by
  rcases Skel.step_steps env s inp with ⟨f, _, e⟩ | e | ⟨pf, s0, o0, z, hi, hz, hf, e⟩
  · rw [e]; exact h
  · rw [e]; exact h
  · rw [e]
    refine defInv_of_steps hz hf ?_
    rcases hi.mode with ⟨hm, hd, _⟩ | ⟨_, hm, hd⟩
    · show DefInv s0
      unfold DefInv
      rw [hm, hd]; exact h
    · exact .inr (.inl hd)

theorem defInv_start (cfg : OCfg) (evMax : Nat) : DefInv (Outstation.start cfg evMax).1 := by
  obtain ⟨z, hz, hf, e⟩ := Skel.start_steps cfg evMax
  rw [e]
  exact defInv_of_steps hz hf (.inr (.inl rfl))

def ReadFrag (d : List Nat) : Prop := ∃ c o r, parseRequest d = .request c 1 o r

structure LRInv (s : OState) : Prop where
  lr : ∀ lr sr, s.lastReq = some lr → lr.series = some sr → sr.fin = false → ReadFrag lr.frag
  df : ∀ d, s.deferred = some d → ReadFrag d.frag

theorem LRInv.same {s s' : OState} (h : LRInv s) (h1 : s'.lastReq = s.lastReq)
    (h2 : s'.deferred = s.deferred ∨ s'.deferred = none) : LRInv s' := by
  constructor
  · intro lr sr hl; rw [h1] at hl; exact h.lr lr sr hl
  · intro d hd
    rcases h2 with h2 | h2
    · rw [h2] at hd; exact h.df d hd
    · rw [h2] at hd; cases hd

theorem LRInv.ext {a a' : Acc} (h : LRInv a.1) (e : Ext a a') : LRInv a'.1 := h.same e.lastReq (.inl e.deferred)

theorem LRInv.store {s s' : OState} (h : LRInv s) {x : LastReq} (hl : s'.lastReq = some x)
    (hx : ∀ sr, x.series = some sr → sr.fin = false → ReadFrag x.frag)
    (hd : s'.deferred = s.deferred ∨ s'.deferred = none) : LRInv s' := by
  constructor
  · intro lr sr e
    rw [hl] at e
    cases e
    exact hx sr
  · intro d e
    rcases hd with hd | hd
    · rw [hd] at e; exact h.df d e
    · rw [hd] at e; cases e

/-- `hJ` is used for an echoed record only -/
theorem idleStage1_lr {a a1 : Acc} {f : Frag} {ctrl : AppCtrl} {func : Nat} {objs : Except Nat (List ObjHdr)}
    {raw : List Nat} {olr : Option (LastReq × Bool)} (hJ : LRInv a.1)
    (hq : parseRequest f.data = .request ctrl func objs raw)
    (h : Skel.IdleStage1 a f ctrl func objs raw a1 olr) :
    ∀ lr echo, olr = some (lr, echo) → lr.frag = f.data ∧
      ∀ sr, lr.series = some sr → sr.fin = false → ReadFrag f.data := by
  intro lr echo e
  cases h with
  | confirm => cases e
  | bcast => cases e
  | nonRead => cases e; exact ⟨rfl, fun sr e => by cases e⟩
  | prep s1 lr' _ _ _ hfr hser =>
    cases e
    refine ⟨hfr, fun sr hs _ => ?_⟩
    rcases hser with hn | h1
    · rw [hn] at hs; cases hs
    · exact ⟨ctrl, objs, raw, by rw [← h1]; exact hq⟩
  | echo s1 last _ _ _ _ _ hc =>
    obtain ⟨old, hold, _, hfrag, _⟩ := Frame.classify_repeat (.inr hc)
    cases e
    refine ⟨rfl, fun sr hsr hfin => ?_⟩
    rw [hold] at hsr
    rw [← hfrag]
    exact hJ.lr old sr hold hsr hfin

theorem idleStage2_lr {f : Frag} {a1 a' : Acc} {olr : Option (LastReq × Bool)} {ser : Option Series}
    (h : Skel.IdleStage2 a1 f olr a' ser) :
    a'.1.deferred = a1.1.deferred ∧
    ((olr = none ∧ a'.1.lastReq = a1.1.lastReq) ∨
     ∃ lr echo lr', olr = some (lr, echo) ∧ a'.1.lastReq = some lr' ∧ lr'.frag = lr.frag ∧
       (lr'.series = lr.series ∨ ∃ q, lr'.series = some ⟨q, true⟩)) := by
  cases h with
  | nothing => exact ⟨rfl, .inl ⟨rfl, rfl⟩⟩
  | silent lr e => exact ⟨rfl, .inr ⟨lr, e, lr, rfl, rfl, rfl, .inl rfl⟩⟩
  | echo lr r => exact ⟨rfl, .inr ⟨lr, true, lr, rfl, rfl, rfl, .inl rfl⟩⟩
  | fresh lr r a2 r2 _ hw =>
    refine ⟨(writeSolicited_fields hw).2.1, .inr ⟨lr, false, _, rfl, rfl, rfl, ?_⟩⟩
    dsimp only
    split
    · exact .inr ⟨_, rfl⟩
    · exact .inl rfl

theorem hrfi_lrInv {a a' : Acc} {f : Frag} {ctrl : AppCtrl} {func : Nat} {objs : Except Nat (List ObjHdr)}
    {raw : List Nat} {ser : Option Series} (hJ : LRInv a.1)
    (hq : parseRequest f.data = .request ctrl func objs raw)
    (h : handleRequestFromIdle a f ctrl func objs raw = some (a', ser)) : LRInv a'.1 := by
  rw [Skel.handleRequestFromIdle_eq] at h
  cases h1 : Skel.idleStage1 a f ctrl func objs raw with
  | none => rw [h1] at h; cases h
  | some p =>
    obtain ⟨a1, olr⟩ := p
    rw [h1] at h
    have s1 := Skel.idleStage1_cases h1
    have e1 := (idleStage1_kept s1).get .lastReq
    have e2 := (idleStage1_kept s1).get .deferred
    obtain ⟨d2, hcase⟩ := idleStage2_lr (Skel.idleStage2_cases h)
    rcases hcase with ⟨_, e⟩ | ⟨lr, echo, lr', holr, hl', hfrag, hser⟩
    · exact hJ.same (e.trans e1) (.inl (d2.trans e2))
    · obtain ⟨g1, g2⟩ := idleStage1_lr hJ hq s1 lr echo holr
      refine hJ.store hl' (fun sr hs hfin => ?_) (.inl (d2.trans e2))
      rw [hfrag, g1]
      rcases hser with hser | ⟨q, hser⟩
      · rw [hser] at hs; exact g2 sr hs hfin
      · rw [hser] at hs; cases hs; cases hfin

theorem lrInv_event {pf : Option Frag} {ph ph' : Skel2.Ph} {a a' : Acc} (e : Skel2.Ev2 pf ph a ph' a')
    (h : LRInv a.1) : LRInv a'.1 := by
  cases e with
  | house _ _ s' hh =>
    obtain ⟨n, l, p, _, e⟩ := hh
    subst e
    exact h.same rfl (.inl rfl)
  | noteCb _ _ c hc => exact h
  | die _ _ => exact h.same rfl (.inl rfl)
  | clrDeferred _ _ => exact h.same rfl (.inr rfl)
  | dbReset _ _ => exact h.same rfl (.inl rfl)
  | errResp _ _ src bc seq _ _ hw =>
    have k := (Frame.writeErrorResponse_eff hw).1
    exact h.same (k.get .lastReq) (.inl (k.get .deferred))
  | enter _ n _ => exact h
  | reqIdle _ f ctrl func objs raw _ hq hh => exact hrfi_lrInv h hq.2 hh
  | reqIdleWait _ f ctrl func objs raw a1 sr hq hh => exact (hrfi_lrInv h hq.2 hh).same rfl (.inl rfl)
  | chkStart _ _ hc => exact h.ext (checkUnsolicited_ext a _ hc)
  | chkIdle _ _ n hc => exact h.ext (checkUnsolicited_ext a _ hc)
  | defWait _ n _ hd =>
    have hdn := (Frame.handleDeferredRead_cases _ _ _ hd).deferred
    cases Frame.handleDeferredRead_cases a n _ hd with
    | awaiting d a2 r2 sr hdd hw =>
      exact h.store (x := ⟨d.seq, d.frag, some r2, (Frame.deferredFormat a.1 d).2.2⟩) rfl (fun _ _ _ => h.df d hdd)
        (.inr hdn)
  | defDone _ n _ hd =>
    have hdn := (Frame.handleDeferredRead_cases _ _ _ hd).deferred
    cases Frame.handleDeferredRead_cases a n _ hd with
    | none _ => exact h
    | answered d a2 r2 hdd hw _ _ =>
      exact h.store (x := ⟨d.seq, d.frag, some r2, (Frame.deferredFormat a.1 d).2.2⟩) rfl (fun _ _ _ => h.df d hdd)
        (.inr hdn)
  | finishPass _ n => exact h.ext (finishPass_ext a n)
  | solEcho _ sr dl c f ctrl func objs raw resp hs hm hq hc =>
    exact h.same (Skel2.solEchoAcc_fields _ _ _ _ _).1 (.inl (Skel2.solEchoAcc_fields _ _ _ _ _).2)
  | solAbortNew _ sr dl c _ _ => exact h
  | solAbortTimeout _ sr dl c _ _ => exact h
  | solConf _ sr dl c f ctrl objs raw hm hq hu hs =>
    exact (h.same (s' := { a.1 with lastBroadcast := none }) rfl (.inl rfl)).ext (clearWrittenEvents_ext (_, _))
  | solCont _ sr dl c f a7 r7 hm hfin hq hw =>
    have hf := writeSolicited_fields hw
    refine ⟨fun x sr' hx => ?_, fun d hd => h.df d (hf.2.1.symm.trans hd)⟩
    obtain ⟨old, hl, rfl⟩ := Option.map_eq_some_iff.1 hx
    exact h.lr old sr' (hf.1.symm.trans hl)
  | solNext _ sr dl c sr' _ => exact h.same rfl (.inl rfl)
  | unsolConf _ resp isNull retries dl f ctrl objs raw hm hq hu hs =>
    exact LRInv.ext (a := Dnp3.emitCb ({ a.1 with lastBroadcast := if a.1.unsolReported then none else a.1.lastBroadcast }, a.2)
      (.unsolConfirmed resp.ctrl.seq)) (h.same rfl (.inl rfl)) (afterUnsolSeries_ext _ _ _)
  | uwSolConfirm _ resp isNull retries dl f ctrl objs raw hm hq hu =>
    split
    · exact h.same rfl (.inl rfl)
    · exact h
  | uwBcast _ resp isNull retries dl f m ctrl func objs raw a1 hm hq hf hb hp =>
    have hk := (Frame.processBroadcast_eff hp).1
    exact h.same (hk.get .lastReq) (.inl (hk.get .deferred))
  | uwMalformed _ resp isNull retries dl f ctrl func e raw _ r' _ _ _ _ hw =>
    have hf := writeSolicited_fields hw
    exact h.same hf.1 (.inl hf.2.1)
  | uwNonRead _ resp isNull retries dl f ctrl func hs raw a4 r4 a5 r5 hm hq hf0 hf1 hb hn hw =>
    exact h.store (x := ⟨ctrl.seq, f.data, r5, none⟩) rfl (fun _ e => by cases e)
      (.inl ((hw.eff.get .deferred).trans ((handleNonRead_kept hn).get .deferred)))
  | uwNonReadDie _ resp isNull retries dl f ctrl func hs raw a4 r hm hq hf0 hf1 hb hn hw =>
    exact h.same ((handleNonRead_kept hn).get .lastReq) (.inl ((handleNonRead_kept hn).get .deferred))
  | uwDisable _ resp isNull retries dl f ctrl hs raw hm hq => exact h.ext (afterUnsolSeries_ext _ _ _)
  | deferSet _ resp isNull retries dl f ctrl hs raw _ hq hb =>
    show LRInv (deferredSet a.1 f ctrl.seq hs)
    rw [Frame.deferredSet_spec]
    constructor
    · exact h.lr
    · intro d hd
      cases hd
      exact ⟨ctrl, .ok hs, raw, hq.2⟩
  | uwEcho _ resp isNull retries dl f ctrl func objs raw last _ _ _ =>
    exact h.same (Skel2.uwEchoAcc_fields _ _ _).1 (.inr (Skel2.uwEchoAcc_fields _ _ _).2.1)
  | uwTimeoutEnd _ resp isNull retries dl hm _ hd =>
    exact LRInv.ext (a := Dnp3.emitCb a (.unsolTimeout resp.ctrl.seq false)) h (afterUnsolSeries_ext _ _ _)
  | uwRetry _ resp isNull retries retries' dl hm _ hd hr => exact h.same rfl (.inl rfl)

theorem lrInv_reach {pf : Option Frag} {x y : Skel2.PA} (hr : Skel2.Reach2 pf x y) (h : LRInv x.2.1) : LRInv y.2.1 := by
  induction hr with
  | refl => exact h
  | tail _ r ih => exact lrInv_event r ih

theorem lrInv_step (env : OEnv) (s : OState) (inp : OInput) (h : LRInv s) :
    LRInv (Outstation.step env s inp).1 := by
  rcases Skel2.step_reach2 env s inp with ⟨f, _, e⟩ | e | ⟨pf, s0, o0, hi, hr⟩
  · rw [e]; exact h.same rfl (.inl rfl)
  · rw [e]; exact h
  · refine lrInv_reach hr ?_
    show LRInv s0
    cases hi with
    | rx src dst data b hb => exact h.same rfl (.inl rfl)
    | tick ms => exact h.same rfl (.inl rfl)
    | txn items =>
      exact h.same ((Skel.txnFold_upd s items).get .lastReq) (.inl ((Skel.txnFold_upd s items).get .deferred))
    | add t idx cls => exact h.same rfl (.inl rfl)
    | cut => exact ⟨fun lr sr e => (by cases e), fun d e => (by cases e)⟩

theorem lrInv_start (cfg : OCfg) (evMax : Nat) : LRInv (Outstation.start cfg evMax).1 := by
  refine lrInv_reach (Skel2.start_reach2 cfg evMax) ?_
  exact ⟨fun lr sr e => (by cases e), fun d e => (by cases e)⟩

/-- what a step is expected to transmit as solicited response -/
def expTx (src : Nat) (resp : Option Resp) (bytes : List Nat) : List (Nat × List Nat) :=
  match resp with
  | some _ => solTx [.tx src bytes]
  | none => []

/-- "echo-ready": the state remembers the request `(seq, data)` and will echo `bytes` (if a response `resp` is stored).
    `buf`: the solicited buffer already begins with the stored header, so the echo, which writes that header over the
    buffer and sends its first `max 4 r.size` octets (`repeatSolicited`), changes nothing and sends `bytes` -/
structure ER (seq : Nat) (data : List Nat) (resp : Option Resp) (bytes : List Nat) (s : OState) : Prop where
  lastReq : ∃ ser, s.lastReq = some ⟨seq, data, resp, ser⟩ ∧ ∀ sr, ser = some sr → sr.fin = true
  deferred : s.deferred = none
  pending : s.pending = none
  buf : ∀ r, resp = some r → writeAt s.solBuf 0 (respHeader r) = s.solBuf ∧ s.solBuf.take (max 4 r.size) = bytes
  mode : ModeFin s

/-- the accumulator right after the request was handled; `L0` / `B0`: stored request and solicited buffer before.
    The last clause is for the second delivery: if `L0` already held this request, the response stored is the old one
    and a buffer that began with its header is left as it was, so from an `ER` state the same `bytes` go out again
    (the second half of `repeat_never_executes_twice`) -/
def Handled (seq : Nat) (data : List Nat) (src : Nat) (L0 : Option LastReq) (B0 : List Nat) (a1 : Acc) : Prop :=
  ∃ resp ser bytes,
    a1.1.lastReq = some ⟨seq, data, resp, ser⟩ ∧ (∀ sr, ser = some sr → sr.fin = true) ∧
    (∀ r, resp = some r → writeAt a1.1.solBuf 0 (respHeader r) = a1.1.solBuf ∧
      a1.1.solBuf.take (max 4 r.size) = bytes) ∧
    solTx a1.2 = expTx src resp bytes ∧
    (∀ resp0 ser0, L0 = some ⟨seq, data, resp0, ser0⟩ → resp = resp0 ∧
      ∀ r, resp0 = some r → writeAt B0 0 (respHeader r) = B0 → a1.1.solBuf = B0)

section Req
variable {f : Frag} {ctrl : AppCtrl} {func : Nat} {hs : List ObjHdr} {raw : List Nat}

theorem not_readFrag (hq : parseRequest f.data = .request ctrl func (.ok hs) raw) (hf1 : func ≠ 1) :
    ¬ ReadFrag f.data := by
  rintro ⟨c, o, r, h⟩
  rw [hq] at h
  cases h
  exact hf1 rfl

theorem handleNonRead_outs {a a1 : Acc} {seq fid : Nat} {r : Option Resp}
    (hn : handleNonRead a func seq fid hs raw = some (a1, r)) : ∃ l, a1.2 = a.2 ++ l ∧ NoSolL l := by
  obtain ⟨l, e, hl⟩ := (Frame.handleNonRead_eff hn).2.2
  refine ⟨l, e, NoSolL.of_notTx ?_⟩
  intro o ho d b eo
  subst eo
  simpa [Frame.KP, Frame.OOut.kind] using hl _ ho

theorem repeat_series_fin {s : OState} {last : LastReq} (hJ : LRInv s) (hl : s.lastReq = some last)
    (hfrag : last.frag = f.data) (hq : parseRequest f.data = .request ctrl func (.ok hs) raw) (hf1 : func ≠ 1) :
    ∀ sr, last.series = some sr → sr.fin = true := by
  intro sr e
  cases hfn : sr.fin with
  | true => rfl
  | false =>
    have := hJ.lr last sr hl e hfn
    rw [hfrag] at this
    exact absurd this (not_readFrag hq hf1)

theorem new_facts {s0 : OState} {a a4 : Acc} {seq fid : Nat} {r4 : Option Resp}
    (hn : handleNonRead a func seq fid hs raw = some (a4, r4)) (hns : NoSolL a.2)
    (hcl : classify s0 f ctrl func (.ok hs) = .newNonRead hs) :
    solTx a4.2 = [] ∧ ∀ resp0 ser0, s0.lastReq ≠ some ⟨ctrl.seq, f.data, resp0, ser0⟩ := by
  obtain ⟨l, el, nl⟩ := handleNonRead_outs hn
  have d := (Frame.classify_both s0 f ctrl func (.ok hs)).2
  rw [hcl] at d
  exact ⟨by rw [el, solTx_append, solTx_of_noSol hns, solTx_of_noSol nl]; rfl, fun _ _ e => d ⟨_, e, rfl, rfl⟩⟩

theorem Handled.new {seq : Nat} {data : List Nat} {src : Nat} {L0 : Option LastReq} {B0 : List Nat} {a4 a5 : Acc}
    {r4 r5 : Option Resp} {ser : Option Series} (hw : Skel2.NRWritten a4 src r4 a5 r5) (htx : solTx a4.2 = [])
    (hser : ∀ sr, ser = some sr → sr.fin = true) (hnew : ∀ resp0 ser0, L0 ≠ some ⟨seq, data, resp0, ser0⟩) :
    Handled seq data src L0 B0 ({ a5.1 with lastReq := some ⟨seq, data, r5, ser⟩ }, a5.2) := by
  rcases hw with ⟨_, rfl, rfl⟩ | ⟨r, r', _, hw, rfl⟩
  · exact ⟨none, ser, [], rfl, hser, fun r e => (by cases e), htx, fun _ _ e => (hnew _ _ e).elim⟩
  · have hf := writeSolicited_fields hw
    refine ⟨some r', ser, (writeAt a4.1.solBuf 0 (respHeader r')).take (max 4 r'.size), rfl, hser, ?_, ?_,
      fun _ _ e => (hnew _ _ e).elim⟩
    · intro r'' e
      cases e
      show writeAt a5.1.solBuf 0 (respHeader r') = a5.1.solBuf ∧ a5.1.solBuf.take (max 4 r'.size) = _
      rw [hf.2.2.2.2.2.2.2.1, Frame.writeAt_zero_idem]
      exact ⟨rfl, rfl⟩
    · show solTx a5.2 = _
      rw [hf.2.2.2.2.2.2.2.2, solTx_append, htx]
      rfl

/-- what `uwEchoAcc` sends (stated here, after `expTx`, whose `match` has this shape) -/
theorem uwEchoAcc_sent (a : Acc) (dst : Nat) (last : Option Resp) :
    (Skel2.uwEchoAcc a dst last).1.solBuf = (match last with
      | some r => writeAt a.1.solBuf 0 (respHeader r)
      | none => a.1.solBuf) ∧
    (Skel2.uwEchoAcc a dst last).2 = a.2 ++ match last with
      | some r => [.tx dst ((writeAt a.1.solBuf 0 (respHeader r)).take (max 4 r.size))]
      | none => [] := by
  cases last <;> simp [Skel2.uwEchoAcc, Frame.repeatSolicited_eq]

/-- `h2`, `h3`: the repeat is answered by the stored header written over the solicited buffer -/
theorem Handled.echo {a a1 : Acc} {seq : Nat} {data : List Nat} {src : Nat} {last : LastReq}
    (hl : a.1.lastReq = some last) (hseq : last.seq = seq) (hfrag : last.frag = data)
    (hfin : ∀ sr, last.series = some sr → sr.fin = true) (hns : NoSolL a.2) (h1 : a1.1.lastReq = a.1.lastReq)
    (h2 : a1.1.solBuf = match last.response with
      | some r => writeAt a.1.solBuf 0 (respHeader r)
      | none => a.1.solBuf)
    (h3 : a1.2 = a.2 ++ match last.response with
      | some r => [.tx src ((writeAt a.1.solBuf 0 (respHeader r)).take (max 4 r.size))]
      | none => []) :
    Handled seq data src a.1.lastReq a.1.solBuf a1 := by
  subst hseq hfrag
  obtain ⟨q, d, resp, ser⟩ := last
  refine ⟨resp, ser, (writeAt a.1.solBuf 0 (respHeader (resp.getD default))).take (max 4 (resp.getD default).size),
    h1.trans hl, hfin, ?_, ?_, ?_⟩
  · intro r e
    subst e
    rw [h2]
    show writeAt (writeAt a.1.solBuf 0 (respHeader r)) 0 (respHeader r) = writeAt a.1.solBuf 0 (respHeader r) ∧ _
    rw [Frame.writeAt_zero_idem]
    exact ⟨rfl, rfl⟩
  · rw [h3, solTx_append, solTx_of_noSol hns]
    cases resp <;> rfl
  · intro resp0 ser0 e
    rw [hl] at e
    cases e
    refine ⟨rfl, ?_⟩
    intro r er hid
    subst er
    rw [h2]
    exact hid

theorem handle_idle {a a' : Acc} {ser : Option Series}
    (hq : parseRequest f.data = .request ctrl func (.ok hs) raw) (hf0 : func ≠ 0) (hf1 : func ≠ 1)
    (hb : f.broadcast = none) (hJ : LRInv a.1) (hns : NoSolL a.2)
    (h : handleRequestFromIdle a f ctrl func (.ok hs) raw = some (a', ser)) :
    Handled ctrl.seq f.data f.src a.1.lastReq a.1.solBuf a' ∧ (∀ sr, ser = some sr → sr.fin = true) := by
  obtain ⟨a1, lr, s1, s2⟩ := Skel.handleRequestFromIdle_cases h
  cases s1 with
  | confirm h0 => exact absurd h0 hf0
  | bcast m a1 _ hb' => rw [hb] at hb'; cases hb'
  | prep t lr _ _ _ _ _ _ _ hp =>
    cases hp with
    | malformed e he => cases he
    | read hs' h1 => exact absurd h1 hf1
  | nonRead hs' a1 r _ _ _ ho hn hcl =>
    cases ho
    obtain ⟨htx, rep⟩ := new_facts hn hns hcl
    cases s2 with
    | silent _ _ hr =>
      cases hr
      exact ⟨Handled.new (.inl ⟨rfl, rfl, rfl⟩) htx (fun _ e => by cases e) rep, fun _ e => by cases e⟩
    | fresh _ r0 a2 r2 hr hw =>
      cases hr
      have hser : ∀ sr, (if r2.ctrl.con ∧ (none : Option Series).isNone then some (⟨r2.ctrl.seq, true⟩ : Series) else none) =
          some sr → sr.fin = true := fun sr e => by
        split at e
        · cases e; rfl
        · cases e
      exact ⟨Handled.new (.inr ⟨_, r2, rfl, hw, rfl⟩) htx hser rep, hser⟩
  | echo t last hk _ _ _ _ hcl =>
    obtain ⟨old, hold, hseq, hfrag, rfl⟩ := Frame.classify_repeat (.inr hcl)
    have hfin := repeat_series_fin hJ hold hfrag hq hf1
    have hlr : (⟨ctrl.seq, f.data, old.response, a.1.lastReq.bind (·.series)⟩ : LastReq) = old := by
      rw [hold, ← hseq, ← hfrag]; rfl
    rw [hlr] at s2
    have hsb := hk.get .solBuf
    cases s2 with
    | silent _ _ hr =>
      exact ⟨Handled.echo hold hseq hfrag hfin hns hold.symm (by rw [hr]; exact hsb)
        (by rw [hr]; exact (List.append_nil _).symm), hfin⟩
    | echo _ r hr =>
      refine ⟨Handled.echo hold hseq hfrag hfin hns hold.symm ?_ ?_, hfin⟩
      · rw [hr]; show writeAt t.solBuf 0 (respHeader r) = _; rw [hsb]
      · rw [hr]; show a.2 ++ [OOut.tx f.src ((writeAt t.solBuf 0 (respHeader r)).take (max 4 r.size))] = _; rw [hsb]

end Req

structure NR (f : Frag) (ctrl : AppCtrl) (func : Nat) (hs : List ObjHdr) (raw : List Nat) : Prop where
  parse : parseRequest f.data = .request ctrl func (.ok hs) raw
  notConfirm : func ≠ 0
  notRead : func ≠ 1
  unicast : f.broadcast = none

section Step
variable {f : Frag} {ctrl : AppCtrl} {func : Nat} {hs : List ObjHdr} {raw : List Nat}

def Done (f : Frag) (ctrl : AppCtrl) (b x : Acc) : Prop :=
  ∃ a1, Handled ctrl.seq f.data f.src b.1.lastReq b.1.solBuf a1 ∧ a1.1.deferred = none ∧ a1.1.pending = none ∧
    Fin a1 x

open Skel in
/-- before the request is handled only infrastructure ran since `b` (so the request is still in the reader): where
    the task blocks, the wait will look at it; inside the pass nothing is deferred and the pass that will find the
    request has fuel -/
def PreI (b : Acc) : Pt × Acc → Prop
  | (.halt, a) => Died b a
  | (.blk, a) => Ext b a ∧ a.1.mode ≠ .dead ∧ DefInv a.1
  | (.req fuel, a) | (.uns fuel _, a) | (.dfr fuel _, a) => Ext b a ∧ a.1.deferred = none ∧ 0 < fuel

def NrI (f : Frag) (ctrl : AppCtrl) (b : Acc) (x : Skel.Pt × Acc) : Prop :=
  PreI b x ∨ After (Handled ctrl.seq f.data f.src b.1.lastReq b.1.solBuf) x

theorem preI_abortPt {b a : Acc} (c : SolCont) (h : Ext b a) (hd : a.1.deferred = none) : PreI b (Skel.abortPt a c) := by
  have h1 : Ext b ({ a.1 with db := a.1.db.reset }, a.2) := h.trans (Ext.state a _ rfl rfl rfl rfl rfl)
  cases c with
  | fromRequest => exact ⟨h1, hd, by decide⟩
  | fromDeferred n => exact ⟨h1.trans (Ext.state _ _ rfl rfl hd.symm rfl rfl), rfl, by decide⟩

section Nr
variable (hnr : NR f ctrl func hs raw) {b : Acc} (hp : b.1.pending = some f)
  (hJ : LRInv b.1) (hns : NoSolL b.2) (hm : b.1.cfg.anymaster = true ∨ f.src = b.1.cfg.master)
include hnr hp hJ hns hm

/-- the iteration of the idle pass that finds the request handles it -/
theorem nrI_pass {a : Acc} {fuel : Nat} {y : Skel.Pt × Acc} (hc : Skel.PassCase a fuel y) (h : Ext b a)
    (hd : a.1.deferred = none) : NrI f ctrl b y := by
  have hpop : popRequest { a.1 with notified := false } =
      ({ a.1 with notified := false }, .request f ctrl func (.ok hs) raw) :=
    Skel.popRequest_eq_request (h.pending.trans hp) hnr.parse
      (show a.1.cfg.anymaster = true ∨ f.src = a.1.cfg.master by rw [h.cfg]; exact hm)
  obtain ⟨l, el, nl⟩ := h.outs
  have key : ∀ {a' ser}, handleRequestFromIdle
        (onLinkActivity { ({ a.1 with notified := false } : OState) with pending := none }, a.2) f ctrl func (.ok hs) raw =
        some (a', ser) →
      Handled ctrl.seq f.data f.src b.1.lastReq b.1.solBuf a' ∧ (∀ sr, ser = some sr → sr.fin = true) ∧
      a'.1.deferred = none ∧ a'.1.pending = none := by
    intro a' ser hh
    have hH := handle_idle (a := (onLinkActivity { ({ a.1 with notified := false } : OState) with pending := none }, a.2))
      hnr.parse hnr.notConfirm hnr.notRead hnr.unicast (hJ.same h.lastReq (.inl h.deferred))
      (by rw [el]; exact hns.append nl) hh
    have hfl := hrfi_kept hh
    have h1 : Handled ctrl.seq f.data f.src a.1.lastReq a.1.solBuf a' := hH.1
    rw [h.lastReq, h.solBuf] at h1
    exact ⟨h1, hH.2, (hfl.get .deferred).trans hd, hfl.get .pending⟩
  obtain ⟨s, p, h', hc⟩ := hc
  rw [hpop] at h'
  cases h'
  cases hc with
  | requestDie => exact .inl (died_of_outs ⟨l, el⟩)
  | requestWait a' sr hh =>
    obtain ⟨hH, hser, hd', hp'⟩ := key hh
    exact .inr ⟨a', hH, hd', hp', .of_keff (Frame.enterSolWait_eff _ _ _),
      fun _ => ⟨nofun, fun _ _ _ e => by cases e; exact hser sr rfl⟩⟩
  | request a' hh =>
    obtain ⟨hH, -, hd', hp'⟩ := key hh
    exact .inr ⟨a', hH, hd', hp', Ext.refl _, nofun⟩

omit hJ hns in
/-- in the solicited confirm wait the request aborts the series (`Confirm::NewRequest`) and stays in the reader -/
theorem nrI_swf {a : Acc} {sr : Series} {c : SolCont} {y : Skel.Pt × Acc} (hc : Skel.SWFCase a sr c y) (h : Ext b a)
    (hd : a.1.deferred = none) : NrI f ctrl b y := by
  have hpop : popRequest a.1 = (a.1, .request f ctrl func (.ok hs) raw) :=
    Skel.popRequest_eq_request (h.pending.trans hp) hnr.parse (by rw [h.cfg]; exact hm)
  obtain ⟨s, p, h', hc⟩ := hc
  rw [hpop] at h'
  cases h'
  cases hc with
  | newRequest =>
    exact .inl (preI_abortPt c ((h.trans (Ext.state a (onLinkActivity a.1) rfl rfl rfl rfl rfl)).trans (Ext.emitCb _ _)) hd)
  | echo => exact absurd rfl hnr.notRead
  | unsolConfirm | wrongSeq | confirmed => exact absurd rfl hnr.notConfirm

theorem nrI_uwf {a : Acc} {resp : Resp} {isNull : Bool} {y : Skel.Pt × Acc} (hc : Skel.UWFCase a resp isNull y)
    (h : Ext b a) (hmode : ∃ r n t d, a.1.mode = .unsolWait r n t d) : NrI f ctrl b y := by
  have hpop : popRequest a.1 = (a.1, .request f ctrl func (.ok hs) raw) :=
    Skel.popRequest_eq_request (h.pending.trans hp) hnr.parse (by rw [h.cfg]; exact hm)
  obtain ⟨l, el, nl⟩ := h.outs
  have hnsa : NoSolL a.2 := by rw [el]; exact hns.append nl
  -- a new request: executed, answered (if it has a response) and recorded in `a1`
  have new : ∀ {a4 r4 a5 r5},
      handleNonRead ({ onLinkActivity { a.1 with pending := none } with deferred := none }, a.2) func ctrl.seq f.id hs raw =
        some (a4, r4) → Skel2.NRWritten a4 f.src r4 a5 r5 →
      classify (onLinkActivity { a.1 with pending := none }) f ctrl func (.ok hs) = .newNonRead hs →
      Handled ctrl.seq f.data f.src b.1.lastReq b.1.solBuf ({ a5.1 with lastReq := some ⟨ctrl.seq, f.data, r5, none⟩ }, a5.2) ∧
      a5.1.deferred = none ∧ a5.1.pending = none ∧ a5.1.mode = a.1.mode := by
    intro a4 r4 a5 r5 hn hw hcl
    obtain ⟨htx, rep⟩ := new_facts hn hnsa hcl
    have hk := handleNonRead_kept hn
    have h5 := hw.eff.1
    exact ⟨Handled.new hw htx (fun _ e => by cases e) fun r0 s0 e => rep r0 s0 (h.lastReq.trans e),
      (h5.get .deferred).trans (hk.get .deferred), (h5.get .pending).trans (hk.get .pending),
      (h5.get .mode).trans (hk.get .mode)⟩
  obtain ⟨s, p, h', hc⟩ := hc
  rw [hpop] at h'
  cases h'
  cases hc with
  | unsolConfirm | otherConfirm | solConfirm => exact absurd rfl hnr.notConfirm
  | bcast m a' _ hb' => rw [hnr.unicast] at hb'; cases hb'
  | nonReadWriteDie a4 r _ _ _ hn =>
    obtain ⟨l4, el4, _⟩ := handleNonRead_outs hn
    exact .inl (died_of_outs ⟨l ++ l4, by rw [show a4.2 = a.2 ++ l4 from el4, el, List.append_assoc]⟩)
  | nonRead a4 r4 a5 r5 _ _ _ hn hw _ hcl =>
    obtain ⟨hH, hd5, hp5, hm5⟩ := new hn hw hcl
    obtain ⟨r, n, t, d, hmode⟩ := hmode
    exact .inr ⟨_, hH, hd5, hp5, Ext.refl _, fun _ => modeFin_unsolWait ⟨r, n, t, d, hm5.trans hmode⟩⟩
  | disable a4 r4 a5 r5 _ hn hw hcl =>
    obtain ⟨hH, hd5, hp5, -⟩ := new hn hw hcl
    exact .inr ⟨_, hH, hd5, hp5, afterUnsolSeries_ext _ _ _, nofun⟩
  | read => exact absurd rfl hnr.notRead
  | echo last _ hcl =>
    obtain ⟨old, hold, hseq, hfrag, rfl⟩ := Frame.classify_repeat (.inr hcl)
    have hfin := repeat_series_fin (hJ.ext h) hold hfrag hnr.parse hnr.notRead
    obtain ⟨e1, e2, e3, e4⟩ := Skel2.uwEchoAcc_fields (onLinkActivity { a.1 with pending := none }, a.2) f.src old.response
    obtain ⟨e5, e6⟩ := uwEchoAcc_sent (onLinkActivity { a.1 with pending := none }, a.2) f.src old.response
    have hH := Handled.echo (a := a) (src := f.src) hold hseq hfrag hfin hnsa e1 e5 e6
    rw [h.lastReq, h.solBuf] at hH
    obtain ⟨r, n, t, d, hmode⟩ := hmode
    exact .inr ⟨_, hH, e2, e3, Ext.refl _, fun _ => modeFin_unsolWait ⟨r, n, t, d, e4.trans hmode⟩⟩

theorem nrI_pre {x y : Skel.Pt × Acc} (h : Skel.Step x y) (hx : PreI b x) : NrI f ctrl b y := by
  have wakes : ∀ a n, Ext b a → idleWakes (finishPass a n).1 = true := fun a n he => by
    have : (finishPass a n).1.pending = some f := ((he.trans (finishPass_ext a n)).pending).trans hp
    simp [idleWakes, this]
  cases h with
  | pass a n y hmode _ hc => exact nrI_pass hnr hp hJ hns hm hc hx.1 (DefInv.calm hx.2.2 (.inl ⟨n, hmode⟩))
  | solFragment a sr dl c y hmode _ hc =>
    exact nrI_swf hnr hp hm hc hx.1 (DefInv.calm hx.2.2 (.inr ⟨sr, dl, c, hmode⟩))
  | solTimeout a sr dl c _ hpn => rw [hx.1.pending.trans hp] at hpn; cases hpn
  | unsolFragment a resp isNull rt dl y hmode _ hc => exact nrI_uwf hnr hp hJ hns hm hc hx.1 ⟨_, _, _, _, hmode⟩
  | unsolTimeout a resp isNull rt dl y _ hpn => rw [hx.1.pending.trans hp] at hpn; cases hpn
  | chkDie a _ _ => exact .inl (died_die hx.1)
  | chkStart a _ a' he =>
    have hw := Frame.checkUnsolicited_inl_mode he
    exact .inl ⟨hx.1.trans (checkUnsolicited_ext a _ he), (modeFin_unsolWait hw).1, .inr (.inr hw)⟩
  | chkIdle a _ a' n he =>
    exact .inl ⟨hx.1.trans (checkUnsolicited_ext a _ he), (checkUnsolicited_ext a _ he).deferred.trans hx.2.1, hx.2.2⟩
  | defDie a _ n he => exact .inl (died_die hx.1)
  | defWait a _ n a' he => rw [Frame.handleDeferredRead_idle a n hx.2.1] at he; cases he
  | defDone a _ n a' he => rw [Frame.handleDeferredRead_idle a n hx.2.1] at he; cases he; exact .inl hx
  | finishPass a _ n hw => rw [wakes a n hx.1] at hw; cases hw
  | again a _ n y _ hc =>
    exact nrI_pass hnr hp hJ hns hm hc (hx.1.trans (finishPass_ext a n)) ((finishPass_ext a n).deferred.trans hx.2.1)
  | fuel a n _ => exact absurd hx.2.2 (Nat.lt_irrefl 0)

theorem nrI_step {x y : Skel.Pt × Acc} (h : Skel.LStep x y) : NrI f ctrl b x → NrI f ctrl b y
  | .inl hx => nrI_pre hnr hp hJ hns hm h.1 hx
  | .inr hx => .inr (hx.step h)

/-- **the step that receives the request**: `settle` does not stop before the request is handled
    (`C04.quiesce_done`: where a step ends the reader is empty) -/
theorem quiesce_nr (hD : DefInv b.1) (halive : b.1.mode ≠ .dead) :
    Died b (finishStep (settle 8 (dispatch b))) ∨ Done f ctrl b (finishStep (settle 8 (dispatch b))) := by
  have stuck : ∀ {a : Acc}, Ext b a → a.1.mode ≠ .dead → ¬ C04.PendDone a := fun he ha hdone =>
    hdone.elim (fun e => by rw [he.pending.trans hp] at e; cases e) ha
  have hdone := C04.quiesce_done b
  rcases (Skel.quiesce_chain b 8).inv (fun y h => nrI_pre hnr hp hJ hns hm h ⟨Ext.refl b, halive, hD⟩)
    (fun _ _ => nrI_step hnr hp hJ hns hm) with e | ⟨⟨p, a⟩, hz, hf, e⟩
  · rw [e] at hdone; exact absurd hdone (stuck (Ext.refl b) halive)
  · rw [e] at hdone ⊢
    rcases hz with hz | hz
    · rcases hf with rfl | rfl
      · exact absurd hdone (stuck hz.1 hz.2.1)
      · exact .inl hz
    · exact .inr (hz.fin hf)

end Nr

end Step

/-- the frame is addressed to this outstation (its address, or the self address if enabled), comes from a valid
    source address, and is neither empty nor longer than the receive buffer: the transport layer delivers it as
    a unicast fragment whenever the task is alive (`rxAccept_unicast`) -/
def Unicast (env : OEnv) (src dst : Nat) (data : List Nat) : Prop :=
  (dst = env.outstation ∨ (dst = 0xFFFC ∧ env.selfaddr = true)) ∧ src < 0xFFF0 ∧ data ≠ [] ∧ data.length ≤ env.rx

theorem rxAccept_unicast {env : OEnv} {src dst : Nat} {data : List Nat} (hu : Unicast env src dst data)
    (s : OState) (ha : s.mode ≠ .dead) :
    C04.rxAccept env s src dst data = some ⟨s.frameId, src, none, data⟩ := by
  obtain ⟨hd, hs, hne, hl⟩ := hu
  have hb : Skel.rxBroadcast env dst = some none := by
    unfold Skel.rxBroadcast
    rcases hd with hd | ⟨hd, hself⟩
    · rw [if_pos hd]
    · by_cases he : dst = env.outstation
      · rw [if_pos he]
      · rw [if_neg he, if_pos hd, if_pos hself]
  rw [C04.rxAccept_eq ha, hb]
  exact if_pos ⟨hs, hne, hl, nofun⟩

/-- what the step that receives the request `(seq, data)` from `src` achieves -/
def StepPost (seq : Nat) (data : List Nat) (src : Nat) (s : OState) (x : OState × List OOut) : Prop :=
  (OOut.panic ∈ x.2 ∧ x.1.mode = .dead) ∨
  ∃ resp bytes, ER seq data resp bytes x.1 ∧ solTx x.2 = expTx src resp bytes ∧
    ∀ resp0 bytes0, ER seq data resp0 bytes0 s → resp = resp0 ∧ ∀ r, resp0 = some r → bytes = bytes0

theorem nr_step (env : OEnv) (s : OState) (src dst : Nat) (data : List Nat) {ctrl : AppCtrl} {func : Nat}
    {hs : List ObjHdr} {raw : List Nat} (hu : Unicast env src dst data)
    (hq : parseRequest data = .request ctrl func (.ok hs) raw) (hf0 : func ≠ 0) (hf1 : func ≠ 1)
    (hm : s.cfg.anymaster = true ∨ src = s.cfg.master) (halive : s.mode ≠ .dead)
    (hD : DefInv s) (hJ : LRInv s) :
    StepPost ctrl.seq data src s (Outstation.step env s (.rx src dst data)) := by
  rw [C04.step_rx, rxAccept_unicast hu s halive]
  dsimp only
  have hnr : NR (⟨s.frameId, src, none, data⟩ : Frag) ctrl func hs raw := ⟨hq, hf0, hf1, rfl⟩
  have key := quiesce_nr hnr
    (b := ({ s with frameId := (s.frameId + 1) % 4294967296, pending := some ⟨s.frameId, src, none, data⟩ }, []))
    rfl (hJ.same rfl (.inl rfl)) NoSolL.nil hm hD halive
  generalize finishStep (settle 8 (dispatch
    ({ s with frameId := (s.frameId + 1) % 4294967296, pending := some ⟨s.frameId, src, none, data⟩ }, []))) = x at key ⊢
  rcases key with ⟨l, el, hpan, hdead⟩ | ⟨a1, hH, hd1, hp1, hfin⟩
  · left
    refine ⟨?_, hdead⟩
    rw [el]; simpa using hpan
  · rcases hfin with ⟨l, el, hpan, hdead⟩ | ⟨he, hmf⟩
    · left
      refine ⟨?_, hdead⟩
      rw [el]; exact List.mem_append_right _ hpan
    · right
      obtain ⟨resp, ser, bytes, hl, hser, hbuf, htx, hrep⟩ := hH
      obtain ⟨l, el, nl⟩ := he.outs
      refine ⟨resp, bytes, ⟨⟨ser, he.lastReq.trans hl, hser⟩, he.deferred.trans hd1, he.pending.trans hp1, ?_, hmf⟩, ?_, ?_⟩
      · intro r e
        rw [he.solBuf]; exact hbuf r e
      · rw [el, solTx_append, solTx_of_noSol nl, List.append_nil]; exact htx
      · intro resp0 bytes0 h0
        obtain ⟨ser0, hl0, _⟩ := h0.lastReq
        obtain ⟨e1, e2⟩ := hrep resp0 ser0 hl0
        refine ⟨e1, ?_⟩
        intro r er
        have hb0 := h0.buf r er
        have hsb : a1.1.solBuf = s.solBuf := e2 r er hb0.1
        have := (hbuf r (e1.trans er)).2
        rw [← this, hsb]; exact hb0.2

def Same (s : OState) (a : Acc) : Prop := a.1.lastReq = s.lastReq ∧ a.1.solBuf = s.solBuf

def Base (s t : OState) : Prop := t.lastReq = s.lastReq ∧ t.solBuf = s.solBuf ∧ t.deferred = none

def ConfirmPop : Popped → Prop
  | .nothing => True
  | .request _ _ func _ _ => func = 0
  | .error .. => False

/-- a CONFIRM in the reader is dropped (foreign master) or popped as a request with function 0 -/
theorem pop_confirm {t t' : OState} {q : Popped}
    (hp : ∀ f, t.pending = some f → ∃ c o r, parseRequest f.data = .request c 0 o r) (h : popRequest t = (t', q)) :
    ConfirmPop q := by
  cases Skel.popRequest_cases h with
  | empty | foreign => trivial
  | insufficient f hf _ hq => obtain ⟨c, o, r, e⟩ := hp f hf; rw [hq] at e; cases e
  | headerError f q hf _ hq => obtain ⟨c, o, r, e⟩ := hp f hf; rw [hq] at e; cases e
  | request f ctrl func objs raw hf _ hq => obtain ⟨c, o, r, e⟩ := hp f hf; rw [hq] at e; cases e; rfl

theorem Base.pop {s t t' : OState} {q : Popped} (hb : Base s t) (h : popRequest t = (t', q)) :
    Base s t' ∧ t'.mode = t.mode := by
  cases Skel.popRequest_cases h <;> exact ⟨hb, rfl⟩

section Done
variable {s t : OState} (ht : Base s t)
include ht

/-- a handler that started from `t` and leaves the reader empty, at a point of the pass or blocked in an acceptable
    mode, stored request and solicited buffer untouched: the job of a benign step is done -/
theorem Same.done {p : Skel.Pt} {a : Acc} (h1 : a.1.lastReq = t.lastReq) (h2 : a.1.solBuf = t.solBuf)
    (h3 : a.1.deferred = t.deferred ∨ a.1.deferred = none) (h4 : a.1.pending = none) (hh : p ≠ .halt)
    (hb : p = .blk → ModeFin a.1) : After (Same s) (p, a) :=
  ⟨a, ⟨h1.trans ht.1, h2.trans ht.2.1⟩, h3.elim (·.trans ht.2.2) id, h4, .refl hh hb⟩

theorem Same.resumePt {a : Acc} (c : SolCont) (h1 : a.1.lastReq = t.lastReq) (h2 : a.1.solBuf = t.solBuf)
    (h3 : a.1.deferred = t.deferred) (h4 : a.1.pending = none) : After (Same s) (Skel.resumePt a c) := by
  cases c with
  | fromRequest => exact Same.done ht h1 h2 (.inl h3) h4 nofun nofun
  | fromDeferred n => exact Same.done ht h1 h2 (.inr rfl) h4 nofun nofun

theorem Same.finishUnsolPt {a : Acc} (isNull c : Bool) (h1 : a.1.lastReq = t.lastReq) (h2 : a.1.solBuf = t.solBuf)
    (h3 : a.1.deferred = t.deferred) (h4 : a.1.pending = none) : After (Same s) (Skel.finishUnsolPt a isNull c) :=
  have he := afterUnsolSeries_ext a isNull c
  Same.done ht (he.lastReq.trans h1) (he.solBuf.trans h2) (.inl (he.deferred.trans h3)) (he.pending.trans h4) nofun nofun

end Done

section Between
variable {s : OState} {b : Acc} (hb : Base s b.1) (hmf : ModeFin b.1)
  (hp : ∀ f, b.1.pending = some f → ∃ c o r, parseRequest f.data = .request c 0 o r)
include hb hp

theorem between_pass {fuel : Nat} {y : Skel.Pt × Acc} (hc : Skel.PassCase b fuel y) : After (Same s) y := by
  obtain ⟨t, q, h, hc⟩ := hc
  have hq := pop_confirm (t := { b.1 with notified := false }) hp h
  have ht := (Base.pop (t := { b.1 with notified := false }) hb h).1
  cases hc with
  | nothing => exact Same.done ht rfl rfl (.inl rfl) rfl nofun nofun
  | errorDie | error => exact hq.elim
  | requestDie hh | requestWait _ _ hh => cases hq; rw [Frame.handleRequestFromIdle_confirm] at hh; cases hh
  | request a' hh =>
    cases hq; rw [Frame.handleRequestFromIdle_confirm] at hh; cases hh
    exact Same.done ht rfl rfl (.inl rfl) rfl nofun nofun

include hmf

theorem between_swf {sr : Series} {dl : Nat} {c : SolCont} {y : Skel.Pt × Acc} (hmode : b.1.mode = .solWait sr dl c)
    (hc : Skel.SWFCase b sr c y) : After (Same s) y := by
  -- blocked again in the same wait
  obtain ⟨t, q, h, hc⟩ := hc
  have blk : ∀ {a : Acc}, a.1.lastReq = t.lastReq → a.1.solBuf = t.solBuf →
      a.1.deferred = t.deferred → a.1.pending = none → a.1.mode = t.mode → After (Same s) (.blk, a) :=
    fun h1 h2 h3 h4 h5 => Same.done (hb.pop h).1 h1 h2 (.inl h3) h4 nofun fun _ => by
      unfold ModeFin; rw [h5, (hb.pop h).2]; exact hmf
  have hq := pop_confirm hp h
  cases hc with
  | nothing => exact blk rfl rfl rfl rfl rfl
  | unsolConfirm | wrongSeq =>
    -- `emitCb` unfolded first: `rfl` through it tries to unify the states field by field before it unfolds (slow)
    show After (Same s) (.blk, (_, _)); exact blk rfl rfl rfl rfl rfl
  | error | echo => exact nomatch hq
  | newRequest h0 => exact absurd hq h0
  | confirmed _ _ hcc =>
    have hfin := hmf.2 sr dl c hmode
    cases hcc with
    | done =>
      have he := clearWrittenEvents_ext ({ onLinkActivity t with pending := none, lastBroadcast := none },
        b.2 ++ [.cb (.solConfirmed sr.ecsn)])
      exact Same.resumePt (hb.pop h).1 c he.lastReq he.solBuf he.deferred he.pending
    | die _ _ _ hf | last _ _ _ _ hf | next _ _ _ _ _ hf => rw [hfin] at hf; cases hf

omit hmf in
theorem between_uwf {resp : Resp} {isNull : Bool} {rt : Option Nat} {dl : Nat} {y : Skel.Pt × Acc}
    (hmode : b.1.mode = .unsolWait resp isNull rt dl) (hc : Skel.UWFCase b resp isNull y) : After (Same s) y := by
  obtain ⟨t, q, h, hc⟩ := hc
  have blk : ∀ {a : Acc}, a.1.lastReq = t.lastReq → a.1.solBuf = t.solBuf →
      a.1.deferred = t.deferred → a.1.pending = none → a.1.mode = t.mode → After (Same s) (.blk, a) :=
    fun h1 h2 h3 h4 h5 => Same.done (hb.pop h).1 h1 h2 (.inl h3) h4 nofun fun _ =>
      modeFin_unsolWait ⟨resp, isNull, rt, dl, (h5.trans (hb.pop h).2).trans hmode⟩
  have hq := pop_confirm hp h
  cases hc with
  | nothing | otherConfirm => exact blk rfl rfl rfl rfl rfl
  | solConfirm => split <;> exact blk rfl rfl rfl rfl rfl
  | unsolConfirm =>
    exact Same.finishUnsolPt (hb.pop h).1 isNull true (Ext.emitCb _ _).lastReq (Ext.emitCb _ _).solBuf rfl rfl
  | errorDie | error | disable | read => exact nomatch hq
  | bcast _ _ h0 | malformedDie h0 | malformed _ _ h0 | nonReadWriteDie _ _ h0 | nonRead _ _ _ _ h0 | echo _ h0 =>
    exact absurd hq h0

theorem between_first {y : Skel.Pt × Acc} (h : Skel.Step (.blk, b) y) : After (Same s) y := by
  cases h with
  | pass _ n y _ _ hc => exact between_pass hb hp hc
  | solFragment _ sr dl c y hmode _ hc => exact between_swf hb hmf hp hmode hc
  | solTimeout _ sr dl c _ hpn => exact Same.resumePt hb c rfl rfl rfl hpn
  | unsolFragment _ resp isNull rt dl y hmode _ hc => exact between_uwf hb hp hmode hc
  | unsolTimeout _ resp isNull rt dl y _ hpn _ hc =>
    cases hc with
    | finish => exact Same.finishUnsolPt hb isNull false rfl rfl rfl hpn
    | retry => exact Same.done hb rfl rfl (.inl rfl) hpn nofun fun _ => modeFin_unsolWait ⟨_, _, _, _, rfl⟩

end Between

theorem ER.same {seq : Nat} {data : List Nat} {resp : Option Resp} {bytes : List Nat} {s s' : OState}
    (h0 : ER seq data resp bytes s) (hl : s'.lastReq = s.lastReq) (hb : s'.solBuf = s.solBuf)
    (hd : s'.deferred = none) (hp : s'.pending = none) (hmf : ModeFin s') : ER seq data resp bytes s' := by
  obtain ⟨ser, hs, hf⟩ := h0.lastReq
  exact ⟨⟨ser, hl.trans hs, hf⟩, hd, hp, fun r e => by rw [hb]; exact h0.buf r e, hmf⟩

/-- the inputs allowed between the two copies of the request: clock ticks, CONFIRM fragments (from anyone, to
    any address), and frames the transport layer does not deliver at all -/
def Between (env : OEnv) : OInput → Prop
  | .tick _ => True
  | .rx src dst data =>
    (∃ c o r, parseRequest data = .request c 0 o r) ∨ (∀ s, C04.rxAccept env s src dst data = none)
  | _ => False

def StepKeep (seq : Nat) (data : List Nat) (resp : Option Resp) (bytes : List Nat) (x : OState × List OOut) : Prop :=
  (OOut.panic ∈ x.2 ∧ x.1.mode = .dead) ∨ ER seq data resp bytes x.1

/-- a benign step: where it ends the reader is empty (`C04.quiesce_done`) -/
theorem quiesce_between {seq : Nat} {data : List Nat} {resp : Option Resp} {bytes : List Nat} {s : OState}
    (h0 : ER seq data resp bytes s) {b : Acc} (hb : Base s b.1) (hm : b.1.mode = s.mode)
    (hp : ∀ f, b.1.pending = some f → ∃ c o r, parseRequest f.data = .request c 0 o r) :
    StepKeep seq data resp bytes (finishStep (settle 8 (dispatch b))) := by
  have hmf : ModeFin b.1 := by unfold ModeFin; rw [hm]; exact h0.mode
  have hdone := C04.quiesce_done b
  rcases (Skel.quiesce_chain b 8).inv (fun y h => between_first hb hmf hp h) (fun _ _ => After.step) with
    e | ⟨z, hz, hf, e⟩
  · rw [e] at hdone ⊢
    exact .inr (h0.same hb.1 hb.2.1 hb.2.2 (hdone.resolve_right hmf.1) hmf)
  · rw [e]
    obtain ⟨a1, hs1, hd1, hp1, ⟨l, el, hpan, hdead⟩ | ⟨he, hmf'⟩⟩ := hz.fin hf
    · exact .inl ⟨by rw [el]; exact List.mem_append_right _ hpan, hdead⟩
    · exact .inr (h0.same (he.lastReq.trans hs1.1) (he.solBuf.trans hs1.2) (he.deferred.trans hd1)
        (he.pending.trans hp1) hmf')

theorem between_step (env : OEnv) (s : OState) (inp : OInput) (hb : Between env inp) {seq : Nat} {data : List Nat}
    {resp : Option Resp} {bytes : List Nat} (h : ER seq data resp bytes s) :
    StepKeep seq data resp bytes (Outstation.step env s inp) := by
  cases inp with
  | tick ms =>
    rw [Skel.step_tick_eq env s ms h.mode.1]
    exact quiesce_between h (b := ({ s with now := s.now + ms }, [])) ⟨rfl, rfl, h.deferred⟩ rfl
      fun f e => nomatch h.pending.symm.trans (show s.pending = some f from e)
  | rx src dst data' =>
    rw [C04.step_rx]
    cases hacc : C04.rxAccept env s src dst data' with
    | none => exact .inr h
    | some fc =>
      dsimp only
      rcases hb with ⟨c, o, r, hq⟩ | hnone
      · refine quiesce_between h (b := ({ s with frameId := (s.frameId + 1) % 4294967296, pending := some fc }, []))
          ⟨rfl, rfl, h.deferred⟩ rfl fun f e => ⟨c, o, r, ?_⟩
        cases e
        rw [(C04.rxAccept_id hacc).2.1]; exact hq
      · rw [hnone s] at hacc; cases hacc
  | txn items => exact hb.elim
  | add t idx cls => exact hb.elim
  | cut => exact hb.elim
  | setScript g => exact hb.elim

section Run
variable (cfg : OCfg) (evMax : Nat) (env : OEnv) (inputs : List OInput)

abbrev S (n : Nat) : OState := C04.stateAt env (Outstation.start cfg evMax).1 inputs n

theorem S_cfg (n : Nat) (h : n ≤ inputs.length) : (S cfg evMax env inputs n).cfg = cfg := by
  rw [S, C04.stateAt_cfg env _ inputs n h]; exact (Skel2.start_reach2 cfg evMax).base.cfg

theorem S_defInv (n : Nat) (h : n ≤ inputs.length) : DefInv (S cfg evMax env inputs n) :=
  C04.stateAt_inv (defInv_step env) (Nat.zero_le n) h (defInv_start cfg evMax)

theorem S_lrInv (n : Nat) (h : n ≤ inputs.length) : LRInv (S cfg evMax env inputs n) :=
  C04.stateAt_inv (lrInv_step env) (Nat.zero_le n) h (lrInv_start cfg evMax)

theorem S_dead_mono (a b : Nat) (hab : a ≤ b) (hb : b ≤ inputs.length)
    (h : C04.isDead (S cfg evMax env inputs a) = true) : C04.isDead (S cfg evMax env inputs b) = true :=
  C04.stateAt_inv (P := fun s => C04.isDead s = true) (C04.step_dead_stays env) hab hb h

theorem S_step (n : Nat) (h : n < inputs.length) :
    Outstation.step env (S cfg evMax env inputs n) inputs[n] =
      (S cfg evMax env inputs (n + 1), C04.outsAt env (Outstation.start cfg evMax).1 inputs n h) := by
  rw [S, S, C04.stateAt_succ env _ inputs n h]
  rfl

end Run

open C04 in
/-- **C05 (trace level) `repeat_never_executes_twice`**: stated for the property, and described, as `Props.C05.repeat_never_executes_twice` -/
theorem repeat_never_executes_twice (cfg : OCfg) (evMax : Nat) (env : OEnv) (inputs : List OInput)
    (i j : Nat) (hij : i < j) (hj : j < inputs.length)
    (src dst : Nat) (data : List Nat) (ctrl : AppCtrl) (func : Nat) (hs : List ObjHdr) (raw : List Nat)
    (hi : inputs[i]'(Nat.lt_trans hij hj) = .rx src dst data) (hjj : inputs[j] = .rx src dst data)
    (hq : parseRequest data = .request ctrl func (.ok hs) raw) (hf0 : func ≠ 0) (hf1 : func ≠ 1)
    (hu : Unicast env src dst data) (hm : cfg.anymaster = true ∨ src = cfg.master)
    (hbetween : ∀ (k : Nat) (hk : k < inputs.length), i < k → k < j → Between env inputs[k]) :
    (∀ o ∈ outsAt env (Outstation.start cfg evMax).1 inputs j hj, isExec o = false) ∧
    (solTx (outsAt env (Outstation.start cfg evMax).1 inputs j hj) =
        solTx (outsAt env (Outstation.start cfg evMax).1 inputs i (Nat.lt_trans hij hj)) ∨
      ∃ (k : Nat) (hk : k < inputs.length), i ≤ k ∧ k ≤ j ∧
        OOut.panic ∈ outsAt env (Outstation.start cfg evMax).1 inputs k hk) := by
  have hil : i < inputs.length := Nat.lt_trans hij hj
  have stepI := S_step cfg evMax env inputs i hil
  have stepJ := S_step cfg evMax env inputs j hj
  rw [hi] at stepI
  rw [hjj] at stepJ
  have deadJ : ∀ a, a ≤ j → isDead (S cfg evMax env inputs a) = true →
      outsAt env (Outstation.start cfg evMax).1 inputs j hj = [] := fun a ha hd =>
    outsAt_dead env _ inputs j hj (S_dead_mono cfg evMax env inputs a j ha (by omega) hd)
  by_cases hdi : isDead (S cfg evMax env inputs i) = true
  · have e1 := deadJ i (by omega) hdi
    have e2 := outsAt_dead env _ inputs i hil hdi
    rw [e1, e2]
    exact ⟨by simp, .inl rfl⟩
  · have halive : (S cfg evMax env inputs i).mode ≠ .dead := fun e => hdi ((isDead_iff _).2 e)
    have hA := nr_step env (S cfg evMax env inputs i) src dst data hu hq hf0 hf1
      (by rw [S_cfg cfg evMax env inputs i (by omega)]; exact hm) halive
      (S_defInv cfg evMax env inputs i (by omega)) (S_lrInv cfg evMax env inputs i (by omega))
    rw [stepI] at hA
    rcases hA with ⟨hpan, hdead⟩ | ⟨resp, bytes, hER, htx, -⟩
    · have e1 := deadJ (i + 1) (by omega) ((isDead_iff _).2 hdead)
      exact ⟨by rw [e1]; simp, .inr ⟨i, hil, Nat.le_refl i, by omega, hpan⟩⟩
    · have keyj : ER ctrl.seq data resp bytes (S cfg evMax env inputs j) ∨
          (isDead (S cfg evMax env inputs j) = true ∧ ∃ (k' : Nat) (hk' : k' < inputs.length), i ≤ k' ∧
            k' < j ∧ OOut.panic ∈ outsAt env (Outstation.start cfg evMax).1 inputs k' hk') := by
        refine stateAt_ind (P := fun n s => ER ctrl.seq data resp bytes s ∨
          (isDead s = true ∧ ∃ (k' : Nat) (hk' : k' < inputs.length), i ≤ k' ∧
            k' < n ∧ OOut.panic ∈ outsAt env (Outstation.start cfg evMax).1 inputs k' hk'))
          (m := i + 1) (by omega) (by omega) (.inl hER) fun k hk h1 h2 hP => ?_
        rcases hP with h | ⟨hd, k', hk', h1', h2', h3⟩
        · rcases between_step env _ _ (hbetween k hk (by omega) h2) h with ⟨hpan, hdead⟩ | h'
          · exact .inr ⟨(isDead_iff _).2 hdead, k, hk, by omega, by omega, hpan⟩
          · exact .inl h'
        · exact .inr ⟨step_dead_stays env _ _ hd, k', hk', h1', by omega, h3⟩
      rcases keyj with hERj | ⟨hd, k', hk', h1, h2, h3⟩
      · have hB := nr_step env (S cfg evMax env inputs j) src dst data hu hq hf0 hf1
          (by rw [S_cfg cfg evMax env inputs j (by omega)]; exact hm) hERj.mode.1
          (S_defInv cfg evMax env inputs j (by omega)) (S_lrInv cfg evMax env inputs j (by omega))
        rw [stepJ] at hB
        constructor
        · obtain ⟨ser, hl, _⟩ := hERj.lastReq
          have hacc := rxAccept_unicast hu (S cfg evMax env inputs j) hERj.mode.1
          have hne := repeat_nonread_not_executed env (S cfg evMax env inputs j) src dst data _ hacc hq hERj.deferred
            ⟨hl, rfl, rfl, hf0, hf1, rfl, hs, rfl⟩
          rw [stepJ] at hne
          exact hne
        · rcases hB with ⟨hpan, _⟩ | ⟨resp', bytes', _, htx', hrep⟩
          · exact .inr ⟨j, hj, by omega, Nat.le_refl j, hpan⟩
          · left
            obtain ⟨e1, e2⟩ := hrep resp bytes hERj
            have htx1 : solTx (outsAt env (Outstation.start cfg evMax).1 inputs j hj) = expTx src resp' bytes' := htx'
            have htx0 : solTx (outsAt env (Outstation.start cfg evMax).1 inputs i hil) = expTx src resp bytes := htx
            rw [htx1, htx0, e1]
            cases resp with
            | none => rfl
            | some r => rw [e2 r rfl]
      · have e1 := outsAt_dead env _ inputs j hj hd
        exact ⟨by rw [e1]; simp, .inr ⟨k', hk', h1, by omega, h3⟩⟩

/-- DELAY MEASURE seq 0, 10 ms, a (stray) solicited CONFIRM seq 0, DELAY MEASURE seq 0 again -/
def exInputs : List OInput := [.rx 1 1024 [0xC0, 23], .tick 10, .rx 1 1024 [0xC0, 0], .rx 1 1024 [0xC0, 23]]

/-- with unsolicited responses enabled the task starts in the confirm wait of the null unsolicited response: the
    request is handled THERE; then 10 ms, the unsolicited CONFIRM (the series ends, back to idle), 6 s, and the
    request again, handled from idle -/
def exInputsU : List OInput :=
  [.rx 1 1024 [0xC0, 23], .tick 10, .rx 1 1024 [0xD0, 0], .tick 6000, .rx 1 1024 [0xC0, 23]]

/-- WRITE absolute time (g50v1) seq 1, 5 ms, the same octets again -/
def exInputsW : List OInput :=
  [.rx 1 1024 [0xC1, 2, 50, 1, 7, 1, 1, 2, 3, 4, 5, 6], .tick 5, .rx 1 1024 [0xC1, 2, 50, 1, 7, 1, 1, 2, 3, 4, 5, 6]]

example : parseRequest [0xC0, 23] = .request (AppCtrl.ofNat 0xC0) 23 (.ok []) [] := by rfl
example : Unicast {} 1 1024 [0xC0, 23] := ⟨.inl rfl, by decide, by decide, by decide⟩
example : Between {} (.rx 1 1024 [0xC0, 0]) := .inl ⟨_, _, _, rfl⟩
example : Between {} (.rx 1 1024 [0xD0, 0]) := .inl ⟨_, _, _, rfl⟩
example : Between {} (.rx 1 77 [0xC0, 1]) := .inr (fun s => by unfold C04.rxAccept; split <;> rfl)

-- `repeat_never_executes_twice` applies to `exInputs` (steps 0 and 3) …
example := repeat_never_executes_twice {} 10 {} exInputs 0 3 (by decide) (by decide) 1 1024 [0xC0, 23]
  (AppCtrl.ofNat 0xC0) 23 [] [] rfl rfl (by rfl) (by decide) (by decide)
  ⟨.inl rfl, by decide, by decide, by decide⟩ (.inr rfl)
  (by
    intro k hk h1 h2
    have : k = 1 ∨ k = 2 := by omega
    rcases this with rfl | rfl
    · exact trivial
    · exact .inl ⟨_, _, _, rfl⟩)

-- … and to `exInputsU` (steps 0 and 4; the request is first handled in the unsolicited confirm wait)
example := repeat_never_executes_twice { unsolicited := true } 10 {} exInputsU 0 4 (by decide) (by decide) 1 1024 [0xC0, 23]
  (AppCtrl.ofNat 0xC0) 23 [] [] rfl rfl (by rfl) (by decide) (by decide)
  ⟨.inl rfl, by decide, by decide, by decide⟩ (.inr rfl)
  (by
    intro k hk h1 h2
    have : k = 1 ∨ k = 2 ∨ k = 3 := by omega
    rcases this with rfl | rfl | rfl
    · exact trivial
    · exact .inl ⟨_, _, _, rfl⟩
    · exact trivial)

/-- a state that recorded the request `C0 0C` (function 12, FREEZE AT TIME NO RESPONSE: nothing is answered) as its
    last request -/
def exER : OState := { OState.init {} 0 with lastReq := some ⟨0, [0xC0, 12], none, none⟩ }

theorem exER_er : ER 0 [0xC0, 12] none [] exER :=
  ⟨⟨none, rfl, fun sr e => (by cases e)⟩, rfl, rfl, fun r e => (by cases e),
    ⟨fun e => (by cases e), fun sr dl c e => (by cases e)⟩⟩

-- `between_step` applies to `exER` and a clock tick / a CONFIRM; `nr_step` to `exER` and the request `C0 0C`
example := between_step {} exER (.tick 10) trivial exER_er
example := between_step {} exER (.rx 1 1024 [0xC0, 0]) (.inl ⟨_, _, _, rfl⟩) exER_er
example := nr_step {} exER 1 1024 [0xC0, 12] (ctrl := AppCtrl.ofNat 0xC0) (func := 12) (hs := []) (raw := [])
  ⟨.inl rfl, by decide, by decide, by decide⟩ (by rfl) (by decide) (by decide) (.inr rfl)
  (fun e => (by cases e)) (.inr (.inl rfl))
  ⟨fun lr sr e es => (by cases e; cases es), fun d e => (by cases e)⟩

end Dnp3.Proofs.C05T
