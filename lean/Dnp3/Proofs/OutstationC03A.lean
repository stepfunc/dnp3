import Dnp3.Proofs.OutstationC03
import Dnp3.Proofs.OutstationStep
/-!
# C03 (a), session level — `Db.clearWritten` is applied only at the two confirm points

Proofs of the statements announced in `OutstationC03.lean` part (a).  `Ev.nrel_or_clear` is the one walk
over the primitive events: each either leaves the database `NoRelease`-related and emits no confirm callback,
or is one of the two confirm points and applies `Db.clearWritten` once.  `Ev.dbEffect` and C02's `Ev.cleared`
are read off it, and from `Ev.dbEffect` the step-level corollaries `clear_only_on_confirm`, `Reach.noRelease`
(whence `Props.C03.Session.no_confirm_no_release`).  The database stays OPAQUE.
-/
namespace Dnp3.Proofs.C03
open Dnp3 Dnp3.Proofs.Frame Dnp3.Proofs.Skel

attribute [local irreducible] Db.new Db.add Db.update Db.readSupported Db.select Db.writeResponse
  Db.writeUnsolicited Db.clearWritten Db.reset Db.unwrittenClasses Db.isOverflown

theorem NoRelease.trans {a b c : Db} (h1 : NoRelease a b) (h2 : NoRelease b c) : NoRelease a c := by
  induction h2 with
  | refl => exact h1
  | select db h _ ih => exact .select db h ih
  | writeResponse db cap _ ih => exact .writeResponse db cap ih
  | writeUnsolicited db c1 c2 c3 cap _ ih => exact .writeUnsolicited db c1 c2 c3 cap ih
  | reset db _ ih => exact .reset db ih

example (db : Db) (h : ReadHdr) :
    NoRelease db ((db.select h).1.writeResponse 100).1.reset :=
  NoRelease.trans (.select _ h .refl) (.reset _ (.writeResponse _ 100 .refl))

theorem NoConfirmCb.refl (a : Acc) : NoConfirmCb a a := ⟨[], by simp, by simp⟩

theorem NoConfirmCb.trans {a b c : Acc} (h1 : NoConfirmCb a b) (h2 : NoConfirmCb b c) : NoConfirmCb a c := by
  obtain ⟨l1, e1, n1⟩ := h1
  obtain ⟨l2, e2, n2⟩ := h2
  refine ⟨l1 ++ l2, by rw [e2, e1, List.append_assoc], ?_⟩
  intro o ho
  rcases List.mem_append.1 ho with h | h
  · exact n1 o h
  · exact n2 o h

theorem NoConfirmCb.state (a : Acc) (s' : OState) : NoConfirmCb a (s', a.2) := ⟨[], by simp, by simp⟩

theorem NoConfirmCb.emit (a : Acc) (o : OOut) (h : OOut.kind o ≠ .confirm) : NoConfirmCb a (Dnp3.emit a o) :=
  ⟨[o], rfl, by simpa using h⟩

theorem NoConfirmCb.ofFrame {κ} {K : OState → κ} {ks : List OKind} {a b : Acc} (hf : Frame K (KP ks) a b)
    (hk : OKind.confirm ∉ ks) : NoConfirmCb a b := by
  obtain ⟨_, l, e, hp⟩ := hf
  refine ⟨l, e, ?_⟩
  intro o ho hc
  have : OOut.kind o ∈ ks := hp o ho
  rw [hc] at this
  exact hk this

/-- the first disjunct of `DbEffect` -/
def NRel (a a' : Acc) : Prop := NoRelease a.1.db a'.1.db ∧ NoConfirmCb a a'

theorem NRel.refl (a : Acc) : NRel a a := ⟨.refl, NoConfirmCb.refl a⟩

theorem NRel.trans {a b c : Acc} (h1 : NRel a b) (h2 : NRel b c) : NRel a c :=
  ⟨NoRelease.trans h1.1 h2.1, NoConfirmCb.trans h1.2 h2.2⟩

theorem NRel.same {a b : Acc} (hd : b.1.db = a.1.db) (hc : NoConfirmCb a b) : NRel a b :=
  ⟨by rw [hd]; exact .refl, hc⟩

theorem _root_.Dnp3.Proofs.Frame.DbPath.noRelease {D : List DbStep} {a b : Db} (h : DbPath D a b)
    (hD : DbStep.clearWritten ∉ D := by decide) : NoRelease a b := by
  induction h with
  | refl => exact .refl
  | select db h _ _ ih => exact .select db h ih
  | writeResponse db cap _ _ ih => exact .writeResponse db cap ih
  | writeUnsolicited db c1 c2 c3 cap _ _ ih => exact .writeUnsolicited db c1 c2 c3 cap ih
  | clearWritten db m => exact absurd m hD
  | reset db _ _ ih => exact .reset db ih

theorem NRel.of_eff {F : List Fld} {D : List DbStep} {ks : List OKind} {a b : Acc} (h : Eff F D (KP ks) a b)
    (hD : DbStep.clearWritten ∉ D := by decide) (hk : OKind.confirm ∉ ks := by decide) : NRel a b :=
  ⟨h.2.1.noRelease hD, NoConfirmCb.ofFrame h.outs hk⟩

def Same (a a' : Acc) : Prop := a'.1.mode = a.1.mode ∧ a'.1.db = a.1.db

theorem Same.refl (a : Acc) : Same a a := ⟨rfl, rfl⟩

theorem Same.trans {a b c : Acc} (h1 : Same a b) (h2 : Same b c) : Same a c :=
  ⟨h2.1.trans h1.1, h2.2.trans h1.2⟩

theorem Same.of_eff {F : List Fld} {D : List DbStep} {P : OOut → Prop} {a b : Acc} (h : Eff F D P a b)
    (hF : Apart [.mode, .db] F := by decide) : Same a b :=
  ⟨(h.on hF).get .mode, (h.on hF).get .db⟩

theorem afterUnsolSeries_unconfirmed (a : Acc) (isNull : Bool) : NRel a (afterUnsolSeries a isNull false).1 := by
  cases isNull with
  | true => exact NRel.same rfl (NoConfirmCb.state a _)
  | false => exact ⟨.reset _ .refl, NoConfirmCb.state a _⟩

theorem txnFold_db {I : Db → Prop} (hu : ∀ (db : Db) t idx v f tm, I db → I (db.update t idx v f tm).1) (s : OState)
    (items : List TxnItem) (h : I s.db) : I (txnFold s items).1.db := by
  refine foldl_inv (fun p : OState × List OOut => I p.1.db) _ (fun p it hp => ?_) items (s, []) h
  cases it <;> exact hu _ _ _ _ _ _ hp

/-- at a confirm point `b` is the accumulator after the `sol_confirmed` / `unsol_confirmed` callback; the database and
    the outputs of `a'` are given separately because the unsolicited confirm goes on to set `unsol` -/
theorem Ev.nrel_or_clear {pf : Option Frag} {a a' : Acc} (h : Ev pf a a') :
    NRel a a' ∨ (ConfirmPoint pf a ∧ ∃ b, NoConfirmCb a b ∧ b.1.db = a.1.db ∧
      a'.1.db = (clearWrittenEvents b).1.db ∧ a'.2 = (clearWrittenEvents b).2) := by
  cases h with
  | house s' hh =>
    obtain ⟨n, l, lr, p, hp, e⟩ := hh
    subst e
    exact Or.inl (NRel.same rfl (NoConfirmCb.state a _))
  | plainCb c hc => exact Or.inl (.of_eff (ks := [.sol, .fuel]) (F := []) (D := []) (.emitCb (Cb.plain_kind hc)))
  | die => exact Or.inl (NRel.same rfl ⟨[.panic], rfl, by simp [OOut.kind]⟩)
  | wsol dst r a' r' hw => exact Or.inl (.of_eff (writeSolicited_eff hw))
  | rsol dst r => exact Or.inl (.of_eff (repeatSolicited_eff _ _ _))
  | dbReset => exact Or.inl ⟨.reset _ .refl, NoConfirmCb.state a _⟩
  | clrDeferred => exact Or.inl (NRel.same rfl (NoConfirmCb.state a _))
  | reqIdle f ctrl func objs raw a' ser hq hh => exact Or.inl (.of_eff (handleRequestFromIdle_eff hh))
  | enterSol sr c => exact Or.inl (.of_eff (enterSolWait_eff _ _ _))
  | setSolWait sr dl c => exact Or.inl (NRel.same rfl (NoConfirmCb.state a _))
  | chkStart a' hc => exact Or.inl (.of_eff (checkUnsolicited_cases _ _ hc).eff)
  | chkIdle a' n hc => exact Or.inl (.of_eff (checkUnsolicited_cases _ _ hc).eff)
  | defWait n a' hd => exact Or.inl (.of_eff (handleDeferredRead_cases _ _ _ hd).eff)
  | defDone n a' hd => exact Or.inl (.of_eff (handleDeferredRead_cases _ _ _ hd).eff)
  | finishPass n => exact Or.inl (.of_eff (finishPass_eff _ _))
  | solConf sr dl c f ctrl objs raw hm hq hu hs =>
    refine Or.inr ⟨⟨f, ctrl, objs, raw, hq, Or.inl ⟨sr, dl, c, hm, hu, hs⟩⟩, _, ?_, ?_, rfl, rfl⟩
    · exact ⟨[_], rfl, List.forall_mem_singleton.mpr (by nofun)⟩
    · rfl
  | fmtRead fir seq iin2 =>
    exact Or.inl ⟨.writeResponse _ _ .refl, NoConfirmCb.state a _⟩
  | unsolConf resp isNull retries dl f ctrl objs raw hm hq hu hs =>
    cases isNull with
    | true =>
      left
      exact NRel.same rfl ⟨[.cb (.unsolConfirmed resp.ctrl.seq)], rfl, by simp [OOut.kind, Cb.kind]⟩
    | false =>
      rw [afterUnsolSeries_confirmed]
      refine Or.inr ⟨⟨f, ctrl, objs, raw, hq, Or.inr ⟨resp, retries, dl, hm, hu, hs⟩⟩, _, ?_, ?_, rfl, rfl⟩
      · exact ⟨[_], rfl, List.forall_mem_singleton.mpr (by nofun)⟩
      · rfl
  | uwSolConfirm resp isNull retries dl f ctrl objs raw _ _ _ =>
    left
    split
    · exact NRel.same rfl (NoConfirmCb.state a _)
    · exact NRel.refl _
  | bcast f m ctrl func objs raw a' _ _ _ hp => exact Or.inl (.of_eff (processBroadcast_eff hp))
  | uwBcastSeen resp isNull retries dl f m ctrl func objs raw _ _ _ _ _ =>
    exact Or.inl (NRel.same rfl (NoConfirmCb.state a _))
  | nonRead f ctrl func hs raw a' r _ _ _ _ hn => exact Or.inl (.of_eff (handleNonRead_eff hn))
  | uwDisable resp isNull retries dl f ctrl hs raw _ _ => exact Or.inl (afterUnsolSeries_unconfirmed _ _)
  | deferSet f ctrl hs raw _ _ => exact Or.inl (NRel.same rfl (NoConfirmCb.state a _))
  | uwTimeoutEnd resp isNull retries dl _ _ =>
    left
    refine NRel.trans (b := emitCb a (.unsolTimeout resp.ctrl.seq false)) ?_ (afterUnsolSeries_unconfirmed _ _)
    exact NRel.same rfl (NoConfirmCb.emit a _ (by simp [OOut.kind, Cb.kind]))
  | uwRetry resp isNull retries retries' dl _ _ _ =>
    left
    refine NRel.same rfl ⟨[.cb (.unsolTimeout resp.ctrl.seq true),
      .tx a.1.cfg.master ((writeAt a.1.unsolBuf 0 (respHeader resp)).take (max 4 resp.size))], ?_, ?_⟩
    · simp [repeatUnsolicited_eq, emitCb, emit]
    · simp [OOut.kind, Cb.kind]

theorem Ev.dbEffect {pf : Option Frag} {a a' : Acc} (h : Ev pf a a') : DbEffect pf a a' := by
  rcases Ev.nrel_or_clear h with h | ⟨hc, b, _, hdb, e1, e2⟩
  · exact .inl h
  · refine .inr ⟨hc, ?_, ?_⟩
    · rw [e1, clearWrittenEvents_eq, hdb]
    · rw [e2, clearWrittenEvents_eq]; simp

def EvDb (pf : Option Frag) (a a' : Acc) : Prop := Ev pf a a' ∧ DbEffect pf a a'

theorem Reach.evDb {pf : Option Frag} {a a' : Acc} (h : Reach pf a a') : Star (EvDb pf) a a' := by
  induction h with
  | refl => exact .refl _
  | tail _ r ih => exact .tail ih ⟨r, Ev.dbEffect r⟩

/-- (a) every step of the session model that runs the session machinery is a chain of primitive events
    each of which either releases nothing (and emits no confirm callback) or is a confirm point applying
    exactly `clearWritten` -/
theorem clear_only_on_confirm (env : OEnv) (s : OState) (inp : OInput) :
    (∃ f, inp = .setScript f ∧ Outstation.step env s inp = ({ s with script := f s.script }, [])) ∨
    Outstation.step env s inp = (s, []) ∨
    ∃ pf s0 o0, StepInit env s inp pf s0 o0 ∧ Star (EvDb pf) (s0, o0) (Outstation.step env s inp) := by
  rcases step_reach env s inp with h | h | ⟨pf, s0, o0, hi, hr⟩
  · exact Or.inl h
  · exact Or.inr (Or.inl h)
  · exact Or.inr (Or.inr ⟨pf, s0, o0, hi, Reach.evDb hr⟩)

theorem Reach.noRelease {pf : Option Frag} {a a' : Acc} (h : Reach pf a a')
    (hn : ∀ f ctrl objs raw, ¬ ReqOf pf f ctrl 0 objs raw) :
    NoRelease a.1.db a'.1.db ∧ NoConfirmCb a a' := by
  refine Star.lift (Q := NRel) NRel.refl (fun _ _ _ => NRel.trans) ?_ h
  intro b c hev
  rcases Ev.dbEffect hev with hq | ⟨⟨f, ctrl, objs, raw, hreq, _⟩, _⟩
  · exact hq
  · exact absurd hreq (hn f ctrl objs raw)

-- the hypothesis of `Reach.noRelease` holds e.g. of a step with no fragment, and of a READ request
example : ∀ f ctrl objs raw, ¬ ReqOf none f ctrl 0 objs raw := fun _ _ _ _ h => by cases h.1

theorem parseRequest_func (c fn : Nat) (rest : List Nat) (ctrl : AppCtrl) (func : Nat)
    (objs : Except Nat (List ObjHdr)) (raw : List Nat)
    (h : parseRequest (c :: fn :: rest) = .request ctrl func objs raw) : func = fn := by
  obtain ⟨_, hd, _⟩ := parseRequest_request h
  cases hd
  rfl

example : ∀ f ctrl objs raw, ¬ ReqOf (some ⟨0, 1, none, [0xC1, 1, 60, 2, 6]⟩) f ctrl 0 objs raw := by
  intro f ctrl objs raw h
  obtain ⟨h1, h2⟩ := h
  cases h1
  have := parseRequest_func _ _ _ _ _ _ _ h2
  omega

end Dnp3.Proofs.C03
