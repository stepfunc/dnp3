import Dnp3.Model.Database
/-!
# Well-formedness of the generated per-type tables of the outstation database

`Dnp3.Gen.DbT` is re-extracted from `outstation/database/**` on every run (tools/gen_dbtypes.py).
The theorems below say that every row is "its own": they are what lets the database proofs
(`Dnp3.Proofs.Database`) replace a table lookup by the type itself, and they are the proof
obligations a slip in one row of the source breaks before any case runs:

* `insertable_own` — each `impl Insertable for measurement::X` reads its own maximum
  (`get_max`), its own counter (`get_type_count`, `increment_type`, `decrement_type`) and names its own
  `Event` variant (`is_type`, `create_event`, `select_variation`);
* `isAnyFull_each_once`, `maxEventsSum_each_once` — `is_any_full` and `max_events` mention every type
  exactly once; `classZeroOrder_all` — so does `select_class_zero`, in the order of `enum Event`;
* `typeCounterModify_own`, `countersDecrement_own`, `eventHdrTy_own`, `staticHdrTy_own`,
  `writeRangeTy_own`, `updatable_own` — the other per-type dispatch tables;
* `readAllObjects_wf`, `readCount_wf`, `readRange_wf` — every arm of `ReadHeader::from_all_objects /
  from_count / from_range` maps the variation to the type whose group it is, requests exactly that
  variation (none for variation 0), and keeps the count / the range (`from_all_objects`: has none);
* `parser_patterns_have_arms` — every (group, variation) pattern the request parser accepts in a READ
  has an arm;
* `staticVariations_sizes`, `eventVariations_sizes`, `promotions_model`, `defaultConfig_model` — the
  model's hand tables of object sizes / groups / `promote` / default variations agree with the
  generated rows and `Gen.fixedVars`.
-/
namespace Dnp3.DbTables
open Dnp3 Dnp3.DbM Dnp3.Gen.DbT

theorem ty_all_complete (t : PtType) : t ∈ Ty.all := by cases t <;> decide

theorem insertable_own (t : PtType) : insertable t = ⟨t, t, t, t, t, t, t⟩ := by cases t <;> rfl

theorem typeCounterModify_own (t : PtType) : typeCounterModify t = t := by cases t <;> rfl
theorem countersDecrement_own (t : PtType) : countersDecrement t = t := by cases t <;> rfl
theorem eventHdrTy_own (t : PtType) : eventHdrTy t = t := by cases t <;> rfl
theorem staticHdrTy_own (t : PtType) : staticHdrTy t = t := by cases t <;> rfl
theorem writeRangeTy_own (t : PtType) : writeRangeTy t = t := by cases t <;> rfl

/-- `impl Updatable for M`: its own map (both accessors), its own `SpecificVariation`, its own
    `ClassZeroConfig` field; every type but the octet string carries the requested variation -/
theorem updatable_own (t : PtType) :
    updatable t = ⟨t, t, t, decide (t ≠ .octetString), t⟩ := by cases t <;> rfl

theorem isAnyFull_each_once (t : PtType) : isAnyFull.count t = 1 := by cases t <;> decide

theorem mem_isAnyFull (t : PtType) : t ∈ isAnyFull := by cases t <;> decide

theorem maxEventsSum_each_once (t : PtType) : maxEventsSum.count t = 1 := by cases t <;> decide

theorem classZeroOrder_all : classZeroOrder = Ty.all := by decide

/-- the header variants of `select_by_header` / `StaticDatabase::select` / `write_range` that are not
    named after a type do what their name says -/
theorem other_header_arms :
    (selectByHeader.lookup "Class1", selectByHeader.lookup "Class2", selectByHeader.lookup "Class3",
      selectByHeader.lookup "FrozenAnalog") = (some (.cls 1), some (.cls 2), some (.cls 3), some .nothing) ∧
    (staticSelect.lookup "Class0", staticSelect.lookup "FrozenAnalog", staticSelect.lookup "AnalogInputDeadBand") =
      (some .class0, some .nothing, some .deadBand) ∧
    writeRange.lookup "AnalogDeadBand" = some .deadBand ∧
    eventWriteSelected = Ty.all.filter (· != .octetString) := by decide +kernel

/-- `ReadHeader::get_impl`: one table per qualifier family, the prefixed / free-format ones unsupported -/
theorem getImpl_wf :
    getImpl = [("AllObjects", .allObjects), ("OneByteCount", .count), ("TwoByteCount", .count),
      ("OneByteStartStop", .range), ("TwoByteStartStop", .range), ("OneByteCountAndPrefix", .unsupported),
      ("TwoByteCountAndPrefix", .unsupported), ("TwoByteFreeFormat", .unsupported)] := by decide +kernel

def wantVar (g : Nat) (v : Option Nat) : Option (Nat × Nat) :=
  match v with
  | some 0 => none
  | some x => some (g, x)
  | none => none

/-- is this arm what its pattern says?  `keep`: must the request's range / count be passed on -/
def armOk (keep : Bool) (a : ReadArm) : Bool :=
  match a.tgt with
  | none => true
  | some .attrAll => a.group == 0
  | some .attrSpecific => a.group == 0
  | some .class0 => a.group == 60 && a.var == some 1
  | some (.evClass c k) => a.group == 60 && a.var == some (c + 1) && k == keep && (c == 1 || c == 2 || c == 3)
  | some (.static t var k) => staticGroup t == a.group && var == wantVar a.group a.var && k == keep
  | some (.event t var k) => evGroup t == a.group && var == wantVar a.group a.var && k == keep
  | some (.frozenAnalog var k) => a.group == 31 && var == wantVar 31 a.var && k == keep
  | some (.frozenAnalogEvent var k) => a.group == 33 && var == wantVar 33 a.var && k == keep
  | some (.deadBand var k) => a.group == 34 && var == wantVar 34 a.var && k == keep

theorem readAllObjects_wf : readAllObjects.all (armOk false) = true := by decide +kernel

theorem readCount_wf : readCount.all (armOk true) = true := by decide +kernel

theorem readRange_wf : readRange.all (armOk true) = true := by decide +kernel

theorem read_tables_reach_every_type (t : PtType) :
    (readRange.any fun a => match a.tgt with | some (.static t' none _) => t' == t | _ => false) = true ∧
    (readAllObjects.any fun a => match a.tgt with | some (.static t' none _) => t' == t | _ => false) = true ∧
    (readCount.any fun a => match a.tgt with | some (.event t' none _) => t' == t | _ => false) = true ∧
    (readAllObjects.any fun a => match a.tgt with | some (.event t' none _) => t' == t | _ => false) = true := by
  cases t <;> decide +kernel

/-- every `p` meets a `b` with `m p b` at or after the one the `p` before it met: one pass over two tables
    that list their groups in the same order -/
def coveredInOrder {α β} (m : α → β → Bool) : List α → List β → Bool
  | [], _ => true
  | p :: ps, bs =>
    match bs.dropWhile fun b => !m p b with
    | [] => false
    | b :: bs' => coveredInOrder m ps (b :: bs')

theorem all_any_of_coveredInOrder {α β} {m : α → β → Bool} : ∀ {ps : List α} {bs : List β},
    coveredInOrder m ps bs = true → ps.all (fun p => bs.any (m p)) = true
  | [], _, _ => rfl
  | p :: ps, bs, h => by
    rw [coveredInOrder] at h
    split at h
    · cases h
    · next b bs' hd =>
      have hsub : ∀ x ∈ b :: bs', x ∈ bs := fun x hx => (List.dropWhile_sublist _).subset (hd ▸ hx)
      have hb : m p b = true := by
        have := List.head?_dropWhile_not (fun b => !m p b) bs
        rw [hd] at this
        simpa using this
      have ih := all_any_of_coveredInOrder h
      rw [List.all_cons, Bool.and_eq_true]
      simp only [List.all_eq_true, List.any_eq_true] at ih ⊢
      exact ⟨⟨b, hsub b (List.mem_cons_self ..), hb⟩, fun q hq => let ⟨x, hx, hm⟩ := ih q hq; ⟨x, hsub x hx, hm⟩⟩

theorem parser_patterns_have_arms :
    (Gen.allObjects.all fun pp => readAllObjects.any fun a => a.group == pp.1.group && (a.var == pp.1.var || a.var == none)) = true ∧
    (Gen.countTable.all fun pp => readCount.any fun a => a.group == pp.1.group && (a.var == pp.1.var || a.var == none)) = true ∧
    (Gen.rangedRead.all fun pp => readRange.any fun a => a.group == pp.1.group && (a.var == pp.1.var || a.var == none)) = true :=
  ⟨all_any_of_coveredInOrder (by decide +kernel), all_any_of_coveredInOrder (by decide +kernel),
    all_any_of_coveredInOrder (by decide +kernel)⟩

/-- size of `GroupgVarv` according to `impl FixedSize` (app/variations.rs) -/
def fixedSize (g v : Nat) : Option Nat := (Gen.fixedVars.find? fun f => f.group == g && f.var == v).map (·.size)

/-- the model's static groups, packing widths and object sizes are those of `get_write_info` -/
theorem staticVariations_sizes :
    (staticVariations.all fun r =>
      r.group == staticGroup r.ty &&
      match r.kind, r.var with
      | .bits, some v => packWidth r.group v == 1
      | .doubleBits, some v => packWidth r.group v == 2
      | .fixed g v', some v => g == r.group && v' == v && packWidth r.group v == 0 && fixedSize g v == some (stObjSize g v)
      | .octets, none => r.ty == .octetString
      | _, _ => false) = true ∧
    (deadBandVariations.all fun gv => gv.1 == 34 && fixedSize gv.1 gv.2 == some (stObjSize gv.1 gv.2)) = true := by
  decide +kernel

/-- the model's event groups, object sizes and `uses_cto` are those of `EventVariation` -/
theorem eventVariations_sizes :
    (eventVariations.all fun r =>
      r.group == evGroup r.ty &&
      match r.kind, r.var with
      | .fixed, some v => !r.usesCto && usesCto r.ty v == false && fixedSize r.group v == some (evObjSize r.ty v)
      | .cto, some v => r.usesCto && usesCto r.ty v == true && fixedSize r.group v == some (evObjSize r.ty v)
      | .octets, none => r.ty == .octetString && !r.usesCto
      | _, _ => false) = true := by
  decide +kernel

/-- `promote`: only variation 1 of g1 / g3 / g10 moves, to variation 2, when the flags without the
    state bit(s) differ from ONLINE -/
theorem promotions_model :
    promotions = [(.binary, (1, 1), (1, 2), 128), (.doubleBitBinary, (3, 1), (3, 2), 192),
                  (.binaryOutputStatus, (10, 1), (10, 2), 128)] := by decide

theorem promote_rows (m : Meas) :
    promote .binary 1 m = (if m.flags % (256 - 128) = 1 then 1 else 2) ∧
    promote .doubleBitBinary 1 m = (if m.flags % (256 - 192) = 1 then 1 else 2) ∧
    promote .binaryOutputStatus 1 m = (if m.flags % (256 - 128) = 1 then 1 else 2) := by
  simp [promote]

theorem promote_other (t : PtType) (v : Nat) (m : Meas)
    (h : (promotions.any fun p => p.1 == t && p.2.1 == (staticGroup t, v)) = false) : promote t v m = v := by
  by_cases hv : v = 1
  · subst hv
    cases t <;> first | rfl | (exfalso; revert h; decide)
  · cases t <;> simp [promote, hv]

/-- `Db.add`'s configuration (`addStaticVar`, `addEventVar`) of every type but the binary input, which it adds
    with g1v2 where the library's default is g1v1, is the library's `Default` configuration -/
theorem defaultConfig_model :
    (defaultConfig.all fun r =>
      match r.2 with
      | some ((sg, sv), (eg, ev)) =>
        sg == staticGroup r.1 && eg == evGroup r.1 &&
        (r.1 == .binary || (sv == addStaticVar r.1 && ev == addEventVar r.1))
      | none => r.1 == .octetString) = true := by decide

theorem detector_model (t : PtType) :
    detector t = match t with
      | .binary | .doubleBitBinary | .binaryOutputStatus => .flags
      | .octetString => .value
      | _ => .deadband := by cases t <;> rfl

end Dnp3.DbTables
