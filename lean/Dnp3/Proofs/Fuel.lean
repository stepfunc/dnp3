/-!
# Loops written as recursions on fuel

The models render each loop of the library as a recursion `loop : Nat → σ → ρ` on a fuel argument.
-/
namespace Dnp3.Proofs

/-- For a loop that still acts at measure 0 take `μ + 1`. -/
theorem fuel_irrel {σ ρ : Type} {loop : Nat → σ → ρ} (μ : σ → Nat) (I : σ → Prop)
    (zero : ∀ s, I s → μ s = 0 → ∀ f, loop f s = loop 0 s)
    (step : ∀ s, I s → (∃ r, ∀ f, loop (f + 1) s = r) ∨
      ∃ (s' : σ) (k : ρ → ρ), I s' ∧ μ s' < μ s ∧ ∀ f, loop (f + 1) s = k (loop f s')) :
    ∀ f1 f2 s, I s → μ s ≤ f1 → μ s ≤ f2 → loop f1 s = loop f2 s := by
  intro f1
  induction f1 with
  | zero => intro f2 s hi h1 _; exact (zero s hi (by omega) f2).symm
  | succ k ih =>
    intro f2 s hi h1 h2
    cases f2 with
    | zero => exact zero s hi (by omega) _
    | succ j =>
      rcases step s hi with ⟨r, he⟩ | ⟨s', c, hi', hlt, he⟩
      · rw [he, he]
      · rw [he, he, ih j s' hi' (by omega) (by omega)]

/-- the recursion of a loop that takes `n` items per round -/
theorem drop_induct {α : Type} {P : List α → Prop} (n : Nat) (hn : 0 < n) (nil : P [])
    (step : ∀ l, l ≠ [] → P (l.drop n) → P l) : ∀ l, P l := by
  intro l
  induction h : l.length using Nat.strongRecOn generalizing l with
  | _ k ih =>
    cases l with
    | nil => exact nil
    | cons a t =>
      exact step _ (List.cons_ne_nil _ _)
        (ih _ (by subst h; simp only [List.length_drop, List.length_cons]; omega) _ rfl)

end Dnp3.Proofs
