import Dnp3.Proofs.C09AttrValue
import Dnp3.Proofs.C09Walk
import Dnp3.Proofs.C09Builder
/-! C09 for device attributes (group 0): the parser model of `Model/Attr` (`parseObj` / `parseObjs`) is the real
    header walk of `Model/ObjectGrammar` restricted to attribute objects, and the master's request builder
    (`buildWrite`) writes what that walk reads back (for variations other than 0 and 254: finding D30) -/
namespace Dnp3.Proofs.C09AttrWalk
open Dnp3 Dnp3.Attr Dnp3.App Dnp3.Gen Dnp3.Gen.App Dnp3.Gen.Attrs

/-- `Variation::lookup(0, v)`: every variation of group 0 except 0 (unknown) and 254 (the value-less "all attributes"
    request) is a device attribute, and in a non-READ fragment with a range qualifier it carries a value -/
theorem lookup_group0 : ∀ v, v < 256 → v ≠ 0 → v ≠ 254 →
    lookup 0 v = some (.wild 0 v) ∧ tableGet rangedNonRead (.wild 0 v) = some .attr := by
  have fin : ∀ v : Fin 256, v.val ≠ 0 → v.val ≠ 254 →
      lookup 0 v.val = some (.wild 0 v.val) ∧ tableGet rangedNonRead (.wild 0 v.val) = some .attr := by
    decide +kernel
  intro v hv h0 h254
  exact fin ⟨v, hv⟩ h0 h254

example : lookup 0 196 = some (.wild 0 196) ∧ tableGet rangedNonRead (.wild 0 196) = some .attr :=
  lookup_group0 196 (by decide) (by decide) (by decide)

theorem attrValue_of_parseValue {bs rest : List Nat} {v : Value} (h : parseValue bs = .ok (v, rest)) :
    attrValue bs = .ok rest := by
  rw [← C09AttrValue.parseValue_agrees_with_walk, h]; rfl

example : parseValue [2, 1, 42, 9] = .ok (.uint 42, [9]) ∧ attrValue [2, 1, 42, 9] = .ok [9] :=
  ⟨rfl, attrValue_of_parseValue (v := .uint 42) rfl⟩

theorem parseOne_attr_object (zls : Bool) (set var : Nat) (img rest : List Nat) (v : Value)
    (hs : set < 256) (hvar : var < 256) (h0 : var ≠ 0) (h254 : var ≠ 254)
    (hv : parseValue (img ++ rest) = .ok (v, rest)) :
    parseOne false zls (objHeader set var ++ img ++ rest) =
      .ok (⟨.wild 0 var, .range false set set, .attr, img⟩, rest) ∧
    parseObj (objHeader set var ++ img ++ rest) = .ok (⟨set, var, v⟩, rest) := by
  obtain ⟨hl, ht⟩ := lookup_group0 var hvar h0 h254
  have ha := attrValue_of_parseValue hv
  have h1 : ¬ set > 255 := by omega
  have h2 : ¬ set < set := by omega
  have h3 : set - set + 1 = 1 := by omega
  have hsp : parseSpec 0 (set :: set :: (img ++ rest)) = .ok (.range false set set, img ++ rest) := by
    simp [parseSpec, qRange8, qAllObjects, parseRange, readIdx, readU8]
  -- the payload `readPayload` records for an attribute object, `bs.take (bs.length - rest.length)`
  have take_img : List.take ((img ++ rest).length - rest.length) (img ++ rest) = img := by
    rw [show (img ++ rest).length - rest.length = img.length by simp]; exact List.take_left
  constructor
  · simp only [objHeader, qRange8, List.cons_append, List.nil_append, parseOne, hl, hsp, parseBody, tableFor, ht,
      readPayload, Spec.start, Spec.nobj, Bool.false_eq_true, ↓reduceIte, h1, h3, ha, ne_eq,
      not_true_eq_false, take_img]
  · simp only [objHeader, List.cons_append, List.nil_append, parseObj, ne_eq, not_true_eq_false,
      ↓reduceIte, h0, h254, h2, h3, hv]

example : parseOne false false (objHeader 1 196 ++ [2, 1, 42] ++ [9]) =
      .ok (⟨.wild 0 196, .range false 1 1, .attr, [2, 1, 42]⟩, [9]) ∧
    parseObj (objHeader 1 196 ++ [2, 1, 42] ++ [9]) = .ok (⟨1, 196, .uint 42⟩, [9]) :=
  parseOne_attr_object false 1 196 [2, 1, 42] [9] (.uint 42) (by decide) (by decide) (by decide) (by decide) rfl

theorem parseObjs_cons {bs rest : List Nat} {o : Obj} (h : parseObj bs = .ok (o, rest)) :
    parseObjs bs =
      match parseObjs rest with
      | .error e => .error e
      | .ok os => .ok (o :: os) := by
  have hne : bs.isEmpty = false := by
    cases bs with
    | nil => simp [parseObj] at h
    | cons _ _ => rfl
  rw [parseObjs]
  simp only [hne, Bool.false_eq_true, ↓reduceIte]
  split
  · rename_i e he; rw [h] at he; cases he
  · rename_i r' rest' he
    rw [h] at he; cases he
    rfl

theorem walk_attr_objects (zls : Bool) (objs : List (Obj × List Nat))
    (h : ∀ p ∈ objs, p.1.set < 256 ∧ p.1.var < 256 ∧ p.1.var ≠ 0 ∧ p.1.var ≠ 254 ∧
          ∀ rest, parseValue (p.2 ++ rest) = .ok (p.1.value, rest)) :
    walk false zls (objs.flatMap fun p => objHeader p.1.set p.1.var ++ p.2) =
      .ok (objs.map fun p => ⟨.wild 0 p.1.var, .range false p.1.set p.1.set, .attr, p.2⟩) ∧
    parseObjs (objs.flatMap fun p => objHeader p.1.set p.1.var ++ p.2) = .ok (objs.map (·.1)) := by
  induction objs with
  | nil =>
    constructor
    · rw [walk]; rfl
    · rw [parseObjs]; rfl
  | cons p objs ih =>
    obtain ⟨hs, hvar, h0, h254, hv⟩ := h p (List.mem_cons_self ..)
    obtain ⟨ih1, ih2⟩ := ih (fun x hx => h x (List.mem_cons_of_mem _ hx))
    obtain ⟨o, img⟩ := p
    obtain ⟨set, var, v⟩ := o
    simp only at hs hvar h0 h254 hv
    obtain ⟨e1, e2⟩ := parseOne_attr_object zls set var img
      (objs.flatMap fun p => objHeader p.1.set p.1.var ++ p.2) v hs hvar h0 h254 (hv _)
    simp only [List.flatMap_cons, List.map_cons]
    constructor
    · rw [walk_cons e1, ih1]
    · rw [parseObjs_cons e2, ih2]

example : walk false false (([(⟨1, 196, .uint 42⟩, [2, 1, 42]), (⟨1, 197, .uint 7⟩, [2, 1, 7])] :
      List (Obj × List Nat)).flatMap fun p => objHeader p.1.set p.1.var ++ p.2) =
    .ok [⟨.wild 0 196, .range false 1 1, .attr, [2, 1, 42]⟩, ⟨.wild 0 197, .range false 1 1, .attr, [2, 1, 7]⟩] :=
  (walk_attr_objects false [(⟨1, 196, .uint 42⟩, [2, 1, 42]), (⟨1, 197, .uint 7⟩, [2, 1, 7])] (by
    intro p hp
    simp only [List.mem_cons, List.not_mem_nil, or_false] at hp
    rcases hp with rfl | rfl
    · exact ⟨by decide, by decide, by decide, by decide, fun rest => rfl⟩
    · exact ⟨by decide, by decide, by decide, by decide, fun rest => rfl⟩)).1

theorem go_spec (cap : Nat) (attrs : List Obj) : ∀ (used : Nat) (acc body : List Nat),
    buildWrite.go cap used acc attrs = .ok body →
    ∃ objs : List (Obj × List Nat), objs.map (·.1) = attrs ∧ (∀ p ∈ objs, p.1.value.image = some p.2) ∧
      body = acc ++ (objs.flatMap fun p => objHeader p.1.set p.1.var ++ p.2) ∧
      (used ≤ cap → used + (objs.flatMap fun p => objHeader p.1.set p.1.var ++ p.2).length ≤ cap) := by
  induction attrs with
  | nil =>
    intro used acc body h
    simp only [buildWrite.go] at h
    injection h with h; subst h
    exact ⟨[], rfl, by simp, by simp, by simp⟩
  | cons o attrs ih =>
    intro used acc body h
    simp only [buildWrite.go] at h
    split at h
    · cases h
    · cases h
    · rename_i bs hw
      obtain ⟨objs, h1, h2, h3, h4⟩ := ih _ _ _ h
      unfold writeAttribute at hw
      split at hw
      · cases hw
      · split at hw
        · cases hw
        · rename_i img himg
          unfold putObject at hw
          split at hw
          · rename_i hfit
            injection hw with hw; subst hw
            refine ⟨(o, img) :: objs, by simp [h1], ?_, ?_, ?_⟩
            · intro p hp
              rcases List.mem_cons.mp hp with rfl | hp
              · exact himg
              · exact h2 p hp
            · rw [h3]; simp only [List.flatMap_cons, List.append_assoc]
            · intro _
              have := h4 (by omega)
              simp only [List.flatMap_cons, List.length_append] at this ⊢
              omega
          · cases hw

theorem buildWrite_objs (cap : Nat) (attrs : List Obj) (body : List Nat) (h : buildWrite cap attrs = .ok body) :
    ∃ objs : List (Obj × List Nat), objs.map (·.1) = attrs ∧ (∀ p ∈ objs, p.1.value.image = some p.2) ∧
      body = (objs.flatMap fun p => objHeader p.1.set p.1.var ++ p.2) ∧ 2 + body.length ≤ cap := by
  unfold buildWrite at h
  split at h
  · cases h
  · rename_i hc
    obtain ⟨objs, h1, h2, h3, h4⟩ := go_spec cap attrs 2 [] body h
    simp only [List.nil_append] at h3
    exact ⟨objs, h1, h2, h3, by rw [h3]; exact h4 (by omega)⟩

example : buildWrite 2048 [⟨1, 196, .uint 42⟩, ⟨1, 197, .vstr [65]⟩] =
    .ok [0, 196, 0, 1, 1, 2, 1, 42, 0, 197, 0, 1, 1, 1, 1, 65] := rfl

/-- what `Props.C09.build_request_parses_back_partial` rests on (finding D30: not for the variations 0 and 254) -/
theorem build_request_parses_back_partial (cap : Nat) (attrs : List Obj) (body : List Nat)
    (hw : ∀ o ∈ attrs, o.set < 256 ∧ o.var < 256 ∧ o.var ≠ 0 ∧ o.var ≠ 254 ∧
            ∀ img rest, o.value.image = some img → parseValue (img ++ rest) = .ok (o.value, rest))
    (h : buildWrite cap attrs = .ok body) :
    2 + body.length ≤ cap ∧ parseObjs body = .ok attrs ∧
    ∃ recs, walk false false body = .ok recs ∧ recs.length = attrs.length := by
  obtain ⟨objs, h1, h2, h3, hc⟩ := buildWrite_objs cap attrs body h
  subst h1
  have hobjs : ∀ p ∈ objs, p.1.set < 256 ∧ p.1.var < 256 ∧ p.1.var ≠ 0 ∧ p.1.var ≠ 254 ∧
      ∀ rest, parseValue (p.2 ++ rest) = .ok (p.1.value, rest) := by
    intro p hp
    obtain ⟨a, b, c, d, e⟩ := hw p.1 (List.mem_map_of_mem hp)
    exact ⟨a, b, c, d, fun rest => e p.2 rest (h2 p hp)⟩
  obtain ⟨w1, w2⟩ := walk_attr_objects false objs hobjs
  rw [h3] at hc ⊢
  exact ⟨hc, w2, _, w1, by simp⟩

example : (∀ o ∈ [(⟨1, 196, .uint 42⟩ : Obj)], o.set < 256 ∧ o.var < 256 ∧ o.var ≠ 0 ∧ o.var ≠ 254 ∧
      ∀ img rest, o.value.image = some img → parseValue (img ++ rest) = .ok (o.value, rest)) ∧
    buildWrite 2048 [⟨1, 196, .uint 42⟩] = .ok [0, 196, 0, 1, 1, 2, 1, 42] := by
  refine ⟨?_, rfl⟩
  intro o ho
  simp only [List.mem_cons, List.not_mem_nil, or_false] at ho
  subst ho
  refine ⟨by decide, by decide, by decide, by decide, ?_⟩
  intro img rest hi
  have : img = [2, 1, 42] := by
    have : (Value.uint 42).image = some [2, 1, 42] := by decide
    rw [this] at hi; injection hi with hi; exact hi.symm
  subst this
  rfl

end Dnp3.Proofs.C09AttrWalk
