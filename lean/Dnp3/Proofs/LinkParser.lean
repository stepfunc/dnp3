import Dnp3.Model.LinkParser
import Dnp3.Proofs.Fuel
/-!
# Proofs about the link CRC, frame encoder and parser (C06 helper lemmas)
-/
namespace Dnp3

theorem crcTable_size : Gen.crcTable.size = 256 := by decide +kernel

theorem crcTable_all_lt : Gen.crcTable.toList.all (· < 65536) = true := by decide +kernel

theorem crcTable_getD_lt (i : Nat) : Gen.crcTable.getD i 0 < 65536 := by
  by_cases h : i < Gen.crcTable.size
  · have := List.all_eq_true.mp crcTable_all_lt Gen.crcTable[i] (by simp)
    simpa [Array.getD, h] using this
  · simp [Array.getD, h]

theorem crcStepT_lt (acc b : Nat) (h : acc < 65536) : crcStepT acc b < 65536 := by
  unfold crcStepT
  have h1 := crcTable_getD_lt ((acc % 256) ^^^ b)
  have h2 : acc / 256 < 65536 := by omega
  exact Nat.xor_lt_two_pow (n := 16) h1 h2

theorem crcIncT_lt (acc : Nat) (bs : List Nat) (h : acc < 65536) : crcIncT acc bs < 65536 := by
  unfold crcIncT
  induction bs generalizing acc with
  | nil => simpa using h
  | cons b t ih => exact ih _ (crcStepT_lt acc b h)

example : crcIncT 0x3F0D [1, 2, 300] < 65536 := crcIncT_lt _ _ (by decide)

theorem calcCrc_lt (bs : List Nat) : calcCrc bs < 65536 := by
  unfold calcCrc
  exact Nat.xor_lt_two_pow (n := 16) (by decide) (crcIncT_lt 0 bs (by decide))

theorem calcCrc0564_lt (bs : List Nat) : calcCrc0564 bs < 65536 := by
  unfold calcCrc0564
  exact Nat.xor_lt_two_pow (n := 16) (by decide) (crcIncT_lt _ bs (by decide))

theorem le16_eq (x : Nat) : le16 x = [x % 256, (x / 256) % 256] := rfl

theorem rd16_le16 (x : Nat) (h : x < 65536) : rd16 (x % 256) ((x / 256) % 256) = x := by
  unfold rd16; omega

theorem rd16_le16' (x : Nat) (h : x < 65536) :
    (match le16 x with | [lo, hi] => rd16 lo hi | _ => 0) = x := by
  simp only [le16]; exact rd16_le16 x h

example : (match le16 0xABCD with | [lo, hi] => rd16 lo hi | _ => 0) = 0xABCD :=
  rd16_le16' _ (by decide)

theorem le16_rd16 (lo hi : Nat) (hl : lo < 256) (hh : hi < 256) : le16 (rd16 lo hi) = [lo, hi] := by
  unfold le16 rd16
  have h1 : (lo + 256 * hi) % 256 = lo := by omega
  have h2 : (lo + 256 * hi) / 256 % 256 = hi := by omega
  rw [h1, h2]

example : le16 (rd16 0xCD 0xAB) = [0xCD, 0xAB] := le16_rd16 _ _ (by decide) (by decide)

theorem rd16_lt (lo hi : Nat) (hl : lo < 256) (hh : hi < 256) : rd16 lo hi < 65536 := by
  unfold rd16; omega

theorem chunks16_nil (f : Nat) : chunks16 f [] = [] := by
  cases f <;> simp [chunks16]

theorem chunks16_fuel (f1 f2 : Nat) (bs : List Nat) (h1 : bs.length ≤ f1) (h2 : bs.length ≤ f2) :
    chunks16 f1 bs = chunks16 f2 bs := by
  refine Proofs.fuel_irrel (loop := chunks16) List.length (fun _ => True) (fun bs _ h f => ?_)
    (fun bs _ => ?_) f1 f2 bs trivial h1 h2
  · simp only [List.length_eq_zero_iff.mp h, chunks16_nil]
  · cases bs with
    | nil => exact Or.inl ⟨[], fun _ => chunks16_nil _⟩
    | cons b t =>
      exact Or.inr ⟨(b :: t).drop 16, ((b :: t).take 16 :: ·), trivial,
        by simp only [List.length_drop, List.length_cons]; omega, fun _ => rfl⟩

theorem encodeBody_nil : encodeBody [] = [] := by
  simp [encodeBody, blocks, chunks16]

theorem encodeBody_ne_nil (p : List Nat) (h : p ≠ []) :
    encodeBody p = encodeBlock (p.take 16) ++ encodeBody (p.drop 16) := by
  cases p with
  | nil => exact absurd rfl h
  | cons b t =>
    simp only [encodeBody, blocks, List.length_cons, chunks16, List.flatMap_cons]
    congr 2
    apply chunks16_fuel
    · simp only [List.length_drop, List.length_cons]; omega
    · exact Nat.le_refl _

theorem encodeBlock_length (b : List Nat) : (encodeBlock b).length = b.length + 2 := by
  simp [encodeBlock, le16]

theorem encodeBody_length (p : List Nat) : (encodeBody p).length = calcTrailerLength p.length := by
  induction p using Proofs.drop_induct 16 (by decide) with
  | nil => simp [encodeBody_nil, calcTrailerLength]
  | step p hp ih =>
    have hl : 0 < p.length := List.length_pos_iff.mpr hp
    rw [encodeBody_ne_nil p hp, List.length_append, encodeBlock_length, ih]
    simp only [List.length_take, List.length_drop, calcTrailerLength]
    split <;> split <;> omega

theorem encodeBody_eq_nil_iff (p : List Nat) : encodeBody p = [] ↔ p = [] := by
  constructor
  · intro h
    by_cases hp : p = []
    · exact hp
    · have hl : 0 < p.length := List.length_pos_iff.mpr hp
      have := encodeBody_length p
      rw [h] at this
      simp only [List.length_nil, calcTrailerLength] at this
      split at this <;> omega
  · intro h; subst h; exact encodeBody_nil

theorem encodeBody_take18 (p : List Nat) (hp : p ≠ []) :
    (encodeBody p).take 18 = p.take 16 ++ le16 (calcCrc (p.take 16)) ∧
    (encodeBody p).drop 18 = encodeBody (p.drop 16) := by
  rw [encodeBody_ne_nil p hp]
  by_cases h16 : 16 ≤ p.length
  · have hl : (encodeBlock (p.take 16)).length = 18 := by
      rw [encodeBlock_length, List.length_take]; omega
    constructor
    · rw [List.take_left' hl]; rfl
    · rw [List.drop_left' hl]
  · have hd : p.drop 16 = [] := List.drop_eq_nil_iff.mpr (by omega)
    have hl : (encodeBlock (p.take 16)).length ≤ 18 := by
      rw [encodeBlock_length, List.length_take]; omega
    rw [hd, encodeBody_nil, List.append_nil]
    constructor
    · rw [List.take_of_length_le hl]; rfl
    · exact List.drop_eq_nil_iff.mpr hl

theorem checkBody_nil (f : Nat) : checkBody f [] = .ok [] := by
  cases f <;> simp [checkBody]

theorem checkBody_cons (fuel x : Nat) (xs : List Nat) : checkBody (fuel+1) (x :: xs) =
    (if (List.take 18 (x :: xs)).length < 3 then Except.error PErr.logic
    else
      match List.drop ((List.take 18 (x :: xs)).length - 2) (List.take 18 (x :: xs)) with
      | [lo, hi] =>
        if rd16 lo hi ≠ calcCrc (List.take ((List.take 18 (x :: xs)).length - 2) (List.take 18 (x :: xs))) then
          Except.error PErr.bodyCrc
        else
          match checkBody fuel (List.drop 18 (x :: xs)) with
          | Except.ok rest =>
            Except.ok (List.take ((List.take 18 (x :: xs)).length - 2) (List.take 18 (x :: xs)) ++ rest)
          | Except.error e => Except.error e
      | _ => Except.error PErr.logic) := by
  simp only [checkBody]; rfl

theorem checkBody_encodeBody (fuel : Nat) (p : List Nat) (h : (encodeBody p).length ≤ fuel) :
    checkBody fuel (encodeBody p) = .ok p := by
  induction p using Proofs.drop_induct 16 (by decide) generalizing fuel with
  | nil => rw [encodeBody_nil]; exact checkBody_nil _
  | step p hp ih =>
    obtain ⟨ht, hd⟩ := encodeBody_take18 p hp
    have hne : encodeBody p ≠ [] := fun h => hp ((encodeBody_eq_nil_iff p).mp h)
    have hl : 0 < p.length := List.length_pos_iff.mpr hp
    obtain ⟨x, xs, hx⟩ := List.exists_cons_of_ne_nil hne
    obtain ⟨fuel, rfl⟩ : ∃ f, fuel = f + 1 := ⟨fuel - 1, by rw [hx] at h; simp only [List.length_cons] at h; omega⟩
    have hlen : (encodeBody (p.drop 16)).length ≤ fuel := by
      rw [← hd, List.length_drop]; omega
    have hstep := checkBody_cons fuel x xs
    rw [hx] at ht hd ⊢
    rw [hstep]
    simp only [ht, hd]
    have hbl : (List.take 16 p ++ le16 (calcCrc (List.take 16 p))).length = (p.take 16).length + 2 := by
      simp [le16]
    have htl : 0 < (p.take 16).length := by rw [List.length_take]; omega
    rw [hbl]
    have h3 : ¬ (p.take 16).length + 2 < 3 := by omega
    simp only [h3, if_false, Nat.add_sub_cancel]
    rw [List.take_left, List.drop_left, le16_eq]
    simp only [rd16_le16 _ (calcCrc_lt _), ne_eq, not_true_eq_false, if_false]
    rw [ih _ hlen]
    simp only [List.take_append_drop]

theorem checkBody_cons_inv (fuel x : Nat) (xs p : List Nat)
    (h : checkBody (fuel+1) (x :: xs) = .ok p) :
    ∃ data lo hi rest, (x :: xs).take 18 = data ++ [lo, hi] ∧ data ≠ [] ∧
      rd16 lo hi = calcCrc data ∧ checkBody fuel ((x :: xs).drop 18) = .ok rest ∧
      p = data ++ rest := by
  rw [checkBody_cons] at h
  split at h
  · cases h
  · rename_i hlen
    split at h
    · rename_i lo hi hcrc
      split at h
      · cases h
      · rename_i hc
        split at h
        · rename_i rest hrest
          refine ⟨List.take ((List.take 18 (x :: xs)).length - 2) (List.take 18 (x :: xs)), lo, hi, rest,
            ?_, ?_, ?_, hrest, ?_⟩
          · rw [← hcrc, List.take_append_drop]
          · intro h0
            have h1 := congrArg List.length h0
            simp only [List.length_take, List.length_nil, List.length_cons] at h1 hlen
            omega
          · exact Decidable.not_not.mp hc
          · cases h; rfl
        · cases h
    · cases h

theorem calcTrailerLength_inj (a b : Nat) (h : calcTrailerLength a = calcTrailerLength b) : a = b := by
  unfold calcTrailerLength at h
  simp only at h
  split at h <;> split at h <;> omega

theorem encodeBody_short (d : List Nat) (h0 : d ≠ []) (h16 : d.length ≤ 16) :
    encodeBody d = d ++ le16 (calcCrc d) := by
  rw [encodeBody_ne_nil d h0, List.take_of_length_le h16,
    List.drop_eq_nil_iff.mpr h16, encodeBody_nil, List.append_nil]; rfl

theorem checkBody_sound (fuel : Nat) (bs p : List Nat) (hl : bs.length ≤ fuel)
    (hb : ∀ b ∈ bs, b < 256) (h : checkBody fuel bs = .ok p) : bs = encodeBody p := by
  induction bs using Proofs.drop_induct 18 (by decide) generalizing fuel p with
  | nil => rw [checkBody_nil] at h; cases h; exact encodeBody_nil.symm
  | step bs hne ih =>
    obtain ⟨x, xs, rfl⟩ := List.exists_cons_of_ne_nil hne
    obtain ⟨fuel, rfl⟩ : ∃ f, fuel = f + 1 := ⟨fuel - 1, by simp only [List.length_cons] at hl; omega⟩
    obtain ⟨data, lo, hi, rest, ht, hd0, hcrc, hrest, hp⟩ := checkBody_cons_inv fuel x xs p h
    have hsplit : x :: xs = (data ++ [lo, hi]) ++ (x :: xs).drop 18 := by
      rw [← ht, List.take_append_drop]
    have hmem : ∀ b ∈ data ++ [lo, hi], b < 256 := by
      intro b hb'
      apply hb
      rw [hsplit]; exact List.mem_append_left _ hb'
    have hlo : lo < 256 := hmem lo (by simp)
    have hhi : hi < 256 := hmem hi (by simp)
    have hdl : (data ++ [lo, hi]).length ≤ 18 := by
      rw [← ht, List.length_take]; omega
    have hdl' : data.length ≤ 16 := by
      simp only [List.length_append, List.length_cons, List.length_nil] at hdl; omega
    have hrec : (x :: xs).drop 18 = encodeBody rest := by
      apply ih _ _ _ _ hrest
      · rw [List.length_drop]; simp only [List.length_cons] at *; omega
      · intro b hb'; exact hb b (List.mem_of_mem_drop hb')
    have hle : le16 (calcCrc data) = [lo, hi] := by rw [← hcrc]; exact le16_rd16 lo hi hlo hhi
    subst hp
    by_cases hr : rest = []
    · subst hr
      rw [hsplit, hrec, encodeBody_nil, List.append_nil, List.append_nil,
        encodeBody_short data hd0 hdl', hle]
    · have hne : (x :: xs).drop 18 ≠ [] := by
        rw [hrec]; exact fun h => hr ((encodeBody_eq_nil_iff rest).mp h)
      have hlong : 18 < (x :: xs).length := by
        have := List.length_pos_iff.mpr hne
        rw [List.length_drop] at this; omega
      have h18 : (data ++ [lo, hi]).length = 18 := by
        rw [← ht, List.length_take]; omega
      have hd16 : data.length = 16 := by
        simp only [List.length_append, List.length_cons, List.length_nil] at h18; omega
      have hne' : data ++ rest ≠ [] := by simp [hd0]
      rw [encodeBody_ne_nil _ hne', List.take_left' hd16, List.drop_left' hd16, encodeBlock, hle,
        ← hrec]
      exact hsplit

example : (match checkBody 6 [0xC0, 1, 2, 3, 242, 173] with
      | .ok p => p == [0xC0, 1, 2, 3] | .error _ => false) = true ∧
    ∀ b ∈ [0xC0, 1, 2, 3, 242, 173], b < 256 := ⟨by decide +kernel, by decide⟩

/-- parser states that `parse_impl` can actually be left in: a body state always waits for
    at least one octet -/
def wfState : PState → Prop
  | .body _ t => 0 < t
  | _ => True

/-! ## the parser as a machine: every state waits for a fixed number of octets, then decides

`parse_impl` is `parseImpl_step` iterated (at most four times: `rank`); what one call does to its
input, to later octets and to the state is read off that equation by `parseImpl_induct`. -/

def PState.need : PState → Nat
  | .sync1 => 1
  | .sync2 => 1
  | .header => 8
  | .body _ t => t

inductive Tok where
  | fail (e : PErr)
  | next (st : PState)
  | frame (h : LHeader) (p : List Nat)

def tok : PState → List Nat → Tok
  | .sync1, [x] => if x ≠ 0x05 then .fail (.start1 x) else .next .sync2
  | .sync2, [x] => if x ≠ 0x64 then .fail (.start2 x) else .next .header
  | .header, [len, ctrl, d0, d1, s0, s1, c0, c1] =>
    if len < 5 then .fail (.badLen len) else
    if rd16 c0 c1 ≠ calcCrc0564 [len, ctrl, d0, d1, s0, s1] then .fail .hdrCrc else
    .next (.body ⟨ctrl, rd16 d0 d1, rd16 s0 s1⟩ (calcTrailerLength (len - 5)))
  | .body h t, bs =>
    match checkBody t bs with
    | .ok p => .frame h p
    | .error e => .fail e
  | _, _ => .fail .logic

/-- termination measure of `parseImpl_induct`: the number of states `parse_impl` can still pass
    through within one call -/
def PState.rank : PState → Nat
  | .sync1 => 3
  | .sync2 => 2
  | .header => 1
  | .body _ _ => 0

open PState (need rank)

theorem wfState_iff (st : PState) : wfState st ↔ 0 < need st := by
  cases st <;> simp [wfState, need]

theorem parseImpl_step (st : PState) (bs : List Nat) :
    parseImpl st bs =
      if bs.length < need st then (st, bs, .ok none) else
      match tok st (bs.take (need st)) with
      | .fail e => (st, bs.drop (need st), .error e)
      | .next st' => parseImpl st' (bs.drop (need st))
      | .frame h p => (.sync1, bs.drop (need st), .ok (some (h, p))) := by
  cases st with
  | header =>
    match bs with
    | len :: ctrl :: d0 :: d1 :: s0 :: s1 :: c0 :: c1 :: r =>
      rw [show parseImpl .header _ = parseHeader _ from rfl]
      simp only [parseHeader, need, tok, List.length_cons, List.take_succ_cons, List.take_zero,
        List.drop_succ_cons, List.drop_zero, if_neg (Nat.not_lt.mpr (Nat.le_add_left 8 _))]
      split
      · rfl
      · split <;> rfl
    | [] | [_] | [_, _] | [_, _, _] | [_, _, _, _] | [_, _, _, _, _] | [_, _, _, _, _, _]
    | [_, _, _, _, _, _, _] => rfl
  | body h t =>
    show parseBody h t bs = _
    simp only [parseBody, need, tok]
    by_cases hl : bs.length < t
    · simp only [hl, ↓reduceIte]
    · simp only [hl, ↓reduceIte]; cases checkBody t (bs.take t) <;> rfl
  | _ =>
    cases bs with
    | nil => rfl
    | cons x r =>
      simp only [parseImpl, parseSync1, parseSync2, need, tok, List.length_cons, List.take_succ_cons,
        List.take_zero, List.drop_succ_cons, List.drop_zero, if_neg (Nat.not_lt.mpr (Nat.le_add_left 1 _))]
      split <;> rfl

theorem tok_next_cases {st st1 : PState} {l : List Nat} (h : tok st l = .next st1) :
    (st = .sync1 ∧ l = [0x05] ∧ st1 = .sync2) ∨
    (st = .sync2 ∧ l = [0x64] ∧ st1 = .header) ∨
    (∃ len ctrl d0 d1 s0 s1 c0 c1, st = .header ∧ l = [len, ctrl, d0, d1, s0, s1, c0, c1] ∧ 5 ≤ len ∧
      rd16 c0 c1 = calcCrc0564 [len, ctrl, d0, d1, s0, s1] ∧
      st1 = .body ⟨ctrl, rd16 d0 d1, rd16 s0 s1⟩ (calcTrailerLength (len - 5))) := by
  unfold tok at h
  split at h
  · split at h <;> cases h
    rename_i hx
    exact Or.inl ⟨rfl, by rw [Decidable.not_not.mp hx], rfl⟩
  · split at h <;> cases h
    rename_i hx
    exact Or.inr (Or.inl ⟨rfl, by rw [Decidable.not_not.mp hx], rfl⟩)
  · (repeat' split at h) <;> cases h
    rename_i h5 hcrc
    exact Or.inr (Or.inr ⟨_, _, _, _, _, _, _, _, rfl, rfl, by omega, Decidable.not_not.mp hcrc, rfl⟩)
  · split at h <;> cases h
  · cases h

theorem tok_next {st st1 : PState} {l : List Nat} (h : tok st l = .next st1) :
    0 < need st ∧ rank st1 < rank st := by
  rcases tok_next_cases h with ⟨rfl, _, rfl⟩ | ⟨rfl, _, rfl⟩ | ⟨_, _, _, _, _, _, _, _, rfl, _, _, _, rfl⟩ <;>
    simp [need, rank]

theorem tok_frame {st : PState} {l p : List Nat} {h : LHeader} (k : tok st l = .frame h p) :
    ∃ t, st = .body h t ∧ checkBody t l = .ok p := by
  unfold tok at k
  split at k
  · split at k <;> cases k
  · split at k <;> cases k
  · (repeat' split at k) <;> cases k
  · split at k
    · cases k; exact ⟨_, rfl, ‹_›⟩
    · cases k
  · cases k

theorem tok_fail_wf {st : PState} {l : List Nat} {e : PErr} (h : tok st l = .fail e) : wfState st := by
  cases st with
  | body hd t =>
    cases t with
    | zero => simp [tok, checkBody] at h
    | succ t => exact Nat.succ_pos _
  | _ => trivial

/-- one call of `parse_impl` in the terms of `need` / `tok`; every fact about one call is proved
    through this -/
theorem parseImpl_induct {P : PState → List Nat → PState × List Nat × PResult → Prop}
    (wait : ∀ st bs, bs.length < need st → P st bs (st, bs, .ok none))
    (fail : ∀ st bs e, need st ≤ bs.length → tok st (bs.take (need st)) = .fail e →
      P st bs (st, bs.drop (need st), .error e))
    (frame : ∀ st bs h p, need st ≤ bs.length → tok st (bs.take (need st)) = .frame h p →
      P st bs (.sync1, bs.drop (need st), .ok (some (h, p))))
    (next : ∀ st bs st1, 0 < need st → need st ≤ bs.length → tok st (bs.take (need st)) = .next st1 →
      P st1 (bs.drop (need st)) (parseImpl st1 (bs.drop (need st))) →
      P st bs (parseImpl st1 (bs.drop (need st)))) :
    ∀ st bs out, parseImpl st bs = out → P st bs out := by
  intro st
  induction hn : rank st using Nat.strongRecOn generalizing st with
  | _ n ih =>
    rintro bs _ rfl
    rw [parseImpl_step]
    split
    · exact wait st bs ‹_›
    · split
      · exact fail st bs _ (by omega) ‹_›
      · rename_i st1 ht
        exact next st bs st1 (tok_next ht).1 (by omega) ht (ih _ (hn ▸ (tok_next ht).2) st1 rfl _ _ rfl)
      · exact frame st bs _ _ (by omega) ‹_›

/-- The state left behind is well-formed also after an error, which close mode returns to the
    reader.  (A failing state stays: `parse_body` leaves through `?` with `self.state` still
    `ReadBody` and the trailer read off the cursor, which is `parseBody`'s
    `(.body h trailer, bs.drop trailer, .error e)`; only the discard loop of `Parser::parse` resets
    the state and rolls the cursor back.) -/
theorem parseImpl_facts (st st' : PState) (bs rest : List Nat) (r : PResult)
    (hr : parseImpl st bs = (st', rest, r)) :
    rest <:+ bs ∧ wfState st' ∧
      ∀ x, r = .ok (some x) → st' = .sync1 ∧ (wfState st → rest.length < bs.length) := by
  exact parseImpl_induct
    (P := fun st bs out => out.2.1 <:+ bs ∧ wfState out.1 ∧
      ∀ x, out.2.2 = .ok (some x) → out.1 = .sync1 ∧ (wfState st → out.2.1.length < bs.length))
    (fun st bs h => ⟨List.suffix_refl _, (wfState_iff st).mpr (by omega), nofun⟩)
    (fun st bs e _ ht => ⟨List.drop_suffix _ _, tok_fail_wf ht, nofun⟩)
    (fun st bs h p hn _ => ⟨List.drop_suffix _ _, trivial, fun _ _ => ⟨rfl, fun hw => by
      have := (wfState_iff st).mp hw; rw [List.length_drop]; omega⟩⟩)
    (fun st bs st1 h0 hn _ ih => ⟨ih.1.trans (List.drop_suffix _ _), ih.2.1, fun x hx =>
      ⟨(ih.2.2 x hx).1, fun _ => by have := ih.1.length_le; rw [List.length_drop] at this; omega⟩⟩)
    st bs _ hr

example : wfState (.body ⟨0xC4, 1024, 1⟩ 6) := by show 0 < 6; decide

theorem parseImpl_nil (st : PState) (hw : wfState st) : parseImpl st [] = (st, [], .ok none) := by
  rw [parseImpl_step, if_pos (show ([] : List Nat).length < need st from (wfState_iff st).mp hw)]

theorem parseImpl_nil_ok (st : PState) : ∃ st' r, parseImpl st [] = (st', [], .ok r) := by
  cases st with
  | body hd t =>
    cases t with
    | zero => exact ⟨.sync1, some (hd, []), by simp [parseImpl, parseBody, checkBody]⟩
    | succ t => exact ⟨_, none, parseImpl_nil _ (Nat.succ_pos _)⟩
  | _ => exact ⟨_, none, parseImpl_nil _ trivial⟩

def hdr8 (h : LHeader) (n : Nat) : List Nat :=
  headerFields h (n + 5) ++ le16 (calcCrc0564 (headerFields h (n + 5)))

theorem encodeFrame_tokens (h : LHeader) (p : List Nat) :
    encodeFrame h p = [0x05] ++ ([0x64] ++ (hdr8 h p.length ++ encodeBody p)) := by
  simp [encodeFrame, hdr8]

theorem parseImpl_tok (st : PState) (l rest : List Nat) (hl : l.length = need st) :
    parseImpl st (l ++ rest) =
      match tok st l with
      | .fail e => (st, rest, .error e)
      | .next st' => parseImpl st' rest
      | .frame h p => (.sync1, rest, .ok (some (h, p))) := by
  rw [parseImpl_step, if_neg (by rw [List.length_append]; omega), ← hl, List.take_left, List.drop_left]

theorem parseImpl_next {st st' : PState} {l : List Nat} (rest : List Nat) (hl : l.length = need st)
    (ht : tok st l = .next st') : parseImpl st (l ++ rest) = parseImpl st' rest := by
  rw [parseImpl_tok st l rest hl, ht]

theorem tok_hdr8 (h : LHeader) (n : Nat) (hd : h.dst < 65536) (hs : h.src < 65536) :
    tok .header (hdr8 h n) = .next (.body h (calcTrailerLength n)) := by
  simp only [hdr8, headerFields, le16, List.cons_append, List.nil_append, tok]
  rw [if_neg (by omega), rd16_le16 _ (calcCrc0564_lt _), rd16_le16 _ hd, rd16_le16 _ hs]
  simp

theorem tok_encodeBody (h : LHeader) (p : List Nat) :
    tok (.body h (calcTrailerLength p.length)) (encodeBody p) = .frame h p := by
  simp only [tok, checkBody_encodeBody _ p (Nat.le_of_eq (encodeBody_length p))]

/-- Only the addresses must fit their two octets: the control octet is handed on as read, and the
    payload may have any length (the length octet is not read back, the body state carries
    `calcTrailerLength p.length`) -/
theorem parse_encode (h : LHeader) (p rest : List Nat) (hd : h.dst < 65536) (hs : h.src < 65536) :
    parseImpl .sync1 (encodeFrame h p ++ rest) = (.sync1, rest, .ok (some (h, p))) := by
  rw [encodeFrame_tokens, List.append_assoc, List.append_assoc, List.append_assoc,
    parseImpl_next (st' := .sync2) _ rfl rfl, parseImpl_next (st' := .header) _ rfl rfl,
    parseImpl_next _ (by simp [hdr8, headerFields, le16, need]) (tok_hdr8 h _ hd hs),
    parseImpl_tok _ _ _ (encodeBody_length p), tok_encodeBody]

example : parseImpl .sync1 (encodeFrame ⟨0xC4, 1024, 1⟩ [0xC0, 1, 2, 3] ++ [5, 0x64]) =
    (.sync1, [5, 0x64], .ok (some (⟨0xC4, 1024, 1⟩, [0xC0, 1, 2, 3]))) :=
  parse_encode _ _ _ (by decide) (by decide)

theorem hdr8_rd16 {len ctrl d0 d1 s0 s1 c0 c1 : Nat} (h5 : 5 ≤ len) (hd0 : d0 < 256) (hd1 : d1 < 256)
    (hs0 : s0 < 256) (hs1 : s1 < 256) (hc0 : c0 < 256) (hc1 : c1 < 256)
    (hcrc : rd16 c0 c1 = calcCrc0564 [len, ctrl, d0, d1, s0, s1]) :
    hdr8 ⟨ctrl, rd16 d0 d1, rd16 s0 s1⟩ (len - 5) = [len, ctrl, d0, d1, s0, s1, c0, c1] := by
  have e : len - 5 + 5 = len := by omega
  simp only [hdr8, headerFields, e, le16_rd16 _ _ hd0 hd1, le16_rd16 _ _ hs0 hs1, ← hcrc,
    le16_rd16 _ _ hc0 hc1, List.cons_append, List.nil_append]

def PState.seen : PState → List Nat
  | .sync2 => [0x05]
  | .header => [0x05, 0x64]
  | _ => []

open PState (seen)

/-- `img` is what state `st` has still to see of the image of the well-formed frame `(h, p)` -/
def Img : PState → LHeader → List Nat → List Nat → Prop
  | .body hd t, h, p, img => h = hd ∧ img = encodeBody p ∧ img.length = t
  | st, h, p, img => seen st ++ img = encodeFrame h p ∧ p.length ≤ 250 ∧
      h.ctrl < 256 ∧ h.dst < 65536 ∧ h.src < 65536

theorem parseImpl_sound (st st' : PState) (bs rest : List Nat) (h : LHeader) (p : List Nat)
    (hb : ∀ b ∈ bs, b < 256) (hr : parseImpl st bs = (st', rest, .ok (some (h, p)))) :
    ∃ img, bs = img ++ rest ∧ Img st h p img := by
  exact parseImpl_induct
    (P := fun st bs out => ∀ h p, out.2.2 = .ok (some (h, p)) → (∀ b ∈ bs, b < 256) →
      ∃ img, bs = img ++ out.2.1 ∧ Img st h p img)
    (fun _ _ _ _ _ e => by cases e) (fun _ _ _ _ _ _ _ e => by cases e)
    (fun st bs h0 p0 hn ht h p e hb => by
      simp only [Except.ok.injEq, Option.some.injEq, Prod.mk.injEq] at e
      obtain ⟨rfl, rfl⟩ := e
      obtain ⟨t, rfl, hck⟩ := tok_frame ht
      have hl : (bs.take t).length = t := by rw [List.length_take]; exact Nat.min_eq_left hn
      exact ⟨bs.take t, (List.take_append_drop _ _).symm, rfl,
        checkBody_sound t _ _ (Nat.le_of_eq hl) (fun b hb' => hb b (List.mem_of_mem_take hb')) hck, hl⟩)
    (fun st bs st1 _ hn ht ih h p e hb => by
      obtain ⟨img, hd, himg⟩ := ih h p e (fun b hb' => hb b (List.mem_of_mem_drop hb'))
      have hbs := (List.take_append_drop (need st) bs).symm
      rw [hd] at hbs
      rcases tok_next_cases ht with ⟨rfl, hr, rfl⟩ | ⟨rfl, hr, rfl⟩ |
        ⟨len, ctrl, d0, d1, s0, s1, c0, c1, rfl, hr, h5, hcrc, rfl⟩ <;> rw [hr] at hbs
      · exact ⟨0x05 :: img, hbs, himg⟩
      · exact ⟨0x64 :: img, hbs, himg⟩
      · obtain ⟨rfl, rfl, ht⟩ := himg
        have hm : ∀ b ∈ [len, ctrl, d0, d1, s0, s1, c0, c1], b < 256 := fun b hb' => hb b (by
          rw [hbs]; exact List.mem_append_left _ (List.mem_append_left _ hb'))
        simp only [List.forall_mem_cons] at hm
        obtain ⟨hlen, hctrl, hd0, hd1, hs0, hs1, hc0, hc1, _⟩ := hm
        have hp : p.length = len - 5 := calcTrailerLength_inj _ _ (by rw [← encodeBody_length]; exact ht)
        refine ⟨_, by rw [List.append_assoc]; exact hbs, ?_, by omega, hctrl, rd16_lt _ _ hd0 hd1,
          rd16_lt _ _ hs0 hs1⟩
        rw [encodeFrame_tokens, hp, hdr8_rd16 h5 hd0 hd1 hs0 hs1 hc0 hc1 hcrc]
        rfl) st bs _ hr h p rfl hb

/-- C06 soundness (`Props.C06.parser_sound`) -/
theorem parser_sound (bs rest : List Nat) (st' : PState) (h : LHeader) (p : List Nat)
    (hb : ∀ b ∈ bs, b < 256)
    (hr : parseImpl .sync1 bs = (st', rest, .ok (some (h, p)))) :
    bs = encodeFrame h p ++ rest ∧ p.length ≤ 250 ∧ st' = .sync1 ∧
      h.ctrl < 256 ∧ h.dst < 65536 ∧ h.src < 65536 := by
  obtain ⟨img, hbs, himg, hp, hv⟩ := parseImpl_sound _ _ _ _ _ _ hb hr
  exact ⟨by rw [hbs, ← himg]; rfl, hp, ((parseImpl_facts _ _ _ _ _ hr).2.2 _ rfl).1, hv⟩

example : parseImpl .sync1 (encodeFrame ⟨0xC4, 1024, 1⟩ [0xC0, 1, 2, 3] ++ [5, 0x64]) =
    (.sync1, [5, 0x64], .ok (some (⟨0xC4, 1024, 1⟩, [0xC0, 1, 2, 3]))) ∧
    ∀ b ∈ (encodeFrame ⟨0xC4, 1024, 1⟩ [0xC0, 1, 2, 3] ++ [5, 0x64]), b < 256 :=
  ⟨parse_encode _ _ _ (by decide) (by decide), by decide +kernel⟩

theorem parseImpl_append (st st' : PState) (a b rest : List Nat) (r : PResult)
    (hr : parseImpl st a = (st', rest, r)) :
    (r = .ok none → parseImpl st (a ++ b) = parseImpl st' (rest ++ b)) ∧
    (r ≠ .ok none → parseImpl st (a ++ b) = (st', rest ++ b, r)) := by
  have step : ∀ st a, need st ≤ a.length → parseImpl st (a ++ b) =
      match tok st (a.take (need st)) with
      | .fail e => (st, a.drop (need st) ++ b, .error e)
      | .next st' => parseImpl st' (a.drop (need st) ++ b)
      | .frame h p => (.sync1, a.drop (need st) ++ b, .ok (some (h, p))) := by
    intro st a h
    rw [parseImpl_step, if_neg (by rw [List.length_append]; omega), List.take_append_of_le_length h,
      List.drop_append_of_le_length h]
  exact parseImpl_induct
    (P := fun st a out => (out.2.2 = .ok none → parseImpl st (a ++ b) = parseImpl out.1 (out.2.1 ++ b)) ∧
      (out.2.2 ≠ .ok none → parseImpl st (a ++ b) = (out.1, out.2.1 ++ b, out.2.2)))
    (fun st a _ => ⟨fun _ => rfl, fun h => absurd rfl h⟩)
    (fun st a e hn ht => ⟨nofun, fun _ => by rw [step st a hn, ht]⟩)
    (fun st a h p hn ht => ⟨nofun, fun _ => by rw [step st a hn, ht]⟩)
    (fun st a st1 _ hn ht ih => by rw [step st a hn, ht]; exact ih) st a _ hr

theorem parseImpl_more (st st' : PState) (bs rest more : List Nat)
    (h : parseImpl st bs = (st', rest, .ok none)) :
    parseImpl st (bs ++ more) = parseImpl st' (rest ++ more) :=
  (parseImpl_append _ _ _ _ _ _ h).1 rfl

example : parseImpl .sync1 [5, 0x64, 9] = (.header, [9], .ok none) := rfl

example : parseImpl .sync1 [5, 0x65] = (.sync2, [], .error (.start2 0x65)) ∧
    (Except.error (.start2 0x65) : PResult) ≠ .ok none := ⟨rfl, by simp⟩

theorem parse_prefix_none (h : LHeader) (p a b : List Nat) (hd : h.dst < 65536)
    (hs : h.src < 65536) (hab : encodeFrame h p = a ++ b) (hb : b ≠ []) :
    ∃ st' rest', parseImpl .sync1 a = (st', rest', .ok none) := by
  have hfull := parse_encode h p [] hd hs
  rw [List.append_nil, hab] at hfull
  rcases hpa : parseImpl .sync1 a with ⟨st', rest', r⟩
  by_cases hr : r = .ok none
  · subst hr; exact ⟨st', rest', rfl⟩
  · have := (parseImpl_append _ _ a b _ _ hpa).2 hr
    rw [hfull] at this
    simp only [Prod.mk.injEq] at this
    have h2 := this.2.1
    have : b = [] := (List.append_eq_nil_iff.mp h2.symm).2
    exact absurd this hb

set_option linter.unusedVariables false in
/-- `hc` and `hp` are not used: see `parse_encode` -/
theorem parse_resume (h : LHeader) (p a b rest : List Nat) (hc : h.ctrl < 256) (hd : h.dst < 65536)
    (hs : h.src < 65536) (hp : p.length ≤ 250) (hab : encodeFrame h p = a ++ b) (hb : b ≠ []) :
    ∃ st' rest', parseImpl .sync1 a = (st', rest', .ok none) ∧
      parseImpl st' (rest' ++ (b ++ rest)) = (.sync1, rest, .ok (some (h, p))) := by
  obtain ⟨st', rest', h1⟩ := parse_prefix_none h p a b hd hs hab hb
  refine ⟨st', rest', h1, ?_⟩
  rw [← parseImpl_more _ _ _ _ _ h1, ← List.append_assoc, ← hab]
  exact parse_encode h p rest hd hs

example : encodeFrame ⟨0xC4, 1024, 1⟩ [0xC0, 1, 2, 3] =
    [5, 0x64, 9, 0xC4, 0, 4, 1, 0, 125, 172, 0xC0, 1] ++ [2, 3, 242, 173] := by decide +kernel

theorem parseDiscard_retries_aux : ∀ (fuel : Nat) (st : PState) (bs : List Nat), bs.length ≤ fuel →
    ∃ k st' rest x, k ≤ bs.length ∧ parseDiscard fuel st bs = (st', rest, .ok x) ∧
      parseImpl (if k = 0 then st else .sync1) (bs.drop k) = (st', rest, .ok x) ∧
      (∀ j, j < k → ∃ s r e, parseImpl (if j = 0 then st else .sync1) (bs.drop j) = (s, r, .error e)) := by
  intro fuel
  induction fuel with
  | zero =>
    intro st bs hl
    have : bs = [] := List.length_eq_zero_iff.mp (by omega)
    subst this
    obtain ⟨st', x, hp⟩ := parseImpl_nil_ok st
    exact ⟨0, st', [], x, Nat.le_refl _, by simp only [parseDiscard, hp], by simpa using hp,
      fun j hj => by omega⟩
  | succ f ih =>
    intro st bs hl
    rcases hpi : parseImpl st bs with ⟨s1, r1, res⟩
    cases res with
    | ok x =>
      exact ⟨0, s1, r1, x, Nat.zero_le _, by simp only [parseDiscard, hpi], by simpa using hpi,
        fun j hj => by omega⟩
    | error e =>
      have hne : bs ≠ [] := by
        intro hnil; subst hnil
        obtain ⟨s2, x, hp⟩ := parseImpl_nil_ok st
        rw [hp] at hpi; cases hpi
      have hpos := List.length_pos_iff.mpr hne
      obtain ⟨k, st', rest, x, hk, hd, hpk, hfail⟩ :=
        ih .sync1 (bs.drop 1) (by rw [List.length_drop]; omega)
      rw [List.length_drop] at hk
      refine ⟨k + 1, st', rest, x, by omega, by simp only [parseDiscard, hpi]; exact hd, ?_, ?_⟩
      · rw [if_neg (by omega)]
        rw [ite_self, List.drop_drop] at hpk
        rw [Nat.add_comm]; exact hpk
      · intro j hj
        cases j with
        | zero => exact ⟨s1, r1, e, by simpa using hpi⟩
        | succ j =>
          obtain ⟨s, r, e', he⟩ := hfail j (by omega)
          rw [ite_self, List.drop_drop] at he
          refine ⟨s, r, e', ?_⟩
          rw [if_neg (by omega), Nat.add_comm]; exact he

theorem parse_attempt (m : ErrMode) (st : PState) (bs : List Nat) :
    ∃ k, k ≤ bs.length ∧ parse m st bs = parseImpl (if k = 0 then st else .sync1) (bs.drop k) ∧
      (m = .discard → ∃ x, (parse m st bs).2.2 = .ok x) := by
  cases m with
  | close => exact ⟨0, Nat.zero_le _, rfl, nofun⟩
  | discard =>
    obtain ⟨k, st', rest, x, hk, hd, hpk, _⟩ := parseDiscard_retries_aux bs.length st bs (Nat.le_refl _)
    exact ⟨k, hk, hd.trans hpk.symm, fun _ => ⟨x, by rw [show parse .discard st bs = _ from hd]⟩⟩

theorem parse_eq_of_ok (m : ErrMode) (st st' : PState) (bs rest : List Nat)
    (r : Option (LHeader × List Nat)) (h : parseImpl st bs = (st', rest, .ok r)) :
    parse m st bs = (st', rest, .ok r) := by
  cases m with
  | close => exact h
  | discard =>
    unfold parse
    cases bs.length <;> simp only [parseDiscard, h]

theorem encodeFrame_length (h : LHeader) (p : List Nat) :
    (encodeFrame h p).length = 10 + calcTrailerLength p.length := by
  simp only [encodeFrame_tokens, hdr8, headerFields, le16, List.length_append, List.length_cons,
    List.length_nil, encodeBody_length]; omega

theorem encodeFrame_length_le (h : LHeader) (p : List Nat) (hp : p.length ≤ 250) :
    (encodeFrame h p).length ≤ 292 := by
  rw [encodeFrame_length]; unfold calcTrailerLength; simp only; split <;> omega

end Dnp3
