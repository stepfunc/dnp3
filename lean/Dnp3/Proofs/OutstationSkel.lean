import Dnp3.Proofs.OutstationSkel2
/-!
# What `dispatch`, `settle`, `Outstation.step` and `Outstation.start` compute is a chain of `Ev`s

Read off the phase-labelled walk of `OutstationSkel2` by forgetting the refinement (`Reach2.toReach`): an
invariant of `step` that the single events keep is proved per `Ev` constructor (what the events cannot say:
the header of `OutstationSkel2`).
-/
namespace Dnp3.Proofs.Skel
open Dnp3 Dnp3.Proofs.Skel2

variable {pf : Option Frag} {a0 : Acc}

theorem ends_reach {x : Pt × Acc} {r : StepRes} (hp0 : PendOk pf a0) (hx : Reach pf a0 x.2) (h : Ends x r) :
    All (Reach pf a0) r :=
  Star.trans hx (Ends.reach2 (PendOk.ofBase hx.base hp0) h).toReach

theorem run_reach (hp0 : PendOk pf a0) (y : Pt × Acc) (h : Reach pf a0 y.2) :
    All (Reach pf a0) (run y) := ends_reach hp0 h (run_tail y).ends

theorem dispatch_reach (hp0 : PendOk pf a0) (a : Acc) (h : Reach pf a0 a) :
    All (Reach pf a0) (dispatch a) := ends_reach (x := (.blk, a)) hp0 h (dispatch_ends a)

theorem settle_reach (hp0 : PendOk pf a0) (n : Nat) (r : StepRes) (h : All (Reach pf a0) r) :
    All (Reach pf a0) (settle n r) := by
  cases r with
  | panicked a => rw [settle_panicked]; exact h
  | blocked a => exact ends_reach (x := (.blk, a)) hp0 h (settle_ends n _ (.blocked a))

theorem SolConfCase.reach {a5 : Acc} {sr : Series} {cont : SolCont} {dst : Nat} {y : Pt × Acc}
    (h : SolConfCase a5 sr cont dst y) : Reach pf a5 y.2 := by
  cases h with
  | done => exact (resume_reach2 a5 cont).toReach
  | die => exact Star.single (Ev.die a5)
  | last s6 r6 a7 r7 _ hfr hw =>
    refine Star.trans (Star.tail (Star.tail (Star.single (Ev.fmtRead a5 false (seq4Next sr.ecsn) 0))
      (Ev.wsol _ dst r6 a7 r7 ?_)) (Ev.house a7 _ (House.lastReq _ _))) (resume_reach2 _ cont).toReach
    rw [hfr]; exact hw
  | next s6 r6 sr' a7 r7 _ hfr hw =>
    refine Star.tail (Star.tail (Star.tail (Star.single (Ev.fmtRead a5 false (seq4Next sr.ecsn) 0))
      (Ev.wsol _ dst r6 a7 r7 ?_)) (Ev.house a7 _ (House.lastReq _ _)))
      (Ev.setSolWait ({ a7.1 with lastReq := a7.1.lastReq.map (fun lr => { lr with response := some r7 }) }, a7.2)
        sr' _ cont)
    rw [hfr]; exact hw

theorem start_reach (cfg : OCfg) (evMax : Nat) :
    Reach none (OState.init cfg evMax, []) (Outstation.start cfg evMax) :=
  (start_reach2 cfg evMax).toReach

/-- every step either does nothing to the session (dropped frame, dead task, script change) or runs the
    session machinery from a `StepInit` start -/
theorem step_reach (env : OEnv) (s : OState) (inp : OInput) :
    (∃ f, inp = .setScript f ∧ Outstation.step env s inp = ({ s with script := f s.script }, [])) ∨
    Outstation.step env s inp = (s, []) ∨
    ∃ pf s0 o0, StepInit env s inp pf s0 o0 ∧ Reach pf (s0, o0) (Outstation.step env s inp) :=
  (step_reach2 env s inp).imp_right (Or.imp_right fun ⟨pf, s0, o0, hi, hr⟩ => ⟨pf, s0, o0, hi, hr.toReach⟩)

end Dnp3.Proofs.Skel
