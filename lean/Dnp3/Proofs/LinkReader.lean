import Dnp3.Proofs.LinkParser
import Dnp3.Model.LinkReader
/-!
# Proofs about the link reader (C06): chunking-independent stream round trip
-/
namespace Dnp3
open PState (need)

def ValidFrame (f : LHeader × List Nat) : Prop :=
  f.1.ctrl < 256 ∧ f.1.dst < 65536 ∧ f.1.src < 65536 ∧ f.2.length ≤ 250

theorem readBufferSize_ge (frag : Nat) : 293 ≤ readBufferSize frag := by
  unfold readBufferSize
  simp only
  split <;> omega

/-- the reader invariant, relative to `U` = the octets received since the start of the frame
    the parser is currently in: the parser state together with the unread octets behaves exactly
    like a fresh parser that has `U` in front of it. -/
structure Inv (r : Reader) (U : List Nat) : Prop where
  stream : r.rmode = .stream
  alive : r.dead = false
  capBig : 293 ≤ r.cap
  be : r.begin_ ≤ r.end_
  ec : r.end_ ≤ r.cap
  plen : r.pending.length = r.end_ - r.begin_
  wf : wfState r.pst
  pU : r.pending.length ≤ U.length
  sim : ∀ more, parseImpl r.pst (r.pending ++ more) = parseImpl .sync1 (U ++ more)

theorem inv_new (m : ErrMode) (frag : Nat) : Inv (Reader.new m .stream frag) [] where
  stream := rfl
  alive := rfl
  capBig := readBufferSize_ge frag
  be := Nat.le_refl _
  ec := Nat.zero_le _
  plen := rfl
  wf := trivial
  pU := Nat.le_refl _
  sim := fun _ => rfl

theorem readMore_some (r r' : Reader) (avail avail' : List Nat)
    (h : r.readMore avail = some (r', avail')) :
    ∃ n b e, 0 < n ∧ n ≤ avail.length ∧ avail' = avail.drop n ∧
      r' = { r with begin_ := b, end_ := e, pending := r.pending ++ avail.take n } ∧
      (r.begin_ ≤ r.end_ → r.end_ ≤ r.cap → r.pending.length = r.end_ - r.begin_ →
        b ≤ e ∧ e ≤ r.cap ∧ (r.pending ++ avail.take n).length = e - b) := by
  by_cases hfull : r.end_ = r.cap
  · simp only [Reader.readMore, hfull, if_true] at h
    split at h
    · cases h
    · injection h with h; injection h with h1 h2
      subst h1 h2
      refine ⟨_, _, _, by omega, by omega, rfl, rfl, fun hbe _ hpl => ?_⟩
      simp only [List.length_append, List.length_take, hpl, hfull]; omega
  · simp only [Reader.readMore, hfull, if_false] at h
    split at h
    · cases h
    · injection h with h; injection h with h1 h2
      subst h1 h2
      refine ⟨_, _, _, by omega, by omega, rfl, rfl, fun hbe hec hpl => ?_⟩
      simp only [List.length_append, List.length_take, hpl]; omega

theorem readMore_ne_none (r : Reader) (avail : List Nat) (hbe : r.begin_ ≤ r.end_)
    (hroom : r.end_ - r.begin_ < r.cap) (hec : r.end_ ≤ r.cap) (ha : avail ≠ []) : r.readMore avail ≠ none := by
  have := List.length_pos_iff.mpr ha
  by_cases hfull : r.end_ = r.cap
  · simp only [Reader.readMore, hfull, if_true]
    rw [if_neg (by omega)]; exact fun h => by cases h
  · simp only [Reader.readMore, hfull, if_false]
    rw [if_neg (by omega)]; exact fun h => by cases h

/-- `U.length ≤ 291`: the caller has `U` strictly short of a frame image, which is at most 292
    octets (`encodeFrame_length_le`); what is used of it is that the unread octets, at most
    `U.length` of them, leave room in a buffer of at least 293 -/
theorem wait_read (rX : Reader) (avail U : List Nat) (hinv : Inv rX U) (hU : U.length ≤ 291) :
    (avail = [] → rX.readMore avail = none) ∧
    (avail ≠ [] → ∃ n r', 1 ≤ n ∧ n ≤ avail.length ∧ rX.readMore avail = some (r', avail.drop n) ∧
      Inv r' (U ++ avail.take n) ∧ r'.pending.length = rX.pending.length + n) := by
  have hpU := hinv.pU
  have hcap := hinv.capBig
  have hpl := hinv.plen
  refine ⟨fun ha => by subst ha; simp [Reader.readMore], fun ha => ?_⟩
  cases hrm : rX.readMore avail with
  | none => exact absurd hrm (readMore_ne_none rX avail hinv.be (by omega) hinv.ec ha)
  | some x =>
    obtain ⟨r', avail'⟩ := x
    obtain ⟨n, b, e, hn1, hn2, rfl, rfl, hcur⟩ := readMore_some rX r' avail avail' hrm
    obtain ⟨hbe, hec, hpl'⟩ := hcur hinv.be hinv.ec hinv.plen
    exact ⟨n, _, hn1, hn2, rfl,
      { stream := hinv.stream, alive := hinv.alive, capBig := hcap, be := hbe, ec := hec, plen := hpl',
        wf := hinv.wf, pU := by simp only [List.length_append, List.length_take]; omega,
        sim := fun more => by
          show parseImpl rX.pst (rX.pending ++ avail.take n ++ more) = _
          rw [List.append_assoc, List.append_assoc]; exact hinv.sim _ },
      by simp only [List.length_append, List.length_take]; omega⟩

theorem run_wait (r : Reader) (avail U : List Nat) (st' : PState) (rest' : List Nat)
    (hinv : Inv r U) (hpn : parseImpl .sync1 U = (st', rest', .ok none)) :
    ∃ r2, Inv r2 U ∧ r2.pending.length ≤ r.pending.length ∧ ∀ fuel, Reader.run (fuel+1) r avail =
      match r2.readMore avail with
      | none => (r2, [])
      | some (r', avail') => Reader.run fuel r' avail' := by
  have hsim := hinv.sim []
  rw [List.append_nil, List.append_nil, hpn] at hsim
  have hparse := parse_eq_of_ok r.emode _ _ _ _ _ hsim
  obtain ⟨hsuf, hf2, _⟩ := parseImpl_facts _ _ _ _ _ hsim
  have hf1 := hsuf.length_le
  have hd : ¬ r.dead = true := by simp [hinv.alive]
  by_cases hemp : r.end_ - r.begin_ = 0
  · have hpe : r.pending = [] := List.length_eq_zero_iff.mp (by rw [hinv.plen]; exact hemp)
    exact ⟨{ r with begin_ := 0, end_ := 0, pending := [] },
      { stream := hinv.stream, alive := hinv.alive, capBig := hinv.capBig, be := Nat.le_refl _,
        ec := Nat.zero_le _, plen := rfl, wf := hinv.wf, pU := Nat.zero_le _,
        sim := fun more => by have := hinv.sim more; rw [hpe] at this; exact this },
      Nat.zero_le _, fun fuel => by rw [Reader.run, if_neg hd, if_pos hemp]; rfl⟩
  · have hdg : ¬ r.rmode = ReadMode.datagram := by rw [hinv.stream]; decide
    exact ⟨{ r with pst := st', pending := rest',
                    begin_ := r.begin_ + (r.pending.length - rest'.length) },
      { stream := hinv.stream, alive := hinv.alive, capBig := hinv.capBig,
        be := by have := hinv.be; have := hinv.plen; show r.begin_ + _ ≤ r.end_; omega,
        ec := hinv.ec,
        plen := by have := hinv.be; have := hinv.plen; show rest'.length = r.end_ - (r.begin_ + _); omega,
        wf := hf2,
        pU := by have := hinv.pU; show rest'.length ≤ _; omega,
        sim := fun more => by
          rw [← hinv.sim more]
          exact (parseImpl_more _ _ _ _ more hsim).symm },
      hf1, fun fuel => by rw [Reader.run, if_neg hd, if_neg hemp, hparse]; simp only [if_neg hdg]; rfl⟩

theorem run_frame (fuel : Nat) (r : Reader) (avail U2 : List Nat) (h : LHeader) (p : List Nat)
    (hinv : Inv r (encodeFrame h p ++ U2)) (hv : ValidFrame (h, p)) :
    ∃ r', Inv r' U2 ∧ r'.pending.length < r.pending.length ∧
      Reader.run (fuel+1) r avail =
        ((Reader.run fuel r' avail).1, LEvent.frame h p :: (Reader.run fuel r' avail).2) := by
  have hsim := hinv.sim []
  rw [List.append_nil, List.append_nil, parse_encode h p U2 hv.2.1 hv.2.2.1] at hsim
  have hparse := parse_eq_of_ok r.emode _ _ _ _ _ hsim
  have hlt := ((parseImpl_facts _ _ _ _ _ hsim).2.2 _ rfl).2 hinv.wf
  have hemp : ¬ r.end_ - r.begin_ = 0 := by
    have := hinv.plen; omega
  have hd : ¬ r.dead = true := by simp [hinv.alive]
  refine ⟨{ r with pst := .sync1, pending := U2,
                   begin_ := r.begin_ + (r.pending.length - U2.length) }, ?_, hlt, ?_⟩
  · exact
      { stream := hinv.stream, alive := hinv.alive, capBig := hinv.capBig,
        be := by have := hinv.be; have := hinv.plen; show r.begin_ + _ ≤ r.end_; omega,
        ec := hinv.ec,
        plen := by have := hinv.be; have := hinv.plen; show U2.length = r.end_ - (r.begin_ + _); omega,
        wf := trivial,
        pU := Nat.le_refl _,
        sim := fun _ => rfl }
  · rw [Reader.run, if_neg hd, if_neg hemp, hparse]

/-- `stream_roundtrip` spells `encF` and `evF` out as lambdas, which are these by unfolding -/
abbrev encF (f : LHeader × List Nat) : List Nat := encodeFrame f.1 f.2
abbrev evF (f : LHeader × List Nat) : LEvent := LEvent.frame f.1 f.2

def Short (U : List Nat) : List (LHeader × List Nat) → Prop
  | [] => U = []
  | f :: _ => ∃ tail, encF f = U ++ tail ∧ tail ≠ []

theorem short_nil (fs : List (LHeader × List Nat)) : Short [] fs := by
  cases fs with
  | nil => rfl
  | cons f fs => exact ⟨encF f, rfl, by rw [encF, encodeFrame_tokens]; exact List.cons_ne_nil _ _⟩

/-- the `read_frame` loop on one write, `F` being the octets of later writes.  Enough fuel: a round
    that reads moves `n ≥ 1` octets from `avail` to `pending`, a round that delivers shortens
    `pending`, so `2 * |avail| + |pending|` falls in every round (the measure `mu` of
    `NoPanicLink`).  The bound asked for is shaped like the `3 * |chunk| + |pending| + 4` that
    `Reader.feed` supplies, so that `feedAll_spec` closes it by `omega`; the third `|avail|` and the
    constant are slack -/
theorem run_spec : ∀ (fuel : Nat) (r : Reader) (avail U F : List Nat) (fs : List (LHeader × List Nat)),
    Inv r U → (∀ f ∈ fs, ValidFrame f) → U ++ (avail ++ F) = fs.flatMap encF →
    3 * avail.length + r.pending.length + 1 ≤ fuel →
    ∃ r' fs1 fs2 U', fs = fs1 ++ fs2 ∧ Reader.run fuel r avail = (r', fs1.map evF) ∧ Inv r' U' ∧
      U' ++ F = fs2.flatMap encF ∧ Short U' fs2 := by
  intro fuel
  induction fuel with
  | zero => intro r avail U F fs _ _ _ hf; omega
  | succ fuel ih =>
    intro r avail U F fs hinv hv hcat hfuel
    -- `U` is short of the next frame: the loop reads on, or stops here when nothing is available
    have wait_case : ∀ st' rest', parseImpl .sync1 U = (st', rest', .ok none) → U.length ≤ 291 →
        (avail = [] → Short U fs) →
        ∃ r' fs1 fs2 U', fs = fs1 ++ fs2 ∧ Reader.run (fuel+1) r avail = (r', fs1.map evF) ∧
          Inv r' U' ∧ U' ++ F = fs2.flatMap encF ∧ Short U' fs2 := by
      intro st' rest' hpn hUlen hstop
      obtain ⟨r2, hi2, hle, hrun⟩ := run_wait r avail U st' rest' hinv hpn
      obtain ⟨w1, w2⟩ := wait_read r2 avail U hi2 hUlen
      by_cases ha : avail = []
      · exact ⟨r2, [], fs, U, rfl, by rw [hrun, w1 ha]; rfl, hi2, by simpa [ha] using hcat, hstop ha⟩
      · obtain ⟨n, r', hn1, hn2, hrm, hi', hl'⟩ := w2 ha
        rw [hrun, hrm]
        apply ih r' (avail.drop n) (U ++ avail.take n) F fs hi' hv
        · rw [List.append_assoc, ← List.append_assoc (avail.take n), List.take_append_drop]; exact hcat
        · rw [List.length_drop]; omega
    cases fs with
    | nil =>
      obtain ⟨hU, ha⟩ := List.append_eq_nil_iff.mp hcat
      subst hU
      exact wait_case _ _ rfl (by simp) (fun _ => rfl)
    | cons f fs' =>
      have hvf : ValidFrame (f.1, f.2) := hv f (List.mem_cons_self)
      have hv' : ∀ g ∈ fs', ValidFrame g := fun g hg => hv g (List.mem_cons_of_mem _ hg)
      simp only [List.flatMap_cons] at hcat
      have frame_step : ∀ U2, U = encF f ++ U2 → U2 ++ (avail ++ F) = fs'.flatMap encF →
          ∃ r' fs1 fs2 U', f :: fs' = fs1 ++ fs2 ∧ Reader.run (fuel+1) r avail = (r', fs1.map evF) ∧
            Inv r' U' ∧ U' ++ F = fs2.flatMap encF ∧ Short U' fs2 := by
        intro U2 hU h2
        subst hU
        obtain ⟨r1, hi1, hl1, hrun⟩ := run_frame fuel r avail U2 f.1 f.2 hinv hvf
        obtain ⟨r', fs1, fs2, U', e, hr', rest⟩ := ih r1 avail U2 F fs' hi1 hv' h2 (by omega)
        exact ⟨r', f :: fs1, fs2, U', by rw [e]; rfl, by rw [hrun, hr']; rfl, rest⟩
      rcases List.append_eq_append_iff.mp hcat with ⟨a', h1, h2⟩ | ⟨c', h1, h2⟩
      · by_cases ha' : a' = []
        · subst ha'
          exact frame_step [] (by rw [List.append_nil]; simpa using h1.symm) (by simpa using h2)
        · obtain ⟨st', rest', hpn⟩ :=
            parse_prefix_none f.1 f.2 U a' hvf.2.1 hvf.2.2.1 h1 ha'
          have hUlen : U.length ≤ 291 := by
            have := encodeFrame_length_le f.1 f.2 hvf.2.2.2
            have : (encodeFrame f.1 f.2).length = U.length + a'.length := by
              rw [← List.length_append]; exact congrArg List.length h1
            have := List.length_pos_iff.mpr ha'
            omega
          exact wait_case st' rest' hpn hUlen (fun _ => ⟨a', h1, ha'⟩)
      · exact frame_step c' h1 h2.symm

theorem feedAll_spec : ∀ (chunks : List (List Nat)) (r : Reader) (U : List Nat)
    (fs : List (LHeader × List Nat)), Inv r U → (∀ f ∈ fs, ValidFrame f) → Short U fs →
    U ++ chunks.flatten = fs.flatMap encF → ∃ r', r.feedAll chunks = (r', fs.map evF) ∧ Inv r' [] := by
  intro chunks
  induction chunks with
  | nil =>
    intro r U fs hinv hv hsh hcat
    rw [List.flatten_nil, List.append_nil] at hcat
    cases fs with
    | nil => cases hsh; exact ⟨r, rfl, hinv⟩
    | cons f fs' =>
      obtain ⟨tail, h1, ht⟩ := hsh
      have := congrArg List.length hcat
      have := congrArg List.length h1
      have := List.length_pos_iff.mpr ht
      simp only [List.flatMap_cons, List.length_append] at *
      omega
  | cons c cs ih =>
    intro r U fs hinv hv hsh hcat
    rw [List.flatten_cons] at hcat
    obtain ⟨r1, fs1, fs2, U1, e, hr1, hi1, hc1, hs1⟩ :=
      run_spec (3 * c.length + r.pending.length + 4) r c U cs.flatten fs hinv hv hcat (by omega)
    subst e
    obtain ⟨r2, hr2, hi2⟩ := ih r1 U1 fs2 hi1 (fun f hf => hv f (List.mem_append_right _ hf)) hs1 hc1
    refine ⟨r2, ?_, hi2⟩
    simp only [Reader.feedAll, Reader.feed, hr1, hr2, List.map_append]

/-- `Props.C06.stream_roundtrip`, and the reader ends in the frame-start position with consistent
    cursors -/
theorem stream_roundtrip (m : ErrMode) (frag : Nat) (frames : List (LHeader × List Nat))
    (hv : ∀ f ∈ frames, ValidFrame f) (chunks : List (List Nat))
    (hcat : chunks.flatten = frames.flatMap (fun f => encodeFrame f.1 f.2)) :
    ∃ r', (Reader.new m .stream frag).feedAll chunks =
        (r', frames.map (fun f => LEvent.frame f.1 f.2)) ∧ Inv r' [] :=
  feedAll_spec chunks _ [] frames (inv_new m frag) hv (short_nil frames) hcat

set_option linter.unusedVariables false in
/-- `hfrag` and `hne` are not used -/
theorem stream_roundtrip_close (frag : Nat) (hfrag : 249 ≤ frag)
    (frames : List (LHeader × List Nat)) (hv : ∀ f ∈ frames, ValidFrame f)
    (chunks : List (List Nat)) (hne : ∀ c ∈ chunks, c ≠ [])
    (hcat : chunks.flatten = frames.flatMap (fun f => encodeFrame f.1 f.2)) :
    ((Reader.new .close .stream frag).feedAll chunks).2 =
      frames.map (fun f => LEvent.frame f.1 f.2) := by
  obtain ⟨r', h, _⟩ := stream_roundtrip .close frag frames hv chunks hcat
  rw [h]

set_option linter.unusedVariables false in
/-- on a valid stream the discard loop never takes its error branch; `hfrag` and `hne` are not
    used -/
theorem stream_roundtrip_discard (frag : Nat) (hfrag : 249 ≤ frag)
    (frames : List (LHeader × List Nat)) (hv : ∀ f ∈ frames, ValidFrame f)
    (chunks : List (List Nat)) (hne : ∀ c ∈ chunks, c ≠ [])
    (hcat : chunks.flatten = frames.flatMap (fun f => encodeFrame f.1 f.2)) :
    ((Reader.new .discard .stream frag).feedAll chunks).2 =
      frames.map (fun f => LEvent.frame f.1 f.2) := by
  obtain ⟨r', h, _⟩ := stream_roundtrip .discard frag frames hv chunks hcat
  rw [h]

instance : DecidablePred ValidFrame := fun f => by unfold ValidFrame; infer_instance

/-- the hypotheses of `stream_roundtrip_close` on a concrete instance: two frames cut into four
    chunks that split the start octets, the header CRC and the second header -/
example :
    let frames : List (LHeader × List Nat) :=
      [(⟨0xC4, 1024, 1⟩, [0xC0, 1, 2, 3]), (⟨0x44, 1, 1024⟩, [])]
    let chunks : List (List Nat) :=
      [[5], [100, 9, 196, 0, 4, 1, 0, 125], [172, 192, 1, 2, 3, 242, 173, 5, 100, 5],
       [68, 1, 0, 0, 4, 133, 204]]
    249 ≤ 2048 ∧ (∀ f ∈ frames, ValidFrame f) ∧ (∀ c ∈ chunks, c ≠ []) ∧
      chunks.flatten = frames.flatMap (fun f => encodeFrame f.1 f.2) ∧
      ((Reader.new .close .stream 2048).feedAll chunks).2 =
        frames.map (fun f => LEvent.frame f.1 f.2) := by
  decide +kernel

/-- a body state whose trailer length fits the largest frame (250 payload octets) -/
def boundedState : PState → Prop
  | .body _ t => t ≤ 282
  | _ => True

theorem calcTrailerLength_le (len : Nat) (h : len < 256) : calcTrailerLength (len - 5) ≤ 282 := by
  unfold calcTrailerLength; simp only; split <;> omega

theorem boundedState_iff (st : PState) : boundedState st ↔ need st ≤ 282 := by
  cases st <;> simp [boundedState, need]

theorem tok_next_bounded {st st1 : PState} {l : List Nat} (h : tok st l = .next st1)
    (hb : ∀ b ∈ l, b < 256) : boundedState st1 := by
  rcases tok_next_cases h with ⟨_, _, rfl⟩ | ⟨_, _, rfl⟩ | ⟨len, _, _, _, _, _, _, _, _, rfl, _, _, rfl⟩
  · trivial
  · trivial
  · exact calcTrailerLength_le len (hb len List.mem_cons_self)

theorem parseImpl_none (st st' : PState) (bs rest : List Nat)
    (hr : parseImpl st bs = (st', rest, .ok none)) :
    rest.length < need st' ∧ ((∀ b ∈ bs, b < 256) → boundedState st → boundedState st') := by
  exact parseImpl_induct
    (P := fun st bs out => out.2.2 = .ok none →
      out.2.1.length < need out.1 ∧ ((∀ b ∈ bs, b < 256) → boundedState st → boundedState out.1))
    (fun st bs h _ => ⟨h, fun _ hst => hst⟩) (fun _ _ _ _ _ => nofun) (fun _ _ _ _ _ _ => nofun)
    (fun st bs st1 _ _ ht ih hn => ⟨(ih hn).1, fun hb _ => (ih hn).2
      (fun b hb' => hb b (List.mem_of_mem_drop hb'))
      (tok_next_bounded ht fun b hb' => hb b (List.mem_of_mem_take hb'))⟩) st bs _ hr rfl

example : parseImpl (.body ⟨0xC4, 1024, 1⟩ 6) [1, 2, 3] = (.body ⟨0xC4, 1024, 1⟩ 6, [1, 2, 3], .ok none) ∧
    boundedState (.body ⟨0xC4, 1024, 1⟩ 6) := ⟨rfl, by show 6 ≤ 282; decide⟩

/-- 281: the largest trailer is 282 -/
theorem parse_none_short (m : ErrMode) (st st' : PState) (bs rest : List Nat)
    (hb : ∀ b ∈ bs, b < 256) (hst : boundedState st)
    (hr : parse m st bs = (st', rest, .ok none)) : rest.length ≤ 281 ∧ boundedState st' := by
  obtain ⟨k, _, hk, _⟩ := parse_attempt m st bs
  obtain ⟨h1, h2⟩ := parseImpl_none _ _ _ _ (hk ▸ hr)
  have hbd := h2 (fun b hb' => hb b (List.mem_of_mem_drop hb')) (by split; exact hst; trivial)
  have := (boundedState_iff st').mp hbd
  exact ⟨by omega, hbd⟩

/-- In the stream-mode loop of `read_frame`, after a "need more"
    parse result the unread octets number at most 281 < 293 ≤ capacity, so the following
    `read_more_data` always offers the physical layer a non-empty buffer: it can only come
    back empty-handed when nothing is available. -/
theorem reader_never_zero_read (r : Reader) (avail rest : List Nat) (st' : PState)
    (hcap : 293 ≤ r.cap) (hbe : r.begin_ ≤ r.end_) (hec : r.end_ ≤ r.cap)
    (hpl : r.pending.length = r.end_ - r.begin_) (hb : ∀ b ∈ r.pending, b < 256)
    (hst : boundedState r.pst) (hrl : rest.length ≤ r.pending.length)
    (hparse : parse r.emode r.pst r.pending = (st', rest, .ok none)) (ha : avail ≠ []) :
    rest.length ≤ 281 ∧
    ({ r with pst := st', pending := rest,
              begin_ := r.begin_ + (r.pending.length - rest.length) } : Reader).readMore avail ≠ none := by
  obtain ⟨h1, _⟩ := parse_none_short _ _ _ _ _ hb hst hparse
  exact ⟨h1, readMore_ne_none _ avail (by show r.begin_ + _ ≤ r.end_; omega)
    (by show r.end_ - (r.begin_ + _) < r.cap; omega) hec ha⟩

example :
    let r : Reader := { emode := .close, rmode := .stream, cap := 293, begin_ := 290, end_ := 293,
                        pending := [5, 100, 9] }
    293 ≤ r.cap ∧ r.begin_ ≤ r.end_ ∧ r.end_ ≤ r.cap ∧ r.pending.length = r.end_ - r.begin_ ∧
      (∀ b ∈ r.pending, b < 256) ∧ boundedState r.pst ∧
      parse r.emode r.pst r.pending = (.header, [9], .ok none) :=
  ⟨by decide, by decide, by decide, by decide, by decide, trivial, rfl⟩

end Dnp3
