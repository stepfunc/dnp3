import Dnp3.Model.LinkParser
import Dnp3.Model.LinkReader
import Dnp3.Model.Transport
import Dnp3.Model.ObjectGrammar
import Dnp3.Model.ObjectIter
import Dnp3.Proofs.Fuel
import Dnp3.Proofs.LinkParser
import Dnp3.Proofs.LinkReader
import Dnp3.Proofs.Transport
import Dnp3.Proofs.C09Iter
/-!
# C01 — octets from the peer can never crash or wedge an endpoint: progress / termination facts

The models are total functions, so "a result for every input" holds by construction.  What is
proved here is that the *fuel* parameters of the models (which stand for the Rust loops) are never
the reason a loop stops, for ALL inputs (garbage included), i.e. every loop iteration makes
progress on a measure that is bounded by the amount of input.
-/
namespace Dnp3.Proofs.NoPanicLink
open Dnp3 Dnp3.Proofs

theorem parseDiscard_sync1_nil (k : Nat) : parseDiscard k .sync1 [] = (.sync1, [], .ok none) := by
  cases k <;> rfl

theorem parseDiscard_nil (f : Nat) (st : PState) : parseDiscard f st [] = parseImpl st [] := by
  obtain ⟨st', r, hp⟩ := parseImpl_nil_ok st
  cases f <;> simp only [parseDiscard, hp]

theorem parseDiscard_fuel_irrel (f1 f2 : Nat) (st : PState) (bs : List Nat)
    (h1 : bs.length ≤ f1) (h2 : bs.length ≤ f2) : parseDiscard f1 st bs = parseDiscard f2 st bs := by
  refine fuel_irrel (loop := fun f (s : PState × List Nat) => parseDiscard f s.1 s.2)
    (·.2.length) (fun _ => True) (fun s _ h f => ?_) (fun s _ => ?_) f1 f2 (st, bs) trivial h1 h2
  · simp only [List.length_eq_zero_iff.mp h, parseDiscard_nil]
  · obtain ⟨st, bs⟩ := s
    cases bs with
    | nil => exact Or.inl ⟨_, fun f => parseDiscard_nil _ st⟩
    | cons b t =>
      simp only [parseDiscard]
      split
      · exact Or.inl ⟨_, fun _ => rfl⟩
      · exact Or.inr ⟨(.sync1, t), id, trivial, Nat.lt_succ_self _, fun _ => rfl⟩

example : parseImpl .sync1 [7, 5, 0x64] = (.sync1, [5, 0x64], .error (.start1 7)) ∧
    parseDiscard 3 .sync1 [7, 5, 0x64] = (.header, [], .ok none) := ⟨rfl, rfl⟩

/-- Last clause: when the parser asks for more, at most 281 octets stay unread — less than the
    293-octet minimum buffer — which is what makes the reader's next read non-empty
    (`reader_wait_reads_nonempty`). -/
theorem parse_consumes_or_waits (m : ErrMode) (st st' : PState) (bs rest : List Nat) (r : PResult)
    (hw : wfState st) (hp : parse m st bs = (st', rest, r)) :
    (∃ pre, bs = pre ++ rest) ∧ wfState st' ∧
    (∀ x, r = .ok (some x) → rest.length < bs.length ∧ st' = .sync1) ∧
    (m = .discard → ∃ x, r = .ok x) ∧
    (r = .ok none → (∀ b ∈ bs, b < 256) → boundedState st → rest.length ≤ 281 ∧ boundedState st') := by
  obtain ⟨k, hk, hpk, hok⟩ := parse_attempt m st bs
  rw [hp] at hpk hok
  obtain ⟨hsuf, hw', hs⟩ := parseImpl_facts _ _ _ _ _ hpk.symm
  obtain ⟨pre, hpre⟩ := hsuf.trans (List.drop_suffix k bs)
  refine ⟨⟨pre, hpre.symm⟩, hw', fun y hy => ⟨?_, (hs y hy).1⟩, hok, fun hr hb hbd => ?_⟩
  · have := (hs y hy).2 (by split; exact hw; trivial)
    rw [List.length_drop] at this
    omega
  · subst hr
    exact parse_none_short m st st' bs rest hb hbd hp

example : wfState .sync1 ∧ parse .discard .sync1 [7, 5, 0x64] = (.header, [], .ok none) :=
  ⟨trivial, rfl⟩

example : wfState (.body ⟨0xC4, 1024, 1⟩ 6) ∧ boundedState (.body ⟨0xC4, 1024, 1⟩ 6) ∧
    ∀ b ∈ [1, 2, 3], b < 256 := ⟨by show 0 < 6; decide, by show 6 ≤ 282; decide, by decide⟩

/-- the termination measure of the read loop: every iteration either delivers a frame after
    consuming ≥ 1 unread octet, or moves ≥ 1 available octet into the buffer, or ends.
    `Reader.feed` runs on `3 * |chunk| + |pending| + 4`, which is above it (`feed_eq_run`): the
    third `|chunk|` and the 4 are slack -/
def mu (r : Reader) (avail : List Nat) : Nat := 2 * avail.length + r.pending.length

/-- the structural invariant of the link reader; 293: one maximal frame, + 1.  That the unread part
    is shorter than a maximal frame whenever the parser waits is a *consequence*,
    `parse_consumes_or_waits`, re-established by every `parse` call. -/
structure RInv (r : Reader) : Prop where
  capBig : 293 ≤ r.cap
  be : r.begin_ ≤ r.end_
  ec : r.end_ ≤ r.cap
  plen : r.pending.length = r.end_ - r.begin_
  wf : wfState r.pst
  bounded : boundedState r.pst
  octets : ∀ b ∈ r.pending, b < 256

theorem rinv_new (em : ErrMode) (rm : ReadMode) (frag : Nat) : RInv (Reader.new em rm frag) where
  capBig := readBufferSize_ge frag
  be := Nat.le_refl _
  ec := Nat.zero_le _
  plen := rfl
  wf := trivial
  bounded := trivial
  octets := fun b hb => by cases hb

example : RInv (Reader.new .discard .stream 2048) := rinv_new _ _ _

theorem rinv_reset (r : Reader) (h : RInv r) : RInv r.reset where
  capBig := h.capBig
  be := Nat.le_refl _
  ec := Nat.zero_le _
  plen := rfl
  wf := trivial
  bounded := trivial
  octets := fun b hb => by cases hb

theorem rinv_readMore (r : Reader) (avail : List Nat) (h : RInv r) (hroom : r.pending.length < r.cap)
    (ha : ∀ b ∈ avail, b < 256) :
    (avail ≠ [] → r.readMore avail ≠ none) ∧
    (∀ r' avail', r.readMore avail = some (r', avail') → RInv r' ∧ (∀ b ∈ avail', b < 256)) := by
  refine ⟨readMore_ne_none r avail h.be (by have := h.plen; omega) h.ec, fun r' avail' hrm => ?_⟩
  obtain ⟨n, b, e, _, _, rfl, rfl, hcur⟩ := readMore_some r r' avail avail' hrm
  obtain ⟨hbe, hec, hpl⟩ := hcur h.be h.ec h.plen
  refine ⟨⟨h.capBig, hbe, hec, hpl, h.wf, h.bounded, fun b hb => ?_⟩,
    fun b hb => ha b (List.mem_of_mem_drop hb)⟩
  rcases List.mem_append.mp hb with hb | hb
  · exact h.octets b hb
  · exact ha b (List.mem_of_mem_take hb)

/-- the reader after `parse_buffer` + `advance_read` -/
theorem rinv_after_parse (r : Reader) (st' : PState) (rest : List Nat) (o : Option (LHeader × List Nat))
    (h : RInv r) (hparse : parse r.emode r.pst r.pending = (st', rest, .ok o)) :
    RInv { r with pst := st', pending := rest, begin_ := r.begin_ + (r.pending.length - rest.length) } ∧
    (o = none → rest.length ≤ 281) := by
  obtain ⟨⟨pre, hpre⟩, hw', hsome, _, hnone⟩ := parse_consumes_or_waits _ _ _ _ _ _ h.wf hparse
  have hrl : rest.length ≤ r.pending.length := by
    rw [hpre]; simp only [List.length_append]; omega
  have hpl := h.plen
  have hbe := h.be
  refine ⟨⟨h.capBig, by show r.begin_ + _ ≤ r.end_; omega, h.ec,
    by show rest.length = r.end_ - (r.begin_ + _); omega, hw', ?_, ?_⟩, ?_⟩
  · cases o with
    | none => exact (hnone rfl h.octets h.bounded).2
    | some x => show boundedState st'; rw [(hsome x rfl).2]; trivial
  · intro b hb
    exact h.octets b (by rw [hpre]; exact List.mem_append_right _ hb)
  · intro ho; subst ho
    exact (hnone rfl h.octets h.bounded).1

/-- `Reader.run` instrumented with a ghost output: the available octets NOT yet read into the
    buffer when the loop stops.  Same recursion, same results (`runL_run`). -/
def runL : Nat → Reader → List Nat → Reader × List LEvent × List Nat
  | 0, r, avail => (r, [], avail)
  | fuel+1, r, avail =>
    if r.dead then (r, [], avail) else
    if r.end_ - r.begin_ = 0 then
      let r := { r with begin_ := 0, end_ := 0, pending := [] }
      match r.readMore avail with
      | none => (r, [], avail)
      | some (r', avail') => runL fuel r' avail'
    else
      match parse r.emode r.pst r.pending with
      | (_, _, .error e) => ({ r with dead := true }, [.err e], avail)
      | (pst', rest, .ok (some (h, p))) =>
        let consumed := r.pending.length - rest.length
        let r' := { r with pst := pst', pending := rest, begin_ := r.begin_ + consumed }
        let (r'', evs, left) := runL fuel r' avail
        (r'', .frame h p :: evs, left)
      | (pst', rest, .ok none) =>
        let consumed := r.pending.length - rest.length
        let r' := { r with pst := pst', pending := rest, begin_ := r.begin_ + consumed }
        let r' := if r.rmode = .datagram then
                    { r' with begin_ := 0, end_ := 0, pending := [], pst := .sync1 } else r'
        match r'.readMore avail with
        | none => (r', [], avail)
        | some (r'', avail') => runL fuel r'' avail'

theorem run_step (r : Reader) (avail : List Nat) :
    (∃ r' evs, (∀ f, Reader.run (f + 1) r avail = (r', evs)) ∧
      (∀ f, runL (f + 1) r avail = (r', evs, avail)) ∧
      (RInv r → (∀ b ∈ avail, b < 256) → RInv r' ∧ (r'.dead = true ∨ avail = []) ∧
        (r.emode = .discard → r.dead = false → r'.dead = false))) ∨
    (∃ r' avail' evs,
      (∀ f, Reader.run (f + 1) r avail =
        ((Reader.run f r' avail').1, evs ++ (Reader.run f r' avail').2)) ∧
      (∀ f, runL (f + 1) r avail =
        ((runL f r' avail').1, evs ++ (runL f r' avail').2.1, (runL f r' avail').2.2)) ∧
      (wfState r.pst → wfState r'.pst ∧ mu r' avail' < mu r avail) ∧
      (RInv r → (∀ b ∈ avail, b < 256) → RInv r' ∧ ∀ b ∈ avail', b < 256) ∧
      r'.emode = r.emode ∧ r'.dead = r.dead) := by
  -- `read_more_data` on `r0`, which has the parser state, modes and liveness of a reader `r1`
  -- whose measure bounds its own, then round the loop
  have more : ∀ (r0 r1 : Reader) (r' : Reader) (avail' : List Nat),
      r0.readMore avail = some (r', avail') →
      (wfState r1.pst → mu r0 avail ≤ mu r1 avail) → r0.emode = r1.emode → r0.dead = r1.dead →
      (wfState r1.pst → wfState r0.pst) →
      (RInv r1 → RInv r0 ∧ r0.pending.length < r0.cap) →
      (wfState r1.pst → wfState r'.pst ∧ mu r' avail' < mu r1 avail) ∧
      (RInv r1 → (∀ b ∈ avail, b < 256) → RInv r' ∧ ∀ b ∈ avail', b < 256) ∧
      r'.emode = r1.emode ∧ r'.dead = r1.dead := by
    intro r0 r1 r' avail' hrm hmu hem hdd hwf hinv
    have hr := fun hi ha => (rinv_readMore r0 avail (hinv hi).1 (hinv hi).2 ha).2 r' avail' hrm
    obtain ⟨n, b, e, hn0, hn1, rfl, rfl, _⟩ := readMore_some _ _ _ _ hrm
    refine ⟨fun hw => ⟨hwf hw, ?_⟩, hr, hem, hdd⟩
    have hmu := hmu hw
    unfold mu at hmu ⊢
    simp only [List.length_drop, List.length_append, List.length_take]; omega
  have blocked : ∀ r0 : Reader, r0.readMore avail = none → RInv r0 → r0.pending.length < r0.cap →
      (∀ b ∈ avail, b < 256) → avail = [] := by
    intro r0 hrm hi hroom ha
    cases avail with
    | nil => rfl
    | cons a t => exact absurd hrm ((rinv_readMore r0 _ hi hroom ha).1 (List.cons_ne_nil _ _))
  by_cases hd : r.dead = true
  · refine Or.inl ⟨r, [], fun f => ?_, fun f => ?_, fun hi _ => ⟨hi, Or.inl hd, fun _ h => ?_⟩⟩
    · rw [Reader.run, if_pos hd]
    · rw [runL, if_pos hd]
    · rw [hd] at h; cases h
  by_cases h0 : r.end_ - r.begin_ = 0
  · have hi0 : RInv r → RInv { r with begin_ := 0, end_ := 0, pending := [] } ∧ 0 < r.cap := fun hi =>
      ⟨⟨hi.capBig, Nat.le_refl _, Nat.zero_le _, rfl, hi.wf, hi.bounded, fun b hb => by cases hb⟩,
       Nat.lt_of_lt_of_le (by decide) hi.capBig⟩
    cases hrm : ({ r with begin_ := 0, end_ := 0, pending := [] } : Reader).readMore avail with
    | none =>
      refine Or.inl ⟨_, [], fun f => ?_, fun f => ?_, fun hi ha =>
        ⟨(hi0 hi).1, Or.inr (blocked _ hrm (hi0 hi).1 (hi0 hi).2 ha), fun _ h => h⟩⟩
      · rw [Reader.run, if_neg hd, if_pos h0]; simp only [hrm]
      · rw [runL, if_neg hd, if_pos h0]; simp only [hrm]
    | some x =>
      obtain ⟨r', avail'⟩ := x
      refine Or.inr ⟨r', avail', [], fun f => ?_, fun f => ?_,
        more _ r r' avail' hrm (fun _ => by unfold mu; simp) rfl rfl id hi0⟩
      · rw [Reader.run, if_neg hd, if_pos h0]; simp only [hrm]; rfl
      · rw [runL, if_neg hd, if_pos h0]; simp only [hrm]; rfl
  rcases hparse : parse r.emode r.pst r.pending with ⟨st', rest, res⟩
  cases res with
  | error e =>
    refine Or.inl ⟨{ r with dead := true }, [.err e], fun f => ?_, fun f => ?_, fun hi _ =>
      ⟨⟨hi.capBig, hi.be, hi.ec, hi.plen, hi.wf, hi.bounded, hi.octets⟩, Or.inl rfl, fun hm _ => ?_⟩⟩
    · rw [Reader.run, if_neg hd, if_neg h0, hparse]
    · rw [runL, if_neg hd, if_neg h0, hparse]
    · obtain ⟨x, hx⟩ := (parse_consumes_or_waits _ _ _ _ _ _ hi.wf hparse).2.2.2.1 hm
      cases hx
  | ok o =>
    have hpc := fun hw => parse_consumes_or_waits _ _ _ _ _ _ hw hparse
    have hi1 := fun hi => rinv_after_parse r st' rest o hi hparse
    cases o with
    | some x =>
      obtain ⟨h, p⟩ := x
      refine Or.inr ⟨_, avail, [.frame h p], fun f => ?_, fun f => ?_,
        fun hw => ⟨(hpc hw).2.1, ?_⟩, fun hi ha => ⟨(hi1 hi).1, ha⟩, rfl, rfl⟩
      · rw [Reader.run, if_neg hd, if_neg h0, hparse]; rfl
      · rw [runL, if_neg hd, if_neg h0, hparse]; rfl
      · have := ((hpc hw).2.2.1 (h, p) rfl).1
        unfold mu; show 2 * avail.length + rest.length < _; omega
    | none =>
      obtain ⟨r2, hr2⟩ : ∃ r2 : Reader, r2 = if r.rmode = .datagram then
          { r with pst := .sync1, pending := [], begin_ := 0, end_ := 0 }
          else { r with pst := st', pending := rest,
                        begin_ := r.begin_ + (r.pending.length - rest.length) } := ⟨_, rfl⟩
      have hmu : wfState r.pst → wfState r2.pst ∧ mu r2 avail ≤ mu r avail := fun hw => by
        obtain ⟨⟨pre, hpre⟩, hw', _⟩ := hpc hw
        have : rest.length ≤ r.pending.length := by rw [hpre, List.length_append]; omega
        rw [hr2]; unfold mu
        split
        · exact ⟨trivial, by simp⟩
        · exact ⟨hw', by show 2 * avail.length + rest.length ≤ _; omega⟩
      have hi2 : RInv r → RInv r2 ∧ r2.pending.length < r2.cap := fun hi => by
        obtain ⟨hr1, hshort⟩ := hi1 hi
        have := hshort rfl
        have := hi.capBig
        rw [hr2]
        split
        · exact ⟨⟨hi.capBig, Nat.le_refl _, Nat.zero_le _, rfl, trivial, trivial, fun b hb => by cases hb⟩,
            by show 0 < r.cap; omega⟩
        · exact ⟨hr1, by show rest.length < r.cap; omega⟩
      have hem : r2.emode = r.emode ∧ r2.dead = r.dead := by rw [hr2]; split <;> exact ⟨rfl, rfl⟩
      cases hrm : r2.readMore avail with
      | none =>
        refine Or.inl ⟨r2, [], fun f => ?_, fun f => ?_, fun hi ha =>
          ⟨(hi2 hi).1, Or.inr (blocked _ hrm (hi2 hi).1 (hi2 hi).2 ha), fun _ h => hem.2.trans h⟩⟩
        · rw [Reader.run, if_neg hd, if_neg h0, hparse]; simp only [← hr2, hrm]
        · rw [runL, if_neg hd, if_neg h0, hparse]; simp only [← hr2, hrm]
      | some x =>
        obtain ⟨r', avail'⟩ := x
        refine Or.inr ⟨r', avail', [], fun f => ?_, fun f => ?_,
          more r2 r r' avail' hrm (fun hw => (hmu hw).2) hem.1 hem.2 (fun hw => (hmu hw).1) hi2⟩
        · rw [Reader.run, if_neg hd, if_neg h0, hparse]; simp only [← hr2, hrm]; rfl
        · rw [runL, if_neg hd, if_neg h0, hparse]; simp only [← hr2, hrm]; rfl

theorem run_fuel_irrel (f1 f2 : Nat) (r : Reader) (avail : List Nat) (hw : wfState r.pst)
    (h1 : mu r avail < f1) (h2 : mu r avail < f2) : Reader.run f1 r avail = Reader.run f2 r avail := by
  refine fuel_irrel (loop := fun f (s : Reader × List Nat) => Reader.run f s.1 s.2)
    (fun s => mu s.1 s.2 + 1) (fun s => wfState s.1.pst) (fun _ _ h => by omega) (fun s hw => ?_)
    f1 f2 (r, avail) hw h1 h2
  rcases run_step s.1 s.2 with ⟨r', evs, he, _⟩ | ⟨r', avail', evs, he, _, hn, _⟩
  · exact Or.inl ⟨_, he⟩
  · exact Or.inr ⟨(r', avail'), fun x => (x.1, evs ++ x.2), (hn hw).1, Nat.succ_lt_succ (hn hw).2, he⟩

theorem reader_run_fuel_tight (r : Reader) (avail : List Nat) (hw : wfState r.pst) :
    ∀ n, Reader.run (2 * avail.length + r.pending.length + 1 + n) r avail =
         Reader.run (2 * avail.length + r.pending.length + 1) r avail :=
  fun n => run_fuel_irrel _ _ r avail hw (by unfold mu; omega) (by unfold mu; omega)

theorem feed_eq_run (r : Reader) (chunk : List Nat) (hw : wfState r.pst) (f : Nat)
    (hf : 2 * chunk.length + r.pending.length < f) : Reader.run f r chunk = r.feed chunk :=
  run_fuel_irrel _ _ r chunk hw (by unfold mu; omega) (by unfold mu; omega)

example : wfState (Reader.new .discard .stream 2048).pst := trivial

theorem rinv_run : ∀ (f : Nat) (r : Reader) (avail : List Nat), RInv r → (∀ b ∈ avail, b < 256) →
    RInv (Reader.run f r avail).1 := by
  intro f
  induction f with
  | zero => intro r avail h _; exact h
  | succ k ih =>
    intro r avail h ha
    rcases run_step r avail with ⟨r', evs, he, _, hs⟩ | ⟨r', avail', evs, he, _, _, hn, _⟩
    · rw [he]; exact (hs h ha).1
    · rw [he]; exact ih r' avail' (hn h ha).1 (hn h ha).2

theorem rinv_feed (r : Reader) (chunk : List Nat) (h : RInv r) (hc : ∀ b ∈ chunk, b < 256) :
    RInv (r.feed chunk).1 := rinv_run _ r chunk h hc

example : (∀ c ∈ [[5, 0x64, 0xFF], [1, 2, 3]], ∀ b ∈ c, b < 256) := by decide

/-- `reader_never_zero_read` restated on the invariant -/
theorem reader_wait_reads_nonempty (r : Reader) (st' : PState) (rest avail : List Nat) (h : RInv r)
    (hparse : parse r.emode r.pst r.pending = (st', rest, .ok none)) (ha : avail ≠ []) :
    rest.length ≤ 281 ∧
    ({ r with pst := st', pending := rest,
              begin_ := r.begin_ + (r.pending.length - rest.length) } : Reader).readMore avail ≠ none := by
  obtain ⟨⟨pre, hpre⟩, _⟩ := parse_consumes_or_waits _ _ _ _ _ _ h.wf hparse
  have hrl : rest.length ≤ r.pending.length := by
    rw [hpre]; simp only [List.length_append]; omega
  exact reader_never_zero_read r avail rest st' h.capBig h.be h.ec h.plen h.octets h.bounded hrl hparse ha

example : RInv { emode := .close, rmode := .stream, cap := 293, begin_ := 290, end_ := 293,
                 pending := [5, 100, 9] } ∧
    parse .close .sync1 [5, 100, 9] = (.header, [9], .ok none) :=
  ⟨⟨by decide, by decide, by decide, by decide, trivial, trivial, by decide⟩, rfl⟩

theorem runL_run : ∀ (f : Nat) (r : Reader) (avail : List Nat),
    ((runL f r avail).1, (runL f r avail).2.1) = Reader.run f r avail := by
  intro f
  induction f with
  | zero => intro r avail; rfl
  | succ k ih =>
    intro r avail
    rcases run_step r avail with ⟨r', evs, he, hl, _⟩ | ⟨r', avail', evs, he, hl, _⟩
    · rw [he, hl]
    · rw [he, hl, ← ih r' avail']

/-- **the read loop never wedges.**  When the loop stops, either the session is over (`dead`: a
    close-mode parse error was returned) or EVERY available octet has been read into the buffer —
    the loop never stops with input it refuses to read (no zero-length read, no full buffer that
    cannot be shifted).  In discard mode the session never dies, so all input is always consumed. -/
theorem run_never_wedges : ∀ (f : Nat) (r : Reader) (avail : List Nat), RInv r →
    (∀ b ∈ avail, b < 256) → mu r avail < f →
    ((runL f r avail).1.dead = true ∨ (runL f r avail).2.2 = []) ∧
    (r.emode = .discard → r.dead = false → (runL f r avail).1.dead = false) := by
  intro f
  induction f with
  | zero => intro r avail _ _ h; omega
  | succ k ih =>
    intro r avail h ha hmu
    rcases run_step r avail with ⟨r', evs, _, hl, hs⟩ | ⟨r', avail', evs, _, hl, hm, hn, hem, hdd⟩
    · rw [hl]; exact (hs h ha).2
    · rw [hl]
      obtain ⟨i1, i2⟩ := ih r' avail' (hn h ha).1 (hn h ha).2 (by have := (hm h.wf).2; omega)
      exact ⟨i1, fun he hd => i2 (hem.trans he) (hdd.trans hd)⟩

example : RInv (Reader.new .close .datagram 249) ∧ ∀ b ∈ [5, 0x64, 0xFF, 0xFF], b < 256 :=
  ⟨rinv_new _ _ _, by decide⟩

def stLen : AState → Option Nat
  | .empty => none
  | .running _ _ l => some l
  | .complete _ l => some l

structure AInv (a : Assembler) : Prop where
  bufLe : a.buf.length ≤ a.cap
  recEq : ∀ l, stLen a.st = some l → l = a.buf.length

theorem ainv_clear (a : Assembler) (h : AInv a) : AInv { a with st := .empty } :=
  ⟨h.bufLe, fun l hl => by cases hl⟩

theorem assembler_total (a : Assembler) (info : FrameInfo) (hdr : THeader) (payload : List Nat)
    (h : AInv a) :
    AInv (a.assemble info hdr payload) ∧ (a.assemble info hdr payload).cap = a.cap ∧
    (a.assemble info hdr payload).buf.length ≤ a.cap := by
  have hoff : ∀ {acc}, Transport.Offset a info hdr acc → acc ≤ a.buf.length := by
    intro acc ho
    cases ho with
    | first | unpopped => exact Nat.zero_le _
    | next hst => exact Nat.le_of_eq (h.recEq _ (by rw [hst]; rfl))
  -- a stored payload ends at `acc + payload.length ≤ cap`: the slice-in-bounds fact of `append`
  have stored : ∀ {acc st id}, acc ≤ a.buf.length → acc + payload.length ≤ a.cap →
      stLen st = some (acc + payload.length) →
      let r : Assembler := { a with st := st, frameId := id, buf := a.buf.take acc ++ payload }
      AInv r ∧ r.cap = a.cap ∧ r.buf.length ≤ a.cap := by
    intro acc st id hle hfit hst
    have hl : (a.buf.take acc ++ payload).length = acc + payload.length := by
      rw [List.length_append, List.length_take, Nat.min_eq_left hle]
    exact ⟨⟨hl ▸ hfit, fun l hl' => by rw [hst] at hl'; cases hl'; exact hl.symm⟩, rfl, hl ▸ hfit⟩
  have hc := Transport.assemble_cases a info hdr payload
  generalize a.assemble info hdr payload = r at hc
  cases hc with
  | ignored => exact ⟨h, rfl, h.bufLe⟩
  | dropped => exact ⟨ainv_clear a h, rfl, h.bufLe⟩
  | more ho hfit => exact stored (hoff ho) hfit rfl
  | done ho hfit => exact stored (hoff ho) hfit rfl

example : AInv ({ cap := 2048 } : Assembler) := ⟨Nat.zero_le _, fun l hl => by cases hl⟩

theorem assembler_pop_bounded (a : Assembler) (h : AInv a) :
    AInv a.pop.1 ∧ a.pop.1.cap = a.cap ∧
    ∀ fi d, a.pop.2 = some (fi, d) → d = a.buf ∧ d.length ≤ a.cap := by
  unfold Assembler.pop
  split
  · rename_i fi len hst
    refine ⟨ainv_clear a h, rfl, ?_⟩
    intro fi' d hd
    injection hd with hd; injection hd with _ hd
    subst hd
    have := h.recEq len (by rw [hst]; rfl)
    have hb := h.bufLe
    subst this
    exact ⟨List.take_length, by simp only [List.take_length]; exact hb⟩
  · exact ⟨h, rfl, fun fi d hd => by cases hd⟩

/-- the measure of the drain loop: queued link events, plus one for a completed fragment waiting
    to be popped, plus one for a pending link-status message -/
def dM (t : TReader) : Nat :=
  t.queue.length + (if t.asm.isComplete then 1 else 0) + (if t.pendingMsg.isSome then 1 else 0)

/-- something to `pop` -/
def flag (t : TReader) : Prop := t.asm.isComplete = true ∨ t.pendingMsg.isSome = true

structure TStep (t t' : TReader) (outs : List TOut) : Prop where
  measure : dM t' ≤ dM t
  keeps : flag t → flag t'
  asm : AInv t.asm → AInv t'.asm ∧ t'.asm.cap = t.asm.cap
  nofrag : ∀ fi d, TOut.frag fi d ∉ outs

theorem TStep.refl (t : TReader) : TStep t t [] :=
  ⟨Nat.le_refl _, id, fun h => ⟨h, rfl⟩, fun _ _ h => by cases h⟩

theorem TStep.trans {t t' t'' : TReader} {o o' : List TOut} (h : TStep t t' o) (h' : TStep t' t'' o') :
    TStep t t'' (o ++ o') :=
  ⟨Nat.le_trans h'.measure h.measure, fun hf => h'.keeps (h.keeps hf),
   fun ha => ⟨(h'.asm (h.asm ha).1).1, (h'.asm (h.asm ha).1).2.trans (h.asm ha).2⟩,
   fun fi d hm => by
     rcases List.mem_append.mp hm with hm | hm
     · exact h.nofrag fi d hm
     · exact h'.nofrag fi d hm⟩

theorem nofrag_reply (cfg : LinkCfg) (reply : Option Reply) (fi : FragInfo) (d : List Nat) :
    TOut.frag fi d ∉ (match reply with | some r => [TOut.reply (formatReply cfg r)] | none => []) := by
  cases reply <;> simp

theorem tread_step (t : TReader) :
    (∃ res, (∀ f, TReader.read (f + 1) t = res) ∧ TStep t res.1 res.2.1 ∧
      (res.2.2 = some true → flag res.1)) ∨
    (∃ t' outs, (∀ f, TReader.read (f + 1) t =
        ((TReader.read f t').1, outs ++ (TReader.read f t').2.1, (TReader.read f t').2.2)) ∧
      TStep t t' outs ∧ t'.queue.length < t.queue.length) := by
  obtain ⟨cfg, link, sec, asm, pm, queue⟩ := t
  cases hc : asm.isComplete with
  | true =>
    refine Or.inl ⟨(_, [], some true), fun f => ?_, TStep.refl _, fun _ => Or.inl hc⟩
    simp only [TReader.read, hc, if_true]
  | false =>
    have hfl : ∀ {t' : TReader}, t'.pendingMsg = pm → flag ⟨cfg, link, sec, asm, pm, queue⟩ → flag t' := by
      intro t' hp hf
      rcases hf with hf | hf
      · rw [hc] at hf; cases hf
      · exact Or.inr (by rw [hp]; exact hf)
    cases queue with
    | nil =>
      refine Or.inl ⟨(_, [], none), fun f => ?_, TStep.refl _, fun h => by cases h⟩
      simp only [TReader.read, hc, Bool.false_eq_true, if_false]
    | cons ev rest =>
      cases ev with
      | err e =>
        refine Or.inl ⟨(⟨cfg, link, sec, asm, pm, rest⟩, [.err e], some false), fun f => ?_, ⟨?_, hfl rfl, fun h => ⟨h, rfl⟩, fun _ _ hm => by simp at hm⟩, fun h => by cases h⟩
        · simp only [TReader.read, hc, Bool.false_eq_true, if_false]
        · simp only [dM, List.length_cons]; omega
      | frame h payload =>
        rcases hp : processHeader cfg sec h with ⟨sec', info, reply⟩
        obtain ⟨outs, ho⟩ : ∃ outs, outs = (match reply with
          | some r => [TOut.reply (formatReply cfg r)] | none => []) := ⟨_, rfl⟩
        have hno : ∀ fi d, TOut.frag fi d ∉ outs := by rw [ho]; exact nofrag_reply cfg reply
        have hdeq : TStep ⟨cfg, link, sec, asm, pm, .frame h payload :: rest⟩ ⟨cfg, link, sec', asm, pm, rest⟩ outs :=
          ⟨by simp only [dM, List.length_cons]; omega, hfl rfl, fun h => ⟨h, rfl⟩, hno⟩
        have hstatus : ∀ m, TStep ⟨cfg, link, sec, asm, pm, .frame h payload :: rest⟩
            ⟨cfg, link, sec', asm, some m, rest⟩ outs := fun m =>
          ⟨by simp only [dM, List.length_cons, hc]; split <;> simp <;> omega, fun _ => Or.inr rfl,
            fun h => ⟨h, rfl⟩, hno⟩
        subst ho
        have hlt : rest.length < (LEvent.frame h payload :: rest).length := Nat.lt_succ_self _
        cases info with
        | none =>
          refine Or.inr ⟨_, _, fun f => ?_, hdeq, hlt⟩
          simp only [TReader.read, hc, hp, Bool.false_eq_true, if_false]; rfl
        | some info =>
          obtain ⟨source, bc, ftype⟩ := info
          cases ftype with
          | linkStatusRequest =>
            refine Or.inl ⟨(_, _, some true), fun f => ?_, hstatus (source, true), fun _ => Or.inr rfl⟩
            simp only [TReader.read, hc, hp, Bool.false_eq_true, if_false]; rfl
          | linkStatusResponse =>
            refine Or.inl ⟨(_, _, some true), fun f => ?_, hstatus (source, false), fun _ => Or.inr rfl⟩
            simp only [TReader.read, hc, hp, Bool.false_eq_true, if_false]; rfl
          | data =>
            cases payload with
            | nil =>
              refine Or.inr ⟨_, _, fun f => ?_, hdeq, hlt⟩
              simp only [TReader.read, hc, hp, Bool.false_eq_true, if_false]; rfl
            | cons tb data =>
              have hasm := fun hi => assembler_total asm ⟨source, bc, .data⟩ (THeader.ofNat tb) data hi
              cases hc' : (asm.assemble ⟨source, bc, .data⟩ (THeader.ofNat tb) data).isComplete with
              | true =>
                refine Or.inl ⟨(⟨cfg, link, sec', asm.assemble ⟨source, bc, .data⟩ (THeader.ofNat tb) data, pm, rest⟩, _, some true), fun f => ?_,
                  ⟨?_, fun _ => Or.inl hc', fun hi => ⟨(hasm hi).1, (hasm hi).2.1⟩, hno⟩, fun _ => Or.inl hc'⟩
                · simp only [TReader.read, hc, hp, hc', Bool.false_eq_true, if_false, if_true]; rfl
                · simp only [dM, hc, hc', List.length_cons, Bool.false_eq_true, if_false, if_true]; omega
              | false =>
                refine Or.inr ⟨⟨cfg, link, sec', asm.assemble ⟨source, bc, .data⟩ (THeader.ofNat tb) data, pm, rest⟩, _, fun f => ?_,
                  ⟨?_, hfl rfl, fun hi => ⟨(hasm hi).1, (hasm hi).2.1⟩, hno⟩, hlt⟩
                · simp only [TReader.read, hc, hp, hc', Bool.false_eq_true, if_false]; rfl
                · simp only [dM, hc, hc', List.length_cons, Bool.false_eq_true, if_false]; omega

theorem tread_fuel_irrel (f1 f2 : Nat) (t : TReader) (h1 : t.queue.length < f1)
    (h2 : t.queue.length < f2) : TReader.read f1 t = TReader.read f2 t := by
  refine fuel_irrel (loop := TReader.read) (·.queue.length + 1) (fun _ => True)
    (fun _ _ h => by omega) (fun t _ => ?_) f1 f2 t trivial h1 h2
  rcases tread_step t with ⟨res, he, _⟩ | ⟨t', outs, he, _, hq⟩
  · exact Or.inl ⟨_, he⟩
  · exact Or.inr ⟨t', fun x => (x.1, outs ++ x.2.1, x.2.2), trivial, Nat.succ_lt_succ hq, he⟩

theorem tread_spec : ∀ (f : Nat) (t : TReader),
    TStep t (TReader.read f t).1 (TReader.read f t).2.1 ∧
    ((TReader.read f t).2.2 = some true → flag (TReader.read f t).1) := by
  intro f
  induction f with
  | zero => intro t; exact ⟨TStep.refl t, fun h => by cases h⟩
  | succ k ih =>
    intro t
    rcases tread_step t with ⟨res, he, hs, hf⟩ | ⟨t', outs, he, hs, _⟩
    · rw [he]; exact ⟨hs, hf⟩
    · rw [he]; exact ⟨hs.trans (ih t').1, (ih t').2⟩

theorem tpop_measure (t : TReader) (h : flag t) : dM t.pop.1 + 1 ≤ dM t := by
  obtain ⟨cfg, link, sec, asm, pm, queue⟩ := t
  cases pm with
  | some x => obtain ⟨s, q⟩ := x; simp [TReader.pop, dM]; exact Nat.le_refl _
  | none =>
    have hc : asm.isComplete = true := by simpa [flag] using h
    obtain ⟨st, fid, buf, cap⟩ := asm
    cases st with
    | complete fi len => simp [TReader.pop, Assembler.pop, dM, Assembler.isComplete]
    | empty => simp [Assembler.isComplete] at hc
    | running i s l => simp [Assembler.isComplete] at hc

theorem tdrain_step (dbl : Bool) (t : TReader) :
    (∃ t' outs, (∀ f, TReader.drain (f + 1) dbl t = (t', outs)) ∧ TStep t t' outs) ∨
    (∃ t' outs, (∀ f, TReader.drain (f + 1) dbl t = ((TReader.drain f dbl t'.pop.1).1,
        outs ++ t'.pop.2.toList ++ (TReader.drain f dbl t'.pop.1).2)) ∧ TStep t t' outs ∧ flag t') := by
  have h1 := tread_spec (t.queue.length + 2) t
  rcases hrd : TReader.read (t.queue.length + 2) t with ⟨t1, o1, r1⟩
  rw [hrd] at h1
  obtain ⟨hs1, hf1⟩ := h1
  rcases r1 with _ | _ | _
  · exact Or.inl ⟨t1, o1, fun f => by simp only [TReader.drain, hrd], hs1⟩
  · exact Or.inl ⟨t1, o1, fun f => by simp only [TReader.drain, hrd], hs1⟩
  · cases dbl with
    | false =>
      refine Or.inr ⟨t1, o1, fun f => ?_, hs1, hf1 rfl⟩
      simp only [TReader.drain, hrd, Bool.false_eq_true, if_false, List.append_nil]
    | true =>
      have h2 := (tread_spec (t1.queue.length + 2) t1).1
      rcases hrd2 : TReader.read (t1.queue.length + 2) t1 with ⟨t2, o2, r2⟩
      rw [hrd2] at h2
      refine Or.inr ⟨t2, o1 ++ o2, fun f => ?_, hs1.trans h2, h2.keeps (hf1 rfl)⟩
      simp only [TReader.drain, hrd, hrd2, if_true]

theorem tdrain_fuel_irrel (f1 f2 : Nat) (dbl : Bool) (t : TReader) (h1 : dM t ≤ f1) (h2 : dM t ≤ f2) :
    TReader.drain f1 dbl t = TReader.drain f2 dbl t := by
  refine fuel_irrel (loop := fun f => TReader.drain f dbl) dM (fun _ => True) (fun t _ h0 j => ?_)
    (fun t _ => ?_) f1 f2 t trivial h1 h2
  · -- at `dM t = 0` the queue is empty and nothing is complete: `read` blocks at once
    cases j with
    | zero => rfl
    | succ j =>
      obtain ⟨cfg, link, sec, asm, pm, queue⟩ := t
      have hq : queue = [] := by
        cases queue with
        | nil => rfl
        | cons a b => simp [dM] at h0
      have hc : asm.isComplete = false := by
        cases hh : asm.isComplete with
        | false => rfl
        | true => simp [dM, hh] at h0
      subst hq
      simp [TReader.drain, TReader.read, hc]
  · rcases tdrain_step dbl t with ⟨t', outs, he, _⟩ | ⟨t', outs, he, hs, hf⟩
    · exact Or.inl ⟨_, he⟩
    · exact Or.inr ⟨t'.pop.1, fun x => (x.1, outs ++ t'.pop.2.toList ++ x.2), trivial,
        Nat.lt_of_lt_of_le (tpop_measure t' hf) hs.measure, he⟩

theorem dM_le (t : TReader) : dM t ≤ t.queue.length + 2 := by
  unfold dM; split <;> split <;> omega

theorem ainv_tpop (t : TReader) (h : AInv t.asm) :
    AInv t.pop.1.asm ∧ t.pop.1.asm.cap = t.asm.cap ∧
    ∀ fi d, t.pop.2 = some (.frag fi d) → d.length ≤ t.asm.cap := by
  obtain ⟨cfg, link, sec, asm, pm, queue⟩ := t
  simp only at h
  cases pm with
  | some x =>
    obtain ⟨s, q⟩ := x
    exact ⟨h, rfl, fun fi d hd => by simp [TReader.pop] at hd⟩
  | none =>
    obtain ⟨h1, h2, h3⟩ := assembler_pop_bounded asm h
    refine ⟨h1, h2, ?_⟩
    intro fi d hd
    simp only [TReader.pop] at hd
    cases hp : asm.pop.2 with
    | none => rw [hp] at hd; cases hd
    | some x =>
      obtain ⟨fi', d'⟩ := x
      rw [hp] at hd
      simp only [Option.map_some, Option.some.injEq, TOut.frag.injEq] at hd
      obtain ⟨_, hd⟩ := hd
      subst hd
      exact (h3 fi' d' hp).2

theorem ainv_tdrain : ∀ (f : Nat) (dbl : Bool) (t : TReader), AInv t.asm →
    AInv (TReader.drain f dbl t).1.asm ∧ (TReader.drain f dbl t).1.asm.cap = t.asm.cap ∧
    ∀ fi d, TOut.frag fi d ∈ (TReader.drain f dbl t).2 → d.length ≤ t.asm.cap := by
  intro f
  induction f with
  | zero => intro dbl t h; exact ⟨h, rfl, fun _ _ hm => by cases hm⟩
  | succ k ih =>
    intro dbl t h
    rcases tdrain_step dbl t with ⟨t', outs, he, hs⟩ | ⟨t', outs, he, hs, _⟩
    · rw [he]; exact ⟨(hs.asm h).1, (hs.asm h).2, fun fi d hm => absurd hm (hs.nofrag fi d)⟩
    · rw [he]
      obtain ⟨hi, hc⟩ := hs.asm h
      obtain ⟨hp1, hp2, hp3⟩ := ainv_tpop t' hi
      obtain ⟨hd1, hd2, hd3⟩ := ih dbl t'.pop.1 hp1
      refine ⟨hd1, by rw [hd2, hp2, hc], fun fi d hm => ?_⟩
      rw [← hc]
      rcases List.mem_append.mp hm with hm | hm
      · rcases List.mem_append.mp hm with hm | hm
        · exact absurd hm (hs.nofrag fi d)
        · exact hp3 fi d (by simpa using hm)
      · rw [← hp2]; exact hd3 fi d hm

example : AInv (TReader.new ⟨false, false, 1024⟩ .discard .stream 2048).asm :=
  ⟨Nat.zero_le _, fun l hl => by cases hl⟩

open Dnp3.App

/-- `App.parseOne_length` (the `decreasing_by` argument of `walk` / `walkPrefix`): every accepted
    object header strictly shortens the input, so `ObjectParser::parse` is a well-founded recursion
    on the remaining octets — for every input. -/
theorem walk_progress {isRead zls : Bool} {bs rest : List Nat} {rec : HeaderRec}
    (h : parseOne isRead zls bs = .ok (rec, rest)) : rest.length < bs.length :=
  App.parseOne_length h

example : parseOne false false [1, 2, 0, 3, 4, 0x81, 0x01] =
    .ok (⟨.fixed 1 2, .range false 3 4, .fixed 1 2, [0x81, 0x01]⟩, []) := rfl

/-- `BitIterator` / `DoubleBitIterator`: the guarded `index += 1` never overflows when the last
    index is at most 65535 — for any packed octets -/
theorem iterBitsA_ok (perItem : Nat) (bytes : Array Nat) (count index pos : Nat)
    (h : index + (count - pos) ≤ 65536) : ∃ items, iterBitsA perItem bytes count index pos = .ok items := by
  -- `h`: `index` is the index of item `pos`, so the last index, `index + (count - pos) - 1`, fits
  -- `u16`.  The increment is guarded by `pos + 1 < count`, where `h` gives `index ≤ 65534`, and
  -- `(index + 1) + (count - (pos + 1))` is the same sum; the other call only shortens `count - pos`.
  fun_induction iterBitsA perItem bytes count index pos
  all_goals first
    | exact ⟨_, rfl⟩
    | omega
    | (rename_i he ih
       obtain ⟨items, hi⟩ := ih (by omega)
       rw [hi] at he; cases he)

/-- C01 `iter_no_panic` (`Props.C01.iter_no_panic` says what it claims) -/
theorem iter_no_panic (r : HeaderRec)
    (hidx : r.kind = .octets ∨ r.kind = .bits ∨ r.kind = .dbits → r.spec.start + r.spec.nobj ≤ 65536) :
    iterPanics r = false := by
  obtain ⟨var, spec, kind, payload⟩ := r
  simp only at hidx
  unfold iterPanics iterate
  cases kind with
  | bits =>
    obtain ⟨items, hi⟩ := iterBitsA_ok 8 payload.toArray spec.nobj spec.start 0 (by have := hidx (Or.inr (Or.inl rfl)); omega)
    simp only [iterBits, hi]
  | dbits =>
    obtain ⟨items, hi⟩ := iterBitsA_ok 4 payload.toArray spec.nobj spec.start 0 (by have := hidx (Or.inr (Or.inr rfl)); omega)
    simp only [iterBits, hi]
  | octets =>
    obtain ⟨items, hi⟩ := App.iterRangedBytes_no_panic var.var spec.nobj payload spec.start (hidx (Or.inl rfl))
    simp only [hi]
  | fixed g v => cases spec <;> rfl
  | _ => rfl

example : (⟨.wild 110 1, .range true 65535 65535, .octets, [0x41]⟩ : HeaderRec).spec.start +
    (⟨.wild 110 1, .range true 65535 65535, .octets, [0x41]⟩ : HeaderRec).spec.nobj ≤ 65536 := by decide

end Dnp3.Proofs.NoPanicLink
