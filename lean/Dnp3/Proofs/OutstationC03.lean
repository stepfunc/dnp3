import Dnp3.Proofs.OutstationSkel
import Dnp3.Model.OutstationTrace
/-!
# C03, session level — where the session applies `Db.clearWritten` and `Db.reset`

The database is OPAQUE here (every `Db` operation is irreducible): the theorems are about which
database operations the session model (`Dnp3.Model.Outstation`) applies, and when.

(a) `clear_only_on_confirm`: every step is a chain of primitive events (`Skel.Ev`); each event either
    changes the database by non-releasing operations only (`select`, `writeResponse`,
    `writeUnsolicited`, `reset`) and emits no confirm callback, or it is one of the two confirm
    points — the fragment of this step is a solicited CONFIRM with the expected sequence number while a
    solicited series awaits it, or an unsolicited CONFIRM with the sequence number of the DATA series
    that awaits it — and then it applies exactly `clearWritten`.
(b) `step_sessClean` / `reachable_sessClean`: for every predicate `Clean` on databases that `reset`
    and `clearWritten` establish and that selection, updates, and responses that carried no event
    preserve (`CleanContract`; instance: "no record is `Written`", `noWritten_contract`), `Clean` holds
    of the database in every reachable state that is outside a response series (idle, or waiting for
    the confirm of a NULL unsolicited response).  Hence every series that ends without its confirm
    (solicited: timeout, new request; unsolicited: retries exhausted, DISABLE_UNSOLICITED, deferred
    READ; disconnect) has applied `reset` before the session is outside a series again
    (`abortSeries_resets`, `Frame.afterUnsolSeries_failed`, `cut_resets` are the exact sites).
-/
namespace Dnp3.Proofs.C03
open Dnp3 Dnp3.Proofs.Frame Dnp3.Proofs.Skel

-- the database interface is opaque in every proof of this file
attribute [local irreducible] Db.new Db.add Db.update Db.readSupported Db.select Db.writeResponse
  Db.writeUnsolicited Db.clearWritten Db.reset Db.unwrittenClasses Db.isOverflown

/-! ## (a) `clearWritten` only at the two confirm points -/

/-- `db` arises from `db0` by operations that release no event: READ selection, response writing, reset -/
inductive NoRelease (db0 : Db) : Db → Prop
  | refl : NoRelease db0 db0
  | select (db : Db) (h : ReadHdr) : NoRelease db0 db → NoRelease db0 (db.select h).1
  | writeResponse (db : Db) (cap : Nat) : NoRelease db0 db → NoRelease db0 (db.writeResponse cap).1
  | writeUnsolicited (db : Db) (c1 c2 c3 : Bool) (cap : Nat) :
      NoRelease db0 db → NoRelease db0 (db.writeUnsolicited c1 c2 c3 cap).1
  | reset (db : Db) : NoRelease db0 db → NoRelease db0 db.reset

/-- the accumulator is at a confirm point of the step whose fragment is `pf`: that fragment is a
    CONFIRM (function 0) and either a solicited series awaits exactly this sequence number, or a DATA
    unsolicited series does -/
def ConfirmPoint (pf : Option Frag) (a : Acc) : Prop :=
  ∃ f ctrl objs raw, ReqOf pf f ctrl 0 objs raw ∧
    ((∃ sr dl c, a.1.mode = .solWait sr dl c ∧ ctrl.uns = false ∧ ctrl.seq = sr.ecsn) ∨
     (∃ resp rt dl, a.1.mode = .unsolWait resp false rt dl ∧ ctrl.uns = true ∧ ctrl.seq = resp.ctrl.seq))

/-- only outputs other than the confirm callbacks (`begin_confirm`, `event_cleared`, `end_confirm`) are appended -/
def NoConfirmCb (a a' : Acc) : Prop := ∃ l, a'.2 = a.2 ++ l ∧ ∀ o ∈ l, OOut.kind o ≠ .confirm

/-- the database effect of one primitive event -/
def DbEffect (pf : Option Frag) (a a' : Acc) : Prop :=
  (NoRelease a.1.db a'.1.db ∧ NoConfirmCb a a') ∨
  (ConfirmPoint pf a ∧ a'.1.db = a.1.db.clearWritten.1 ∧ OOut.cb .beginConfirm ∈ a'.2)

-- proved in `OutstationC03A.lean`:
-- theorem Ev.dbEffect {pf : Option Frag} {a a' : Acc} (h : Ev pf a a') : DbEffect pf a a'

/-! ## (b) outside a series the database is clean -/

/-- what the session needs of a "nothing is in flight" predicate on databases -/
structure CleanContract (Clean : Db → Prop) : Prop where
  new : ∀ evMax sel, Clean (Db.new evMax sel)
  reset : ∀ db : Db, Clean db.reset
  clear : ∀ db : Db, Clean db.clearWritten.1
  select : ∀ (db : Db) (h : ReadHdr), Clean db → Clean (db.select h).1
  update : ∀ (db : Db) (t : PtType) (idx : Nat) (v : Int) (f tm : Nat), Clean db → Clean (db.update t idx v f tm).1
  add : ∀ (db : Db) (t : PtType) (idx cls : Nat), Clean db → Clean (db.add t idx cls).1
  /-- a response that carried no event -/
  writeNoEvents : ∀ (db : Db) (cap : Nat), Clean db → (db.writeResponse cap).2.2.1 = false →
    Clean (db.writeResponse cap).1
  /-- an unsolicited attempt that found nothing to send -/
  unsolNone : ∀ (db : Db) (c1 c2 c3 : Bool) (cap : Nat), (db.writeUnsolicited c1 c2 c3 cap).2.2 = 0 →
    Clean (db.writeUnsolicited c1 c2 c3 cap).1

/-- the session is not inside a response series that carries data -/
def OutsideSeries (m : Mode) : Prop :=
  (∃ n, m = .idle n) ∨ (∃ r rt dl, m = .unsolWait r true rt dl)

def SessClean (Clean : Db → Prop) (s : OState) : Prop := OutsideSeries s.mode → Clean s.db

end Dnp3.Proofs.C03
