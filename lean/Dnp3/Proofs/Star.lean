/-!
# Reflexive-transitive closure of a relation

What a step of a model computes is, in the proofs about the outstation session and about the pair model, the end of a chain
of smaller moves; an invariant is then proved once per move (`Star.inv`).
-/
namespace Dnp3.Proofs.Skel

inductive Star {α : Type} (R : α → α → Prop) : α → α → Prop
  | refl (a : α) : Star R a a
  | tail {a b c : α} : Star R a b → R b c → Star R a c

theorem Star.trans {α : Type} {R : α → α → Prop} {a b c : α} (h1 : Star R a b) (h2 : Star R b c) : Star R a c := by
  induction h2 with
  | refl => exact h1
  | tail _ r ih => exact .tail ih r

theorem Star.single {α : Type} {R : α → α → Prop} {a b : α} (h : R a b) : Star R a b := .tail (.refl a) h

theorem Star.lift {α : Type} {R Q : α → α → Prop} (hrefl : ∀ a, Q a a)
    (htrans : ∀ a b c, Q a b → Q b c → Q a c) (hR : ∀ a b, R a b → Q a b) {a b : α} (h : Star R a b) : Q a b := by
  induction h with
  | refl => exact hrefl _
  | tail _ r ih => exact htrans _ _ _ ih (hR _ _ r)

theorem Star.inv {α : Type} {R : α → α → Prop} {I : α → Prop} (hR : ∀ x y, R x y → I x → I y) {x y : α}
    (h : Star R x y) (hx : I x) : I y := by
  induction h with
  | refl => exact hx
  | tail _ r ih => exact hR _ _ r ih

end Dnp3.Proofs.Skel
