import Dnp3.Model.Outstation

/-! Shared facts about the `handleFreezeAtTime` fold (FREEZE_AT_TIME / FREEZE_AT_TIME_NO_RESPONSE):
    the step function by name, and an invariant principle for its accumulator. -/

namespace Dnp3.Proofs.FreezeAtTime
open Dnp3

def freezeAtTimeStep (p : Acc × Nat × Bool) (h : ObjHdr) : Acc × Nat × Bool :=
  if h.group = 50 ∧ h.var = 2 then
    if h.a = 1 then (p.1, p.2.1, true) else (p.1, p.2.1 ||| iin2ParamError, p.2.2)
  else if p.2.2 then
    let (a', i) := handleFreezeHeader p.1 .atTime h
    (a', p.2.1 ||| i, true)
  else (p.1, p.2.1 ||| iin2ParamError, false)

theorem handleFreezeAtTime_eq (a : Acc) (seq : Nat) (hs : List ObjHdr) :
    handleFreezeAtTime a seq hs =
      ((hs.foldl freezeAtTimeStep (a, 0, false)).1, emptySolicited seq (hs.foldl freezeAtTimeStep (a, 0, false)).2.1) := rfl

theorem freezeAtTimeStep_fst (p : Acc × Nat × Bool) (h : ObjHdr) :
    (freezeAtTimeStep p h).1 = p.1 ∨ (freezeAtTimeStep p h).1 = (handleFreezeHeader p.1 .atTime h).1 := by
  unfold freezeAtTimeStep
  split
  · split <;> exact .inl rfl
  · split
    · exact .inr rfl
    · exact .inl rfl

theorem freezeAtTime_foldl_inv (P : Acc → Prop) (step : ∀ b h, P b → P (handleFreezeHeader b .atTime h).1)
    (hs : List ObjHdr) (p : Acc × Nat × Bool) (h0 : P p.1) : P (hs.foldl freezeAtTimeStep p).1 := by
  induction hs generalizing p with
  | nil => exact h0
  | cons h t ih =>
    rw [List.foldl_cons]
    apply ih
    rcases freezeAtTimeStep_fst p h with e | e <;> rw [e]
    · exact h0
    · exact step _ _ h0

theorem handleFreezeAtTime_inv (P : Acc → Prop) (step : ∀ b h, P b → P (handleFreezeHeader b .atTime h).1)
    (a : Acc) (seq : Nat) (hs : List ObjHdr) (h0 : P a) : P (handleFreezeAtTime a seq hs).1 :=
  freezeAtTime_foldl_inv P step hs (a, 0, false) h0

end Dnp3.Proofs.FreezeAtTime
