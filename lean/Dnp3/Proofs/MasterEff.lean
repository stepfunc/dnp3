import Dnp3.Model.MasterSession
/-!
# What a step of the master session can do

`Eff c a b`: the accumulator `b` is reached from `a` by a chain of the primitive effects of the session — an output,
a change of one association, a change of the rest of the state.  Where a property of the session turns on an effect,
the effect carries what holds when it happens: a delivery of an unsolicited response says that the gate was open or
the response empty, an automatic task becomes idle together with the report of its completion, a `taskStart` follows
the scheduler run that chose the task.  The effects that answer something from outside (`Cause`: a response, a message
from a handle, link activity) are allowed for that cause only, so "no delivery unless a response came in" is read off
the cause.

Every handler of `MasterSession` is walked once (`Eff.taskOnError` … `Eff.checkShutdown`), up to `step_eff`.  A property of the session is then proved
by induction over `Eff`, one short case per effect.

What the walk keeps of the state is what `Book` lists: of an association changed by `book`, the address, the configuration and the
keep-alive deadline, that the queue gains nothing, that neither the integrity poll nor an automatic task completes.  `seq`,
`lastUnsol`, `polls`, `evAvail` and the back-off of a failed task change freely under `book`, and `session` allows any mode, clock,
ring and `live`: a property of those cannot be read off `Eff`.  To carry one more field of `Assoc`, add the conjunct at the end of
`Book` and of the hypothesis of `Book.of_eq` and `Eff.same`, and re-prove `Book.processIin` and `Book.failAuto`: the walk builds
every `book` from these four.  For the mode or the clock `session` would have to be split.

`Eff` bounds what a step may do; it never says that an effect does happen (`reset` MAY follow an `eof`).  What does happen is
proved from the equations of the handlers (`step_rx_not_dropped`, `C02Overflow.onFragment_accept`, `step_eof_online`): so C16 and
the scheduling theorems of C19 throughout, and `fresh_after_eof` for its freshness half.
-/
namespace Dnp3.Master

def Step.acc : Step → Acc
  | .waiting a => a
  | .appDone a .. => a
  | .linkDone a .. => a
  | .loop a => a
  | .stop a _ => a

def Step.outs (s : Step) : List MOut := s.acc.2

end Dnp3.Master

namespace Dnp3.Proofs.Master
open Dnp3 Dnp3.Master

/-- `on_task_error`, by what the task is: nothing (`h0`: a keep-alive of the session's own), the user's future resolved (`hc`:
    every task with a `uid`), the poll re-armed (`hp`), the automatic task failed (`hf`: integrity, event scan, time
    synchronisation without a user, an `AutoTask` on any other error), or — only for an IIN2 rejection of an `AutoTask` —
    `autoResponse` (`hr`) -/
theorem taskOnError_rule (I : Acc → Prop) (a : Acc) (dest : Nat) (t : Task) (e : TaskErr) (h0 : I a)
    (hc : ∀ uid, I (complete a uid (.task e))) (hp : ∀ id, I (modAssoc a dest (·.completePoll id a.1.now)))
    (hf : ∀ id, I (modAssoc a dest (·.failAuto id a.1.now)))
    (hr : ∀ k c i1 i2, t = .nonRead (.auto k c) → e = .rejectedIin2 i1 i2 → I (modAssoc a dest (·.autoResponse k i1 a.1.now))) :
    I (taskOnError a dest t e) := by
  fun_cases taskOnError a dest t e
  all_goals first
    | exact h0
    | exact hc _
    | exact hp _
    | exact hf _
    | exact hr _ _ _ _ rfl rfl

/-- no task sends function code 0, CONFIRM: the premise of `Eff.request` -/
theorem function_ne_zero (t : NonReadTask) : t.function ≠ 0 := by
  unfold NonReadTask.function
  split <;> try simp
  split <;> simp

theorem foldl_keeps {α : Type} {I : Acc → Prop} (f : Acc → α → Acc) (hf : ∀ a x, I a → I (f a x)) (l : List α) :
    ∀ {a : Acc}, I a → I (l.foldl f a) := by
  induction l with
  | nil => exact id
  | cons x xs ih => exact fun h => ih (hf _ x h)

/-- the state changes the scheduler (`AssociationMap::next_task`) makes: a request is taken from the head of a queue,
    a time synchronisation that cannot start reports it, the association served moves to the end of the ring -/
structure SchedClosed (I : Acc → Prop) : Prop where
  pop : ∀ (b : Acc) d x t rest, b.1.getAssoc d = some x → x.queue = t :: rest → I b →
    I (modAssoc b d fun y => { y with queue := rest })
  noTime : ∀ b d uid, I b → I (tsReportError b d uid .tsNoSystemTime)
  rotate : ∀ b d, I b → I (rotate b d)
  fuel : ∀ b, I b → I (emit b .modelFuelExhausted)

theorem startTask_rule {I : Acc → Prop} (hI : SchedClosed I) (a : Acc) (dest : Nat) (t : Task) (h : I a) :
    I (startTask a dest t).1 := by
  unfold startTask
  split
  · split
    · exact h
    · exact hI.noTime a dest _ h
  · exact h

theorem startTask_some (a b : Acc) (dest : Nat) (t t' : Task) (h : startTask a dest t = (b, some t')) :
    b = a ∧ (t' = t ∨ ∃ uid st st', t = .nonRead (.timeSync uid st) ∧ t' = .nonRead (.timeSync uid st')) := by
  unfold startTask at h
  split at h
  · split at h
    · cases h; exact ⟨rfl, .inr ⟨_, _, _, rfl, rfl⟩⟩
    · cases h
  · cases h; exact ⟨rfl, .inl rfl⟩

structure SchedChoice (I : Acc → Prop) (P : Acc → Nat → Task → Prop) (N : Nat → Prop) : Prop where
  queue : ∀ b d x t rest, I b → b.1.getAssoc d = some x → x.queue = t :: rest →
    P (modAssoc b d fun y => { y with queue := rest }) d t
  auto : ∀ b d x t, I b → b.1.getAssoc d = some x → x.getNextTask b.1.now = .now t → P b d t
  start : ∀ b d t t', startTask b d t = (b, some t') → P b d t → P b d t'
  rotate : ∀ b d t, P b d t → P (rotate b d) d t
  later : ∀ b d x t, I b → b.1.getAssoc d = some x → x.getNextTask b.1.now = .notBefore t → N t
  min : ∀ x y, N x → N y → N (min x y)

/-! The scheduler, once: `I` survives it, the task it hands out satisfies `P`, the time it says to wait for `N`. -/
section
variable {I : Acc → Prop} {P : Acc → Nat → Task → Prop} {N : Nat → Prop} (hI : SchedClosed I) (hC : SchedChoice I P N)
include hI hC

theorem priorityTask_chosen (fuel : Nat) (a : Acc) (d : Nat) (h : I a) :
    I (priorityTask fuel a d).1 ∧ ∀ t, (priorityTask fuel a d).2 = some t → P (priorityTask fuel a d).1 d t := by
  induction fuel generalizing a with
  | zero => exact ⟨h, fun _ e => by cases e⟩
  | succ n ih =>
    unfold priorityTask
    cases hx : a.1.getAssoc d with
    | none => exact ⟨h, fun _ e => by cases e⟩
    | some x =>
      dsimp only
      cases hxq : x.queue with
      | nil => exact ⟨h, fun _ e => by cases e⟩
      | cons t rest =>
        dsimp only
        have hb := startTask_rule hI _ d t (hI.pop a d x t rest hx hxq h)
        have hp := hC.queue a d x t rest h hx hxq
        cases hst : startTask (modAssoc a d fun y => { y with queue := rest }) d t with
        | mk b ot =>
          rw [hst] at hb
          cases ot with
          | some t' =>
            cases (startTask_some _ _ _ _ _ hst).1
            exact ⟨hb, fun _ e => by cases e; exact hC.start _ d t t' hst hp⟩
          | none => exact ih b hb

theorem assocNextTask_chosen (fuel : Nat) (a : Acc) (d : Nat) (h : I a) :
    I (assocNextTask fuel a d).1 ∧ (∀ t, (assocNextTask fuel a d).2 = .now t → P (assocNextTask fuel a d).1 d t) ∧
      ∀ t, (assocNextTask fuel a d).2 = .notBefore t → N t := by
  induction fuel generalizing a with
  | zero => exact ⟨hI.fuel a h, (fun _ e => by cases e), fun _ e => by cases e⟩
  | succ n ih =>
    unfold assocNextTask
    cases hx : a.1.getAssoc d with
    | none => exact ⟨h, (fun _ e => by cases e), fun _ e => by cases e⟩
    | some x =>
      dsimp only
      cases hnx : x.getNextTask a.1.now with
      | none => exact ⟨h, (fun _ e => by cases e), fun _ e => by cases e⟩
      | notBefore t' => exact ⟨h, (fun _ e => by cases e), fun _ e => by cases e; exact hC.later a d x t' h hx hnx⟩
      | now tk =>
        dsimp only
        have hb := startTask_rule hI a d tk h
        cases hst : startTask a d tk with
        | mk b ot =>
          rw [hst] at hb
          cases ot with
          | some t' =>
            cases (startTask_some _ _ _ _ _ hst).1
            exact ⟨hb, fun _ e => by cases e; exact hC.start a d tk t' hst (hC.auto a d x tk h hx hnx), fun _ e => by cases e⟩
          | none => exact ih b hb

theorem phase1_chosen (ring : List Nat) (a : Acc) (h : I a) :
    I (phase1 ring a).1 ∧ ∀ x, (phase1 ring a).2 = some x → P (phase1 ring a).1 x.1 x.2 := by
  induction ring generalizing a with
  | nil => exact ⟨h, fun _ e => by cases e⟩
  | cons d rest ih =>
    unfold phase1
    cases hx : a.1.getAssoc d with
    | none => exact ih a h
    | some x =>
      dsimp only
      have hp := priorityTask_chosen hI hC (x.queue.length + 1) a d h
      cases hst : priorityTask (x.queue.length + 1) a d with
      | mk b ot =>
        rw [hst] at hp
        cases ot with
        | some t => exact ⟨hI.rotate b d hp.1, fun _ e => by cases e; exact hC.rotate b d t (hp.2 t rfl)⟩
        | none => exact ih b hp.1

theorem phase2_chosen (ring : List Nat) (e : Option Nat) (a : Acc) (he : ∀ x, e = some x → N x) (h : I a) :
    I (phase2 ring e a).1 ∧ (∀ x, (phase2 ring e a).2 = .now x → P (phase2 ring e a).1 x.1 x.2) ∧
      ∀ t, (phase2 ring e a).2 = .notBefore t → N t := by
  induction ring generalizing e a with
  | nil =>
    unfold phase2
    cases e with
    | none => exact ⟨h, (fun _ e => by cases e), fun _ e => by cases e⟩
    | some x => exact ⟨h, (fun _ e => by cases e), fun _ e => by cases e; exact he x rfl⟩
  | cons d rest ih =>
    unfold phase2
    have hp := assocNextTask_chosen hI hC 8 a d h
    cases hst : assocNextTask 8 a d with
    | mk b nx =>
      rw [hst] at hp
      cases nx with
      | now t =>
        exact ⟨hI.rotate b d hp.1, fun _ e => by cases e; exact hC.rotate b d t (hp.2.1 t rfl), fun _ e => by cases e⟩
      | notBefore t =>
        refine ih _ b (fun x hx => ?_) hp.1
        unfold earliest at hx
        cases e with
        | none => cases hx; exact hp.2.2 t rfl
        | some y => cases hx; exact hC.min y t (he y rfl) (hp.2.2 t rfl)
      | none => exact ih _ b he hp.1

theorem nextTask_chosen (a : Acc) (h : I a) :
    I (nextTask a).1 ∧ (∀ x, (nextTask a).2 = .now x → P (nextTask a).1 x.1 x.2) ∧
      ∀ t, (nextTask a).2 = .notBefore t → N t := by
  unfold nextTask
  have hp := phase1_chosen hI hC a.1.ring a h
  cases hst : phase1 a.1.ring a with
  | mk b ox =>
    rw [hst] at hp
    cases ox with
    | some x => exact ⟨hp.1, fun _ e => by cases e; exact hp.2 x rfl, fun _ e => by cases e⟩
    | none => exact phase2_chosen hI hC _ none b (fun _ e => by cases e) hp.1

end

theorem nextTask_rule {I : Acc → Prop} (hI : SchedClosed I) (a : Acc) (h : I a) : I (nextTask a).1 :=
  (nextTask_chosen (P := fun _ _ _ => True) (N := fun _ => True) hI
    ⟨fun _ _ _ _ _ _ _ _ => trivial, fun _ _ _ _ _ _ _ => trivial, fun _ _ _ _ _ _ => trivial, fun _ _ _ _ => trivial,
      fun _ _ _ _ _ _ _ => trivial, fun _ _ _ _ => trivial⟩ a h).1

theorem demand_demand (s : AutoState) : s.demand.demand = s.demand := by cases s <;> rfl

theorem demand_isIdle (s : AutoState) : s.demand.isIdle = false := by cases s <;> rfl

theorem idle_of_demand_idle (s : AutoState) (h : s.demand.isIdle = true) : s.isIdle = true := by cases s <;> cases h

/-- what looking at IIN bits can do to an association, at most -/
def IinFrame (x y : Assoc) : Prop :=
  ∃ au d ev, y = { x with auto := au, integrityDone := d, evAvail := ev } ∧ (d = true → x.integrityDone = true) ∧
    ∀ id, au.get id = x.auto.get id ∨ au.get id = (x.auto.get id).demand

theorem IinFrame.refl (x : Assoc) : IinFrame x x := ⟨x.auto, x.integrityDone, x.evAvail, rfl, id, fun _ => .inl rfl⟩

theorem IinFrame.trans {x y z : Assoc} : IinFrame x y → IinFrame y z → IinFrame x z := by
  rintro ⟨au, d, ev, rfl, hd, hi⟩ ⟨au', d', ev', rfl, hd', hi'⟩
  refine ⟨au', d', ev', rfl, fun h => hd (hd' h), fun id => ?_⟩
  rcases hi' id with h' | h' <;> rcases hi id with h | h <;> rw [h', h]
  · exact .inl rfl
  · exact .inr rfl
  · exact .inr rfl
  · exact .inr (demand_demand _)

theorem IinFrame.ite (c : Prop) [Decidable c] {x y : Assoc} (h : IinFrame x y) : IinFrame x (if c then y else x) := by
  split
  · exact h
  · exact .refl x

theorem iinFrame_onRestartObserved (x : Assoc) : IinFrame x x.onRestartObserved := by
  unfold Assoc.onRestartObserved
  split
  · exact ⟨_, false, x.evAvail, rfl, nofun, fun id => by cases id <;> first | exact .inl rfl | exact .inr rfl⟩
  · exact .refl x

theorem iinFrame_onNeedTime (x : Assoc) : IinFrame x x.onNeedTime :=
  ⟨_, x.integrityDone, x.evAvail, rfl, id, fun id => by cases id <;> first | exact .inl rfl | exact .inr rfl⟩

theorem iinFrame_onOverflow (x : Assoc) : IinFrame x x.onOverflow := by
  unfold Assoc.onOverflow
  split
  · exact ⟨_, x.integrityDone, x.evAvail, rfl, id, fun id => by cases id <;> first | exact .inl rfl | exact .inr rfl⟩
  · exact .refl x

theorem iinFrame_setEvents (x : Assoc) (ev : Nat) : IinFrame x (x.setEvents ev) := by
  unfold Assoc.setEvents
  dsimp only
  split
  · exact ⟨_, x.integrityDone, ev, rfl, id, fun id => by cases id <;> first | exact .inl rfl | exact .inr rfl⟩
  · exact ⟨x.auto, x.integrityDone, ev, rfl, id, fun _ => .inl rfl⟩

/-- the stages after the restart indication -/
theorem iinFrame_processIin_tail (x : Assoc) (i1 i2 : Nat) :
    IinFrame (if i1 &&& 0x80 ≠ 0 then x.onRestartObserved else x) (x.processIin i1 i2) :=
  ((IinFrame.ite _ (iinFrame_onNeedTime _)).trans (IinFrame.ite _ (iinFrame_onOverflow _))).trans (iinFrame_setEvents _ _)

/-- every fact about what `process_iin` leaves alone is read off this: `obtain ⟨au, d, ev, h, hd, hau⟩`, `rw [h]` -/
theorem iinFrame_processIin (x : Assoc) (i1 i2 : Nat) : IinFrame x (x.processIin i1 i2) :=
  (IinFrame.ite _ (iinFrame_onRestartObserved x)).trans (iinFrame_processIin_tail x i1 i2)

theorem processIin_keep (x : Assoc) (i1 i2 : Nat) :
    (x.processIin i1 i2).addr = x.addr ∧ (x.processIin i1 i2).lastUnsol = x.lastUnsol ∧
      (x.processIin i1 i2).cfg = x.cfg := by
  obtain ⟨_, _, _, h, _⟩ := iinFrame_processIin x i1 i2
  rw [h]
  exact ⟨rfl, rfl, rfl⟩

theorem onRestartObserved_keep (x : Assoc) :
    x.onRestartObserved.addr = x.addr ∧ x.onRestartObserved.lastUnsol = x.lastUnsol ∧ x.onRestartObserved.cfg = x.cfg := by
  obtain ⟨_, _, _, h, _⟩ := iinFrame_onRestartObserved x
  rw [h]
  exact ⟨rfl, rfl, rfl⟩

theorem onNeedTime_keep (x : Assoc) :
    x.onNeedTime.addr = x.addr ∧ x.onNeedTime.lastUnsol = x.lastUnsol ∧ x.onNeedTime.cfg = x.cfg := ⟨rfl, rfl, rfl⟩

theorem processIin_addr (x : Assoc) (i1 i2 : Nat) : (x.processIin i1 i2).addr = x.addr := (processIin_keep x i1 i2).1

theorem processIin_seq (x : Assoc) (i1 i2 : Nat) : (x.processIin i1 i2).seq = x.seq := by
  obtain ⟨_, _, _, h, _⟩ := iinFrame_processIin x i1 i2
  rw [h]

theorem processIin_lastUnsol (x : Assoc) (i1 i2 : Nat) : (x.processIin i1 i2).lastUnsol = x.lastUnsol :=
  (processIin_keep x i1 i2).2.1

theorem getAssoc_modAssoc (a : Acc) (addr : Nat) (f : Assoc → Assoc) (hf : ∀ y, (f y).addr = y.addr) :
    (modAssoc a addr f).1.getAssoc addr = (a.1.getAssoc addr).map f := by
  unfold modAssoc MState.getAssoc
  simp only
  induction a.1.assocs with
  | nil => rfl
  | cons y ys ih =>
    simp only [List.map_cons, List.find?_cons]
    by_cases hy : y.addr = addr
    · simp [hy, hf]
    · simp [hy, ih]

def startType : Task → Option TaskType
  | .read rt => some rt.taskType
  | .nonRead nt => some nt.taskType
  | .linkStatus _ => none

def _root_.Dnp3.Master.AutoId.taskType : AutoId → TaskType
  | .disable => .disableUnsolicited | .integrity => .startupIntegrity | .enable => .enableUnsolicited
  | .clearRestart => .clearRestartBit | .timeSync => .timeSync | .eventScan => .autoEventScan

/-- an output that no effect of its own stands for -/
def Plain : MOut → Prop
  | .tx .. | .taskStart .. | .deliverBegin .. | .deliverHdr .. | .deliverAbsTime .. | .deliverEnd .. => False
  | _ => True

def Book (y y' : Assoc) : Prop :=
  y'.addr = y.addr ∧ y'.cfg = y.cfg ∧ y'.nextLinkStatus = y.nextLinkStatus ∧ (∀ t ∈ y'.queue, t ∈ y.queue) ∧
  (y'.integrityDone = true → y.integrityDone = true) ∧ ∀ id, (y'.auto.get id).isIdle = true → (y.auto.get id).isIdle = true

/-- the report of the completion of the automatic task `id` of `d`: its success, or, for the three `AutoTask`s, its
    rejection by IIN2, which `on_task_error` takes for the response -/
def Completion (d : Nat) (id : AutoId) (o : MOut) : Prop :=
  (∃ fc seq, o = .taskSuccess d id.taskType fc seq) ∨ ∃ (k : AutoKind) (i1 i2 : Nat), id = k.id ∧ o = .taskFail d id.taskType (.rejectedIin2 i1 i2)

structure Cause where
  /-- the response received, and its source -/
  rx : Option (Nat × Resp) := none
  msg : Option Msg := none
  /-- the address link activity is credited to -/
  heard : Option Nat := none

inductive Eff (c : Cause) (a : Acc) : Acc → Prop
  | refl : Eff c a a
  | out {b} (o) : Eff c a b → Plain o → Eff c a (emit b o)
  /-- `fc ≠ 0`: the octets are then not of the shape `[k, 0]` that `confirmsOf` counts as a CONFIRM (`confirmsOf_tx_request`) -/
  | request {b} (d seq fc objs) : Eff c a b → fc ≠ 0 → Eff c a (emit b (.tx d (requestBytes seq fc objs)))
  /-- the chain up to the scheduler run and the chain through it (which follows, `Eff.nextTask`) are both premises, so that an
      induction has its hypothesis at both accumulators: `oinv_eff` applies `nextTask_spec` to the first -/
  | start {b} (d t tt fc seq) : Eff c a b → Eff c a (nextTask b).1 → (nextTask b).2 = .now (d, t) → startType t = some tt →
      Eff c a (emit (nextTask b).1 (.taskStart d tt fc seq))
  /-- a CONFIRM, only while a response is the cause.  `d` and `k` are free: that it goes to the sender with the sequence number
      received is not recorded here (`Props.C15.read_confirm_exactly_when` takes it from the equation of `onFragment`) -/
  | confirm {b} (src r d k) : Eff c a b → c.rx = some (src, r) → Eff c a (emit b (.tx d [k, 0]))
  /-- `extract_measurements` on the response received; for an unsolicited one the gate was open or it is empty -/
  | deliver {b} (src r who rt) : Eff c a b → c.rx = some (src, r) →
      (rt = .unsolicited → who = .assoc src ∧ ∃ x, b.1.getAssoc src = some x ∧ (x.isIntegrityComplete = true ∨ r.raw = [])) →
      Eff c a (deliver b who rt r (r.objects.getD []))
  /-- mode, ring, clock, counters -/
  | session {b} (s' : MState) : Eff c a b → s'.assocs = b.1.assocs → Eff c a (s', b.2)
  | book {b} (d f) : Eff c a b → (∀ y, Book y (f y)) → Eff c a (modAssoc b d f)
  | pop {b} (d x q) : Eff c a b → b.1.getAssoc d = some x → (∀ t ∈ q, t ∈ x.queue) →
      Eff c a (modAssoc b d fun y => { y with queue := q })
  /-- `Association::reset` -/
  | reset {b} (d) : Eff c a b →
      Eff c a (modAssoc b d fun y => { y with queue := [], auto := {}, integrityDone := false, lastUnsol := none })
  /-- an automatic task is marked idle and its completion reported -/
  | done {b} (d id f o) : Eff c a b →
      (f = (·.doneAuto id) ∨ id = .integrity ∧ f = fun y => { y.doneAuto .integrity with integrityDone := true }) →
      Completion d id o → Eff c a (emit (modAssoc b d f) o)
  | heard {b} (src) : Eff c a b → c.heard = some src → Eff c a (notifyLinkActivity b src)
  | push {b} (d t) : Eff c a b → c.msg = some (.queueTask d t) → Eff c a (modAssoc b d fun y => { y with queue := y.queue ++ [t] })
  | addAssoc {b} (d cfg) : Eff c a b → c.msg = some (.addAssoc d cfg) →
      Eff c a ({ b.1 with assocs := insertSorted (Assoc.new d cfg b.1.now) b.1.assocs, ring := b.1.ring ++ [d] }, b.2)
  | removeAssoc {b} (d) : Eff c a b → c.msg = some (.removeAssoc d) →
      Eff c a ({ b.1 with assocs := b.1.assocs.filter (·.addr ≠ d), ring := b.1.ring.filter (· ≠ d) }, b.2)

/-- the accumulator once the result of a finished application task has been reported: between the completion of a task
    and its report the state is ahead of the outputs -/
def _root_.Dnp3.Master.Step.reported : Step → Acc
  | .appDone a dest tt fc res => notifyResult a dest tt fc res
  | .waiting a => a
  | .linkDone a _ _ => a
  | .loop a => a
  | .stop a _ => a

theorem _root_.Dnp3.Master.Step.reported_eq (st : Step) : ∃ l, st.reported = (st.acc.1, st.acc.2 ++ l) ∧ ∀ o ∈ l, Plain o := by
  have nil : ∀ a : Acc, ∃ l, a = (a.1, a.2 ++ l) ∧ ∀ o ∈ l, Plain o := fun a => ⟨[], by rw [List.append_nil], fun _ h => nomatch h⟩
  have one : ∀ (a : Acc) o, Plain o → ∃ l, emit a o = (a.1, a.2 ++ l) ∧ ∀ o ∈ l, Plain o :=
    fun a o ho => ⟨[o], rfl, fun _ h => List.mem_singleton.1 h ▸ ho⟩
  cases st with
  | appDone a dest tt fc res =>
    show ∃ l, Master.notifyResult a dest tt fc res = (a.1, a.2 ++ l) ∧ _
    unfold Master.notifyResult
    split
    · cases res
      · exact one a _ trivial
      · exact one a _ trivial
    · exact nil a
  | waiting a => exact nil a
  | linkDone a _ _ => exact nil a
  | loop a => exact nil a
  | stop a _ => exact nil a

theorem _root_.Dnp3.Master.Step.reported_state (st : Step) : st.reported.1 = st.acc.1 := by
  obtain ⟨l, e, _⟩ := st.reported_eq
  rw [e]

theorem get_set (t : TaskStates) (id id' : AutoId) (s : AutoState) :
    (t.set id s).get id' = if id' = id then s else t.get id' := by
  cases id <;> cases id' <;> rfl

theorem failure_not_idle (s : AutoState) (cfg : ACfg) (now : Nat) : (s.failure cfg now).isIdle = false := by
  cases s <;> rfl

theorem Book.of_eq {y y' : Assoc} (h : y'.addr = y.addr ∧ y'.cfg = y.cfg ∧ y'.nextLinkStatus = y.nextLinkStatus ∧
    y'.queue = y.queue ∧ y'.integrityDone = y.integrityDone ∧ y'.auto = y.auto) : Book y y' := by
  obtain ⟨h1, h2, h3, h4, h5, h6⟩ := h
  rw [Book, h1, h2, h3, h4, h5, h6]
  exact ⟨rfl, rfl, rfl, fun _ h => h, id, fun _ => id⟩

theorem Book.processIin (y : Assoc) (i1 i2 : Nat) : Book y (y.processIin i1 i2) := by
  obtain ⟨au, _, _, h, hd, hau⟩ := iinFrame_processIin y i1 i2
  rw [h]
  refine ⟨rfl, rfl, rfl, fun _ h => h, hd, fun id hi => ?_⟩
  rcases hau id with e | e <;> rw [show ({ y with auto := au, .. } : Assoc).auto.get id = _ from e] at hi
  · exact hi
  · exact idle_of_demand_idle _ hi

theorem Book.failAuto (y : Assoc) (id : AutoId) (now : Nat) : Book y (y.failAuto id now) := by
  refine ⟨rfl, rfl, rfl, fun _ h => h, fun h => h, fun id' hi => ?_⟩
  rw [Assoc.failAuto, get_set] at hi
  split at hi
  · rw [failure_not_idle] at hi; cases hi
  · exact hi

theorem modAssoc_absent (a : Acc) (d : Nat) (f : Assoc → Assoc) (h : a.1.getAssoc d = none) : modAssoc a d f = a := by
  have hn : ∀ y ∈ a.1.assocs, ¬ y.addr = d := fun y hy => by simpa using List.find?_eq_none.1 h y hy
  have hm : a.1.assocs.map (fun y => if y.addr = d then f y else y) = a.1.assocs := by
    conv => rhs; rw [← List.map_id a.1.assocs]
    exact List.map_congr_left fun y hy => if_neg (hn y hy)
  unfold modAssoc
  rw [hm]

theorem autoKind_taskType (k : AutoKind) (cl : Nat) : (NonReadTask.auto k cl).taskType = k.id.taskType := by
  cases k <;> rfl

theorem handleUnsolicited_valid (ic : Bool) (l : Option UnsolKey) (r : Resp) (h : (handleUnsolicited ic l r).valid = true) :
    ic = true ∨ r.raw = [] := by
  unfold handleUnsolicited at h
  split at h
  · rename_i hc
    simpa using hc
  · cases h

/-- `handle_response`: what it leaves and what it returns, case by case: nothing changes (`h0`: a SELECT or a step of a time
    synchronisation that is followed by the next request), a user's future resolved (`hc`: command, restart, dead-band, the
    end of a user's time synchronisation), a time synchronisation reports an error (`ht`), the automatic time synchronisation
    completes (`hd`), an `AutoTask` is answered (`hr`); the last two return `ok none` -/
theorem handleResponse_pair_rule (I : Acc × Except TaskErr (Option NonReadTask) → Prop) (a : Acc) (dest : Nat) (t : NonReadTask)
    (r : Resp) (h0 : ∀ res, I (a, res)) (hc : ∀ uid o res, I (complete a uid o, res))
    (ht : ∀ uid o res, I (tsReportError a dest uid o, res))
    (hd : ∀ st, t = .timeSync none st → I (modAssoc a dest (·.doneAuto .timeSync), .ok none))
    (hr : ∀ k cl, t = .auto k cl → I (modAssoc a dest (·.autoResponse k r.iin1 a.1.now), .ok none)) :
    I (handleResponse a dest t r) := by
  fun_cases handleResponse a dest t r
  all_goals first
    | exact h0 _
    | exact hc _ _ _
    | exact ht _ _ _
    | exact hr _ _ rfl
    | (rename_i uid _ _ _ _; cases uid <;> first | exact hd _ rfl | exact hc _ _ _)

namespace Eff
variable {c : Cause} {a b : Acc}

variable (h : Eff c a b)
include h

theorem setMode (m : Mode) : Eff c a (setMode b m) := h.session _ rfl

theorem rotate (d : Nat) : Eff c a (rotate b d) := h.session _ rfl

theorem complete (uid : Nat) (o : Outcome) : Eff c a (complete b uid o) :=
  (h.session { b.1 with live := b.1.live - 1 } rfl).out _ trivial

theorem same (d : Nat) {f : Assoc → Assoc} (hf : ∀ y : Assoc, (f y).addr = y.addr ∧ (f y).cfg = y.cfg ∧
    (f y).nextLinkStatus = y.nextLinkStatus ∧ (f y).queue = y.queue ∧ (f y).integrityDone = y.integrityDone ∧
    (f y).auto = y.auto := by exact fun _ => ⟨rfl, rfl, rfl, rfl, rfl, rfl⟩) : Eff c a (modAssoc b d f) :=
  h.book d f fun y => .of_eq (hf y)

theorem confirmIf (src : Nat) (r : Resp) (hr : c.rx = some (src, r)) (con : Bool) (d k : Nat) :
    Eff c a (if con = true then emit b (.tx d [k, 0]) else b) := by
  split
  · exact h.confirm src r d k hr
  · exact h

theorem taskOnError (dest : Nat) (t : Task) (e : TaskErr)
    (he : (∀ i1 i2, e ≠ .rejectedIin2 i1 i2) ∨ ∀ k cl, t ≠ .nonRead (.auto k cl)) : Eff c a (taskOnError b dest t e) :=
  taskOnError_rule (Eff c a) b dest t e h (fun _ => h.complete _ _)
    (fun _ => h.same dest) (fun _ => h.book dest _ fun y => .failAuto y _ _)
    (fun k cl i1 i2 ht hr => (he.elim (fun he => he i1 i2 hr) (fun he => he k cl ht)).elim)

theorem tsReportError (dest : Nat) (uid : Option Nat) (o : Outcome) : Eff c a (tsReportError b dest uid o) := by
  unfold Master.tsReportError
  split
  · exact h.book dest _ fun y => .failAuto y _ _
  · exact h.complete _ _

omit h in
theorem sched : SchedClosed (Eff c a) where
  pop := fun _ d x _ rest hx hq h => h.pop d x rest hx fun t ht => by rw [hq]; exact List.mem_cons_of_mem _ ht
  noTime := fun _ d uid h => h.tsReportError d uid _
  rotate := fun _ d h => h.rotate d
  fuel := fun _ h => h.out _ trivial

theorem nextTask : Eff c a (nextTask b).1 := nextTask_rule sched b h

omit h in
theorem stopErr_ne (why : StopWhy) : ∀ i1 i2, why.err ≠ .rejectedIin2 i1 i2 := by
  cases why <;> exact nofun

theorem endSession (why : StopWhy) : Eff c a (endSession b why) := by
  unfold Master.endSession
  have hf : Eff c a (b.1.assocs.foldl (fun a x =>
      let a := x.queue.foldl (fun a t => Master.taskOnError a x.addr t why.err) a
      Master.modAssoc a x.addr fun y => { y with queue := [], auto := {}, integrityDone := false, lastUnsol := none }) b) :=
    foldl_keeps (I := Eff c a) _ (fun _ x hc => Eff.reset x.addr
      (foldl_keeps (I := Eff c a) _ (fun _ t hc => hc.taskOnError x.addr t why.err (.inl (stopErr_ne why))) _ hc)) _ h
  dsimp only at hf ⊢
  cases why
  · exact (hf.out _ (by trivial)).setMode _
  · exact (hf.out _ (by trivial)).setMode _
  · exact ((hf.out _ (by trivial)).out _ (by trivial)).setMode _

theorem sendRequest (dest func : Nat) (objs : List Nat) (hf : func ≠ 0) : Eff c a (sendRequest b dest func objs).1 := by
  unfold Master.sendRequest
  split
  · exact h
  · rename_i x _
    have h1 := h.same dest (f := fun y => { y with seq := seq4Next x.seq })
    dsimp only
    split
    · exact h1
    · exact h1.request _ _ _ _ hf

omit h in
theorem sendRequest_err (dest func : Nat) (objs : List Nat) (e : TaskErr)
    (h : (Master.sendRequest b dest func objs).2 = .error e) : ∀ i1 i2, e ≠ .rejectedIin2 i1 i2 := by
  unfold Master.sendRequest at h
  split at h
  · injection h with h; subst h; exact nofun
  · dsimp only at h
    split at h
    · injection h with h; subst h; exact nofun
    · cases h

theorem notifyResult (dest : Nat) (tt : TaskType) (fc : Nat) (res : Except TaskErr Nat) :
    Eff c a (notifyResult b dest tt fc res) := by
  unfold Master.notifyResult
  split
  · cases res <;> exact h.out _ (by trivial)
  · exact h

omit h in
theorem reported_of_acc (st : Step) (h : Eff c a st.acc) : Eff c a st.reported := by
  cases st with
  | appDone a dest tt fc res => exact h.notifyResult dest tt fc res
  | _ => exact h

omit h in
theorem notifyResult_mod (b : Acc) (dest : Nat) (f : Assoc → Assoc) (tt : TaskType) (fc : Nat) (res : Except TaskErr Nat)
    (hf : ∀ y, (f y).addr = y.addr) (hx : (b.1.getAssoc dest).isSome = true) :
    Master.notifyResult (modAssoc b dest f) dest tt fc res = emit (modAssoc b dest f) (match res with
      | .ok seq => .taskSuccess dest tt fc seq
      | .error e => .taskFail dest tt e) := by
  unfold Master.notifyResult
  rw [getAssoc_modAssoc b dest f hf, Option.isSome_map, if_pos hx]
  cases res <;> rfl

theorem autoAnswered (dest : Nat) (k : AutoKind) (cl i fc : Nat) (res : Except TaskErr Nat)
    (hres : ∀ e, res = .error e → ∃ i2, e = .rejectedIin2 i i2) :
    Eff c a (Master.notifyResult (modAssoc b dest (·.autoResponse k i b.1.now)) dest (NonReadTask.auto k cl).taskType fc res) := by
  cases hx : b.1.getAssoc dest with
  | none =>
    rw [modAssoc_absent b dest _ hx]
    unfold Master.notifyResult
    rw [hx]
    exact h
  | some x =>
    have hdone : Eff c a (Master.notifyResult (modAssoc b dest (·.doneAuto k.id)) dest (NonReadTask.auto k cl).taskType fc res) := by
      rw [notifyResult_mod b dest (·.doneAuto k.id) _ _ _ (fun _ => rfl) (by rw [hx]; rfl), autoKind_taskType]
      refine h.done dest k.id _ _ (.inl rfl) ?_
      cases res with
      | ok seq => exact .inl ⟨fc, seq, rfl⟩
      | error e =>
        obtain ⟨i2, rfl⟩ := hres e rfl
        exact .inr ⟨k, i, i2, rfl, rfl⟩
    cases k with
    | clearRestart =>
      show Eff c a (Master.notifyResult (modAssoc b dest fun y =>
        if i &&& 0x80 ≠ 0 then y.failAuto .clearRestart b.1.now else y.doneAuto .clearRestart) _ _ _ _)
      by_cases hb : i &&& 0x80 ≠ 0
      · simp only [if_pos hb]
        exact (h.book dest _ fun y => .failAuto y _ _).notifyResult ..
      · simp only [if_neg hb]
        exact hdone
    | enableUnsol => exact hdone
    | disableUnsol => exact hdone

theorem finishRead (dest : Nat) (t : ReadTask) (res : Except TaskErr Nat) :
    Eff c a (Step.appDone (Master.finishRead b dest t res) dest t.taskType 1 res).reported := by
  show Eff c a (Master.notifyResult (Master.finishRead b dest t res) dest t.taskType 1 res)
  have herr : ∀ e, Eff c a (Master.taskOnError b dest (.read t) e) := fun e => h.taskOnError dest _ e (.inr nofun)
  unfold Master.finishRead
  cases res with
  | error e => exact (herr e).notifyResult ..
  | ok seq =>
    dsimp only
    split
    · rename_i hsome
      cases t with
      | integrity cl =>
        rw [show readComplete b dest (.integrity cl) =
          modAssoc b dest fun y => { y.doneAuto .integrity with integrityDone := true } from rfl,
          notifyResult_mod b dest (fun y => { y.doneAuto .integrity with integrityDone := true }) _ _ _ (fun _ => rfl) hsome]
        exact h.done dest .integrity _ _ (.inr ⟨rfl, rfl⟩) (.inl ⟨1, seq, rfl⟩)
      | poll id cl => exact Eff.notifyResult (h.same dest) ..
      | eventScan cl =>
        rw [show readComplete b dest (.eventScan cl) = modAssoc b dest (·.doneAuto .eventScan) from rfl,
          notifyResult_mod b dest (·.doneAuto .eventScan) _ _ _ (fun _ => rfl) hsome]
        exact h.done dest .eventScan _ _ (.inl rfl) (.inl ⟨1, seq, rfl⟩)
      | single uid cl cu => exact (h.complete _ _).notifyResult ..
    · exact (herr _).notifyResult ..

theorem failNonRead (dest : Nat) (t : NonReadTask) (e : TaskErr) (fc0 : Nat) :
    Eff c a (Step.appDone (Master.taskOnError b dest (.nonRead t) e) dest t.taskType fc0 (.error e)).reported :=
  taskOnError_rule (fun b' => Eff c a (Master.notifyResult b' dest t.taskType fc0 (.error e))) b dest (.nonRead t) e
    (h.notifyResult ..) (fun _ => (h.complete _ _).notifyResult ..)
    (fun _ => Eff.notifyResult (h.same dest) ..)
    (fun _ => (h.book dest _ fun y => .failAuto y _ _).notifyResult ..)
    (by
      rintro k cl i1 i2 ht rfl
      cases ht
      exact h.autoAnswered dest k cl i1 fc0 _ (fun e he => by cases he; exact ⟨i2, rfl⟩))

theorem runSingle (dest : Nat) (t : NonReadTask) (tt : TaskType) (fc0 : Nat) : Eff c a (runSingle b dest t tt fc0).acc := by
  unfold Master.runSingle
  have hs := h.sendRequest dest t.function t.objects (function_ne_zero t)
  have he := sendRequest_err (b := b) dest t.function t.objects
  generalize Master.sendRequest b dest t.function t.objects = p at hs he ⊢
  obtain ⟨b', res⟩ := p
  cases res with
  | error e => exact hs.taskOnError dest _ e (.inl (he e rfl))
  | ok seq =>
    dsimp only
    split
    · exact hs
    · exact hs.setMode _

theorem afterResponse (dest : Nat) (t : NonReadTask) (r : Resp) (seq fc0 : Nat) (hx : (b.1.getAssoc dest).isSome = true) :
    Eff c a (match Master.handleResponse b dest t r with
      | (a, .error e) => Step.appDone a dest t.taskType fc0 (.error e)
      | (a, .ok none) => .appDone a dest t.taskType fc0 (.ok seq)
      | (a, .ok (some next)) => Master.runSingle a dest next t.taskType fc0).reported := by
  have key := handleResponse_pair_rule (fun p => Eff c a p.1 ∨
      (p.2 = .ok none ∧ Eff c a (Master.notifyResult p.1 dest t.taskType fc0 (.ok seq)))) b dest t r
    (fun _ => .inl h) (fun uid o _ => .inl (h.complete uid o)) (fun uid o _ => .inl (h.tsReportError dest uid o))
    (by
      rintro st rfl
      refine .inr ⟨rfl, ?_⟩
      show Eff c a (Master.notifyResult (modAssoc b dest (·.doneAuto .timeSync)) dest .timeSync fc0 (.ok seq))
      rw [notifyResult_mod b dest (·.doneAuto .timeSync) _ _ _ (fun _ => rfl) hx]
      exact h.done dest .timeSync _ _ (.inl rfl) (.inl ⟨fc0, seq, rfl⟩))
    (by
      rintro k cl rfl
      exact .inr ⟨rfl, h.autoAnswered dest k cl r.iin1 fc0 (.ok seq) nofun⟩)
  generalize Master.handleResponse b dest t r = q at key ⊢
  obtain ⟨d, res⟩ := q
  replace key : Eff c a d ∨ (res = .ok none ∧ Eff c a (Master.notifyResult d dest t.taskType fc0 (.ok seq))) := key
  rcases key with hd | ⟨rfl, hd⟩
  · cases res with
    | error e => exact hd.notifyResult dest t.taskType fc0 (.error e)
    | ok o =>
      cases o with
      | none => exact hd.notifyResult dest t.taskType fc0 (.ok seq)
      | some next => exact reported_of_acc _ (hd.runSingle dest next _ fc0)
  · exact hd

/-- a task begins; its `taskStart` is the caller's business -/
theorem beginTask (dest : Nat) (t : Task)
    (hs : ∀ tt fc seq, startType t = some tt → Eff c a (emit b (.taskStart dest tt fc seq))) : Eff c a (beginTask b dest t).acc := by
  unfold Master.beginTask
  cases hx : b.1.getAssoc dest with
  | none => exact h
  | some x =>
    cases t with
    | linkStatus uid => exact (h.out _ (by trivial)).setMode _
    | read rt =>
      dsimp only
      have hs := (hs rt.taskType 1 x.seq rfl).sendRequest dest 1 (classHeaders rt.classes) (by decide)
      generalize Master.sendRequest (Master.emit b (.taskStart dest rt.taskType 1 x.seq)) dest 1 (classHeaders rt.classes) = p at hs ⊢
      obtain ⟨b', res⟩ := p
      cases res with
      | error e => exact hs.taskOnError dest _ e (.inr nofun)
      | ok seq => exact hs.setMode _
    | nonRead nt =>
      dsimp only
      exact (hs nt.taskType nt.function x.seq rfl).runSingle dest nt _ _

theorem onLinkMsg (src : Nat) (hh : c.heard = some src) : Eff c a (onLinkMsg b src).reported := by
  unfold Master.onLinkMsg
  split
  · exact h
  · exact h
  · exact h.heard src hh
  · exact h.heard src hh

/-- `handle_unsolicited` -/
theorem doUnsolicited (src : Nat) (r : Resp) (hr : c.rx = some (src, r)) : Eff c a (doUnsolicited b src r) := by
  unfold Master.doUnsolicited
  cases b.1.getAssoc src with
  | none => exact h
  | some x0 =>
    dsimp only
    have h1 := h.book src _ fun y => Book.processIin y r.iin1 r.iin2
    generalize Master.modAssoc b src (fun y => y.processIin r.iin1 r.iin2) = a1 at h1 ⊢
    cases hx : a1.1.getAssoc src with
    | none => exact h1
    | some x =>
      dsimp only
      have hv := handleUnsolicited_valid x.isIntegrityComplete x.lastUnsol r
      generalize handleUnsolicited x.isIntegrityComplete x.lastUnsol r = d at hv ⊢
      obtain ⟨v, dup, dl, cf⟩ := d
      cases v with
      | false => exact h1.confirmIf src r hr cf _ _
      | true =>
        simp only [if_true, Bool.not_true, Bool.false_eq_true, if_false]
        apply Eff.confirmIf _ src r hr
        have h2 := h1.same src (f := fun y => { y with lastUnsol := some r.key })
        cases dup with
        | true => exact h2.out _ (by trivial)
        | false =>
          simp only [Bool.false_eq_true, if_false]
          refine Eff.out (.unsol src false r.ctrl.seq) ?_ (by trivial)
          cases ho : r.objects with
          | none => exact h2
          | some hs =>
            have h3 := h2.deliver src r (.assoc src) .unsolicited hr fun _ =>
              ⟨rfl, { x with lastUnsol := some r.key }, by
                rw [getAssoc_modAssoc a1 src (fun y => { y with lastUnsol := some r.key }) (fun _ => rfl), hx]; rfl, hv rfl⟩
            rw [ho] at h3
            exact h3

theorem unsolOr (src : Nat) (r : Resp) (hr : c.rx = some (src, r)) :
    Eff c a (if r.unsol = true then Master.doUnsolicited b src r else b) := by
  split
  · exact h.doUnsolicited src r hr
  · exact h

omit h in
theorem rtOf_ne_unsolicited (t : ReadTask) : rtOf t ≠ .unsolicited := by
  cases t <;> exact nofun

theorem onFragment_unparsed (src : Nat) {frag : List Nat} (hp : parseResponse frag = none) :
    Eff c a (Master.onFragment b src frag).reported := by
  unfold Master.onFragment
  split
  · exact h
  · exact h
  · simp only [hp]; exact h
  · simp only [hp]; exact h
  · simp only [hp]; exact h.finishRead _ _ _
  · simp only [hp]; exact h.failNonRead _ _ _ _

omit h in
/-- the fragment handler on a parsed response.  That the link activity was credited is a premise (`hn`, with `hoff` for the two
    modes that return `b` uncredited) and not `c.heard = some src`: `keepalive_credit_to_source` starts the chain AFTER the
    crediting (`a := notifyLinkActivity (s, []) src`, `hn := .refl`) under a cause without `heard`, and `Eff.kaView` then says
    that whatever else the handler does leaves the deadlines as the crediting set them -/
theorem onFragment_heard (src : Nat) {frag : List Nat} {r : Resp} (hp : parseResponse frag = some r) (hr : c.rx = some (src, r))
    (hoff : b.1.mode = .offline ∨ b.1.mode = .exited → Eff c a b) (hn : Eff c a (notifyLinkActivity b src)) :
    Eff c a (Master.onFragment b src frag).reported := by
  unfold Master.onFragment
  split
  · exact hoff (.inl ‹_›)
  · exact hoff (.inr ‹_›)
  · simp only [hp]; exact hn.unsolOr src r hr
  · simp only [hp]; exact hn.unsolOr src r hr
  · rename_i dest t seq isFirst dl hmode
    simp only [hp]
    generalize Master.notifyLinkActivity b src = b0 at hn ⊢
    split
    · exact hn.doUnsolicited src r hr
    · exact hn
    · apply Eff.finishRead
      split
      · exact hn.book dest _ fun y => Book.processIin y _ _
      · exact hn
    · rename_i confirm final _
      have h2 := (hn.book dest _ fun y => Book.processIin y r.iin1 r.iin2).deliver src r (whoOf dest t) (rtOf t) hr
        fun e => absurd e (rtOf_ne_unsolicited t)
      generalize Master.deliver _ (whoOf dest t) (rtOf t) r (r.objects.getD []) = b1 at h2 ⊢
      have h3 := h2.confirmIf src r hr confirm dest (0xC0 + seq)
      generalize (if confirm = true then Master.emit b1 (.tx dest [0xC0 + seq, 0]) else b1) = b2 at h3 ⊢
      split
      · exact h3.finishRead dest t _
      · split
        · exact h3.finishRead dest t _
        · exact (h3.same dest).setMode _
  · rename_i dest t seq fc0 dl hmode
    simp only [hp]
    generalize Master.notifyLinkActivity b src = b0 at hn ⊢
    split
    · exact hn.doUnsolicited src r hr
    · exact hn
    · exact hn.failNonRead dest t _ fc0
    · have h1 := hn.confirmIf src r hr r.ctrl.con dest (0xC0 + seq)
      generalize (if r.ctrl.con = true then Master.emit b0 (.tx dest [0xC0 + seq, 0]) else b0) = b1 at h1 ⊢
      cases hx : b1.1.getAssoc dest with
      | none => exact h1.failNonRead dest t _ fc0
      | some x =>
        dsimp only
        refine (h1.book dest _ fun y => Book.processIin y r.iin1 r.iin2).afterResponse dest t r seq fc0 ?_
        rw [getAssoc_modAssoc b1 dest _ (fun y => processIin_addr y _ _), hx]
        rfl

theorem onFragment (src : Nat) (frag : List Nat) (hrx : c.rx = (parseResponse frag).map (src, ·)) (hh : c.heard = some src) :
    Eff c a (Master.onFragment b src frag).reported := by
  cases hp : parseResponse frag with
  | none => exact h.onFragment_unparsed src hp
  | some r => exact onFragment_heard src hp (by rw [hrx, hp]; rfl) (fun _ => h) (h.heard src hh)

theorem onTime : Eff c a (onTime b).reported := by
  unfold Master.onTime
  dsimp only
  split
  · split <;> exact h
  · split
    · exact h.finishRead _ _ _
    · exact h
  · split
    · exact h.failNonRead _ _ _ _
    · exact h
  · split <;> exact h
  · exact h

theorem onEof : Eff c a (onEof b).reported := by
  unfold Master.onEof
  split
  · exact h.finishRead _ _ _
  · exact h.failNonRead _ _ _ _
  · exact h
  · exact h
  · exact h

theorem processMessage (conn : Bool) (m : Msg) (hm : c.msg = some m) : Eff c a (processMessage b conn m).1 := by
  unfold Master.processMessage
  cases m with
  | enable on => exact h.session _ rfl
  | addAssoc d cfg =>
    dsimp only
    split
    · exact h.out _ (by trivial)
    · exact (h.addAssoc d cfg hm).out (.line "assoc ok") (by trivial)
  | removeAssoc d =>
    dsimp only
    have h1 : Eff c a (match b.1.getAssoc d with
        | some x => x.queue.foldl (fun a t => Master.taskOnError a d t TaskErr.shutdown) b
        | none => b) := by
      split
      · exact foldl_keeps (I := Eff c a) _ (fun _ t hc => hc.taskOnError d t .shutdown (.inl nofun)) _ h
      · exact h
    exact h1.removeAssoc d hm
  | queueTask d t =>
    dsimp only
    split
    · exact h.taskOnError d t _ (.inl nofun)
    · split
      · exact h.taskOnError d t _ (.inl nofun)
      · split
        · exact h.push d t hm
        · exact h.taskOnError d t _ (.inl nofun)
  | addPoll d period classes =>
    dsimp only
    split
    · exact h.out _ (by trivial)
    · exact (h.same d).out _ (by trivial)
  | removePoll d id => exact h.same d
  | demand d id => exact h.same d

/-- `stopErr` of `onMessage` -/
theorem stopErr (why : StopWhy) :
    Eff c a (match b.1.mode with
      | .waitRead dest t _ _ _ => Step.appDone (Master.finishRead b dest t (.error why.err)) dest t.taskType 1 (.error why.err)
      | .waitNonRead dest t _ fc0 _ => .appDone (Master.taskOnError b dest (.nonRead t) why.err) dest t.taskType fc0 (.error why.err)
      | .waitLink _ uid _ => .linkDone b uid (some why.err)
      | .idle _ => .stop b why
      | .offline => if why = StopWhy.shutdown then .waiting (Master.setMode (Master.emit b .taskExit) .exited) else .waiting b
      | .exited => .waiting b).reported := by
  split
  · exact h.finishRead _ _ _
  · exact h.failNonRead _ _ _ _
  · exact h
  · exact h
  · split
    · exact (h.out _ (by trivial)).setMode _
    · exact h
  · exact h

theorem onMessage (m : Option Msg) (hm : c.msg = m) : Eff c a (onMessage b m).reported := by
  unfold Master.onMessage
  dsimp only
  cases m with
  | none => exact h.stopErr .shutdown
  | some m =>
    dsimp only
    split
    · exact h
    · exact h.processMessage false m hm
    · have hp := h.processMessage true m hm
      generalize Master.processMessage b true m = p at hp ⊢
      obtain ⟨b', stop⟩ := p
      cases stop with
      | true => exact hp.stopErr .disabled
      | false =>
        dsimp only
        split
        · exact hp
        · split
          · exact hp
          · exact hp
        · exact hp

omit h in
theorem resolve_reported (n : Nat) (b : Acc) (dest : Nat) (tt : TaskType) (fc : Nat) (res : Except TaskErr Nat)
    (hloop : ∀ b', Eff c a b' → Eff c a (Master.resolve n (.loop b'))) (h : Eff c a (Master.notifyResult b dest tt fc res)) :
    Eff c a (Master.resolve (n + 1) (.appDone b dest tt fc res)) := by
  unfold Master.resolve
  dsimp only
  generalize Master.notifyResult b dest tt fc res = b' at h ⊢
  cases res with
  | ok v => exact hloop b' h
  | error e =>
    dsimp only
    split
    · exact h.endSession _
    · exact hloop b' h

omit h in
theorem resolve_acc (fuel : Nat) (st : Step) (h : Eff c a st.acc) : Eff c a (Master.resolve fuel st) := by
  induction fuel generalizing st with
  | zero =>
    unfold Master.resolve
    cases st <;> exact h.out _ (by trivial)
  | succ n ih =>
    unfold Master.resolve
    cases st with
    | waiting b => exact h
    | stop b why => exact h.endSession why
    | appDone b dest tt fc res =>
      exact resolve_reported n b dest tt fc res (fun b' hb => ih (.loop b') hb) (h.notifyResult dest tt fc res)
    | linkDone b uid res =>
      replace h : Eff c a b := h
      cases uid with
      | none =>
        dsimp only
        split
        · exact h.endSession _
        · exact ih (.loop b) h
      | some u =>
        dsimp only
        split
        · exact (h.complete u _).endSession _
        · exact ih (.loop _) (h.complete u _)
    | loop b =>
      replace h : Eff c a b := h
      dsimp only
      have hn := h.nextTask
      have hst := fun d t tt fc seq => h.start d t tt fc seq hn
      generalize Master.nextTask b = p at hn hst ⊢
      obtain ⟨b', nx⟩ := p
      cases nx with
      | none => exact hn.setMode _
      | notBefore t =>
        dsimp only
        split
        · exact ih _ (hn.setMode _)
        · exact hn.setMode _
      | now x =>
        obtain ⟨dest, task⟩ := x
        exact ih _ (hn.beginTask dest task fun tt fc seq htt => hst dest task tt fc seq rfl htt)

omit h in
theorem resolve (fuel : Nat) (st : Step) (h : Eff c a st.reported) : Eff c a (Master.resolve (fuel + 1) st) := by
  cases st with
  | appDone b dest tt fc res => exact resolve_reported fuel b dest tt fc res (fun b' hb => resolve_acc fuel (.loop b') hb) h
  | waiting b => exact resolve_acc _ _ h
  | linkDone b uid res => exact resolve_acc _ _ h
  | loop b => exact resolve_acc _ _ h
  | stop b why => exact resolve_acc _ _ h

theorem checkShutdown : Eff c a (checkShutdown b) := by
  unfold Master.checkShutdown
  split
  · split
    · exact h
    · exact resolve 63 _ (h.stopErr .shutdown) -- the model runs `resolve loopFuel`, and `loopFuel = 63 + 1`
  · exact h

end Eff

def causeOf : MInput → Cause
  | .rx src _ data => { rx := (parseResponse data).map (src, ·), heard := some src }
  | .rxLink src _ _ => { heard := some src }
  | .msg m => { msg := some m }
  | .user d t => { msg := some (.queueTask d t) }
  | _ => {}

theorem causeOf_rx {i : MInput} {src : Nat} {r : Resp} (h : (causeOf i).rx = some (src, r)) :
    ∃ dst data, i = .rx src dst data ∧ parseResponse data = some r := by
  cases i <;> try cases h
  rename_i s dst data
  cases hp : parseResponse data with
  | none => simp [causeOf, hp] at h
  | some r' =>
    simp only [causeOf, hp, Option.map_some, Option.some.injEq, Prod.mk.injEq] at h
    obtain ⟨rfl, rfl⟩ := h
    exact ⟨dst, data, rfl, hp⟩

theorem causeOf_msg {i : MInput} {m : Msg} (h : (causeOf i).msg = some m) : i = .msg m ∨ ∃ d t, m = .queueTask d t ∧ i = .user d t := by
  cases i <;> cases h
  · exact .inl rfl
  · exact .inr ⟨_, _, rfl, rfl⟩

theorem step_eff (s : MState) (i : MInput) : Eff (causeOf i) (s, []) (Master.step s i) := by
  have run : ∀ {c} (st : Step), Eff c (s, []) st.reported → Eff c (s, []) (Master.checkShutdown (Master.resolve loopFuel st)) :=
    fun st hst => (Eff.resolve 63 st hst).checkShutdown -- `loopFuel = 63 + 1`
  have h0 : ∀ {c}, Eff c (s, []) (s, []) := .refl
  unfold Master.step
  cases i with
  | clock t => exact h0.session _ rfl
  | tick ms => exact run _ (h0.session { s with now := s.now + ms } rfl).onTime
  | rx src dst data =>
    dsimp only
    split
    · exact h0
    · exact run _ (h0.onFragment src data rfl rfl)
  | rxLink src dst ctrl =>
    dsimp only
    split
    · exact h0
    · split
      · exact h0
      · exact h0
      · split
        · exact run _ (h0.onLinkMsg src rfl)
        · split
          · exact run _ ((h0.out _ (by trivial)).onLinkMsg src rfl)
          · exact h0
  | msg m => exact run _ (h0.onMessage (some m) rfl)
  | user d t => exact run _ ((h0.session { s with live := s.live + 1 } rfl).onMessage (some (.queueTask d t)) rfl)
  | eof => exact run _ h0.onEof
  | connect =>
    dsimp only
    split
    · split
      · exact run (.loop (s, [])) h0
      · exact h0
    · exact h0
  | dropHandles => exact (h0.session { s with shutdownReq := true } rfl).checkShutdown

end Dnp3.Proofs.Master
