import Dnp3.Model.OutstationTrace
import Dnp3.Proofs.OutstationSkel
/-!
# C04 — OPERATE actuates only after its own matching, fresh, directly preceding SELECT

What each handler and session primitive leaves alone is taken from `Dnp3.Proofs.OutstationFrame` (bridges
`HFrame.of_eff`, `Frame.of_eff`); the control flow is `Skel.Step` (`Pass.of_step`: every handler is a `Pass`), the step
prologue `Skel.init` (`step_init`).
Every `Db.*` function is treated as opaque: nothing here unfolds them.
-/
namespace Dnp3.Proofs.C04
open Dnp3
open Dnp3.Proofs.FreezeAtTime

/-- **C04.1**: stated for the property, and described, as `Props.C04.match_operate_iff` -/
theorem match_operate_iff (sel : Sel) (timeout now seq frameId : Nat) (objs : List Nat) :
    matchOperate sel timeout now seq frameId objs = none ↔
      (seq = seq4Next sel.seq ∧ frameId = (sel.frameId + 1) % 2 ^ 32 ∧ objs = sel.objects ∧
        now - sel.time ≤ timeout) := by
  unfold matchOperate
  constructor
  · intro h
    split at h <;> try contradiction
    split at h <;> try contradiction
    split at h <;> try contradiction
    split at h <;> try contradiction
    rename_i h1 h2 h3 h4
    refine ⟨?_, ?_, ?_, ?_⟩
    · exact (Classical.not_not.mp h1).symm
    · exact (Classical.not_not.mp h2).symm
    · exact (Classical.not_not.mp h3).symm
    · omega
  · rintro ⟨h1, h2, h3, h4⟩
    subst h1 h2 h3
    simp
    omega

/-- stated for the property, and described, as `Props.C04.match_operate_status` -/
theorem match_operate_status (sel : Sel) (timeout now seq frameId : Nat) (objs : List Nat) (st : Nat)
    (h : matchOperate sel timeout now seq frameId objs = some st) :
    (st = 1 ∧ seq = seq4Next sel.seq ∧ frameId = (sel.frameId + 1) % 2 ^ 32 ∧ objs = sel.objects ∧
        timeout < now - sel.time) ∨
    (st = 2 ∧ ¬ (seq = seq4Next sel.seq ∧ frameId = (sel.frameId + 1) % 2 ^ 32 ∧ objs = sel.objects)) := by
  have e32 : (2:Nat) ^ 32 = 4294967296 := by decide
  rw [e32]
  unfold matchOperate at h
  split at h
  · right; refine ⟨by simpa using h.symm, fun hh => ?_⟩; rename_i h1; exact h1 hh.1.symm
  · split at h
    · right; refine ⟨by simpa using h.symm, fun hh => ?_⟩; rename_i h1; exact h1 hh.2.1.symm
    · split at h
      · right; refine ⟨by simpa using h.symm, fun hh => ?_⟩; rename_i h1; exact h1 hh.2.2.symm
      · split at h
        · rename_i h1 h2 h3 h4
          left
          exact ⟨by simpa using h.symm, (Classical.not_not.mp h1).symm, (Classical.not_not.mp h2).symm,
            (Classical.not_not.mp h3).symm, by omega⟩
        · contradiction

theorem match_operate_status_ne_zero (sel : Sel) (timeout now seq frameId : Nat) (objs : List Nat) (st : Nat)
    (h : matchOperate sel timeout now seq frameId objs = some st) : st = 1 ∨ st = 2 := by
  rcases match_operate_status _ _ _ _ _ _ _ h with h | h <;> simp [h.1]

example : matchOperate ⟨3, 7, 100, [12, 1]⟩ 5000 5100 4 8 [12, 1] = none := by decide
example : matchOperate ⟨3, 7, 100, [12, 1]⟩ 5000 5101 4 8 [12, 1] = some 1 := by decide
example : matchOperate ⟨3, 7, 100, [12, 1]⟩ 5000 200 4 9 [12, 1] = some 2 := by decide

/-- the "executing" outputs: callbacks that run a request against the application / control handler -/
def isExec : OOut → Bool
  | .cb (.control ..) => true
  | .cb (.writeTime _) => true
  | .cb .clearRestartIin => true
  | .cb .coldRestart => true
  | .cb .warmRestart => true
  | .cb (.freezeAll _) => true
  | .cb (.freezeRange ..) => true
  | .cb .beginFragment => true
  | .cb .endFragment => true
  | _ => false

def accOf : StepRes → Acc
  | .blocked a => a
  | .panicked a => a

theorem finishStep_eq (r : StepRes) : finishStep r = accOf r := by cases r <;> rfl

/-- what duplicate detection (`classify`) reads of the last recorded request: its sequence number and
    fragment octets.  (The stored `response` is replaced by the continuation fragment when a
    multi-fragment response series advances during the solicited confirm wait.) -/
def lrKey (o : Option LastReq) : Option (Nat × List Nat) := o.map (fun lr => (lr.seq, lr.frag))

@[simp] theorem lrKey_map_response (o : Option LastReq) (r : Option Resp) :
    lrKey (o.map (fun lr => { lr with response := r })) = lrKey o := by
  cases o <;> rfl

theorem lrKey_dup {x y : Option LastReq} (h : lrKey x = lrKey y) (q : Nat) (d : List Nat) :
    (∃ l, x = some l ∧ l.seq = q ∧ l.frag = d) ↔ (∃ l, y = some l ∧ l.seq = q ∧ l.frag = d) := by
  have key : ∀ z : Option LastReq, (∃ l, z = some l ∧ l.seq = q ∧ l.frag = d) ↔ lrKey z = some (q, d) := by
    intro z
    cases z <;> simp [lrKey]
  rw [key, key, h]

theorem nil_outs (P : OOut → Prop) (l : List OOut) : ∃ l', l = l ++ l' ∧ ∀ o ∈ l', P o :=
  ⟨[], (List.append_nil l).symm, fun _ h => nomatch h⟩

theorem trans_outs {P : OOut → Prop} {x y z : List OOut} (h1 : ∃ l, y = x ++ l ∧ ∀ o ∈ l, P o)
    (h2 : ∃ l, z = y ++ l ∧ ∀ o ∈ l, P o) : ∃ l, z = x ++ l ∧ ∀ o ∈ l, P o := by
  obtain ⟨l1, e1, p1⟩ := h1
  obtain ⟨l2, e2, p2⟩ := h2
  exact ⟨l1 ++ l2, by rw [e2, e1, List.append_assoc], fun o ho => (List.mem_append.mp ho).elim (p1 o) (p2 o)⟩

/-- `a'` extends `a` by infrastructure work only: the fields the control logic depends on are
    untouched, the retained fragment is kept or consumed, the sequence number and octets of `lastReq`
    (`lrKey`) are only rewritten by a deferred read, and every new output is benign (not an executing
    callback).  Hence the premise `deferred = none` of `keep`, which comes up again in `step_select_change`; along a
    run it holds in the idle state and in the solicited confirm wait (`C05T.DefInv.calm`, `defInv_step`, in
    `Proofs/OutstationC05Trace.lean`). -/
structure Frame (a a' : Acc) : Prop where
  select : a'.1.select = a.1.select
  now : a'.1.now = a.1.now
  cfg : a'.1.cfg = a.1.cfg
  frameId : a'.1.frameId = a.1.frameId
  pending : a'.1.pending = a.1.pending ∨ a'.1.pending = none
  keep : a.1.deferred = none → lrKey a'.1.lastReq = lrKey a.1.lastReq ∧ a'.1.deferred = none
  outs : ∃ l, a'.2 = a.2 ++ l ∧ ∀ o ∈ l, isExec o = false

theorem Frame.refl (a : Acc) : Frame a a :=
  ⟨rfl, rfl, rfl, rfl, .inl rfl, fun h => ⟨rfl, h⟩, nil_outs _ _⟩

theorem Frame.trans {a b c : Acc} (h1 : Frame a b) (h2 : Frame b c) : Frame a c := by
  refine ⟨h2.select.trans h1.select, h2.now.trans h1.now, h2.cfg.trans h1.cfg,
    h2.frameId.trans h1.frameId, ?_, ?_, ?_⟩
  · rcases h2.pending with h | h
    · rcases h1.pending with h' | h'
      · exact .inl (h.trans h')
      · exact .inr (h.trans h')
    · exact .inr h
  · intro hd
    have k1 := h1.keep hd
    have k2 := h2.keep k1.2
    exact ⟨k2.1.trans k1.1, k2.2⟩
  · exact trans_outs h1.outs h2.outs

theorem Frame.state {a : Acc} {s' : OState} (h1 : s'.select = a.1.select) (h2 : s'.now = a.1.now)
    (h3 : s'.cfg = a.1.cfg) (h4 : s'.frameId = a.1.frameId)
    (h5 : s'.pending = a.1.pending ∨ s'.pending = none)
    (h6 : a.1.deferred = none → lrKey s'.lastReq = lrKey a.1.lastReq ∧ s'.deferred = none) : Frame a (s', a.2) :=
  ⟨h1, h2, h3, h4, h5, h6, nil_outs _ _⟩

theorem Frame.emit (a : Acc) (o : OOut) (h : isExec o = false) : Frame a (emit a o) :=
  ⟨rfl, rfl, rfl, rfl, .inl rfl, fun hd => ⟨rfl, hd⟩, [o], rfl, by simpa using h⟩

theorem Frame.emitCb (a : Acc) (c : Cb) (h : isExec (.cb c) = false) : Frame a (emitCb a c) :=
  Frame.emit a _ h

/-- at every use `h` holds by `rfl` -/
theorem Frame.upd {a : Acc} {s' : OState}
    (h : (s'.select, s'.now, s'.cfg, s'.frameId, s'.lastReq, s'.deferred) =
      (a.1.select, a.1.now, a.1.cfg, a.1.frameId, a.1.lastReq, a.1.deferred))
    (hp : s'.pending = a.1.pending ∨ s'.pending = none) : Frame a (s', a.2) := by
  simp only [Prod.mk.injEq] at h
  obtain ⟨h1, h2, h3, h4, h5, h6⟩ := h
  exact Frame.state h1 h2 h3 h4 hp (fun hd => ⟨by rw [h5], h6.trans hd⟩)

theorem Frame.updEmit {a : Acc} {s' : OState} {o : OOut}
    (h : (s'.select, s'.now, s'.cfg, s'.frameId, s'.lastReq, s'.deferred) =
      (a.1.select, a.1.now, a.1.cfg, a.1.frameId, a.1.lastReq, a.1.deferred))
    (hp : s'.pending = a.1.pending ∨ s'.pending = none) (ho : isExec o = false) : Frame a (s', a.2 ++ [o]) :=
  (Frame.upd h hp).trans (Frame.emit (s', a.2) o ho)

theorem Frame.clrDeferred (a : Acc) : Frame a ({ a.1 with deferred := none }, a.2) :=
  .state rfl rfl rfl rfl (.inl rfl) fun _ => ⟨rfl, rfl⟩

theorem isExec_kind {o : OOut} (h : Frame.OOut.kind o ≠ .app ∧ Frame.OOut.kind o ≠ .clear) : isExec o = false := by
  cases o with
  | cb c => cases c <;> simp_all [isExec, Frame.OOut.kind, Frame.Cb.kind]
  | _ => rfl

/-- `Frame` from the effect of a primitive (the `X_eff` of `Proofs/OutstationFrame.lean`): it leaves what the control logic reads
    alone and puts out nothing of the kinds `app` and `clear` (the executing callbacks) -/
theorem Frame.of_eff {F : List Frame.Fld} {D : List Frame.DbStep} {ks : List Frame.OKind} {a a' : Acc}
    (h : Frame.Eff F D (Frame.KP ks) a a')
    (hF : Frame.Apart [.select, .now, .cfg, .frameId, .pending, .lastReq, .deferred] F := by decide)
    (hks : ∀ k ∈ ks, k ≠ .app ∧ k ≠ .clear := by decide) : Frame a a' :=
  have k := h.on hF
  ⟨k.get .select, k.get .now, k.get .cfg, k.get .frameId, .inl (k.get .pending),
    fun hd => ⟨by rw [k.get .lastReq], (k.get .deferred).trans hd⟩,
    (h.outs.mono fun _ ho => isExec_kind (hks _ ho)).2⟩

theorem Frame.repeatSolicited (a : Acc) (dst : Nat) (r : Resp) : Frame a (repeatSolicited a dst r) :=
  .of_eff (Frame.repeatSolicited_eff a dst r)

theorem writeSolicited_shape {a a' : Acc} {dst : Nat} {r r' : Resp} (h : writeSolicited a dst r = some (a', r')) :
    ∃ lb sb bytes, a' = ({ a.1 with lastBroadcast := lb, solBuf := sb }, a.2 ++ [.tx dst bytes]) := by
  obtain ⟨_, _, _, _, _, rfl⟩ := Frame.writeSolicited_eq h
  rw [Iin.afterIin_eq]
  exact ⟨_, _, _, rfl⟩

theorem Frame.writeSolicited {a a' : Acc} {dst : Nat} {r r' : Resp}
    (h : writeSolicited a dst r = some (a', r')) : Frame a a' := .of_eff (Frame.writeSolicited_eff h)

theorem Frame.clearWrittenEvents (a : Acc) : Frame a (clearWrittenEvents a) :=
  .of_eff (Frame.clearWrittenEvents_eff a)

theorem Frame.writeErrorResponse {a a' : Acc} {dst : Nat} {bc : Bool} {seq : Option Nat}
    (h : writeErrorResponse a dst bc seq = some a') : Frame a a' := .of_eff (Frame.writeErrorResponse_eff h)

theorem Frame.enterSolWait (a : Acc) (sr : Series) (c : SolCont) : Frame a (enterSolWait a sr c) :=
  .of_eff (Frame.enterSolWait_eff a sr c)

theorem Frame.of_chkCase {a : Acc} {res : Acc ⊕ (Acc × NextIdle)} (h : Frame.ChkCase a res) :
    Frame a (match res with | .inl a' => a' | .inr (a', _) => a') := by
  have e := Frame.of_eff h.eff
  cases res <;> exact e

theorem Frame.afterUnsolSeries (a : Acc) (n c : Bool) : Frame a (afterUnsolSeries a n c).1 :=
  .of_eff (Frame.afterUnsolSeries_eff a n c)

theorem Frame.of_defCase {a : Acc} {next : NextIdle} {res : Acc ⊕ Acc} (h : Frame.DefCase a next res) :
    Frame a (match res with | .inl a' => a' | .inr a' => a') := by
  -- a READ was deferred, so nothing is claimed of `lastReq`
  have wrote : ∀ {d a2 r2}, a.1.deferred = some d →
      Dnp3.writeSolicited ((Frame.deferredFormat a.1 d).1, a.2) d.addr (Frame.deferredFormat a.1 d).2.1 = some (a2, r2) →
      ∀ lr, Frame a ({ a2.1 with lastReq := lr }, a2.2) := fun hd hw lr =>
    have f1 := Frame.writeSolicited hw
    ⟨f1.select, f1.now, f1.cfg, f1.frameId, f1.pending, fun h => absurd (hd.symm.trans h) nofun, f1.outs⟩
  cases h with
  | none => exact .refl _
  | answered d a2 r2 hd hw => exact wrote hd hw _
  | awaiting d a2 r2 sr hd hw => exact .trans (wrote hd hw _) (.enterSolWait _ _ _)

theorem Frame.finishPass (a : Acc) (next : NextIdle) : Frame a (finishPass a next) :=
  .of_eff (Frame.finishPass_eff a next)

theorem popRequest_frame {s s' : OState} {p : Popped} (h : popRequest s = (s', p)) (l : List OOut) :
    Frame (s, l) (s', l) := by
  cases Skel.popRequest_cases h with
  | foreign => exact .upd rfl (.inr rfl)
  | _ => exact .refl _

theorem Frame.die (a : Acc) : Frame a (accOf (die a)) :=
  .updEmit rfl (.inl rfl) rfl

/-- what one run of the control loop does to a `CtlRun` -/
structure CRel (kind : Option CtlKind) (r r' : CtlRun) : Prop where
  state : ∃ sc, r'.acc.1 = { r.acc.1 with script := sc }
  status : kind ≠ some .donr → r'.status = 0 → r.status = 0
  outs : ∃ l, r'.acc.2 = r.acc.2 ++ l ∧ ∀ o ∈ l, o = .cb .beginFragment ∨
    ∃ k g v i obj st, kind = some k ∧ o = .cb (.control k g v i obj st) ∧
      (kind ≠ some .donr → r'.status = 0 → st = 0)
  noCall : kind = none → r'.acc = r.acc
  cap : r'.cap = r.cap
  started : kind = none → r'.started = r.started

theorem CRel.refl (kind : Option CtlKind) (r : CtlRun) : CRel kind r r :=
  ⟨⟨r.acc.1.script, rfl⟩, fun _ h => h, nil_outs _ _, fun _ => rfl, rfl, fun _ => rfl⟩

theorem CRel.trans {kind : Option CtlKind} {a b c : CtlRun} (h1 : CRel kind a b) (h2 : CRel kind b c) :
    CRel kind a c := by
  refine ⟨?_, fun hk h => h1.status hk (h2.status hk h), ?_, fun hk => (h2.noCall hk).trans (h1.noCall hk),
    h2.cap.trans h1.cap, fun hk => (h2.started hk).trans (h1.started hk)⟩
  · obtain ⟨s1, e1⟩ := h1.state
    obtain ⟨s2, e2⟩ := h2.state
    exact ⟨s2, by rw [e2, e1]⟩
  · obtain ⟨l1, e1, p1⟩ := h1.outs
    obtain ⟨l2, e2, p2⟩ := h2.outs
    refine ⟨l1 ++ l2, by rw [e2, e1, List.append_assoc], ?_⟩
    intro o ho
    rcases List.mem_append.mp ho with h | h
    · rcases p1 o h with h | ⟨k, g, v, i, obj, st, hk, ho, hs⟩
      · exact .inl h
      · exact .inr ⟨k, g, v, i, obj, st, hk, ho, fun hd hc => hs hd (h2.status hd hc)⟩
    · exact p2 o h

theorem firstError_eq_zero {a b : Nat} (h : firstError a b = 0) : a = 0 ∧ b = 0 := by
  unfold firstError at h
  split at h
  · exact ⟨by assumption, h⟩
  · exact absurd h (by assumption)

theorem CRel.book (kind : Option CtlKind) (r : CtlRun) (o : List Nat) (ov : Bool) (n : Nat) :
    CRel kind r { r with out := o, overflow := ov, num := n } :=
  ⟨⟨r.acc.1.script, rfl⟩, fun _ h => h, nil_outs _ _, fun _ => rfl, rfl, fun _ => rfl⟩

theorem ite_eq_elim {α : Type} {c : Prop} [Decidable c] {x y z : α} {P : Prop} (h : (if c then x else y) = z)
    (hx : x = z → P) (hy : y = z → P) : P := by
  split at h
  · exact hx h
  · exact hy h

theorem ctlStatus_crel {kind : Option CtlKind} {fs : Nat} {maxctl : Option Nat} {h : ObjHdr} {ix obj : List Nat}
    {r r' : CtlRun} {st : Nat} {called : Bool} (hx : Frame.ctlStatus kind fs maxctl h ix obj r = (r', st, called)) :
    (kind = some .donr → CRel kind r r') ∧
    (kind ≠ some .donr → CRel kind r { r' with status := firstError r'.status st }) := by
  have key : (∃ sc, r'.acc.1 = { r.acc.1 with script := sc }) ∧ r'.status = r.status ∧ r'.cap = r.cap ∧
      (kind = none → r' = r) ∧
      ∃ l, r'.acc.2 = r.acc.2 ++ l ∧ ∀ o ∈ l, o = .cb .beginFragment ∨
        ∃ k, kind = some k ∧ o = .cb (.control k h.group h.var (idxVal ix) obj st) := by
    unfold Frame.ctlStatus at hx
    split at hx
    · cases hx; exact ⟨⟨_, rfl⟩, rfl, rfl, fun _ => rfl, nil_outs _ _⟩
    · rename_i k
      refine ite_eq_elim hx (fun hx => ?_) (fun hx => ?_)
      · obtain ⟨sc, hsc⟩ := Frame.nextStatus_state r.acc.1
        generalize nextStatus r.acc.1 = ns at hx hsc
        obtain ⟨s', st'⟩ := ns
        dsimp only at hx hsc
        subst hsc
        cases hx
        cases hs : r.started
        · exact ⟨⟨_, rfl⟩, rfl, rfl, nofun,
            [.cb .beginFragment, .cb (.control k h.group h.var (idxVal ix) obj st)], by simp [emitCb, emit], by simp⟩
        · exact ⟨⟨_, rfl⟩, rfl, rfl, nofun,
            [.cb (.control k h.group h.var (idxVal ix) obj st)], by simp [emitCb, emit], by simp⟩
      · cases hx; exact ⟨⟨_, rfl⟩, rfl, rfl, nofun, nil_outs _ _⟩
  obtain ⟨hsc, hstat, hcap, hnone, l, hl, hlp⟩ := key
  refine ⟨fun hd => ⟨hsc, fun hn => absurd hd hn, ⟨l, hl, fun o ho => ?_⟩, fun hn => by rw [hnone hn], hcap,
      fun hn => by rw [hnone hn]⟩,
    fun _ => ⟨hsc, fun _ hs => ?_, ⟨l, hl, fun o ho => ?_⟩, fun hn => by rw [hnone hn], hcap,
      fun hn => by rw [hnone hn]⟩⟩
  · exact (hlp o ho).imp_right fun ⟨k, hk, ho'⟩ => ⟨k, _, _, _, _, _, hk, ho', fun hn => absurd hd hn⟩
  · rw [← hstat]; exact (firstError_eq_zero hs).1
  · exact (hlp o ho).imp_right fun ⟨k, hk, ho'⟩ => ⟨k, _, _, _, _, _, hk, ho', fun _ hs => (firstError_eq_zero hs).2⟩

theorem ctlAll_crel (kind : Option CtlKind) (fs : Nat) (maxctl : Option Nat) (hs : List ObjHdr) (r : CtlRun) :
    CRel kind r (ctlAll kind fs maxctl hs r) :=
  Frame.ctlAll_inv (I := CRel kind r) (fun _ _ _ _ h => h.trans (CRel.book ..))
    (fun _ _ _ _ _ _ _ h hx => ⟨fun hd => h.trans ((ctlStatus_crel hx).1 hd), fun hd => h.trans ((ctlStatus_crel hx).2 hd)⟩)
    hs r (CRel.refl kind r)

/-- control-handler callbacks (`ControlSupport::select` / `operate`) -/
def isControl : OOut → Bool
  | .cb (.control ..) => true
  | _ => false

/-- handler-level frame: the handlers of the non-control functions never touch these fields and only
    append outputs, none of which is a control callback -/
structure HFrame (a a' : Acc) : Prop where
  select : a'.1.select = a.1.select
  now : a'.1.now = a.1.now
  cfg : a'.1.cfg = a.1.cfg
  frameId : a'.1.frameId = a.1.frameId
  pending : a'.1.pending = a.1.pending
  unsolBuf : a'.1.unsolBuf = a.1.unsolBuf
  mode : a'.1.mode = a.1.mode
  deferred : a'.1.deferred = a.1.deferred
  lastReq : a'.1.lastReq = a.1.lastReq
  outs : ∃ l, a'.2 = a.2 ++ l ∧ ∀ o ∈ l, isControl o = false

theorem HFrame.refl (a : Acc) : HFrame a a := ⟨rfl, rfl, rfl, rfl, rfl, rfl, rfl, rfl, rfl, nil_outs _ _⟩

theorem HFrame.trans {a b c : Acc} (h1 : HFrame a b) (h2 : HFrame b c) : HFrame a c :=
  ⟨h2.select.trans h1.select, h2.now.trans h1.now, h2.cfg.trans h1.cfg, h2.frameId.trans h1.frameId,
    h2.pending.trans h1.pending, h2.unsolBuf.trans h1.unsolBuf, h2.mode.trans h1.mode,
    h2.deferred.trans h1.deferred, h2.lastReq.trans h1.lastReq, trans_outs h1.outs h2.outs⟩

theorem HFrame.emitCb (a : Acc) (c : Cb) (h : isControl (.cb c) = false) : HFrame a (emitCb a c) :=
  ⟨rfl, rfl, rfl, rfl, rfl, rfl, rfl, rfl, rfl, [.cb c], rfl, by simpa using h⟩

theorem HFrame.of_eff {F : List Frame.Fld} {D : List Frame.DbStep} {a a' : Acc}
    (h : Frame.Eff F D (fun o => isControl o = false) a a')
    (hF : Frame.Apart [.select, .now, .cfg, .frameId, .pending, .unsolBuf, .mode, .deferred, .lastReq] F := by decide) :
    HFrame a a' :=
  have k := h.on hF
  ⟨k.get .select, k.get .now, k.get .cfg, k.get .frameId, k.get .pending, k.get .unsolBuf, k.get .mode,
    k.get .deferred, k.get .lastReq, h.2.2⟩

theorem handleWrite_hframe (a : Acc) (seq : Nat) (hs : List ObjHdr) : HFrame a (handleWrite a seq hs).1 :=
  .of_eff (Frame.handleWrite_eff (P := fun o => isControl o = false) rfl (fun _ => rfl) a seq hs)

theorem handleFreeze_hframe (a : Acc) (seq : Nat) (k : FreezeKind) (hs : List ObjHdr) :
    HFrame a (handleFreeze a seq k hs).1 :=
  .of_eff (Frame.handleFreeze_eff (P := fun o => isControl o = false) (fun _ => rfl) (fun _ _ _ => rfl) a seq k hs)

theorem handleFreezeAtTime_hframe (a : Acc) (seq : Nat) (hs : List ObjHdr) :
    HFrame a (handleFreezeAtTime a seq hs).1 :=
  .of_eff (Frame.handleFreezeAtTime_eff (P := fun o => isControl o = false) (fun _ => rfl) (fun _ _ _ => rfl) a seq hs)

theorem handleEnableDisable_hframe (a : Acc) (en : Bool) (seq : Nat) (hs : List ObjHdr) :
    HFrame a (handleEnableDisable a en seq hs).1 :=
  .of_eff (Frame.handleEnableDisable_eff _ a en seq hs)

theorem countOfOne_hframe (a : Acc) (seq g v value : Nat) : HFrame a (countOfOne a seq g v value).1 :=
  .of_eff (Frame.countOfOne_eff _ a seq g v value)

theorem handleRestart_hframe (a : Acc) (seq : Nat) (name : Cb) (hn : isControl (.cb name) = false) :
    HFrame a (handleRestart a seq name).1 :=
  .of_eff (Frame.handleRestart_eff a seq name hn)

macro "hframe_simp" : tactic =>
  `(tactic| (refine ⟨?_, ?_, ?_, ?_, ?_, ?_, ?_, ?_, ?_, ?_⟩ <;> simp [Dnp3.emit, Dnp3.emitCb, onLinkActivity, isControl]))

def kindOf (func : Nat) : CtlKind :=
  if func = 3 then .select else if func = 4 then .sbo else if func = 5 then .dop else .donr

def OperateOk (s : OState) (seq frameId : Nat) (raw : List Nat) : Prop :=
  ∃ sel, s.select = some sel ∧ matchOperate sel s.cfg.stimeout s.now seq frameId raw = none

/-- outputs a control function may emit.  `zero` is the condition under which every status reported is 0 (the run
    succeeded throughout: `k ≠ .donr ∧ r.status = 0` in the loop, `ok = true` for the handler); a SELECT is stored
    only then (`SelChange.set`, `SelectAllZero`) -/
def CtlOut (func : Nat) (zero : Prop) (o : OOut) : Prop :=
  o = .cb .beginFragment ∨ o = .cb .endFragment ∨
    ∃ g v i obj st, o = .cb (.control (kindOf func) g v i obj st) ∧ (zero → st = 0)

theorem ctlFinish_spec (r : CtlRun) :
    (ctlFinish r).acc.1 = r.acc.1 ∧ (ctlFinish r).out = r.out ∧ (ctlFinish r).status = r.status ∧
    (ctlFinish r).overflow = r.overflow ∧
    ((ctlFinish r).acc.2 = r.acc.2 ∨ (r.started = true ∧ (ctlFinish r).acc.2 = r.acc.2 ++ [.cb .endFragment])) := by
  unfold ctlFinish
  split
  · rename_i h
    exact ⟨rfl, rfl, rfl, rfl, .inr ⟨h, rfl⟩⟩
  · exact ⟨rfl, rfl, rfl, rfl, .inl rfl⟩

theorem CtlOut.imp {func : Nat} {z z' : Prop} {o : OOut} (h : CtlOut func z o) (hz : z' → z) : CtlOut func z' o := by
  rcases h with h | h | ⟨g, v, i, obj, st, h, h0⟩
  · exact .inl h
  · exact .inr (.inl h)
  · exact .inr (.inr ⟨g, v, i, obj, st, h, fun x => h0 (hz x)⟩)

theorem ctl_run_spec {func : Nat} {k : CtlKind} (hk : kindOf func = k) (fs : Nat) (maxctl : Option Nat)
    (hs : List ObjHdr) (a : Acc) (cap : Nat) :
    let r := ctlFinish (ctlAll (some k) fs maxctl hs { acc := a, cap := cap })
    (∃ sc, r.acc.1 = { a.1 with script := sc }) ∧
    ∃ l, r.acc.2 = a.2 ++ l ∧ ∀ o ∈ l, CtlOut func (k ≠ .donr ∧ r.status = 0) o := by
  intro r
  have c := ctlAll_crel (some k) fs maxctl hs { acc := a, cap := cap }
  obtain ⟨e1, -, e3, -, e5⟩ := ctlFinish_spec (ctlAll (some k) fs maxctl hs { acc := a, cap := cap })
  obtain ⟨sc, hsc⟩ := c.state
  obtain ⟨l, hl, hlp⟩ := c.outs
  have hlp' : ∀ o ∈ l, CtlOut func (k ≠ .donr ∧ r.status = 0) o := by
    intro o ho
    rcases hlp o ho with h | ⟨k', g, v, i, obj, st, h1, h2, h3⟩
    · exact .inl h
    · cases h1
      exact .inr (.inr ⟨g, v, i, obj, st, hk ▸ h2,
        fun hz => h3 (fun e => hz.1 (Option.some.inj e)) (e3.symm.trans hz.2)⟩)
  refine ⟨⟨sc, e1.trans hsc⟩, ?_⟩
  rcases e5 with h | ⟨_, h⟩
  · exact ⟨l, h.trans hl, hlp'⟩
  · refine ⟨l ++ [.cb .endFragment], by rw [h, hl, List.append_assoc], fun o ho => ?_⟩
    rcases List.mem_append.mp ho with h | h
    · exact hlp' o h
    · rw [List.mem_singleton.mp h]; exact .inr (.inl rfl)

/-- the echo loop of a rejected OPERATE (`kind = none`) calls nothing -/
theorem ctlAll_none (st : Nat) (hs : List ObjHdr) (a : Acc) (cap : Nat) :
    ctlFinish (ctlAll none st none hs { acc := a, cap := cap }) = ctlAll none st none hs { acc := a, cap := cap } ∧
    (ctlAll none st none hs { acc := a, cap := cap }).acc = a := by
  have c := ctlAll_crel none st none hs { acc := a, cap := cap }
  refine ⟨?_, c.noCall rfl⟩
  unfold ctlFinish
  rw [c.started rfl]; rfl

theorem handleControls_spec {a a' : Acc} {func seq frameId : Nat} {hs : List ObjHdr} {raw : List Nat}
    {r : Option Resp} (h : handleControls a func seq frameId hs raw = some (a', r)) :
    ∃ (sc : Script) (sb : List Nat) (ok : Bool),
      a'.1 = { a.1 with script := sc, solBuf := sb,
                        select := if ok then some ⟨seq, frameId, a.1.now, raw⟩ else a.1.select } ∧
      (ok = true → func = 3) ∧
      ∃ l, a'.2 = a.2 ++ l ∧ (∀ o ∈ l, CtlOut func (ok = true) o) ∧
        (func = 4 → ¬ OperateOk a.1 seq frameId raw → l = []) := by
  obtain ⟨x, hx, c⟩ := Frame.handleControls_cases a func seq frameId hs raw
  cases hx.symm.trans h
  -- a run with the kind of `func` that leaves `select` alone
  have plain : ∀ {k : CtlKind} (_ : kindOf func = k) (sb : CtlRun → List Nat),
      (func = 4 → OperateOk a.1 seq frameId raw) →
      let R := ctlFinish (ctlAll (some k) 0 a.1.cfg.maxctl hs { acc := a, cap := a.1.cfg.sol - 4 })
      ∃ (sc : Script) (sb2 : List Nat) (ok : Bool),
        ({ R.acc.1 with solBuf := sb R } : OState) =
          { a.1 with script := sc, solBuf := sb2,
                     select := if ok then some ⟨seq, frameId, a.1.now, raw⟩ else a.1.select } ∧
        (ok = true → func = 3) ∧
        ∃ l, R.acc.2 = a.2 ++ l ∧ (∀ o ∈ l, CtlOut func (ok = true) o) ∧
          (func = 4 → ¬ OperateOk a.1 seq frameId raw → l = []) := by
    intro k hk sb h4
    obtain ⟨⟨sc, hsc⟩, l, hl, hlp⟩ := ctl_run_spec hk 0 a.1.cfg.maxctl hs a (a.1.cfg.sol - 4)
    exact ⟨sc, _, false, by dsimp only; rw [hsc]; rfl, nofun, l, hl, fun o ho => (hlp o ho).imp nofun,
      fun hf hno => absurd (h4 hf) hno⟩
  cases c with
  | param => exact ⟨a.1.script, a.1.solBuf, false, rfl, nofun, [], by simp, by simp, fun _ _ => rfl⟩
  | select R _ hf hR =>
    obtain ⟨⟨sc, hsc⟩, l, hl, hlp⟩ :=
      ctl_run_spec (func := func) (k := .select) (by rw [hf]; rfl) 0 a.1.cfg.maxctl hs a (a.1.cfg.sol - 4)
    rw [← hR] at hsc hl hlp
    dsimp only at hsc hl hlp ⊢
    by_cases hok : ((!R.overflow) = true ∧ R.status = 0)
    · exact ⟨sc, writeAt a.1.solBuf 4 R.out, true, by rw [if_pos hok, hsc]; rfl, fun _ => hf, l, hl,
        fun o ho => (hlp o ho).imp fun _ => ⟨nofun, hok.2⟩, fun h4 => by omega⟩
    · exact ⟨sc, writeAt a.1.solBuf 4 R.out, false, by rw [if_neg hok, hsc]; rfl, nofun, l, hl,
        fun o ho => (hlp o ho).imp nofun, fun h4 => by omega⟩
  | reject st R _ _ hv hR =>
    obtain ⟨hfin, hacc⟩ := ctlAll_none st hs a (a.1.cfg.sol - 4)
    rw [hR, hfin, hacc]
    exact ⟨a.1.script, _, false, rfl, nofun, [], by simp, by simp, fun _ _ => rfl⟩
  | operate k R _ hk hR =>
    subst hR
    rcases hk with ⟨hf4, rfl, hv⟩ | ⟨hf5, rfl⟩
    · refine plain (k := .sbo) (by rw [hf4]; rfl) (fun R => writeAt R.acc.1.solBuf 4 R.out) fun _ => ?_
      cases hsel : a.1.select with
      | none => simp [hsel] at hv
      | some sel => exact ⟨sel, hsel, by simpa [hsel] using hv⟩
    · exact plain (k := .dop) (by rw [hf5]; rfl) (fun R => writeAt R.acc.1.solBuf 4 R.out) (by omega)
  | noAck _ h3 h4 h5 =>
    exact plain (k := .donr) (by simp [kindOf, h3, h4, h5]) (fun R => R.acc.1.solBuf) (fun h => absurd h h4)

/-- what a request handler (`handleNonRead`) does -/
structure HSpec (a a' : Acc) (func seq fid : Nat) (raw : List Nat) : Prop where
  now : a'.1.now = a.1.now
  cfg : a'.1.cfg = a.1.cfg
  frameId : a'.1.frameId = a.1.frameId
  pending : a'.1.pending = a.1.pending
  unsolBuf : a'.1.unsolBuf = a.1.unsolBuf
  mode : a'.1.mode = a.1.mode
  deferred : a'.1.deferred = a.1.deferred
  lastReq : a'.1.lastReq = a.1.lastReq
  sel : ∃ ok : Bool,
    a'.1.select = (if ok then some ⟨seq, fid, a.1.now, raw⟩ else a.1.select) ∧ (ok = true → func = 3) ∧
    ∃ l, a'.2 = a.2 ++ l ∧
      (∀ o ∈ l, isControl o = true →
        (func = 3 ∨ func = 4 ∨ func = 5 ∨ func = 6) ∧ CtlOut func (ok = true) o) ∧
      (func = 4 → ¬ OperateOk a.1 seq fid raw → l = [])

theorem HSpec.of_hframe {a a' : Acc} {func seq frameId : Nat} {raw : List Nat} (h : HFrame a a')
    (hf : func ≠ 4) : HSpec a a' func seq frameId raw := by
  obtain ⟨l, hl, hlp⟩ := h.outs
  refine ⟨h.now, h.cfg, h.frameId, h.pending, h.unsolBuf, h.mode, h.deferred, h.lastReq,
    false, by simpa using h.select, by simp, l, hl, ?_, fun h4 => absurd h4 hf⟩
  intro o ho hc
  rw [hlp o ho] at hc; contradiction

theorem HSpec.of_controls {a a' : Acc} {func seq frameId : Nat} {hs : List ObjHdr} {raw : List Nat}
    {r : Option Resp} (h : handleControls a func seq frameId hs raw = some (a', r))
    (hf : func = 3 ∨ func = 4 ∨ func = 5 ∨ func = 6) : HSpec a a' func seq frameId raw := by
  obtain ⟨sc, sb, ok, hst, hok, l, hl, hlp, hrej⟩ := handleControls_spec h
  refine ⟨by simp [hst], by simp [hst], by simp [hst], by simp [hst], by simp [hst], by simp [hst],
    by simp [hst], by simp [hst], ok, by simp [hst], hok, l, hl, fun o ho _ => ⟨hf, hlp o ho⟩, hrej⟩

/-- finish a leaf `hres : some (X, _) = some (a1, _)` of `handleNonRead` with an `HFrame` fact for `X` -/
local macro "nr_leaf" hres:ident : tactic => `(tactic| (
    try dsimp only at $hres:ident
    simp only [Option.some.injEq, Prod.mk.injEq] at $hres:ident
    obtain ⟨hh, -⟩ := $hres
    subst hh
    refine HSpec.of_hframe ?_ (by omega)
    first
      | exact handleWrite_hframe ..
      | exact countOfOne_hframe ..
      | exact handleRestart_hframe _ _ _ rfl
      | exact handleFreeze_hframe ..
      | exact handleFreezeAtTime_hframe ..
      | exact handleEnableDisable_hframe ..
      | exact HFrame.refl _
      | hframe_simp))

theorem handleNonRead_spec {a a' : Acc} {func seq frameId : Nat} {hs : List ObjHdr} {raw : List Nat}
    {r : Option Resp} (h : handleNonRead a func seq frameId hs raw = some (a', r)) :
    HSpec a a' func seq frameId raw := by
  obtain ⟨r0, c, -⟩ := Frame.handleNonRead_cases h
  cases c with
  | write _ e => subst e; exact .of_hframe (handleWrite_hframe ..) (by omega)
  | enable _ e => subst e; exact .of_hframe (handleEnableDisable_hframe ..) (by omega)
  | disable _ e => subst e; exact .of_hframe (handleEnableDisable_hframe ..) (by omega)
  | control hf hc => exact .of_controls hc hf
  -- `Frame.OOut.isCtl` and `isControl` are the same function
  | misc _ _ _ e hf => exact .of_hframe (.of_eff (e.imp fun _ h => h.2)) fun h4 => hf (.inr (.inl h4))

/-- an actuation with `OperateType::SelectBeforeOperate` -/
def isSbo : OOut → Bool
  | .cb (.control .sbo ..) => true
  | _ => false

theorem isSbo_isControl {o : OOut} (h : isSbo o = true) : isControl o = true := by
  unfold isSbo at h
  split at h
  · rfl
  · contradiction

/-- what `processBroadcast` does -/
structure BSpec (a a' : Acc) : Prop where
  select : a'.1.select = a.1.select
  now : a'.1.now = a.1.now
  cfg : a'.1.cfg = a.1.cfg
  frameId : a'.1.frameId = a.1.frameId
  pending : a'.1.pending = a.1.pending
  unsolBuf : a'.1.unsolBuf = a.1.unsolBuf
  mode : a'.1.mode = a.1.mode
  deferred : a'.1.deferred = a.1.deferred
  lastReq : a'.1.lastReq = a.1.lastReq
  outs : ∃ l, a'.2 = a.2 ++ l ∧ ∀ o ∈ l, isSbo o = false

theorem BSpec.of_hframe {a a' : Acc} (h : HFrame a a') : BSpec a a' := by
  obtain ⟨l, hl, hlp⟩ := h.outs
  refine ⟨h.select, h.now, h.cfg, h.frameId, h.pending, h.unsolBuf, h.mode, h.deferred, h.lastReq, l, hl, ?_⟩
  intro o ho
  cases hs : isSbo o
  · rfl
  · have := isSbo_isControl hs
    rw [hlp o ho] at this; contradiction

theorem BSpec.trans {a b c : Acc} (h1 : BSpec a b) (h2 : BSpec b c) : BSpec a c :=
  ⟨h2.select.trans h1.select, h2.now.trans h1.now, h2.cfg.trans h1.cfg, h2.frameId.trans h1.frameId,
    h2.pending.trans h1.pending, h2.unsolBuf.trans h1.unsolBuf, h2.mode.trans h1.mode,
    h2.deferred.trans h1.deferred, h2.lastReq.trans h1.lastReq, trans_outs h1.outs h2.outs⟩

theorem BSpec.of_controls6 {a a' : Acc} {seq frameId : Nat} {hs : List ObjHdr} {raw : List Nat}
    {r : Option Resp} (h : handleControls a 6 seq frameId hs raw = some (a', r)) : BSpec a a' := by
  obtain ⟨sc, sb, ok, hst, hok, l, hl, hlp, -⟩ := handleControls_spec h
  have hok' : ok = false := by
    cases ok
    · rfl
    · exact absurd (hok rfl) (by decide)
  subst hok'
  refine ⟨by simp [hst], by simp [hst], by simp [hst], by simp [hst], by simp [hst], by simp [hst],
    by simp [hst], by simp [hst], by simp [hst], l, hl, ?_⟩
  intro o ho
  rcases hlp o ho with h | h | ⟨g, v, i, obj, st, h, -⟩ <;> subst h <;> rfl

theorem processBroadcast_spec {a a' : Acc} {f : Frag} {mode : Nat} {ctrl : AppCtrl} {func : Nat}
    {objects : Except Nat (List ObjHdr)} {raw : List Nat}
    (h : processBroadcast a f mode ctrl func objects raw = some a') : BSpec a a' := by
  obtain ⟨a1, action, hc, rfl⟩ := Frame.processBroadcast_cases h
  have h0 : HFrame a ({ a.1 with lastBroadcast := some mode }, a.2) :=
    ⟨rfl, rfl, rfl, rfl, rfl, rfl, rfl, rfl, rfl, nil_outs _ _⟩
  refine (BSpec.of_hframe h0).trans (BSpec.trans ?_ (.of_hframe (HFrame.emitCb _ _ rfl)))
  cases hc with
  | nothing => exact .of_hframe (.refl _)
  | write hs _ _ => exact .of_hframe (handleWrite_hframe ..)
  | control hs a1 r _ _ hc => exact .of_controls6 hc
  | freeze hs k _ _ _ _ => exact .of_hframe (handleFreeze_hframe ..)
  | freezeAt hs _ _ => exact .of_hframe (handleFreezeAtTime_hframe ..)
  | record _ => exact .of_hframe ⟨rfl, rfl, rfl, rfl, rfl, rfl, rfl, rfl, rfl, nil_outs _ _⟩
  | enable hs _ _ => exact .of_hframe (handleEnableDisable_hframe ..)
  | disable hs _ _ => exact .of_hframe (handleEnableDisable_hframe ..)

theorem idleTail_shape {f : Frag} {a1 a' : Acc} {olr : Option (LastReq × Bool)} {ser : Option Series}
    (h : Skel.IdleStage2 a1 f olr a' ser) :
    ∃ lq lb sb l, a' = ({ a1.1 with lastReq := lq, lastBroadcast := lb, solBuf := sb }, a1.2 ++ l) ∧
      ∀ o ∈ l, isExec o = false ∧ isSbo o = false := by
  have nil : ∀ lq, ∃ lq' lb sb l, (({ a1.1 with lastReq := lq }, a1.2) : Acc) =
      ({ a1.1 with lastReq := lq', lastBroadcast := lb, solBuf := sb }, a1.2 ++ l) ∧
      ∀ o ∈ l, isExec o = false ∧ isSbo o = false :=
    fun lq => ⟨lq, a1.1.lastBroadcast, a1.1.solBuf, [], by rw [List.append_nil], nofun⟩
  have one : ∀ (o : OOut), isExec o = false ∧ isSbo o = false → ∀ o' ∈ [o], isExec o' = false ∧ isSbo o' = false :=
    fun o ho o' h => List.mem_singleton.mp h ▸ ho
  cases h with
  | nothing => exact nil a1.1.lastReq
  | silent => exact nil _
  | echo lr r => exact ⟨_, a1.1.lastBroadcast, _, [.tx f.src _], rfl, one _ ⟨rfl, rfl⟩⟩
  | fresh lr r a2 r2 _ hw =>
    obtain ⟨lb, sb, bytes, rfl⟩ := writeSolicited_shape hw
    exact ⟨_, lb, sb, [.tx f.src bytes], rfl, one _ ⟨rfl, rfl⟩⟩

def SelectAllZero (l : List OOut) : Prop :=
  ∀ g v i obj st, OOut.cb (.control .select g v i obj st) ∈ l → st = 0

/-- how `select` may change when one request is handled: (keep) unchanged, (a) set by a fully
    successful function 3, (b) re-based by the `repeatNonRead` branch: only for a retransmission of the
    stored SELECT itself (function 3, its sequence number, its object octets) that directly follows it
    (`update_frame_id_on_repeat`; defect D9 is repaired).  `fresh` and `rebase` are the two verdicts of `classify`
    (`newNonRead`, `repeatNonRead`: `IdleSpec.outs` passes them), kept as premises so that `set` and `rebase` record
    under which verdict they happened -/
inductive SelChange (s : OState) (f : Frag) (ctrl : AppCtrl) (func : Nat) (raw : List Nat) (l : List OOut)
    (fresh rebase : Prop) (sel' : Option Sel) : Prop where
  | keep : sel' = s.select → SelChange s f ctrl func raw l fresh rebase sel'
  | set : fresh → func = 3 → sel' = some ⟨ctrl.seq, f.id, s.now, raw⟩ → SelectAllZero l →
      SelChange s f ctrl func raw l fresh rebase sel'
  | rebase (sel : Sel) : rebase → s.select = some sel →
      (func = 3 ∧ sel.seq = ctrl.seq ∧ (sel.frameId + 1) % 4294967296 = f.id ∧ sel.objects = raw) →
      sel' = some { sel with frameId := f.id } →
      SelChange s f ctrl func raw l fresh rebase sel'

/-- summary of one request handled by `handleRequestFromIdle` (also used for a request handled during
    the unsolicited confirm wait, where `deferred` may be cleared, or set by a READ) -/
structure IdleSpec (a a' : Acc) (f : Frag) (ctrl : AppCtrl) (func : Nat) (objects : Except Nat (List ObjHdr))
    (raw : List Nat) : Prop where
  now : a'.1.now = a.1.now
  cfg : a'.1.cfg = a.1.cfg
  frameId : a'.1.frameId = a.1.frameId
  pending : a'.1.pending = a.1.pending
  mode : a'.1.mode = a.1.mode
  unsolBuf : a'.1.unsolBuf = a.1.unsolBuf
  deferred : a'.1.deferred = a.1.deferred ∨ a'.1.deferred = none ∨ func = 1
  outs : ∃ l, a'.2 = a.2 ++ l ∧
    (∀ o ∈ l, isSbo o = true →
      func = 4 ∧ (∃ hs, classify a.1 f ctrl func objects = .newNonRead hs) ∧ OperateOk a.1 ctrl.seq f.id raw) ∧
    ((∃ resp, classify a.1 f ctrl func objects = .repeatNonRead resp) → ∀ o ∈ l, isExec o = false) ∧
    SelChange a.1 f ctrl func raw l (∃ hs, classify a.1 f ctrl func objects = .newNonRead hs)
      (∃ resp, classify a.1 f ctrl func objects = .repeatNonRead resp) a'.1.select

theorem ctlOut_sbo {func : Nat} {z : Prop} {o : OOut} (h : CtlOut func z o) (hs : isSbo o = true) : func = 4 := by
  rcases h with h | h | ⟨g, v, i, obj, st, h, -⟩
  · subst h; contradiction
  · subst h; contradiction
  · subst h
    unfold kindOf at hs
    by_cases h3 : func = 3
    · simp [h3, isSbo] at hs
    · by_cases h4 : func = 4
      · exact h4
      · by_cases h5 : func = 5 <;> simp [h3, h4, h5, isSbo] at hs

theorem ctlOut_select_zero {func : Nat} {z : Prop} {g v i st : Nat} {obj : List Nat}
    (h : CtlOut func z (.cb (.control .select g v i obj st))) (hz : z) : st = 0 := by
  rcases h with h | h | ⟨g', v', i', obj', st', h, h0⟩
  · simp at h
  · simp at h
  · simp only [OOut.cb.injEq, Cb.control.injEq] at h
    rw [h.2.2.2.2.2]; exact h0 hz

theorem SelChange.mono {s : OState} {f : Frag} {ctrl : AppCtrl} {func : Nat} {raw : List Nat} {l l' : List OOut}
    {fr rb : Prop} {sel' : Option Sel} (h : SelChange s f ctrl func raw l fr rb sel')
    (hz : SelectAllZero l → SelectAllZero l') : SelChange s f ctrl func raw l' fr rb sel' := by
  cases h with
  | keep h => exact .keep h
  | rebase sel h1 h2 h3 h4 => exact .rebase sel h1 h2 h3 h4
  | set h0 h1 h2 h3 => exact .set h0 h1 h2 (hz h3)

theorem SelChange.append {s : OState} {f : Frag} {ctrl : AppCtrl} {func : Nat} {raw : List Nat} {l l' : List OOut}
    {fr rb : Prop} {sel' : Option Sel} (h : SelChange s f ctrl func raw l fr rb sel')
    (hl : ∀ o ∈ l', isExec o = false) : SelChange s f ctrl func raw (l ++ l') fr rb sel' :=
  h.mono fun h3 g v i obj st hm => (List.mem_append.mp hm).elim (h3 g v i obj st) fun hm => nomatch hl _ hm

theorem SelChange.prepend {s : OState} {f : Frag} {ctrl : AppCtrl} {func : Nat} {raw : List Nat} {l l' : List OOut}
    {fr rb : Prop} {sel' : Option Sel} (h : SelChange s f ctrl func raw l fr rb sel')
    (hl : ∀ o ∈ l', isExec o = false) : SelChange s f ctrl func raw (l' ++ l) fr rb sel' :=
  h.mono fun h3 g v i obj st hm => (List.mem_append.mp hm).elim (fun hm => nomatch hl _ hm) (h3 g v i obj st)

theorem HSpec.summary {a a' : Acc} {func seq fid : Nat} {raw : List Nat} (sp : HSpec a a' func seq fid raw) :
    ∃ (ok : Bool) (l : List OOut), a'.2 = a.2 ++ l ∧
      a'.1.select = (if ok then some ⟨seq, fid, a.1.now, raw⟩ else a.1.select) ∧
      (ok = true → func = 3 ∧ SelectAllZero l) ∧
      ∀ o ∈ l, isSbo o = true → func = 4 ∧ OperateOk a.1 seq fid raw := by
  obtain ⟨ok, hsel, hok, l, hl, hctl, hrej⟩ := sp.sel
  refine ⟨ok, l, hl, hsel,
    fun h => ⟨hok h, fun g v i obj st hm => ctlOut_select_zero (hctl _ hm rfl).2 h⟩, fun o ho hsb => ?_⟩
  have hf4 : func = 4 := ctlOut_sbo (hctl o ho (isSbo_isControl hsb)).2 hsb
  refine ⟨hf4, Classical.byContradiction fun hno => ?_⟩
  rw [hrej hf4 hno] at ho
  cases ho

/-- `hd`: on the unsolicited-wait path `deferred` is cleared before the handler runs -/
theorem IdleSpec.of_nonread {a0 a2 : Acc} {f : Frag} {ctrl : AppCtrl} {func : Nat}
    {objects : Except Nat (List ObjHdr)} {raw : List Nat} {hs : List ObjHdr} {r : Option Resp} {d : Option Deferred}
    (hd : d = a0.1.deferred ∨ d = none)
    (hc : classify a0.1 f ctrl func objects = .newNonRead hs)
    (hn : handleNonRead ({ a0.1 with deferred := d }, a0.2) func ctrl.seq f.id hs raw = some (a2, r))
    (lq : Option LastReq) (lb : Option Nat) (sb : List Nat) (l2 : List OOut)
    (hl2 : ∀ o ∈ l2, isExec o = false ∧ isSbo o = false) :
    IdleSpec a0 ({ a2.1 with lastReq := lq, lastBroadcast := lb, solBuf := sb }, a2.2 ++ l2)
      f ctrl func objects raw := by
  have sp := handleNonRead_spec hn
  obtain ⟨ok, l1, hl1, hsel, hok, hsbo⟩ := sp.summary
  refine ⟨sp.now, sp.cfg, sp.frameId, sp.pending, sp.mode, sp.unsolBuf, ?_, l1 ++ l2,
    by simp [hl1], ?_, fun ⟨_, h⟩ => (by rw [hc] at h; cases h), ?_⟩
  · rcases hd with rfl | rfl
    · exact .inl sp.deferred
    · exact .inr (.inl sp.deferred)
  · intro o ho hsb
    rcases List.mem_append.mp ho with ho | ho
    · exact ⟨(hsbo o ho hsb).1, ⟨hs, hc⟩, (hsbo o ho hsb).2⟩
    · simp [(hl2 o ho).2] at hsb
  · cases ok with
    | false => exact .keep (by simpa using hsel)
    | true =>
      exact (SelChange.set ⟨hs, hc⟩ (hok rfl).1 (by simpa using hsel) (hok rfl).2).append fun o ho => (hl2 o ho).1

/-- the first half of `handleRequestFromIdle` returned `(s1, a.2)`: the request executes nothing -/
theorem IdleSpec.of_quiet {a : Acc} {s1 : OState} {f : Frag} {ctrl : AppCtrl}
    {func : Nat} {objects : Except Nat (List ObjHdr)} {raw : List Nat}
    (lq : Option LastReq) (lb : Option Nat) (sb : List Nat)
    (l2 : List OOut) (hl2 : ∀ o ∈ l2, isExec o = false ∧ isSbo o = false)
    (hk : (s1.now, s1.cfg, s1.frameId, s1.pending, s1.mode, s1.unsolBuf, s1.deferred) =
      (a.1.now, a.1.cfg, a.1.frameId, a.1.pending, a.1.mode, a.1.unsolBuf, a.1.deferred))
    (hsel : SelChange a.1 f ctrl func raw l2 (∃ hs, classify a.1 f ctrl func objects = .newNonRead hs)
      (∃ resp, classify a.1 f ctrl func objects = .repeatNonRead resp) s1.select) :
    IdleSpec a ({ s1 with lastReq := lq, lastBroadcast := lb, solBuf := sb }, a.2 ++ l2)
      f ctrl func objects raw := by
  simp only [Prod.mk.injEq] at hk
  obtain ⟨h1, h2, h3, h4, h5, h6, h7⟩ := hk
  exact ⟨h1, h2, h3, h4, h5, h6, .inl h7, l2, rfl, fun o ho hs => by simp [(hl2 o ho).2] at hs,
    fun _ o ho => (hl2 o ho).1, hsel⟩

theorem idle_spec {a a' : Acc} {f : Frag} {ctrl : AppCtrl} {func : Nat} {objects : Except Nat (List ObjHdr)}
    {raw : List Nat} {sr : Option Series}
    (h : handleRequestFromIdle a f ctrl func objects raw = some (a', sr)) :
    IdleSpec a a' f ctrl func objects raw := by
  obtain ⟨a1, olr, s1, s2⟩ := Skel.handleRequestFromIdle_cases h
  obtain ⟨lq, lb, sb, l2, rfl, hl2b⟩ := idleTail_shape s2
  cases s1 with
  | confirm => exact .of_quiet (s1 := a.1) lq lb sb l2 hl2b rfl (.keep rfl)
  | prep s1 lr _ _ _ _ _ _ hsel hp => cases hp <;> exact .of_quiet lq lb sb l2 hl2b rfl (.keep hsel)
  | echo s1 last hk _ _ _ hs hc =>
    rcases hs with rfl | ⟨sel, hsel, h3, h4, h5, h6, rfl⟩
    · exact .of_quiet lq lb sb l2 hl2b rfl (.keep rfl)
    · exact .of_quiet lq lb sb l2 hl2b rfl (.rebase sel ⟨last, hc⟩ hsel ⟨h3, h4, h5, h6⟩ rfl)
  | nonRead hs a1 r _ _ _ _ hn hc =>
    exact IdleSpec.of_nonread (d := a.1.deferred) (.inl rfl) hc hn lq lb sb l2 hl2b
  | bcast m a1 _ hbm hb =>
    have sp := processBroadcast_spec hb
    obtain ⟨l1, hl1, hl1p⟩ := sp.outs
    refine ⟨sp.now, sp.cfg, sp.frameId, sp.pending, sp.mode, sp.unsolBuf, .inl sp.deferred, l1 ++ l2,
      by simp [hl1], ?_, fun ⟨_, h⟩ => ?_, .keep sp.select⟩
    · intro o ho hs
      rcases List.mem_append.mp ho with ho | ho
      · simp [hl1p o ho] at hs
      · simp [(hl2b o ho).2] at hs
    · have cf := Frame.classify_facts a.1 f ctrl func objects
      rw [h] at cf
      rw [cf.2.2] at hbm
      cases hbm

/-- the state a popped request is classified and handled in -/
def popped (a : Acc) : Acc := (onLinkActivity { a.1 with pending := none }, a.2)

/-- `Pass a c`: `c` is reached from `a` by `Frame` steps and request events; a request event consumes
    the retained fragment `a.1.pending = some f` and is summarised by `IdleSpec` -/
inductive Pass : Acc → Acc → Prop where
  | refl (a : Acc) : Pass a a
  | frame {a b c : Acc} : Frame a b → Pass b c → Pass a c
  | req {a b c : Acc} (f : Frag) (ctrl : AppCtrl) (func : Nat) (objects : Except Nat (List ObjHdr))
      (raw : List Nat) : a.1.pending = some f → parseRequest f.data = .request ctrl func objects raw →
      IdleSpec (popped a) b f ctrl func objects raw → Pass b c → Pass a c

theorem Pass.trans {a b c : Acc} (h1 : Pass a b) (h2 : Pass b c) : Pass a c := by
  induction h1 with
  | refl => exact h2
  | frame hf _ ih => exact .frame hf (ih h2)
  | req f ctrl func objects raw hp hq hs _ ih => exact .req f ctrl func objects raw hp hq hs (ih h2)

theorem Pass.of_frame {a b : Acc} (h : Frame a b) : Pass a b := .frame h (.refl _)

theorem Pass.frame_right {a b c : Acc} (h1 : Pass a b) (h2 : Frame b c) : Pass a c :=
  h1.trans (.of_frame h2)

theorem Frame.pending_none {a b : Acc} (h : Frame a b) (hp : a.1.pending = none) : b.1.pending = none := by
  rcases h.pending with h | h
  · exact h.trans hp
  · exact h

theorem Pass.pending_none {a c : Acc} (h : Pass a c) (hp : a.1.pending = none) : c.1.pending = none := by
  induction h with
  | refl => exact hp
  | frame hf _ ih => exact ih (hf.pending_none hp)
  | req f ctrl func objects raw hpend _ _ _ _ => rw [hp] at hpend; contradiction

theorem written_shape {a4 a5 : Acc} {dst : Nat} {r4 r5 : Option Resp} (h : Skel2.NRWritten a4 dst r4 a5 r5) :
    ∃ lb sb l2, a5 = ({ a4.1 with lastBroadcast := lb, solBuf := sb }, a4.2 ++ l2) ∧
      ∀ o ∈ l2, isExec o = false ∧ isSbo o = false := by
  rcases h with ⟨-, rfl, -⟩ | ⟨r, r', -, hw, -⟩
  · exact ⟨a5.1.lastBroadcast, a5.1.solBuf, [], by rw [List.append_nil], nofun⟩
  · obtain ⟨lb, sb, bytes, rfl⟩ := writeSolicited_shape hw
    exact ⟨lb, sb, [.tx dst bytes], rfl, fun o ho => by rw [List.mem_singleton.mp ho]; exact ⟨rfl, rfl⟩⟩

open Skel in
theorem passCase_pass {a : Acc} {fuel : Nat} {y : Pt × Acc} (h : PassCase a fuel y) : Pass a y.2 ∧ y.2.1.pending = none := by
  have f0 : Frame a ({ a.1 with notified := false }, a.2) := .upd rfl (.inl rfl)
  obtain ⟨s, p, hp, h⟩ := h
  have p0 : Pass a ({ s with pending := none }, a.2) :=
    .frame f0 (.frame (popRequest_frame hp a.2) (.of_frame (.upd rfl (.inr rfl))))
  have p1 : Pass a (onLinkActivity { s with pending := none }, a.2) :=
    .frame f0 (.frame (popRequest_frame hp a.2) (.of_frame (.upd rfl (.inr rfl))))
  cases h with
  | nothing => exact ⟨p0, rfl⟩
  | errorDie | requestDie => exact ⟨p1.frame_right (Frame.die _), rfl⟩
  | error a' hw => exact ⟨p1.frame_right (Frame.writeErrorResponse hw), (Frame.writeErrorResponse hw).pending_none rfl⟩
  | requestWait a' sr hh =>
    obtain ⟨rfl, hpend, hparse, -⟩ := Skel.request_of_pop hp
    exact ⟨.frame f0 (.req _ _ _ _ _ hpend hparse (idle_spec hh) (.of_frame (Frame.enterSolWait _ _ _))),
      (Frame.enterSolWait _ _ _).pending_none ((idle_spec hh).pending.trans rfl)⟩
  | request a' hh =>
    obtain ⟨rfl, hpend, hparse, -⟩ := Skel.request_of_pop hp
    exact ⟨.frame f0 (.req _ _ _ _ _ hpend hparse (idle_spec hh) (.refl _)), (idle_spec hh).pending.trans rfl⟩

theorem resumePt_frame (a : Acc) (c : SolCont) : Frame a (Skel.resumePt a c).2 := by
  cases c with
  | fromRequest => exact .refl a
  | fromDeferred n => exact Frame.clrDeferred a

theorem abortPt_frame (a : Acc) (c : SolCont) : Frame a (Skel.abortPt a c).2 :=
  .trans (b := ({ a.1 with db := a.1.db.reset }, a.2)) (.upd rfl (.inl rfl)) (resumePt_frame _ c)

open Skel in
/-- how handling a fragment in the solicited confirm wait ends: a new request aborts the series with the fragment
    retained (`Confirm::NewRequest`); otherwise the fragment is consumed and the task blocks again, dies, or
    resumes the pass -/
inductive SWEnd (a : Acc) (cont : SolCont) : Pt × Acc → Prop
  | newRequest {a1 : Acc} : Pass a a1 → SWEnd a cont (abortPt a1 cont)
  | blocked {a' : Acc} : Pass a a' → a'.1.pending = none → SWEnd a cont (.blk, a')
  | died {a' : Acc} : Pass a a' → SWEnd a cont (diePt a')
  | resumed {a1 : Acc} : Pass a a1 → a1.1.pending = none → SWEnd a cont (resumePt a1 cont)

open Skel in
theorem swfCase_end {a : Acc} {sr : Series} {cont : SolCont} {y : Pt × Acc} (hc : SWFCase a sr cont y) :
    SWEnd a cont y := by
  obtain ⟨s, p, hp, hc⟩ := hc
  have fp : Pass a (s, a.2) := .of_frame (popRequest_frame hp a.2)
  have hnew : Pass a (emitCb (onLinkActivity s, a.2) .solNewRequest) := fp.frame_right (.updEmit rfl (.inl rfl) rfl)
  have p0 : Pass a ({ onLinkActivity s with pending := none }, a.2) := fp.frame_right (.upd rfl (.inr rfl))
  cases hc with
  | nothing => exact .blocked (fp.frame_right (.upd rfl (.inr rfl))) rfl
  | error | newRequest => exact .newRequest hnew
  | @echo f _ _ _ resp =>
    unfold Skel2.solEchoAcc
    cases resp with
    | none => exact .blocked (p0.frame_right (.upd rfl (.inl rfl))) rfl
    | some r =>
      exact .blocked (p0.trans (.frame (Frame.repeatSolicited _ f.src r) (.of_frame (.upd rfl (.inl rfl))))) rfl
  | unsolConfirm | wrongSeq => exact .blocked (p0.frame_right (Frame.emitCb _ _ rfl)) rfl
  | @confirmed f _ _ _ _ _ _ hcc =>
    have p1 := (fp.frame_right (.updEmit (s' := { onLinkActivity s with pending := none, lastBroadcast := none })
      (o := .cb (.solConfirmed sr.ecsn)) rfl (.inr rfl) rfl)).frame_right (Frame.clearWrittenEvents _)
    have h1 : (clearWrittenEvents ({ onLinkActivity s with pending := none, lastBroadcast := none },
        a.2 ++ [.cb (.solConfirmed sr.ecsn)])).1.pending = none := (Frame.clearWrittenEvents _).pending_none rfl
    generalize clearWrittenEvents _ = a5 at p1 h1 hcc
    -- the fragment just sent becomes the stored response (`lrKey` is kept)
    have sent : ∀ {s6 r6 next a7 r7}, formatReadResponse a5.1 false (seq4Next sr.ecsn) 0 = (s6, r6, next) →
        writeSolicited (s6, a5.2) f.src r6 = some (a7, r7) →
        Frame a5 ({ a7.1 with lastReq := a7.1.lastReq.map (fun lr => { lr with response := some r7 }) }, a7.2) := by
      intro s6 r6 next a7 r7 hf hw
      have f6 : Frame a5 (s6, a5.2) := by
        have : Frame a5 ((formatReadResponse a5.1 false (seq4Next sr.ecsn) 0).1, a5.2) := .upd rfl (.inl rfl)
        rw [hf] at this; exact this
      exact (f6.trans (Frame.writeSolicited hw)).trans
        (.state rfl rfl rfl rfl (.inl rfl) fun h => ⟨lrKey_map_response _ _, h⟩)
    cases hcc with
    | done _ => exact .resumed p1 h1
    | die s6 r6 next _ _ _ => exact .died p1
    | last s6 r6 a7 r7 _ hf hw => exact .resumed (p1.frame_right (sent hf hw)) ((sent hf hw).pending_none h1)
    | next s6 r6 sr' a7 r7 _ hf hw =>
      exact .blocked (p1.trans (.frame (sent hf hw) (.of_frame (.upd rfl (.inl rfl))))) ((sent hf hw).pending_none h1)

theorem SWEnd.pass {a : Acc} {cont : SolCont} {y : Skel.Pt × Acc} (h : SWEnd a cont y) : Pass a y.2 := by
  cases h with
  | newRequest h => exact h.frame_right (abortPt_frame _ _)
  | blocked h _ => exact h
  | died h => exact h.frame_right (Frame.die _)
  | resumed h _ => exact h.frame_right (resumePt_frame _ _)

open Skel in
/-- how handling a fragment in the unsolicited confirm wait ends -/
inductive UWEnd (a : Acc) (isNull : Bool) : Pt × Acc → Prop
  | blocked {a' : Acc} : Pass a a' → a'.1.pending = none → a'.1.unsolBuf = a.1.unsolBuf → a'.1.mode = a.1.mode →
      UWEnd a isNull (.blk, a')
  | died {a' : Acc} : Pass a a' → a'.1.unsolBuf = a.1.unsolBuf → UWEnd a isNull (diePt a')
  | finished {a1 : Acc} (c : Bool) : Pass a a1 → a1.1.pending = none → a1.1.unsolBuf = a.1.unsolBuf →
      UWEnd a isNull (finishUnsolPt a1 isNull c)

open Skel in
theorem uwfCase_end {a : Acc} {resp : Resp} {isNull : Bool} {y : Pt × Acc} (hc : UWFCase a resp isNull y) :
    UWEnd a isNull y := by
  obtain ⟨s, p, hp, hc⟩ := hc
  have fpop : Frame a (popped a) := .upd rfl (.inr rfl)
  have p0 : Pass a ({ s with pending := none }, a.2) :=
    .frame (popRequest_frame hp a.2) (.of_frame (.upd rfl (.inr rfl)))
  have hs : s.unsolBuf = a.1.unsolBuf ∧ s.mode = a.1.mode := by
    obtain ⟨_, _, _, _, _, e⟩ := Skel.House.of_pop hp
    rw [e]; exact ⟨rfl, rfl⟩
  cases p with
  | nothing => cases hc; exact .blocked p0 rfl hs.1 hs.2
  | error src bc seq =>
    cases hc with
    | errorDie => exact .died p0 hs.1
    | error a' hw =>
      have k := (Frame.writeErrorResponse_eff hw).1
      exact .blocked (p0.trans (.frame (Frame.clrDeferred _) (.of_frame (.writeErrorResponse hw)))) (k.get .pending)
        ((k.get .unsolBuf).trans hs.1) ((k.get .mode).trans hs.2)
  | request f ctrl func objs raw =>
    obtain ⟨rfl, hpend, hparse, -⟩ := Skel.request_of_pop hp
    have req : ∀ {b}, IdleSpec (popped a) b f ctrl func objs raw → Pass a b := fun sp =>
      .req _ _ _ _ _ hpend hparse sp (.refl _)
    have notRep : (f.broadcast ≠ none ∨ func = 1) → ¬ ∃ r, classify (popped a).1 f ctrl func objs = .repeatNonRead r := by
      intro h ⟨r, hr⟩
      have := Frame.classify_facts (popped a).1 f ctrl func objs
      rw [hr] at this
      obtain ⟨-, h1, hb⟩ := this
      exact h.elim (fun h => h hb) h1
    cases hc with
    | unsolConfirm => exact .finished true (.frame fpop (.of_frame (.updEmit rfl (.inl rfl) rfl))) rfl rfl
    | otherConfirm => exact .blocked (.of_frame fpop) rfl rfl rfl
    | solConfirm =>
      split
      · exact .blocked (.of_frame (.upd rfl (.inr rfl))) rfl rfl rfl
      · exact .blocked (.of_frame fpop) rfl rfl rfl
    | bcast m a' _ hb hpb =>
      have sp := processBroadcast_spec hpb
      obtain ⟨l, hl, hlp⟩ := sp.outs
      refine .blocked (req ?_) sp.pending sp.unsolBuf sp.mode
      exact ⟨sp.now, sp.cfg, sp.frameId, sp.pending, sp.mode, sp.unsolBuf, .inr (.inl sp.deferred), l, hl,
        fun o ho hsb => (by simp [hlp o ho] at hsb), fun h => absurd h (notRep (.inl (by rw [hb]; nofun))),
        .keep sp.select⟩
    | malformedDie => exact .died (.of_frame fpop) rfl
    | malformed a' r' _ _ hw =>
      have k := (Frame.writeSolicited_eff hw).1
      exact .blocked (.frame fpop (.frame (Frame.clrDeferred _) (.of_frame (.writeSolicited hw)))) (k.get .pending)
        (k.get .unsolBuf) (k.get .mode)
    | nonReadWriteDie a4 r _ _ _ hn _ hc =>
      have spec0 := IdleSpec.of_nonread (a0 := popped a) (.inr rfl) hc hn a4.1.lastReq a4.1.lastBroadcast a4.1.solBuf []
        (fun _ h => nomatch h)
      rw [List.append_nil] at spec0
      exact .died (req spec0) (handleNonRead_spec hn).unsolBuf
    | nonRead a4 r4 a5 r5 _ _ _ hn hw _ hc =>
      have sp := handleNonRead_spec hn
      obtain ⟨lb, sb, l2, rfl, hl2⟩ := written_shape hw
      exact .blocked (req (IdleSpec.of_nonread (a0 := popped a) (.inr rfl) hc hn (some ⟨ctrl.seq, f.data, r5, none⟩) lb sb l2 hl2)) sp.pending sp.unsolBuf sp.mode
    | disable a4 r4 a5 r5 _ hn hw hc =>
      have sp := handleNonRead_spec hn
      obtain ⟨lb, sb, l2, rfl, hl2⟩ := written_shape hw
      exact .finished false (req (IdleSpec.of_nonread (a0 := popped a) (.inr rfl) hc hn (some ⟨ctrl.seq, f.data, r5, none⟩) lb sb l2 hl2)) sp.pending sp.unsolBuf
    | read =>
      rw [Frame.deferredSet_spec]
      refine .blocked (req ?_) rfl rfl rfl
      exact ⟨rfl, rfl, rfl, rfl, rfl, rfl, .inr (.inr rfl), [], (List.append_nil _).symm, nofun,
        fun h => absurd h (notRep (.inr rfl)), .keep rfl⟩
    | echo last =>
      cases last with
      | none =>
        exact .blocked (a' := ({ (popped a).1 with deferred := none }, (popped a).2))
          (.frame fpop (.of_frame (Frame.clrDeferred _))) rfl rfl rfl
      | some r =>
        refine .blocked (a' := ({ (repeatSolicited (popped a) f.src r).1 with deferred := none }, _))
          (.frame fpop (.frame (Frame.repeatSolicited (popped a) f.src r) (.of_frame (Frame.clrDeferred _)))) rfl ?_ ?_
        -- expose the fields first: comparing the whole states would evaluate `writeAt`
        all_goals dsimp only [repeatSolicited, emit, popped, onLinkActivity]

theorem UWEnd.pass {a : Acc} {isNull : Bool} {y : Skel.Pt × Acc} (h : UWEnd a isNull y) : Pass a y.2 := by
  cases h with
  | blocked h _ _ _ => exact h
  | died h _ => exact h.frame_right (Frame.die _)
  | finished c h _ _ => exact h.frame_right (Frame.afterUnsolSeries _ _ _)

open Skel in
theorem Pass.of_step {x y : Pt × Acc} (h : Step x y) : Pass x.2 y.2 := by
  cases h with
  | pass a n y _ _ hc => exact (passCase_pass hc).1
  | chkDie a _ _ => exact .of_frame (Frame.die a)
  | chkStart a _ a' he => exact .of_frame (.of_chkCase (Frame.checkUnsolicited_cases a _ he))
  | chkIdle a _ a' n he => exact .of_frame (.of_chkCase (Frame.checkUnsolicited_cases a _ he))
  | defDie a _ n _ => exact .of_frame (Frame.die a)
  | defWait a _ n a' he => exact .of_frame (.of_defCase (Frame.handleDeferredRead_cases _ _ _ he))
  | defDone a _ n a' he => exact .of_frame (.of_defCase (Frame.handleDeferredRead_cases _ _ _ he))
  | finishPass a _ n _ => exact .of_frame (Frame.finishPass a n)
  | again a _ n y _ hc => exact .frame (Frame.finishPass a n) (passCase_pass hc).1
  | fuel a n _ => exact .frame (Frame.finishPass a n) (.of_frame (Frame.emitCb _ _ rfl))
  | solFragment a sr dl c y _ _ hc => exact (swfCase_end hc).pass
  | solTimeout a sr dl c _ _ _ => exact .frame (Frame.emitCb a _ rfl) (.of_frame (abortPt_frame _ _))
  | unsolFragment a resp isNull rt dl y _ _ hc => exact (uwfCase_end hc).pass
  | unsolTimeout a resp isNull rt dl y _ _ _ hc =>
    cases hc with
    | finish _ => exact .frame (Frame.emitCb a _ rfl) (.of_frame (Frame.afterUnsolSeries _ _ _))
    | retry rt' _ _ =>
      exact .frame (Frame.emitCb a _ rfl) (.frame (.of_eff (Frame.repeatUnsolicited_eff _ resp)) (.of_frame (.upd rfl (.inl rfl))))

theorem Pass.of_steps {x z : Skel.Pt × Acc} (h : Skel.Star Skel.Step x z) : Pass x.2 z.2 :=
  Skel.Star.inv (I := fun y => Pass x.2 y.2) (fun _ _ r h => h.trans (.of_step r)) h (.refl _)

theorem Pass.of_ends {x : Skel.Pt × Acc} {r : StepRes} (h : Skel.Ends x r) : Pass x.2 (finishStep r) := by
  obtain ⟨z, hz, -, e⟩ := Skel.EndsBy.acc h
  exact e ▸ Pass.of_steps hz

theorem quiesce_pass (a : Acc) : Pass a (finishStep (settle 8 (dispatch a))) :=
  .of_ends (Skel.settle_ends 8 _ (Skel.dispatch_ends a))

theorem quiesce_runPass_pass (a : Acc) (n : NextIdle) (hm : a.1.mode = .idle n) (hw : idleWakes a.1 = true) :
    Pass a (finishStep (settle 8 (runPass passFuel a))) :=
  .of_ends (Skel.settle_ends 8 _ (Skel.runPass_ends a n hm hw))

/-- the fragment the transport layer delivers for an `.rx` input, if any -/
def rxAccept (env : OEnv) (s : OState) (src dst : Nat) (data : List Nat) : Option Frag :=
  if s.mode matches .dead then none else
  let bc : Option (Option Nat) :=
    if dst = env.outstation then some none
    else if dst = 0xFFFC then (if env.selfaddr then some none else none)
    else if dst = 0xFFFF then some (some 0)
    else if dst = 0xFFFE then some (some 1)
    else if dst = 0xFFFD then some (some 2)
    else none
  match bc with
  | none => none
  | some b =>
    if src ≥ 0xFFF0 ∨ data.isEmpty ∨ data.length > env.rx then none else
    if b.isSome ∧ data.length > 249 then none else
    some ⟨s.frameId, src, b, data⟩

theorem rxAccept_eq {env : OEnv} {s : OState} (h : s.mode ≠ .dead) (src dst : Nat) (data : List Nat) :
    rxAccept env s src dst data =
      match Skel.rxBroadcast env dst with
      | some b => if Skel.RxOk env src data b then some ⟨s.frameId, src, b, data⟩ else none
      | none => none := by
  unfold rxAccept
  rw [← Skel.rxBroadcast]
  split
  · rename_i hd; exact absurd (by revert hd; cases s.mode <;> simp) h
  simp only [Bool.false_eq_true, if_false]
  cases Skel.rxBroadcast env dst with
  | none => rfl
  | some b =>
    dsimp only
    by_cases hok : Skel.RxOk env src data b
    · rw [if_pos hok, if_neg ((Skel.rxOk_iff ..).1 hok).1, if_neg ((Skel.rxOk_iff ..).1 hok).2]
    · rw [if_neg hok]
      by_cases h1 : src ≥ 0xFFF0 ∨ data.isEmpty ∨ data.length > env.rx
      · rw [if_pos h1]
      · rw [if_neg h1, if_pos (Classical.not_not.1 fun h2 => hok ((Skel.rxOk_iff ..).2 ⟨h1, h2⟩))]

theorem isSbo_isExec {o : OOut} (h : isSbo o = true) : isExec o = true := by
  unfold isSbo at h
  split at h
  · rfl
  · contradiction

theorem isControl_isExec {o : OOut} (h : isControl o = true) : isExec o = true := by
  unfold isControl at h
  split at h
  · rfl
  · contradiction

/-- nothing was handled yet -/
structure Quiet (a0 a : Acc) : Prop where
  pending : a.1.pending = a0.1.pending ∨ a.1.pending = none
  select : a.1.select = a0.1.select
  keep : a0.1.deferred = none → lrKey a.1.lastReq = lrKey a0.1.lastReq ∧ a.1.deferred = none
  outs : ∀ o ∈ a.2, isExec o = false

/-- the retained fragment `f` of `a0` was handled once, in a state `s1` that agrees with `a0` on
    `select`, `now`, `cfg` (and the `lrKey` of `lastReq` if no read was deferred) -/
structure Handled (a0 a : Acc) (f : Frag) (ctrl : AppCtrl) (func : Nat) (objects : Except Nat (List ObjHdr))
    (raw : List Nat) (s1 : OState) : Prop where
  was : a0.1.pending = some f
  parse : parseRequest f.data = .request ctrl func objects raw
  select1 : s1.select = a0.1.select
  now1 : s1.now = a0.1.now
  cfg1 : s1.cfg = a0.1.cfg
  keep1 : a0.1.deferred = none → lrKey s1.lastReq = lrKey a0.1.lastReq
  pending : a.1.pending = none
  sbo : ∀ o ∈ a.2, isSbo o = true →
    func = 4 ∧ (∃ hs, classify s1 f ctrl func objects = .newNonRead hs) ∧ OperateOk s1 ctrl.seq f.id raw
  rep : (∃ resp, classify s1 f ctrl func objects = .repeatNonRead resp) → ∀ o ∈ a.2, isExec o = false
  sel : SelChange s1 f ctrl func raw a.2 (∃ hs, classify s1 f ctrl func objects = .newNonRead hs)
    (∃ resp, classify s1 f ctrl func objects = .repeatNonRead resp) a.1.select
  keepDeferred : a0.1.deferred = none → func ≠ 1 → a.1.deferred = none

/-- summary of a pass started in `a0`: at most one request is handled -/
structure PassInv (a0 a : Acc) : Prop where
  now : a.1.now = a0.1.now
  cfg : a.1.cfg = a0.1.cfg
  frameId : a.1.frameId = a0.1.frameId
  cases : Quiet a0 a ∨ ∃ f ctrl func objects raw s1, Handled a0 a f ctrl func objects raw s1

theorem PassInv.frame {a0 a b : Acc} (h : PassInv a0 a) (hf : Frame a b) : PassInv a0 b := by
  obtain ⟨l, hl, hlp⟩ := hf.outs
  refine ⟨hf.now.trans h.now, hf.cfg.trans h.cfg, hf.frameId.trans h.frameId, ?_⟩
  rcases h.cases with q | ⟨f, ctrl, func, objects, raw, s1, hd⟩
  · refine .inl ⟨?_, hf.select.trans q.select, fun h0 => ?_, ?_⟩
    · rcases hf.pending with h1 | h1
      · exact q.pending.imp h1.trans h1.trans
      · exact .inr h1
    · have k1 := q.keep h0
      have k2 := hf.keep k1.2
      exact ⟨k2.1.trans k1.1, k2.2⟩
    · rw [hl]; exact List.forall_mem_append.mpr ⟨q.outs, hlp⟩
  · refine .inr ⟨f, ctrl, func, objects, raw, s1, hd.was, hd.parse, hd.select1, hd.now1, hd.cfg1, hd.keep1,
      hf.pending.elim (·.trans hd.pending) id, ?_, fun hr => ?_, ?_, fun h0 h1 => (hf.keep (hd.keepDeferred h0 h1)).2⟩
    · rw [hl]
      exact List.forall_mem_append.mpr
        ⟨hd.sbo, fun o ho hs => absurd (isSbo_isExec hs) (Bool.eq_false_iff.mp (hlp o ho))⟩
    · rw [hl]; exact List.forall_mem_append.mpr ⟨hd.rep hr, hlp⟩
    · rw [hl, hf.select]; exact hd.sel.append hlp

theorem PassInv.req {a0 a b : Acc} (h : PassInv a0 a) {f : Frag} {ctrl : AppCtrl} {func : Nat}
    {objects : Except Nat (List ObjHdr)} {raw : List Nat} (hp : a.1.pending = some f)
    (hq : parseRequest f.data = .request ctrl func objects raw)
    (sp : IdleSpec (popped a) b f ctrl func objects raw) : PassInv a0 b := by
  refine ⟨sp.now.trans h.now, sp.cfg.trans h.cfg, sp.frameId.trans h.frameId, ?_⟩
  rcases h.cases with q | ⟨f', ctrl', func', objects', raw', s1, hd⟩
  · obtain ⟨l, hl, hsbo, hrep, hsel⟩ := sp.outs
    replace hl : b.2 = a.2 ++ l := hl
    have hpend : a0.1.pending = some f := by
      rcases q.pending with h1 | h1
      · rw [← h1]; exact hp
      · rw [h1] at hp; contradiction
    refine .inr ⟨f, ctrl, func, objects, raw, (popped a).1, hpend, hq, q.select, h.now, h.cfg,
      fun h0 => (q.keep h0).1, sp.pending, ?_, fun hr => ?_, ?_, fun h0 h1 => ?_⟩
    · rw [hl]
      exact List.forall_mem_append.mpr
        ⟨fun o ho hs => absurd (isSbo_isExec hs) (Bool.eq_false_iff.mp (q.outs o ho)), hsbo⟩
    · rw [hl]; exact List.forall_mem_append.mpr ⟨q.outs, hrep hr⟩
    · rw [hl]; exact hsel.prepend q.outs
    · have hdn : (popped a).1.deferred = none := (q.keep h0).2
      rcases sp.deferred with h | h | h
      · exact h.trans hdn
      · exact h
      · exact absurd h h1
  · rw [hd.pending] at hp; contradiction

theorem PassInv.of_pass {a0 a c : Acc} (hp : Pass a c) (h : PassInv a0 a) : PassInv a0 c := by
  induction hp with
  | refl => exact h
  | frame hf _ ih => exact ih (h.frame hf)
  | req f ctrl func objects raw hpend hq sp _ ih => exact ih (h.req hpend hq sp)

theorem PassInv.start {a0 : Acc} (h : ∀ o ∈ a0.2, isExec o = false) : PassInv a0 a0 :=
  ⟨rfl, rfl, rfl, .inl ⟨.inl rfl, rfl, fun h0 => ⟨rfl, h0⟩, h⟩⟩

/-! ## Every step consumes the fragment it works on

An invariant per `Skel.Step` (`PendI`: a fragment retained by `Confirm::NewRequest` meets a pass that has fuel, or a
wait that consumes it), carried along `Skel.Settles`: the wait entered with the fragment retained consumes it, so one
more dispatch is enough (`settles_done`; the `8` of the model's `settle 8` is never used up). -/

def PendDone (a : Acc) : Prop := a.1.pending = none ∨ a.1.mode = .dead

theorem PendDone.not_retains {a : Acc} (h : PendDone a) : ¬ Skel.Retains a.1 := by
  rintro ⟨hp, hm⟩
  rcases h with h | h
  · rw [h] at hp; cases hp
  · rw [h] at hm; rcases hm with ⟨_, _, _, hm⟩ | ⟨_, _, _, _, hm⟩ <;> cases hm

/-- blocked in a wait whose fragment handler consumes a retained fragment (the unsolicited confirm wait, the
    solicited confirm wait of a deferred read) -/
def InWait1 (a : Acc) : Prop :=
  (∃ r n t d, a.1.mode = .unsolWait r n t d) ∨ (∃ sr dl nx, a.1.mode = .solWait sr dl (.fromDeferred nx))

open Skel in
/-- inside a pass that may still hold the fragment of a new request: it was consumed (or the task died), or the
    pass that will find it has fuel; with `w` the task may meanwhile block in a wait that consumes it -/
def PendI (w : Bool) : Pt × Acc → Prop
  | (.blk, a) => PendDone a ∨ (w = true ∧ InWait1 a)
  | (.halt, a) => PendDone a
  | (.req fuel, a) | (.uns fuel _, a) => a.1.pending = none ∨ (w = true ∧ 0 < fuel)
  | (.dfr fuel _, a) => a.1.pending = none ∨ 0 < fuel

theorem PendI.of_none {w : Bool} {y : Skel.Pt × Acc} (h : y.2.1.pending = none) : PendI w y := by
  obtain ⟨p, a⟩ := y
  cases p <;> first | exact .inl (.inl h) | exact .inl h

theorem pendI_step {w : Bool} {x y : Skel.Pt × Acc} (h : Skel.TStep x y) (hx : PendI w x) : PendI w y := by
  obtain ⟨h, hb⟩ := h
  by_cases hpn : x.2.1.pending = none
  · exact .of_none ((Pass.of_step h).pending_none hpn)
  cases h with
  | pass | solFragment | solTimeout | unsolFragment | unsolTimeout => exact absurd rfl hb
  | chkDie | defDie => exact .inr rfl
  | chkStart a _ a' he => exact .inr ⟨(hx.resolve_left hpn).1, .inl (Frame.checkUnsolicited_inl_mode he)⟩
  | chkIdle => exact .inr (hx.resolve_left hpn)
  | defWait a _ n a' he =>
    obtain ⟨sr, dl, e⟩ := Frame.handleDeferredRead_inl_mode he
    exact .inr ⟨(hx.resolve_left hpn).1, .inr ⟨sr, dl, n, e⟩⟩
  | defDone => exact .inr (hx.resolve_left hpn).2
  | finishPass a _ n hw => exact .inl (.inl (Skel.idleWakes_of_pending hw))
  | again a _ n y _ hc => exact .of_none (passCase_pass hc).2
  | fuel => exact absurd (hx.resolve_left hpn) (Nat.lt_irrefl 0)

open Skel in
/-- the first handler of a dispatch: a fragment it leaves retained (`Confirm::NewRequest`) meets a pass with full fuel;
    the fragment handler of a wait in `InWait1` leaves none -/
theorem pendI_first {a : Acc} {y : Pt × Acc} (h : Step (.blk, a) y) : PendI true y ∧ (InWait1 a → PendI false y) := by
  have none : y.2.1.pending = none → PendI true y ∧ (InWait1 a → PendI false y) :=
    fun h => ⟨.of_none h, fun _ => .of_none h⟩
  cases h with
  | pass a n y _ _ hc => exact none (passCase_pass hc).2
  | solTimeout a sr dl c hm hp hd => exact none ((Pass.of_step (.solTimeout a sr dl c hm hp hd)).pending_none hp)
  | unsolTimeout a resp isNull rt dl y hm hp hd hc =>
    exact none ((Pass.of_step (.unsolTimeout a resp isNull rt dl y hm hp hd hc)).pending_none hp)
  | unsolFragment a resp isNull rt dl y _ _ hc =>
    cases uwfCase_end hc with
    | blocked _ h _ _ => exact none h
    | died _ _ => exact ⟨.inr rfl, fun _ => .inr rfl⟩
    | finished c _ h _ => exact none ((Frame.afterUnsolSeries _ _ _).pending_none h)
  | solFragment a sr dl c y hm _ hc =>
    cases swfCase_end hc with
    | blocked _ h => exact none h
    | died _ => exact ⟨.inr rfl, fun _ => .inr rfl⟩
    | resumed _ h => exact none ((resumePt_frame _ _).pending_none h)
    | newRequest _ =>
      cases c with
      | fromRequest =>
        refine ⟨.inr ⟨rfl, by decide⟩, fun hw => ?_⟩
        rcases hw with ⟨_, _, _, _, h⟩ | ⟨_, _, _, h⟩ <;> cases hm.symm.trans h
      | fromDeferred n => exact ⟨.inr (by decide), fun _ => .inr (by decide)⟩

theorem tail_rank {w : Bool} {y : Skel.Pt × Acc} {r : StepRes} (h : Skel.Tail y r) (hy : PendI w y) :
    PendDone (accOf r) ∨ (w = true ∧ ∃ a, r = .blocked a ∧ InWait1 a) := by
  obtain ⟨z, hz, hf, e⟩ := h
  have hz' := Skel.Star.inv (fun _ _ h => pendI_step h) hz hy
  rw [e]
  obtain ⟨p, a⟩ := z
  rcases hf with rfl | rfl
  · exact hz'.imp id fun ⟨hw, h⟩ => ⟨hw, a, rfl, h⟩
  · exact .inl hz'

theorem PendDone.pass {a c : Acc} (h : PendDone a) (hp : Pass a c) (hm : a.1.mode = .dead → c = a) : PendDone c := by
  rcases h with h | h
  · exact .inl (hp.pending_none h)
  · rw [hm h]; exact .inr h

open Skel in
/-- `settle` needs one more dispatch at most: the fragment handler of an `InWait1` wait and the pass after it -/
theorem settles_done {n : Nat} {r r' : StepRes} (h : Settles n r r') :
    (PendDone (accOf r) → PendDone (accOf r')) ∧
    (∀ a, r = .blocked a → InWait1 a → 0 < n → PendDone (accOf r')) := by
  induction h with
  | @stop n r hs =>
    refine ⟨id, fun a e hw hn => ?_⟩
    subst e
    refine .inl (Classical.byContradiction fun hp => ?_)
    have hr : Retains a.1 := ⟨by cases h : a.1.pending <;> first | exact absurd h hp | rfl, by
      rcases hw with ⟨r, n, t, d, h⟩ | ⟨sr, dl, nx, h⟩
      · exact .inr ⟨_, _, _, _, h⟩
      · exact .inl ⟨_, _, _, h⟩⟩
    exact absurd (hs a rfl hr) (by omega)
  | again hr hs ht _ ih =>
    refine ⟨fun hd => absurd hr hd.not_retains, fun a e hw _ => ?_⟩
    cases e
    exact ih.1 ((tail_rank ht ((pendI_first hs).2 hw)).resolve_right fun h => nomatch h.1)

open Skel in
theorem first_done {a : Acc} {y : Pt × Acc} {r : StepRes} (hy : Step (.blk, a) y) (ht : Tail y r) :
    PendDone (accOf (settle 8 r)) := by
  rcases tail_rank ht (pendI_first hy).1 with h | ⟨-, b, e, hw⟩
  · exact (settles_done (settle_settles 8 r)).1 h
  · exact (settles_done (settle_settles 8 r)).2 b e hw (by decide)

theorem quiesce_done (a : Acc) : PendDone (finishStep (settle 8 (dispatch a))) := by
  rw [finishStep_eq]
  rcases Skel.dispatch_first a with ⟨e, hd⟩ | ⟨y, hy, ht⟩
  · exact (settles_done (Skel.settle_settles 8 _)).1 (e ▸ hd.symm)
  · exact first_done hy ht

theorem quiesce_runPass_done (a : Acc) (n : NextIdle) (hm : a.1.mode = .idle n) (hw : idleWakes a.1 = true) :
    PendDone (finishStep (settle 8 (runPass passFuel a))) := by
  rw [finishStep_eq]
  obtain ⟨y, hy, ht⟩ := Skel.runPass_first a n hm hw
  exact first_done hy ht

def tickOf : OInput → Nat
  | .tick ms => ms
  | _ => 0

/-- a panic unwound the task -/
def isDead (s : OState) : Bool := s.mode matches .dead

/-- the clock a step runs at: once the task is dead nothing happens any more, so a `.tick` does not advance `now`
    then. -/
def stepNow (s : OState) (i : OInput) : Nat := s.now + (if isDead s then 0 else tickOf i)

def isCut : OInput → Bool
  | .cut => true
  | _ => false

/-- the state a step starts its pass in -/
structure StepStart (env : OEnv) (s : OState) (i : OInput) (a0 : Acc) : Prop where
  cfg : a0.1.cfg = s.cfg
  now : a0.1.now = stepNow s i
  benign : ∀ o ∈ a0.2, isExec o = false
  select : a0.1.select = s.select ∨ isCut i = true ∧ a0.1.select = none
  keep : (a0.1.lastReq = s.lastReq ∧ a0.1.deferred = s.deferred) ∨ isCut i = true
  frag : (∃ src dst data f, i = .rx src dst data ∧ rxAccept env s src dst data = some f ∧
            a0.1.pending = some f ∧ a0.1.frameId = (s.frameId + 1) % 4294967296) ∨
         (a0.1.frameId = s.frameId ∧ (a0.1.pending = s.pending ∨ a0.1.pending = none) ∧
            ∀ src dst data, i = .rx src dst data → rxAccept env s src dst data = none)

theorem isExec_of_line {o : OOut} (h : Frame.OOut.kind o = .line) : isExec o = false := by
  cases o <;> first | rfl | (rename_i c; cases c <;> cases h)

theorem StepStart.plain {env : OEnv} {s s0 : OState} {i : OInput} {l : List OOut}
    (hk : (s0.cfg, s0.select, s0.lastReq, s0.deferred, s0.frameId, s0.pending) =
      (s.cfg, s.select, s.lastReq, s.deferred, s.frameId, s.pending))
    (hn : s0.now = stepNow s i) (hl : ∀ o ∈ l, isExec o = false)
    (hrx : ∀ src dst data, i = .rx src dst data → rxAccept env s src dst data = none) :
    StepStart env s i (s0, l) := by
  simp only [Prod.mk.injEq] at hk
  obtain ⟨h1, h2, h3, h4, h5, h6⟩ := hk
  exact ⟨h1, hn, hl, .inl h2, .inl ⟨h3, h4⟩, .inr ⟨h5, .inl h6, hrx⟩⟩

theorem isDead_iff (s : OState) : isDead s = true ↔ s.mode = .dead := by
  unfold isDead
  cases s.mode <;> simp

theorem alive_of_isDead {s : OState} (hd : isDead s = false) : s.mode ≠ .dead :=
  fun h => by rw [(isDead_iff s).mpr h] at hd; cases hd

theorem step_dead (env : OEnv) (s : OState) (i : OInput) (hd : isDead s = true) :
    Outstation.step env s i =
      ((match i with | .setScript f => { s with script := f s.script } | _ => s), []) :=
  Skel.step_dead env s i ((isDead_iff s).mp hd)

theorem rxAccept_dead (env : OEnv) (s : OState) (src dst : Nat) (data : List Nat) (hd : isDead s = true) :
    rxAccept env s src dst data = none := by
  unfold rxAccept
  split
  · simp only [if_true]
  · rename_i h
    exact absurd ((isDead_iff s).mp hd) (fun e => h e)

theorem init_rx {env : OEnv} {s : OState} (h : s.mode ≠ .dead) (src dst : Nat) (data : List Nat) :
    Skel.init env s (.rx src dst data) =
      match rxAccept env s src dst data with
      | none => .done (s, [])
      | some f => .dispatch (Skel.rxState s f, []) := by
  rw [rxAccept_eq h]
  dsimp only [Skel.init]
  cases Skel.rxBroadcast env dst with
  | none => rfl
  | some b => dsimp only; split <;> rfl

theorem step_rx (env : OEnv) (s : OState) (src dst : Nat) (data : List Nat) :
    Outstation.step env s (.rx src dst data) =
      match rxAccept env s src dst data with
      | none => (s, [])
      | some f => finishStep (settle 8 (dispatch
          ({ s with frameId := (s.frameId + 1) % 4294967296, pending := some f }, []))) := by
  cases hd : isDead s with
  | true => rw [step_dead env s _ hd, rxAccept_dead env s src dst data hd]
  | false =>
    rw [Skel.step_init env s _ (alive_of_isDead hd), init_rx (alive_of_isDead hd)]
    cases rxAccept env s src dst data <;> rfl

theorem step_start (env : OEnv) (s : OState) (i : OInput) :
    ∃ a0, StepStart env s i a0 ∧ Pass a0 (Outstation.step env s i) := by
  cases hd : isDead s with
  | true =>
    rw [step_dead env s i hd]
    refine ⟨_, .plain ?_ ?_ (by simp) (fun a b c _ => rxAccept_dead env s a b c hd), .refl _⟩
    · cases i <;> rfl
    · rw [stepNow, hd]; cases i <;> rfl
  | false =>
    have hn : ∀ ms, tickOf i = ms → s.now + ms = stepNow s i := fun ms h => by rw [stepNow, hd, h]; rfl
    rw [Skel.step_init env s i (alive_of_isDead hd)]
    cases i with
    | setScript g => exact ⟨({ s with script := g s.script }, []), .plain rfl (hn 0 rfl) (fun _ h => nomatch h) nofun, .refl _⟩
    | rx src dst data =>
      rw [init_rx (alive_of_isDead hd)]
      cases hr : rxAccept env s src dst data with
      | none => exact ⟨(s, []), .plain rfl (hn 0 rfl) (fun _ h => nomatch h) fun _ _ _ h => by cases h; exact hr, .refl _⟩
      | some f =>
        exact ⟨(Skel.rxState s f, []), ⟨rfl, hn 0 rfl, by simp, .inl rfl, .inl ⟨rfl, rfl⟩,
          .inl ⟨src, dst, data, f, rfl, hr, rfl, rfl⟩⟩, quiesce_pass _⟩
    | tick ms => exact ⟨({ s with now := s.now + ms }, []), .plain rfl (hn ms rfl) (fun _ h => nomatch h) nofun, quiesce_pass _⟩
    | txn items =>
      have k := Skel.txnFold_upd s items
      exact ⟨({ (Skel.txnFold s items).1 with notified := true }, (Skel.txnFold s items).2),
        ⟨k.get .cfg, (k.get .now).trans (hn 0 rfl), fun o ho => isExec_of_line (Skel.txnFold_outs s items o ho),
          .inl (k.get .select), .inl ⟨k.get .lastReq, k.get .deferred⟩,
          .inr ⟨k.get .frameId, .inl (k.get .pending), nofun⟩⟩, quiesce_pass _⟩
    | add t idx cls =>
      exact ⟨({ s with db := (s.db.add t idx cls).1, notified := true }, _),
        .plain rfl (hn 0 rfl) (fun o ho => by rw [List.mem_singleton.mp ho]; rfl) nofun, quiesce_pass _⟩
    | cut =>
      exact ⟨(Skel.cutState s, [.line "session link stdio UnexpectedEof"]),
        ⟨rfl, hn 0 rfl, (fun o ho => by rw [List.mem_singleton.mp ho]; rfl), .inr ⟨rfl, rfl⟩, .inr rfl,
          .inr ⟨rfl, .inr rfl, nofun⟩⟩, quiesce_runPass_pass _ .noSleep rfl (by simp [idleWakes, Skel.cutState])⟩

/-- the fragment a step works on: the one just delivered by the transport layer for an `.rx`
    input, else the one retained from an earlier step (`s.pending`) -/
def CurFrag (env : OEnv) (s : OState) (i : OInput) (f : Frag) : Prop :=
  (∃ src dst data, i = .rx src dst data ∧ rxAccept env s src dst data = some f) ∨
  ((∀ src dst data, i = .rx src dst data → rxAccept env s src dst data = none) ∧ s.pending = some f)

theorem step_inv (env : OEnv) (s : OState) (i : OInput) :
    ∃ a0, StepStart env s i a0 ∧ PassInv a0 (Outstation.step env s i) := by
  obtain ⟨a0, hs, hp⟩ := step_start env s i
  exact ⟨a0, hs, PassInv.of_pass hp (PassInv.start hs.benign)⟩

theorem StepStart.curFrag {env : OEnv} {s : OState} {i : OInput} {a0 : Acc} (h : StepStart env s i a0) {f : Frag}
    (hp : a0.1.pending = some f) : CurFrag env s i f := by
  rcases h.frag with ⟨src, dst, data, f', hi, hr, hp', -⟩ | ⟨-, hp', hr⟩
  · rw [hp] at hp'
    simp only [Option.some.injEq] at hp'
    subst hp'
    exact .inl ⟨src, dst, data, hi, hr⟩
  · rcases hp' with hp' | hp'
    · exact .inr ⟨hr, hp' ▸ hp⟩
    · rw [hp'] at hp; contradiction

theorem StepStart.select_some {env : OEnv} {s : OState} {i : OInput} {a0 : Acc} (h : StepStart env s i a0) {sel : Sel}
    (hs : a0.1.select = some sel) : s.select = some sel := by
  rcases h.select with h | ⟨-, h⟩
  · rw [← h]; exact hs
  · rw [h] at hs; contradiction

/-- **C04.2 (step level, every state)**: stated for the property, and described, as `Props.C04.step_sbo_needs_match` -/
theorem step_sbo_needs_match (env : OEnv) (s : OState) (i : OInput) (o : OOut)
    (ho : o ∈ (Outstation.step env s i).2) (hsbo : isSbo o = true) :
    ∃ f ctrl hs raw sel, CurFrag env s i f ∧ parseRequest f.data = .request ctrl 4 (.ok hs) raw ∧
      f.broadcast = none ∧ s.select = some sel ∧
      matchOperate sel s.cfg.stimeout (stepNow s i) ctrl.seq f.id raw = none := by
  obtain ⟨a0, hst, hinv⟩ := step_inv env s i
  rcases hinv.cases with q | ⟨f, ctrl, func, objects, raw, s1, hd⟩
  · have := q.outs o ho
    rw [isSbo_isExec hsbo] at this; contradiction
  · obtain ⟨hf4, ⟨hs, hc⟩, sel, hsel, hm⟩ := hd.sbo o ho hsbo
    have hcc := Frame.classify_facts s1 f ctrl func objects
    rw [hc] at hcc
    obtain ⟨-, -, hb, hobj⟩ := hcc
    subst hf4 hobj
    rw [hd.cfg1, hd.now1, hst.cfg, hst.now] at hm
    exact ⟨f, ctrl, hs, raw, sel, hst.curFrag hd.was, hd.parse, hb, hst.select_some (hd.select1 ▸ hsel), hm⟩

/-- **C04.3 (where `select` comes from, every state)**: stated for the property, and described, as `Props.C04.step_select_change` -/
theorem step_select_change (env : OEnv) (s : OState) (i : OInput) :
    (Outstation.step env s i).1.select = s.select ∨
    (isCut i = true ∧ (Outstation.step env s i).1.select = none) ∨
    ∃ f ctrl func hs raw, CurFrag env s i f ∧ parseRequest f.data = .request ctrl func (.ok hs) raw ∧
      f.broadcast = none ∧ func ≠ 0 ∧ func ≠ 1 ∧
      ((func = 3 ∧
          (s.deferred = none → ¬ isCut i = true →
            ¬ ∃ last, s.lastReq = some last ∧ last.seq = ctrl.seq ∧ last.frag = f.data) ∧
          (Outstation.step env s i).1.select = some ⟨ctrl.seq, f.id, stepNow s i, raw⟩ ∧
          SelectAllZero (Outstation.step env s i).2) ∨
       ((s.deferred = none → ¬ isCut i = true →
            ∃ last, s.lastReq = some last ∧ last.seq = ctrl.seq ∧ last.frag = f.data) ∧
          (∀ o ∈ (Outstation.step env s i).2, isExec o = false) ∧
          ∃ sel, s.select = some sel ∧
            func = 3 ∧ sel.seq = ctrl.seq ∧ (sel.frameId + 1) % 2 ^ 32 = f.id ∧ sel.objects = raw ∧
            (Outstation.step env s i).1.select = some { sel with frameId := f.id })) := by
  obtain ⟨a0, hst, hinv⟩ := step_inv env s i
  have hsel0 : ∀ x, x = a0.1.select → x = s.select ∨ (isCut i = true ∧ x = none) := by
    intro x hx
    rcases hst.select with h | ⟨hc, h⟩
    · exact .inl (hx.trans h)
    · exact .inr ⟨hc, hx.trans h⟩
  have hkeep : ∀ s1 : OState, (a0.1.deferred = none → lrKey s1.lastReq = lrKey a0.1.lastReq) →
      s.deferred = none → ¬ isCut i = true → lrKey s1.lastReq = lrKey s.lastReq := by
    intro s1 h1 hd hc
    rcases hst.keep with ⟨h2, h3⟩ | h2
    · rw [h1 (h3.trans hd), h2]
    · exact absurd h2 hc
  rcases hinv.cases with q | ⟨f, ctrl, func, objects, raw, s1, hd⟩
  · exact (hsel0 _ q.select).imp_right .inl
  · obtain ⟨hcc, hdup⟩ := Frame.classify_both s1 f ctrl func objects
    cases hd.sel with
    | keep h => exact (hsel0 _ (h.trans hd.select1)).imp_right .inl
    | set hfresh h3 hs' hz =>
      obtain ⟨hs, hc⟩ := hfresh
      rw [hc] at hcc hdup
      obtain ⟨h0, h1, hb, hobj⟩ := hcc
      subst hobj
      refine .inr (.inr ⟨f, ctrl, func, hs, raw, hst.curFrag hd.was, hd.parse, hb, h0, h1, .inl ⟨h3, ?_, ?_, hz⟩⟩)
      · intro hdn hcut hex
        apply hdup
        exact (lrKey_dup (hkeep s1 hd.keep1 hdn hcut) ctrl.seq f.data).mpr hex
      · rw [hs', hd.now1, hst.now]
    | rebase sel hr hs1 hcond hs' =>
      have hrep := hd.rep hr
      obtain ⟨resp, hc⟩ := hr
      rw [hc] at hcc hdup
      obtain ⟨h0, h1, hb⟩ := hcc
      obtain ⟨⟨hs, hobj⟩, last, hl, hl1, hl2, -⟩ := hdup
      subst hobj
      refine .inr (.inr ⟨f, ctrl, func, hs, raw, hst.curFrag hd.was, hd.parse, hb, h0, h1,
        .inr ⟨?_, hrep, sel, hst.select_some (hd.select1 ▸ hs1), hcond.1, hcond.2.1, hcond.2.2.1, hcond.2.2.2, hs'⟩⟩)
      intro hdn hcut
      exact (lrKey_dup (hkeep s1 hd.keep1 hdn hcut) ctrl.seq f.data).mp ⟨last, hl, hl1, hl2⟩

/-- **C04.4**: stated for the property, and described, as `Props.C04.step_frameId` -/
theorem step_frameId (env : OEnv) (s : OState) (i : OInput) :
    (Outstation.step env s i).1.frameId =
      match i with
      | .rx src dst data =>
        if (rxAccept env s src dst data).isSome then (s.frameId + 1) % 2 ^ 32 else s.frameId
      | _ => s.frameId := by
  obtain ⟨a0, hst, hinv⟩ := step_inv env s i
  rw [hinv.frameId]
  rcases hst.frag with ⟨src, dst, data, f, hi, hr, -, hf⟩ | ⟨hf, -, hr⟩
  · subst hi
    simp [hr, hf]
  · cases i with
    | rx src dst data => simp [hr src dst data rfl, hf]
    | _ => exact hf

theorem rxAccept_id {env : OEnv} {s : OState} {src dst : Nat} {data : List Nat} {f : Frag}
    (h : rxAccept env s src dst data = some f) : f.id = s.frameId ∧ f.data = data ∧ f.src = src := by
  cases hd : isDead s with
  | true => rw [rxAccept_dead env s src dst data hd] at h; cases h
  | false =>
    rw [rxAccept_eq (alive_of_isDead hd)] at h
    split at h
    · split at h
      · cases h; exact ⟨rfl, rfl, rfl⟩
      · cases h
    · cases h

theorem step_cfg_now (env : OEnv) (s : OState) (i : OInput) :
    (Outstation.step env s i).1.cfg = s.cfg ∧ (Outstation.step env s i).1.now = stepNow s i := by
  obtain ⟨a0, hst, hinv⟩ := step_inv env s i
  exact ⟨hinv.cfg.trans hst.cfg, hinv.now.trans hst.now⟩

theorem step_dead_stays (env : OEnv) (s : OState) (i : OInput) (hd : isDead s = true) :
    isDead (Outstation.step env s i).1 = true := by
  rw [step_dead env s i hd]
  cases i <;> exact hd

/-- **C04.6 (every step consumes the fragment it works on)**: stated for the property, and described, as `Props.C04.step_pending` -/
theorem step_pending (env : OEnv) (s : OState) (i : OInput) (h : s.pending = none ∨ isDead s = true) :
    (Outstation.step env s i).1.pending = none ∨ isDead (Outstation.step env s i).1 = true := by
  have conv : ∀ a : Acc, PendDone a → a.1.pending = none ∨ isDead a.1 = true :=
    fun a ha => ha.imp id (isDead_iff _).mpr
  cases hd : isDead s with
  | true => exact .inr (step_dead_stays env s i hd)
  | false =>
    have hpn : s.pending = none := h.resolve_right (by rw [hd]; nofun)
    rw [Skel.step_init env s i (alive_of_isDead hd)]
    cases i with
    | setScript g => exact .inl hpn
    | rx src dst data =>
      rw [init_rx (alive_of_isDead hd)]
      cases rxAccept env s src dst data with
      | none => exact .inl hpn
      | some f => exact conv _ (quiesce_done _)
    | cut => exact conv _ (quiesce_runPass_done _ .noSleep rfl (by simp [idleWakes, Skel.cutState]))
    | _ => exact conv _ (quiesce_done _)

theorem start_pending (cfg : OCfg) (evMax : Nat) : (Outstation.start cfg evMax).1.pending = none := by
  unfold Outstation.start
  exact (quiesce_runPass_pass _ .noSleep rfl rfl).pending_none rfl

/-- one g12v1 (CROB) object, qualifier 0x17, index 0 -/
def cexObjs : List Nat := [12, 1, 0x17, 1, 0, 3, 1, 100, 0, 0, 0, 100, 0, 0, 0, 0]
def cexSelect : List Nat := [0xC0, 3] ++ cexObjs
def cexWrite : List Nat := [0xC1, 0x02, 0x50, 0x01, 0x00, 0x07, 0x07, 0x00]
def cexOperate : List Nat := [0xC1, 4] ++ cexObjs
/-- a solicited CONFIRM, sequence number 0 -/
def cexConfirm : List Nat := [0xC0, 0]

/-- SELECT seq 0; WRITE seq 1; the identical WRITE again; OPERATE seq 1 with the SELECT's objects -/
def cexInputs : List OInput :=
  [.rx 1 1024 cexSelect, .rx 1 1024 cexWrite, .rx 1 1024 cexWrite, .rx 1 1024 cexOperate]

def sboCount (outs : List (List OOut)) : Nat := (outs.map fun l => (l.filter isSbo).length).sum

/-- the verdict `handleControls` computes for a function-4 request -/
def operateVerdict (s : OState) (seq fid : Nat) (raw : List Nat) : Option Nat :=
  match s.select with
  | none => some 2
  | some sel => matchOperate sel s.cfg.stimeout s.now seq fid raw

theorem operateVerdict_none_iff (s : OState) (seq fid : Nat) (raw : List Nat) :
    operateVerdict s seq fid raw = none ↔ OperateOk s seq fid raw := by
  unfold operateVerdict OperateOk
  cases s.select with
  | none => simp
  | some sel => simp

theorem operateVerdict_status {s : OState} {seq fid : Nat} {raw : List Nat} {st : Nat}
    (h : operateVerdict s seq fid raw = some st) : st = 1 ∨ st = 2 := by
  unfold operateVerdict at h
  cases hs : s.select with
  | none => rw [hs] at h; simp at h; exact .inr h.symm
  | some sel => rw [hs] at h; exact match_operate_status_ne_zero _ _ _ _ _ _ _ h

/-- the echo loop of a rejected OPERATE: no handler is called (`kind = none`), every object is written
    back with status `st` -/
def rejectRun (a : Acc) (st : Nat) (hs : List ObjHdr) : CtlRun :=
  ctlAll none st none hs { acc := a, cap := a.1.cfg.sol - 4 }

/-- **C04.2 for `handleNonRead`** (and, below, `handleRequestFromIdle`) -/
theorem handleNonRead_sbo_needs_match {a a' : Acc} {func seq fid : Nat} {hs : List ObjHdr} {raw : List Nat}
    {r : Option Resp} (h : handleNonRead a func seq fid hs raw = some (a', r)) :
    ∃ l, a'.2 = a.2 ++ l ∧ ∀ o ∈ l, isSbo o = true → func = 4 ∧ OperateOk a.1 seq fid raw := by
  obtain ⟨_, l, hl, -, -, hsbo⟩ := (handleNonRead_spec h).summary
  exact ⟨l, hl, hsbo⟩

theorem handleRequestFromIdle_sbo_needs_match {a a' : Acc} {f : Frag} {ctrl : AppCtrl} {func : Nat}
    {objects : Except Nat (List ObjHdr)} {raw : List Nat} {sr : Option Series}
    (h : handleRequestFromIdle a f ctrl func objects raw = some (a', sr)) :
    ∃ l, a'.2 = a.2 ++ l ∧ ∀ o ∈ l, isSbo o = true →
      func = 4 ∧ f.broadcast = none ∧ (∃ hs, objects = .ok hs) ∧ OperateOk a.1 ctrl.seq f.id raw := by
  obtain ⟨l, hl, hsbo, -, -⟩ := (idle_spec h).outs
  refine ⟨l, hl, fun o ho hs => ?_⟩
  obtain ⟨h4, ⟨hs', hc⟩, hok⟩ := hsbo o ho hs
  have hcc := Frame.classify_facts a.1 f ctrl func objects
  rw [hc] at hcc
  exact ⟨h4, hcc.2.2.1, ⟨hs', hcc.2.2.2⟩, hok⟩

-- examples: the hypotheses are satisfiable by concrete non-trivial instances
example : operateVerdict { (OState.init {} 0) with select := some ⟨3, 7, 100, [12, 1]⟩, now := 200 } 4 8 [12, 1] = none := by
  decide
example : operateVerdict { (OState.init {} 0) with select := some ⟨3, 7, 100, [12, 1]⟩, now := 200 } 4 9 [12, 1] = some 2 := by
  decide
example : operateVerdict (OState.init {} 0) 4 9 [12, 1] = some 2 := by decide
example : isSbo (.cb (.control .sbo 12 1 0 [3, 1] 0)) = true := rfl
example : isSbo (.cb (.control .dop 12 1 0 [3, 1] 0)) = false := rfl

theorem step_cut_select (env : OEnv) (s : OState) (h : isDead s = false) :
    (Outstation.step env s .cut).1.select = none := by
  rw [Skel.step_init env s _ (alive_of_isDead h)]
  have hinv := PassInv.of_pass (quiesce_runPass_pass (Skel.cutState s, [.line "session link stdio UnexpectedEof"])
    .noSleep rfl (by simp [idleWakes, Skel.cutState])) (PassInv.start (by simp [isExec]))
  rcases hinv.cases with q | ⟨f, ctrl, func, objects, raw, s1, hd⟩
  · exact q.select
  · have := hd.was; simp [Skel.cutState] at this

theorem start_select (cfg : OCfg) (evMax : Nat) : (Outstation.start cfg evMax).1.select = none := by
  unfold Outstation.start
  have hinv := PassInv.of_pass (quiesce_runPass_pass (OState.init cfg evMax, []) .noSleep rfl rfl) (PassInv.start (by simp))
  rcases hinv.cases with q | ⟨f, ctrl, func, objects, raw, s1, hd⟩
  · exact q.select
  · have := hd.was; simp [OState.init] at this

theorem run_append (env : OEnv) (s : OState) (l1 l2 : List OInput) :
    (Outstation.run env s (l1 ++ l2)).1 = (Outstation.run env (Outstation.run env s l1).1 l2).1 := by
  induction l1 generalizing s with
  | nil => rfl
  | cons i is ih =>
    simp only [List.cons_append, Outstation.run]
    exact ih _

/-- the state before input number `n` -/
def stateAt (env : OEnv) (s0 : OState) (inputs : List OInput) (n : Nat) : OState :=
  (Outstation.run env s0 (inputs.take n)).1

theorem stateAt_succ (env : OEnv) (s0 : OState) (inputs : List OInput) (n : Nat) (h : n < inputs.length) :
    stateAt env s0 inputs (n + 1) = (Outstation.step env (stateAt env s0 inputs n) inputs[n]).1 := by
  unfold stateAt
  rw [List.take_succ_eq_append_getElem h, run_append]
  simp [Outstation.run]

theorem stateAt_zero (env : OEnv) (s0 : OState) (inputs : List OInput) : stateAt env s0 inputs 0 = s0 := rfl

def outsAt (env : OEnv) (s0 : OState) (inputs : List OInput) (n : Nat) (h : n < inputs.length) : List OOut :=
  (Outstation.step env (stateAt env s0 inputs n) inputs[n]).2


/-- the step hypothesis speaks of `Outstation.step` on the state before input `k`, whose second component is
    `outsAt … k` -/
theorem stateAt_ind {env : OEnv} {s0 : OState} {inputs : List OInput} {P : Nat → OState → Prop} {m n : Nat}
    (hmn : m ≤ n) (hn : n ≤ inputs.length) (hm : P m (stateAt env s0 inputs m))
    (hstep : ∀ (k : Nat) (hk : k < inputs.length), m ≤ k → k < n → P k (stateAt env s0 inputs k) →
      P (k + 1) (Outstation.step env (stateAt env s0 inputs k) inputs[k]).1) :
    P n (stateAt env s0 inputs n) := by
  induction n with
  | zero => exact Nat.le_zero.mp hmn ▸ hm
  | succ n ih =>
    by_cases h : m = n + 1
    · exact h ▸ hm
    · rw [stateAt_succ env s0 inputs n (by omega)]
      exact hstep n (by omega) (by omega) (by omega)
        (ih (by omega) (by omega) fun k hk h1 h2 => hstep k hk h1 (by omega))

theorem stateAt_inv {env : OEnv} {s0 : OState} {inputs : List OInput} {P : OState → Prop}
    (hstep : ∀ s i, P s → P (Outstation.step env s i).1) {m n : Nat} (hmn : m ≤ n) (hn : n ≤ inputs.length)
    (hm : P (stateAt env s0 inputs m)) : P (stateAt env s0 inputs n) :=
  stateAt_ind (P := fun _ => P) hmn hn hm fun _ _ _ _ => hstep _ _

theorem stateAt_cfg (env : OEnv) (s0 : OState) (inputs : List OInput) (n : Nat) (h : n ≤ inputs.length) :
    (stateAt env s0 inputs n).cfg = s0.cfg :=
  stateAt_inv (P := fun s => s.cfg = s0.cfg) (fun s i hs => (step_cfg_now env s i).1.trans hs) (Nat.zero_le n) h rfl

theorem CurFrag.delivered {env : OEnv} {s : OState} {i : OInput} {f : Frag} (h : CurFrag env s i f)
    (hp : s.pending = none) : ∃ src dst data, i = .rx src dst data ∧ rxAccept env s src dst data = some f := by
  rcases h with h | ⟨_, h⟩
  · exact h
  · rw [hp] at h; contradiction

theorem CurFrag.unique {env : OEnv} {s : OState} {i : OInput} {f g : Frag} (h : CurFrag env s i f)
    (h' : CurFrag env s i g) (hp : s.pending = none) : g = f := by
  obtain ⟨src, dst, data, hi, hr⟩ := h.delivered hp
  obtain ⟨src', dst', data', hi', hr'⟩ := h'.delivered hp
  rw [hi] at hi'
  simp only [OInput.rx.injEq] at hi'
  obtain ⟨rfl, rfl, rfl⟩ := hi'
  rw [hr] at hr'
  simpa using hr'.symm

theorem step_frameId_delivered {env : OEnv} {s : OState} {i : OInput} {f : Frag} (h : CurFrag env s i f)
    (hp : s.pending = none) :
    (Outstation.step env s i).1.frameId = (s.frameId + 1) % 2 ^ 32 ∧ f.id = s.frameId := by
  obtain ⟨src, dst, data, rfl, hr⟩ := h.delivered hp
  have := step_frameId env s (.rx src dst data)
  simp only [hr, Option.isSome_some, if_true] at this
  exact ⟨this, (rxAccept_id hr).1⟩

theorem step_frameId_idle {env : OEnv} {s : OState} {i : OInput} (h : ∀ f, ¬ CurFrag env s i f) :
    (Outstation.step env s i).1.frameId = s.frameId := by
  have := step_frameId env s i
  cases i with
  | rx src dst data =>
    cases hr : rxAccept env s src dst data with
    | none => simpa [hr] using this
    | some f => exact absurd (.inl ⟨src, dst, data, rfl, hr⟩) (h f)
  | _ => exact this

theorem stateAt_dead_succ (env : OEnv) (s0 : OState) (inputs : List OInput) (n : Nat) (h : n < inputs.length)
    (hd : isDead (stateAt env s0 inputs n) = true) : isDead (stateAt env s0 inputs (n + 1)) = true := by
  rw [stateAt_succ env s0 inputs n h]
  exact step_dead_stays env _ _ hd

theorem stateAt_pending (env : OEnv) (s0 : OState) (h0 : s0.pending = none) (inputs : List OInput) (n : Nat)
    (hn : n ≤ inputs.length) :
    (stateAt env s0 inputs n).pending = none ∨ isDead (stateAt env s0 inputs n) = true :=
  stateAt_inv (step_pending env) (Nat.zero_le n) hn (.inl h0)

theorem stateAt_pending_alive (env : OEnv) (s0 : OState) (h0 : s0.pending = none) (inputs : List OInput) (n : Nat)
    (hn : n ≤ inputs.length) (ha : isDead (stateAt env s0 inputs n) = false) :
    (stateAt env s0 inputs n).pending = none := by
  rcases stateAt_pending env s0 h0 inputs n hn with h | h
  · exact h
  · rw [ha] at h; contradiction

theorem forall_between_succ {len j n : Nat} {P : (m : Nat) → m < len → Prop} (hn : n < len)
    (h1 : ∀ m hm, j < m → m < n → P m hm) (h2 : P n hn) : ∀ m hm, j < m → m < n + 1 → P m hm := by
  intro m hm hjm hmn
  by_cases hmn' : m < n
  · exact h1 m hm hjm hmn'
  · have : m = n := by omega
    subst this
    exact h2

def Retransmitted (env : OEnv) (s0 : OState) (inputs : List OInput) (j n seq : Nat) (raw : List Nat) : Prop :=
  ∀ (m : Nat) (hm : m < inputs.length), j < m → m < n →
    ∀ f, CurFrag env (stateAt env s0 inputs m) inputs[m] f →
      ∃ cm hsm, parseRequest f.data = .request cm 3 (.ok hsm) raw ∧ f.broadcast = none ∧ cm.seq = seq ∧
        ∀ o ∈ outsAt env s0 inputs m hm, isExec o = false

/-- step `j` stored `sel`, up to its frame id (which retransmissions re-base) -/
def SelOrigin (env : OEnv) (s0 : OState) (inputs : List OInput) (j : Nat) (hj : j < inputs.length) (sel : Sel) :
    Prop :=
  ∃ f ctrl hs, CurFrag env (stateAt env s0 inputs j) inputs[j] f ∧
    parseRequest f.data = .request ctrl 3 (.ok hs) sel.objects ∧ f.broadcast = none ∧
    SelectAllZero (outsAt env s0 inputs j hj) ∧ sel.seq = ctrl.seq ∧
    sel.time = stepNow (stateAt env s0 inputs j) inputs[j]

/-- `sel` was stored by the successful function-3 request of step `j < n` and survived — possibly re-based by
    retransmissions of that SELECT — up to (the state before) step `n`, with no effective `.cut` in between.
    Frame-counter bookkeeping (for runs from an empty transport reader, shorter than 2^32 steps, task alive):
    the counter is `d` ahead of `sel.frameId + 1`, where `d = 0` exactly as long as every fragment delivered
    since step `j` was a retransmission that re-based the select. -/
def SelFrom (env : OEnv) (s0 : OState) (inputs : List OInput) (n : Nat) (sel : Sel) : Prop :=
  ∃ (j : Nat) (hj : j < inputs.length), j < n ∧ SelOrigin env s0 inputs j hj sel ∧
    (∀ (m : Nat) (hm : m < inputs.length), j < m → m < n → isCut inputs[m] = true →
      isDead (stateAt env s0 inputs m) = true) ∧
    (s0.pending = none → n ≤ 2 ^ 32 → isDead (stateAt env s0 inputs n) = false →
      ∃ d, d + j < n ∧ (stateAt env s0 inputs n).frameId = (sel.frameId + 1 + d) % 2 ^ 32 ∧
        (d = 0 → Retransmitted env s0 inputs j n sel.seq sel.objects))

theorem select_provenance (env : OEnv) (s0 : OState) (h0 : s0.select = none) (inputs : List OInput) (n : Nat)
    (hn : n ≤ inputs.length) (sel : Sel) (hs : (stateAt env s0 inputs n).select = some sel) :
    SelFrom env s0 inputs n sel := by
  induction n generalizing sel with
  | zero => rw [stateAt_zero, h0] at hs; contradiction
  | succ n ih =>
    have hlt : n < inputs.length := by omega
    have hsucc := stateAt_succ env s0 inputs n hlt
    have e32 : (2:Nat) ^ 32 = 4294967296 := by decide
    have hcut : isCut inputs[n] = true → isDead (stateAt env s0 inputs n) = true := by
      intro hc
      cases hdd : isDead (stateAt env s0 inputs n) with
      | true => rfl
      | false =>
        exfalso
        have hi : inputs[n] = .cut := by
          cases hin : inputs[n] <;> simp [hin, isCut] at hc
          rfl
        have := step_cut_select env _ hdd
        rw [← hi, ← hsucc, hs] at this
        contradiction
    have halive : s0.pending = none → isDead (stateAt env s0 inputs (n + 1)) = false →
        isDead (stateAt env s0 inputs n) = false ∧ (stateAt env s0 inputs n).pending = none := by
      intro hp0 ha
      cases hdd : isDead (stateAt env s0 inputs n) with
      | true => rw [stateAt_dead_succ env s0 inputs n hlt hdd] at ha; contradiction
      | false => exact ⟨rfl, stateAt_pending_alive env s0 hp0 inputs n (by omega) hdd⟩
    -- a select with provenance before step `n` that the step keeps, or re-bases to the delivered fragment's id
    have keep : ∀ sel0 : Sel, SelFrom env s0 inputs n sel0 → ∀ sel : Sel,
        sel.seq = sel0.seq → sel.objects = sel0.objects → sel.time = sel0.time →
        (sel.frameId = sel0.frameId ∨
          ∃ f ctrl hs', CurFrag env (stateAt env s0 inputs n) inputs[n] f ∧ sel.frameId = f.id ∧
            (sel0.frameId + 1) % 2 ^ 32 = f.id ∧ parseRequest f.data = .request ctrl 3 (.ok hs') sel0.objects ∧
            f.broadcast = none ∧ ctrl.seq = sel0.seq ∧ ∀ o ∈ outsAt env s0 inputs n hlt, isExec o = false) →
        SelFrom env s0 inputs (n + 1) sel := by
      rintro sel0 ⟨j, hj, hjn, ho, hr, hch⟩ sel e1 e2 e3 hfid
      refine ⟨j, hj, by omega, ?_, ?_, ?_⟩
      · obtain ⟨f, ctrl, hs', h1, h2, h3, h4, h5, h6⟩ := ho
        exact ⟨f, ctrl, hs', h1, e2 ▸ h2, h3, h4, e1 ▸ h5, e3 ▸ h6⟩
      · exact forall_between_succ hlt hr hcut
      · intro hp0 hle ha
        obtain ⟨han, hpn⟩ := halive hp0 ha
        obtain ⟨d, hd1, hd2, hd3⟩ := hch hp0 (by omega) han
        rw [hsucc, e1, e2]
        rcases hfid with hfid | ⟨f, ctrl, hs', hcf, hfid, hnext, hp, hb, hq, hne⟩
        · rw [hfid]
          by_cases hcur : ∃ g, CurFrag env (stateAt env s0 inputs n) inputs[n] g
          · obtain ⟨g, hg⟩ := hcur
            refine ⟨d + 1, by omega, ?_, fun h => by omega⟩
            rw [(step_frameId_delivered hg hpn).1, hd2, e32]
            omega
          · refine ⟨d, by omega, ?_, fun hd0 => ?_⟩
            · rw [step_frameId_idle (fun g hg => hcur ⟨g, hg⟩), hd2]
            · exact forall_between_succ hlt (hd3 hd0) fun g hg => absurd ⟨g, hg⟩ hcur
        · obtain ⟨hF, hid⟩ := step_frameId_delivered hcf hpn
          have hd0 : d = 0 := by
            rw [← hid, ← hnext, e32] at hd2
            rw [e32] at hle
            omega
          refine ⟨0, by omega, by rw [hF, hfid, hid], fun _ => forall_between_succ hlt (hd3 hd0) fun g hg => ?_⟩
          have := CurFrag.unique hcf hg hpn
          subst this
          exact ⟨ctrl, hs', hp, hb, hq, hne⟩
    rw [hsucc] at hs
    rcases step_select_change env (stateAt env s0 inputs n) inputs[n] with h | ⟨-, h⟩ |
      ⟨f, ctrl, func, hs', raw, hcf, hp, hb, hf0, hf1, h⟩
    · -- unchanged
      rw [h] at hs
      exact keep sel (ih (by omega) sel hs) sel rfl rfl rfl (.inl rfl)
    · rw [h] at hs; contradiction
    · rcases h with ⟨h3, -, hsel, hz⟩ | ⟨-, hne, sel0, hsel0, h3, hq, hfid, hobj, hsel⟩
      · -- set by the SELECT of this step
        rw [hsel] at hs
        cases hs
        subst h3
        refine ⟨n, hlt, by omega, ⟨f, ctrl, hs', hcf, hp, hb, hz, rfl, rfl⟩, fun m _ h1 h2 => by omega, ?_⟩
        intro hp0 hle ha
        obtain ⟨han, hpn⟩ := halive hp0 ha
        obtain ⟨hF, hid⟩ := step_frameId_delivered hcf hpn
        refine ⟨0, by omega, ?_, fun _ m _ h1 h2 => by omega⟩
        rw [hsucc, hF]
        show _ = (f.id + 1 + 0) % 2 ^ 32
        rw [hid]
      · -- re-based by a retransmission of the SELECT
        rw [hsel] at hs
        cases hs
        subst h3 hobj
        exact keep sel0 (ih (by omega) sel0 hsel0) _ rfl rfl rfl
          (.inr ⟨f, ctrl, hs', hcf, rfl, hfid, hp, hb, hq.symm, hne⟩)

theorem outsAt_dead (env : OEnv) (s0 : OState) (inputs : List OInput) (k : Nat) (hk : k < inputs.length)
    (hd : isDead (stateAt env s0 inputs k) = true) : outsAt env s0 inputs k hk = [] := by
  unfold outsAt
  rw [step_dead env _ _ hd]

/-- **C04.5 (`operate_needs_select`, full trace statement)**: stated for the property, and described, as `Props.C04.operate_needs_select` -/
theorem operate_needs_select (env : OEnv) (s0 : OState) (h0 : s0.select = none) (inputs : List OInput)
    (k : Nat) (hk : k < inputs.length) (o : OOut) (ho : o ∈ outsAt env s0 inputs k hk) (hsbo : isSbo o = true) :
    ∃ (j : Nat) (hj : j < inputs.length), j < k ∧ ∃ fj cj hsj fk ck hsk raw,
      CurFrag env (stateAt env s0 inputs j) inputs[j] fj ∧
      parseRequest fj.data = .request cj 3 (.ok hsj) raw ∧ fj.broadcast = none ∧
      SelectAllZero (outsAt env s0 inputs j hj) ∧
      CurFrag env (stateAt env s0 inputs k) inputs[k] fk ∧
      parseRequest fk.data = .request ck 4 (.ok hsk) raw ∧ fk.broadcast = none ∧
      ck.seq = seq4Next cj.seq ∧
      stepNow (stateAt env s0 inputs k) inputs[k] - stepNow (stateAt env s0 inputs j) inputs[j] ≤
        s0.cfg.stimeout ∧
      (∀ (m : Nat) (hm : m < inputs.length), j < m → m < k → isCut inputs[m] = true →
        isDead (stateAt env s0 inputs m) = true) ∧
      (s0.pending = none → k < 2 ^ 32 →
        ∀ (m : Nat) (hm : m < inputs.length), j < m → m < k →
          ∀ f, CurFrag env (stateAt env s0 inputs m) inputs[m] f →
            ∃ cm hsm, parseRequest f.data = .request cm 3 (.ok hsm) raw ∧ f.broadcast = none ∧
              cm.seq = cj.seq ∧ ∀ o ∈ outsAt env s0 inputs m hm, isExec o = false) := by
  obtain ⟨fk, ck, hsk, raw, sel, hcf, hp, hb, hsel, hm⟩ :=
    step_sbo_needs_match env (stateAt env s0 inputs k) inputs[k] o ho hsbo
  obtain ⟨m1, m2, m3, m4⟩ := (match_operate_iff _ _ _ _ _ _).mp hm
  obtain ⟨j, hj, hjk, ⟨fj, cj, hsj, hcfj, hpj, hbj, hz, e1, e3⟩, hr, hch⟩ :=
    select_provenance env s0 h0 inputs k (by omega) sel hsel
  rw [stateAt_cfg env s0 inputs k (by omega)] at m4
  refine ⟨j, hj, hjk, fj, cj, hsj, fk, ck, hsk, sel.objects, hcfj, hpj, hbj, hz, hcf, m3 ▸ hp, hb, ?_, ?_, hr, ?_⟩
  · rw [m1, e1]
  · rw [← e3]; exact m4
  · intro hp0 hlen
    have halive : isDead (stateAt env s0 inputs k) = false := by
      cases hdd : isDead (stateAt env s0 inputs k) with
      | false => rfl
      | true => rw [outsAt_dead env s0 inputs k hk hdd] at ho; simp at ho
    have hpk := stateAt_pending_alive env s0 hp0 inputs k (by omega) halive
    obtain ⟨d, hd1, hd2, hd3⟩ := hch hp0 (by omega) halive
    have hid := (step_frameId_delivered hcf hpk).2
    have e32 : (2:Nat) ^ 32 = 4294967296 := by decide
    have hd0 : d = 0 := by
      rw [← hid, m2, e32] at hd2
      rw [e32] at hlen
      omega
    exact e1 ▸ hd3 hd0

-- the hypotheses of `operate_needs_select` are satisfiable: SELECT, its retransmission, OPERATE — step 2 actuates
-- (and the run is from a state with no stored SELECT and an empty transport reader, shorter than 2^32)
example : ∃ o ∈ outsAt {} (Outstation.start {} 10).1
    [.rx 1 1024 cexSelect, .rx 1 1024 cexSelect, .rx 1 1024 cexOperate] 2 (by decide), isSbo o = true := by
  decide +kernel
example : (Outstation.start {} 10).1.select = none ∧ (Outstation.start {} 10).1.pending = none :=
  ⟨start_select _ _, start_pending _ _⟩
example : (2 : Nat) < 2 ^ 32 := by decide

end Dnp3.Proofs.C04
