import Dnp3.Proofs.OutstationStep
/-!
# A phase-labelled, provenance-carrying event skeleton of the outstation session

`Dnp3.Proofs.Skel.Ev` forgets (a) which response a solicited transmission carries and (b) where in a
`dispatch` an event can occur (its wait events only ask for `mode = unsolWait …`, which also holds for
the left-over mode while the pass that follows the end of a series is still running).  Whole-trace
theorems about the octets on the wire need both.  `Ev2 pf ph a ph' a'` refines `Ev`:

* a phase `Ph`: `.blk` — the task is blocked in (or is being dispatched from) `a.1.mode`, which is
  genuine; `.tl` — the idle pass is running (`mode` may be left over from a wait that just ended).
  Wait events start in `.blk`; the events of the idle pass live in `.tl`; events that set `mode`
  (and `die`) lead back to `.blk`;
* every solicited transmission comes with the model expression that produced the response.

`step_reach2` / `start_reach2`: whatever `Outstation.step` / `Outstation.start` compute is reached by a
chain of such events.  `Reach2.toReach` forgets the refinement (all per-event lemmas about `Ev` apply).
`mon_run`: a monitor over the outputs whose per-event soundness is shown accepts every trace.

What the events cannot say: that nothing runs after `die` (it leads to `.blk`, and the phase-neutral events
`house`, `noteCb`, `clrDeferred`, `dbReset`, `errResp` are possible from any state, a dead one included), and which
branch a handler took.  A property "in mode m / after X there is no Y" for such a Y, or one that needs the branch,
is proved per `Skel.Step` (`OutstationStep`), not per event.
-/
namespace Dnp3.Proofs.Skel2
open Dnp3 Dnp3.Proofs.Frame Dnp3.Proofs.Iin Dnp3.Proofs.Skel

attribute [local irreducible] Db.new Db.add Db.update Db.readSupported Db.select Db.writeResponse
  Db.writeUnsolicited Db.clearWritten Db.reset Db.unwrittenClasses Db.isOverflown

inductive Ph where | blk | tl
deriving DecidableEq, Repr

/-- housekeeping updates: `notified`, `nextLinkStatus`; `pending` may be consumed (`lastReq` is NOT touched) -/
def House2 (s s' : OState) : Prop :=
  ∃ n l p, (p = s.pending ∨ p = none) ∧ s' = { s with notified := n, nextLinkStatus := l, pending := p }

theorem House2.refl (s : OState) : House2 s s := ⟨_, _, _, Or.inl rfl, rfl⟩

theorem House2.trans {s1 s2 s3 : OState} (h1 : House2 s1 s2) (h2 : House2 s2 s3) : House2 s1 s3 := by
  obtain ⟨n1, l1, p1, hp1, e1⟩ := h1
  obtain ⟨n2, l2, p2, hp2, e2⟩ := h2
  subst e1
  subst e2
  refine ⟨n2, l2, p2, ?_, rfl⟩
  rcases hp2 with h | h
  · subst h; exact hp1
  · exact Or.inr h

theorem House2.notified (s : OState) (b : Bool) : House2 s { s with notified := b } := ⟨_, _, _, Or.inl rfl, rfl⟩
theorem House2.pendNone (s : OState) : House2 s { s with pending := none } := ⟨_, _, _, Or.inr rfl, rfl⟩
theorem House2.link (s : OState) : House2 s (onLinkActivity s) := ⟨_, _, _, Or.inl rfl, rfl⟩

theorem House2.toHouse {s s' : OState} (h : House2 s s') : House s s' := by
  obtain ⟨n, l, p, hp, e⟩ := h
  exact ⟨n, l, s.lastReq, p, hp, e⟩

theorem House2.mode {s s' : OState} (h : House2 s s') : s'.mode = s.mode := by
  obtain ⟨_, _, _, _, e⟩ := h; subst e; rfl

theorem House2.of_pop {s s' : OState} {p : Popped} (h : popRequest s = (s', p)) : House2 s s' := by
  cases popRequest_cases h with
  | foreign => exact House2.pendNone _
  | _ => exact House2.refl _

/-- the fragment of this step has a header-level error (`TransportRequest::Error`) -/
def ErrFrag (pf : Option Frag) : Prop :=
  ∃ f, pf = some f ∧ (parseRequest f.data = .insufficient ∨ ∃ q, parseRequest f.data = .headerError q)

def Cb.note : Cb → Bool
  | .modelFuelExhausted | .solWrongSeq .. | .unexpectedConfirm .. => true
  | _ => false

/-- one event of the session, with phases and provenance -/
inductive Ev2 (pf : Option Frag) : Ph → Acc → Ph → Acc → Prop
  | house (ph : Ph) (a : Acc) (s' : OState) : House2 a.1 s' → Ev2 pf ph a ph (s', a.2)
  | noteCb (ph : Ph) (a : Acc) (c : Cb) : Cb.note c = true → Ev2 pf ph a ph (emitCb a c)
  | die (ph : Ph) (a : Acc) : Ev2 pf ph a .blk (emit ({ a.1 with mode := .dead }, a.2) .panic)
  | clrDeferred (ph : Ph) (a : Acc) : Ev2 pf ph a ph ({ a.1 with deferred := none }, a.2)
  | dbReset (ph : Ph) (a : Acc) : Ev2 pf ph a ph ({ a.1 with db := a.1.db.reset }, a.2)
  | errResp (ph : Ph) (a : Acc) (src : Nat) (bc : Bool) (seq : Option Nat) (a' : Acc) : ErrFrag pf →
      writeErrorResponse a src bc seq = some a' → (∃ f, pf = some f ∧ src = f.src ∧ bc = f.broadcast.isSome) →
      Ev2 pf ph a ph a'
  | enter (a : Acc) (n : NextIdle) : a.1.mode = .idle n → Ev2 pf .blk a .tl a
  | reqIdle (a : Acc) (f : Frag) (ctrl : AppCtrl) (func : Nat) (objs : Except Nat (List ObjHdr)) (raw : List Nat)
      (a' : Acc) : ReqOf pf f ctrl func objs raw →
      handleRequestFromIdle a f ctrl func objs raw = some (a', none) → Ev2 pf .tl a .tl a'
  | reqIdleWait (a : Acc) (f : Frag) (ctrl : AppCtrl) (func : Nat) (objs : Except Nat (List ObjHdr)) (raw : List Nat)
      (a' : Acc) (sr : Series) : ReqOf pf f ctrl func objs raw →
      handleRequestFromIdle a f ctrl func objs raw = some (a', some sr) →
      Ev2 pf .tl a .blk (enterSolWait a' sr .fromRequest)
  | chkStart (a a' : Acc) : checkUnsolicited a = some (.inl a') → Ev2 pf .tl a .blk a'
  | chkIdle (a a' : Acc) (n : NextIdle) : checkUnsolicited a = some (.inr (a', n)) → Ev2 pf .tl a .tl a'
  | defWait (a : Acc) (n : NextIdle) (a' : Acc) : handleDeferredRead a n = some (.inl a') → Ev2 pf .tl a .blk a'
  | defDone (a : Acc) (n : NextIdle) (a' : Acc) : handleDeferredRead a n = some (.inr a') → Ev2 pf .tl a .tl a'
  | finishPass (a : Acc) (n : NextIdle) : Ev2 pf .tl a .blk (finishPass a n)
  | solEcho (a : Acc) (sr : Series) (dl : Nat) (c : SolCont) (f : Frag) (ctrl : AppCtrl) (func : Nat)
      (objs : Except Nat (List ObjHdr)) (raw : List Nat) (resp : Option Resp) (hs : List ObjHdr) :
      a.1.mode = .solWait sr dl c → ReqOf pf f ctrl func objs raw →
      classify a.1 f ctrl func objs = .repeatRead resp hs →
      Ev2 pf .blk a .blk (solEchoAcc a sr c f.src resp)
  | solAbortNew (a : Acc) (sr : Series) (dl : Nat) (c : SolCont) : a.1.mode = .solWait sr dl c →
      (ErrFrag pf ∨ ∃ f ctrl func objs raw, ReqOf pf f ctrl func objs raw ∧ func ≠ 0) →
      Ev2 pf .blk a .tl (emitCb a .solNewRequest)
  | solAbortTimeout (a : Acc) (sr : Series) (dl : Nat) (c : SolCont) : a.1.mode = .solWait sr dl c →
      a.1.pending = none → Ev2 pf .blk a .tl (emitCb a (.solTimeout sr.ecsn))
  | solConf (a : Acc) (sr : Series) (dl : Nat) (c : SolCont) (f : Frag) (ctrl : AppCtrl) (objs : Except Nat (List ObjHdr))
      (raw : List Nat) : a.1.mode = .solWait sr dl c → ReqOf pf f ctrl 0 objs raw → ctrl.uns = false →
      ctrl.seq = sr.ecsn →
      Ev2 pf .blk a .tl (clearWrittenEvents ({ a.1 with lastBroadcast := none }, a.2 ++ [.cb (.solConfirmed sr.ecsn)]))
  | solCont (a : Acc) (sr : Series) (dl : Nat) (c : SolCont) (f : Frag) (a7 : Acc) (r7 : Resp) :
      a.1.mode = .solWait sr dl c → sr.fin = false → (∃ ctrl objs raw, ReqOf pf f ctrl 0 objs raw) →
      writeSolicited ((formatReadResponse a.1 false (seq4Next sr.ecsn) 0).1, a.2) f.src
        (formatReadResponse a.1 false (seq4Next sr.ecsn) 0).2.1 = some (a7, r7) →
      Ev2 pf .tl a .tl ({ a7.1 with lastReq := a7.1.lastReq.map (fun lr => { lr with response := some r7 }) }, a7.2)
  | solNext (a : Acc) (sr : Series) (dl : Nat) (c : SolCont) (sr' : Series) : a.1.mode = .solWait sr dl c →
      Ev2 pf .tl a .blk ({ a.1 with mode := .solWait sr' (a.1.now + a.1.cfg.ctimeout) c }, a.2)
  | unsolConf (a : Acc) (resp : Resp) (isNull : Bool) (retries : Option Nat) (dl : Nat) (f : Frag) (ctrl : AppCtrl)
      (objs : Except Nat (List ObjHdr)) (raw : List Nat) :
      a.1.mode = .unsolWait resp isNull retries dl → ReqOf pf f ctrl 0 objs raw → ctrl.uns = true →
      ctrl.seq = resp.ctrl.seq →
      Ev2 pf .blk a .tl (afterUnsolSeries (emitCb ({ a.1 with lastBroadcast := if a.1.unsolReported then none else a.1.lastBroadcast }, a.2)
        (.unsolConfirmed resp.ctrl.seq)) isNull true).1
  | uwSolConfirm (a : Acc) (resp : Resp) (isNull : Bool) (retries : Option Nat) (dl : Nat) (f : Frag) (ctrl : AppCtrl)
      (objs : Except Nat (List ObjHdr)) (raw : List Nat) :
      a.1.mode = .unsolWait resp isNull retries dl → ReqOf pf f ctrl 0 objs raw → ctrl.uns = false →
      Ev2 pf .blk a .blk (if a.1.lastBroadcast = some 1 then ({ a.1 with lastBroadcast := none }, a.2) else a)
  | uwBcast (a : Acc) (resp : Resp) (isNull : Bool) (retries : Option Nat) (dl : Nat) (f : Frag) (m : Nat)
      (ctrl : AppCtrl) (func : Nat) (objs : Except Nat (List ObjHdr)) (raw : List Nat) (a' : Acc) :
      a.1.mode = .unsolWait resp isNull retries dl → ReqOf pf f ctrl func objs raw → func ≠ 0 →
      f.broadcast = some m → processBroadcast a f m ctrl func objs raw = some a' →
      Ev2 pf .blk a .blk ({ a'.1 with unsolReported := false }, a'.2)
  | uwMalformed (a : Acc) (resp : Resp) (isNull : Bool) (retries : Option Nat) (dl : Nat) (f : Frag) (ctrl : AppCtrl)
      (func : Nat) (e : Nat) (raw : List Nat) (a' : Acc) (r' : Resp) :
      a.1.mode = .unsolWait resp isNull retries dl → ReqOf pf f ctrl func (.error e) raw → func ≠ 0 →
      f.broadcast = none → writeSolicited a f.src (emptySolicited ctrl.seq e) = some (a', r') →
      Ev2 pf .blk a .blk a'
  | uwNonRead (a : Acc) (resp : Resp) (isNull : Bool) (retries : Option Nat) (dl : Nat) (f : Frag) (ctrl : AppCtrl)
      (func : Nat) (hs : List ObjHdr) (raw : List Nat) (a4 : Acc) (r4 : Option Resp) (a5 : Acc) (r5 : Option Resp) :
      a.1.mode = .unsolWait resp isNull retries dl → ReqOf pf f ctrl func (.ok hs) raw → func ≠ 0 → func ≠ 1 →
      f.broadcast = none → handleNonRead a func ctrl.seq f.id hs raw = some (a4, r4) →
      NRWritten a4 f.src r4 a5 r5 →
      Ev2 pf .blk a .blk ({ a5.1 with lastReq := some ⟨ctrl.seq, f.data, r5, none⟩ }, a5.2)
  | uwNonReadDie (a : Acc) (resp : Resp) (isNull : Bool) (retries : Option Nat) (dl : Nat) (f : Frag) (ctrl : AppCtrl)
      (func : Nat) (hs : List ObjHdr) (raw : List Nat) (a4 : Acc) (r : Resp) :
      a.1.mode = .unsolWait resp isNull retries dl → ReqOf pf f ctrl func (.ok hs) raw → func ≠ 0 → func ≠ 1 →
      f.broadcast = none → handleNonRead a func ctrl.seq f.id hs raw = some (a4, some r) →
      writeSolicited a4 f.src r = none →
      Ev2 pf .blk a .blk (emit ({ a4.1 with mode := .dead }, a4.2) .panic)
  | uwDisable (a : Acc) (resp : Resp) (isNull : Bool) (retries : Option Nat) (dl : Nat) (f : Frag) (ctrl : AppCtrl)
      (hs : List ObjHdr) (raw : List Nat) :
      a.1.mode = .unsolWait resp isNull retries dl → ReqOf pf f ctrl 21 (.ok hs) raw →
      Ev2 pf .blk a .tl (afterUnsolSeries a isNull false).1
  | deferSet (a : Acc) (resp : Resp) (isNull : Bool) (retries : Option Nat) (dl : Nat) (f : Frag) (ctrl : AppCtrl)
      (hs : List ObjHdr) (raw : List Nat) : a.1.mode = .unsolWait resp isNull retries dl →
      ReqOf pf f ctrl 1 (.ok hs) raw → f.broadcast = none → Ev2 pf .blk a .blk (deferredSet a.1 f ctrl.seq hs, a.2)
  | uwEcho (a : Acc) (resp : Resp) (isNull : Bool) (retries : Option Nat) (dl : Nat) (f : Frag) (ctrl : AppCtrl)
      (func : Nat) (objs : Except Nat (List ObjHdr)) (raw : List Nat) (last : Option Resp) :
      a.1.mode = .unsolWait resp isNull retries dl → ReqOf pf f ctrl func objs raw →
      classify a.1 f ctrl func objs = .repeatNonRead last →
      Ev2 pf .blk a .blk (uwEchoAcc a f.src last)
  | uwTimeoutEnd (a : Acc) (resp : Resp) (isNull : Bool) (retries : Option Nat) (dl : Nat) :
      a.1.mode = .unsolWait resp isNull retries dl → a.1.pending = none →
      (a.1.deferred.isSome = true ∨ retries = some 0) →
      Ev2 pf .blk a .tl (afterUnsolSeries (emitCb a (.unsolTimeout resp.ctrl.seq false)) isNull false).1
  | uwRetry (a : Acc) (resp : Resp) (isNull : Bool) (retries retries' : Option Nat) (dl : Nat) :
      a.1.mode = .unsolWait resp isNull retries dl → a.1.pending = none → a.1.deferred = none →
      ((retries = none ∧ retries' = none) ∨ ∃ n, retries = some (n + 1) ∧ retries' = some n) →
      Ev2 pf .blk a .blk ({ (repeatUnsolicited (emitCb a (.unsolTimeout resp.ctrl.seq true)) resp).1 with
                  mode := .unsolWait resp isNull retries' (a.1.now + a.1.cfg.ctimeout) },
               (repeatUnsolicited (emitCb a (.unsolTimeout resp.ctrl.seq true)) resp).2)

abbrev PA := Ph × Acc

def R2 (pf : Option Frag) (x y : PA) : Prop := Ev2 pf x.1 x.2 y.1 y.2

abbrev Reach2 (pf : Option Frag) (x y : PA) : Prop := Star (R2 pf) x y

theorem Reach2.tail {pf : Option Frag} {x : PA} {ph ph' : Ph} {a a' : Acc} (h : Reach2 pf x (ph, a))
    (e : Ev2 pf ph a ph' a') : Reach2 pf x (ph', a') := Star.tail h (show R2 pf (ph, a) (ph', a') from e)

theorem Ev2.toReach {pf : Option Frag} {ph ph' : Ph} {a a' : Acc} (h : Ev2 pf ph a ph' a') : Reach pf a a' := by
  cases h with
  | house _ _ s' hh => exact Star.single (Ev.house a s' hh.toHouse)
  | noteCb _ _ c hc => exact Star.single (Ev.plainCb a c (by cases c <;> simp_all [Cb.note, Cb.plain]))
  | die _ _ => exact Star.single (Ev.die a)
  | clrDeferred _ _ => exact Star.single (Ev.clrDeferred a)
  | dbReset _ _ => exact Star.single (Ev.dbReset a)
  | errResp _ _ src bc seq _ _ hw => exact writeErrorResponse_reach hw
  | enter _ n _ => exact Star.refl _
  | reqIdle _ f ctrl func objs raw _ hq hh => exact Star.single (Ev.reqIdle a f ctrl func objs raw _ _ hq hh)
  | reqIdleWait _ f ctrl func objs raw a1 sr hq hh =>
    exact Star.tail (Star.single (Ev.reqIdle a f ctrl func objs raw a1 _ hq hh)) (Ev.enterSol _ _ _)
  | chkStart _ _ hc => exact Star.single (Ev.chkStart a _ hc)
  | chkIdle _ _ n hc => exact Star.single (Ev.chkIdle a _ n hc)
  | defWait _ n _ hd => exact Star.single (Ev.defWait a n _ hd)
  | defDone _ n _ hd => exact Star.single (Ev.defDone a n _ hd)
  | finishPass _ n => exact Star.single (Ev.finishPass a n)
  | solEcho _ sr dl c f ctrl func objs raw resp hs hm hq hc =>
    have h1 : Reach pf a ({ a.1 with pending := none }, a.2) := Star.single (Ev.house a _ (House.pendNone _))
    unfold solEchoAcc
    cases resp with
    | none => exact Star.tail h1 (Ev.setSolWait _ _ _ _)
    | some r => exact Star.tail (Star.tail h1 (Ev.rsol _ _ _)) (Ev.setSolWait _ _ _ _)
  | solAbortNew _ sr dl c _ _ => exact Star.single (Ev.plainCb a _ rfl)
  | solAbortTimeout _ sr dl c _ _ => exact Star.single (Ev.plainCb a _ rfl)
  | solConf _ sr dl c f ctrl objs raw hm hq hu hs => exact Star.single (Ev.solConf a sr dl c f ctrl objs raw hm hq hu hs)
  | solCont _ sr dl c f a7 r7 hm hfin hq hw =>
    have h1 : Reach pf a ((formatReadResponse a.1 false (seq4Next sr.ecsn) 0).1, a.2) := Star.single (Ev.fmtRead a _ _ _)
    have h2 := Star.tail h1 (Ev.wsol _ _ _ _ _ hw)
    exact Star.tail h2 (Ev.house a7 _ (House.lastReq a7.1 _))
  | solNext _ sr dl c sr' _ => exact Star.single (Ev.setSolWait a _ _ _)
  | unsolConf _ resp isNull retries dl f ctrl objs raw hm hq hu hs =>
    exact Star.single (Ev.unsolConf a resp isNull retries dl f ctrl objs raw hm hq hu hs)
  | uwSolConfirm _ resp isNull retries dl f ctrl objs raw hm hq hu =>
    exact Star.single (Ev.uwSolConfirm a resp isNull retries dl f ctrl objs raw hm hq hu)
  | uwBcast _ resp isNull retries dl f m ctrl func objs raw a1 hm hq hf hb hp =>
    have h1 : Reach pf a a1 := Star.single (Ev.bcast a f m ctrl func objs raw a1 hq hf hb hp)
    have hm4 : a1.1.mode = .unsolWait resp isNull retries dl := ((processBroadcast_eff hp).get .mode).trans hm
    exact Star.tail h1 (Ev.uwBcastSeen a1 resp isNull retries dl f m ctrl func objs raw hm4 hq hf hb
      (processBroadcast_lastBroadcast hp))
  | uwMalformed _ resp isNull retries dl f ctrl func e raw _ r' _ _ _ _ hw => exact Star.single (Ev.wsol _ _ _ _ _ hw)
  | uwNonRead _ resp isNull retries dl f ctrl func hs raw a4 r4 a5 r5 hm hq hf0 hf1 hb hn hw =>
    have h1 : Reach pf a a4 := Star.single (Ev.nonRead a f ctrl func hs raw a4 r4 hq hf0 hf1 hb hn)
    have h2 : Reach pf a a5 := by
      rcases hw with ⟨_, e, _⟩ | ⟨r, r', _, hws, _⟩
      · subst e; exact h1
      · exact Star.tail h1 (Ev.wsol _ _ _ _ _ hws)
    exact Star.tail h2 (Ev.house a5 _ (House.lastReq a5.1 _))
  | uwNonReadDie _ resp isNull retries dl f ctrl func hs raw a4 r hm hq hf0 hf1 hb hn hw =>
    exact Star.tail (Star.single (Ev.nonRead a f ctrl func hs raw a4 _ hq hf0 hf1 hb hn)) (Ev.die a4)
  | uwDisable _ resp isNull retries dl f ctrl hs raw hm hq =>
    exact Star.single (Ev.uwDisable a resp isNull retries dl f ctrl hs raw hm hq)
  | deferSet _ resp isNull retries dl f ctrl hs raw _ hq hb => exact Star.single (Ev.deferSet a f ctrl hs raw hq hb)
  | uwEcho _ resp isNull retries dl f ctrl func objs raw last _ _ _ =>
    unfold uwEchoAcc
    cases last with
    | none => exact Star.single (Ev.clrDeferred a)
    | some r => exact Star.tail (Star.single (Ev.rsol a _ _)) (Ev.clrDeferred _)
  | uwTimeoutEnd _ resp isNull retries dl hm _ hd => exact Star.single (Ev.uwTimeoutEnd a resp isNull retries dl hm hd)
  | uwRetry _ resp isNull retries retries' dl hm _ hd hr =>
    exact Star.single (Ev.uwRetry a resp isNull retries retries' dl hm hd hr)

theorem Reach2.toReach {pf : Option Frag} {x y : PA} (h : Reach2 pf x y) : Reach pf x.2 y.2 := by
  induction h with
  | refl => exact Star.refl _
  | tail _ r ih => exact Star.trans ih (Ev2.toReach r)

theorem Reach2.base {pf : Option Frag} {x y : PA} (h : Reach2 pf x y) : Base x.2 y.2 := h.toReach.base

def _root_.Dnp3.Proofs.Skel.Pt.ph : Pt → Ph
  | .blk | .halt => .blk
  | _ => .tl

section
variable {pf : Option Frag}

theorem Ev2.single {ph ph' : Ph} {a a' : Acc} (e : Ev2 pf ph a ph' a') : Reach2 pf (ph, a) (ph', a') :=
  Star.single (show R2 pf (ph, a) (ph', a') from e)

theorem die_reach2 {ph : Ph} (a : Acc) : Reach2 pf (ph, a) ((diePt a).1.ph, (diePt a).2) := (Ev2.die ph a).single

theorem resume_reach2 (a : Acc) (c : SolCont) : Reach2 pf (.tl, a) ((resumePt a c).1.ph, (resumePt a c).2) := by
  cases c with
  | fromRequest => exact Star.refl _
  | fromDeferred n => exact (Ev2.clrDeferred .tl a).single

theorem abort_reach2 (a : Acc) (c : SolCont) : Reach2 pf (.tl, a) ((abortPt a c).1.ph, (abortPt a c).2) :=
  (Ev2.dbReset .tl a).single.trans (resume_reach2 _ c)

theorem errFrag_of_pop {s s' : OState} {src : Nat} {bc : Bool} {seq : Option Nat}
    (h : popRequest s = (s', .error src bc seq)) (hpo : s.pending = none ∨ s.pending = pf) :
    ErrFrag pf ∧ ∃ f, pf = some f ∧ src = f.src ∧ bc = f.broadcast.isSome := by
  obtain ⟨f, -, hp, hs, hb, -, hq⟩ := error_of_pop h
  have hpf : pf = some f := by
    rcases hpo with e | e
    · rw [hp] at e; cases e
    · rw [← e]; exact hp
  refine ⟨⟨f, hpf, ?_⟩, f, hpf, hs, hb⟩
  rcases hq with ⟨h1, _⟩ | ⟨q, h1, _⟩
  · exact Or.inl h1
  · exact Or.inr ⟨q, h1⟩

theorem _root_.Dnp3.Proofs.Skel.PassCase.reach2 {a : Acc} {fuel : Nat} {y : Pt × Acc} (hpo : PendOk pf a)
    (hy : PassCase a fuel y) :
    Reach2 pf (.tl, a) (y.1.ph, y.2) := by
  have h1 : Reach2 pf (.tl, a) (.tl, ({ a.1 with notified := false }, a.2)) :=
    (Ev2.house .tl a _ (House2.notified _ _)).single
  obtain ⟨s, p, hpop, hy⟩ := hy
  have hh : House2 { a.1 with notified := false } s := .of_pop hpop
  have p1 : Reach2 pf (.tl, a) (.tl, (onLinkActivity { s with pending := none }, a.2)) :=
    h1.tail (Ev2.house .tl _ _ (House2.trans hh (House2.trans (House2.pendNone _) (House2.link _))))
  cases hy with
  | nothing => exact h1.tail (Ev2.house .tl _ _ (House2.trans hh (House2.pendNone _)))
  | errorDie | requestDie => exact p1.trans (die_reach2 _)
  | error a' hw =>
    have hef := errFrag_of_pop (pf := pf) hpop hpo
    exact p1.tail (Ev2.errResp .tl _ _ _ _ _ hef.1 hw hef.2)
  | requestWait a' sr hq =>
    exact p1.tail (Ev2.reqIdleWait _ _ _ _ _ _ a' sr (.of_pop (s := { a.1 with notified := false }) hpo hpop) hq)
  | request a' hq =>
    exact p1.tail (Ev2.reqIdle _ _ _ _ _ _ a' (.of_pop (s := { a.1 with notified := false }) hpo hpop) hq)

theorem finishPass_idle (a : Acc) (n : NextIdle) : ∃ x, (finishPass a n).1.mode = .idle x := by
  obtain ⟨ls, l, e, -⟩ := finishPass_eq a n
  exact ⟨_, by rw [e]⟩

theorem _root_.Dnp3.Proofs.Skel.SWFCase.reach2 {a : Acc} {sr : Series} {dl : Nat} {cont : SolCont} {y : Pt × Acc} (hpo : PendOk pf a)
    (hm : a.1.mode = .solWait sr dl cont) (hc : SWFCase a sr cont y) : Reach2 pf (.blk, a) (y.1.ph, y.2) := by
  obtain ⟨s, p, hpop, hc⟩ := hc
  -- what `popRequest` left: housekeeping only, so the wait's mode is still genuine
  have hh : House2 a.1 s := .of_pop hpop
  have hm3 : (onLinkActivity s).mode = .solWait sr dl cont := show s.mode = _ by rw [hh.mode, hm]
  have h3 : Reach2 pf (.blk, a) (.blk, (onLinkActivity s, a.2)) :=
    (Ev2.house .blk _ _ (House2.trans hh (House2.link _))).single
  have h4 : Reach2 pf (.blk, a) (.blk, ({ onLinkActivity s with pending := none }, a.2)) :=
    (Ev2.house .blk _ _ (House2.trans hh (House2.trans (House2.link _) (House2.pendNone _)))).single
  cases hc with
  | nothing => exact (Ev2.house .blk _ _ (House2.trans hh (House2.pendNone _))).single
  | error =>
    exact (h3.tail (Ev2.solAbortNew _ sr dl cont hm3 (Or.inl (errFrag_of_pop hpop hpo).1))).trans (abort_reach2 _ cont)
  | newRequest hf =>
    exact (h3.tail (Ev2.solAbortNew _ sr dl cont hm3
      (Or.inr ⟨_, _, _, _, _, .of_pop hpo hpop, hf⟩))).trans (abort_reach2 _ cont)
  | echo resp hcl => exact h3.tail (Ev2.solEcho _ sr dl cont _ _ _ _ _ resp _ hm3 (.of_pop hpo hpop) hcl)
  | unsolConfirm | wrongSeq => exact h4.tail (Ev2.noteCb .blk _ _ rfl)
  | @confirmed f ctrl objs raw y hu hseq ht =>
    have req : ReqOf pf f ctrl 0 objs raw := .of_pop hpo hpop
    have h5 := h4.tail (Ev2.solConf _ sr dl cont f ctrl objs raw hm3 req hu hseq)
    have hm5 : (clearWrittenEvents ({ onLinkActivity s with pending := none, lastBroadcast := none },
        a.2 ++ [.cb (.solConfirmed sr.ecsn)])).1.mode = .solWait sr dl cont := by
      rw [clearWrittenEvents_eq]; exact hm3
    cases ht with
    | done => exact h5.trans (resume_reach2 _ cont)
    | die => exact h5.trans (die_reach2 _)
    | last s6 r6 a7 r7 hfin hfr hw =>
      exact (h5.tail (Ev2.solCont _ sr dl cont f a7 r7 hm5 hfin ⟨ctrl, objs, raw, req⟩
        (by rw [hfr]; exact hw))).trans (resume_reach2 _ cont)
    | next s6 r6 sr' a7 r7 hfin hfr hw =>
      have h8 := h5.tail (Ev2.solCont _ sr dl cont f a7 r7 hm5 hfin ⟨ctrl, objs, raw, req⟩ (by rw [hfr]; exact hw))
      refine h8.tail (Ev2.solNext _ sr dl cont sr' ?_)
      exact ((writeSolicited_eff hw).get .mode : _ = _).trans ((congrArg (·.1.mode) hfr).symm.trans hm5)

theorem _root_.Dnp3.Proofs.Skel.UWFCase.reach2 {a : Acc} {resp : Resp} {isNull : Bool} {retries : Option Nat} {dl : Nat} {y : Pt × Acc}
    (hpo : PendOk pf a) (hm : a.1.mode = .unsolWait resp isNull retries dl) (hc : UWFCase a resp isNull y) :
    Reach2 pf (.blk, a) (y.1.ph, y.2) := by
  obtain ⟨s, p, hpop, hc⟩ := hc
  -- what `popRequest` left: housekeeping only, so the wait's mode is still genuine
  have hh : House2 a.1 s := .of_pop hpop
  have hh2 := House2.trans hh (House2.trans (House2.pendNone _) (House2.link _))
  have h1 : Reach2 pf (.blk, a) (.blk, ({ s with pending := none }, a.2)) :=
    (Ev2.house .blk _ _ (House2.trans hh (House2.pendNone _))).single
  have hm2 : (onLinkActivity { s with pending := none }).mode = .unsolWait resp isNull retries dl := by rw [hh2.mode, hm]
  have h2 : Reach2 pf (.blk, a) (.blk, (onLinkActivity { s with pending := none }, a.2)) :=
    (Ev2.house .blk a _ hh2).single
  -- a request other than a READ or a confirm first drops the deferred READ
  have h3 : Reach2 pf (.blk, a) (.blk, ({ onLinkActivity { s with pending := none } with deferred := none }, a.2)) :=
    h2.tail (Ev2.clrDeferred .blk _)
  cases hc with
  | nothing => exact h1
  | errorDie => exact h1.trans (die_reach2 _)
  | error a' hw =>
    have hef := errFrag_of_pop hpop hpo
    exact (h1.tail (Ev2.clrDeferred .blk _)).tail (Ev2.errResp .blk _ _ _ _ _ hef.1 hw hef.2)
  | unsolConfirm hu hseq => exact h2.tail (Ev2.unsolConf _ resp isNull retries dl _ _ _ _ hm2 (.of_pop hpo hpop) hu hseq)
  | otherConfirm => exact h2
  | solConfirm hu => exact h2.tail (Ev2.uwSolConfirm _ resp isNull retries dl _ _ _ _ hm2 (.of_pop hpo hpop) hu)
  | bcast m a' hf hb hp => exact h3.tail (Ev2.uwBcast _ resp isNull retries dl _ m _ _ _ _ a' hm2 (.of_pop hpo hpop) hf hb hp)
  | malformedDie => exact h2.trans (die_reach2 _)
  | malformed a' r' hf hb hw =>
    exact h3.tail (Ev2.uwMalformed _ resp isNull retries dl _ _ _ _ _ a' r' hm2 (.of_pop hpo hpop) hf hb hw)
  | nonReadWriteDie a4 r hf0 hf1 hb hn hw =>
    exact h3.tail (Ev2.uwNonReadDie _ resp isNull retries dl _ _ _ _ _ a4 r hm2 (.of_pop hpo hpop) hf0 hf1 hb hn hw)
  | nonRead a4 r4 a5 r5 hf0 hf1 hb hn hw =>
    exact h3.tail (Ev2.uwNonRead _ resp isNull retries dl _ _ _ _ _ a4 r4 a5 r5 hm2 (.of_pop hpo hpop) hf0 hf1 hb hn hw)
  | disable a4 r4 a5 r5 hb hn hw =>
    have h6 := h3.tail
      (Ev2.uwNonRead _ resp isNull retries dl _ _ 21 _ _ a4 r4 a5 r5 hm2 (.of_pop hpo hpop) (by decide) (by decide) hb hn hw)
    have hm5 : a5.1.mode = .unsolWait resp isNull retries dl := by
      have hm4 : a4.1.mode = _ := ((handleNonRead_eff hn).get .mode).trans hm2
      rcases hw with ⟨_, e, _⟩ | ⟨r, r', _, hws, _⟩
      · rw [e]; exact hm4
      · exact ((writeSolicited_eff hws).get .mode : _ = _).trans hm4
    exact h6.tail (Ev2.uwDisable _ resp isNull retries dl _ _ _ _ hm5 (.of_pop hpo hpop))
  | read hb => exact h2.tail (Ev2.deferSet _ resp isNull retries dl _ _ _ _ hm2 (.of_pop hpo hpop) hb)
  | echo last _ hcl => exact h2.tail (Ev2.uwEcho _ resp isNull retries dl _ _ _ _ _ last hm2 (.of_pop hpo hpop) hcl)

theorem _root_.Dnp3.Proofs.Skel.Step.reach2 {x y : Pt × Acc} (hpo : PendOk pf x.2) (h : Step x y) : Reach2 pf (x.1.ph, x.2) (y.1.ph, y.2) := by
  have single : ∀ {ph ph' a a'}, Ev2 pf ph a ph' a' → Reach2 pf (ph, a) (ph', a') := Ev2.single
  cases h with
  | pass a n y hm _ hy => exact (single (Ev2.enter a n hm)).trans (hy.reach2 hpo)
  | chkDie a => exact die_reach2 a
  | chkStart a _ a' hc => exact single (Ev2.chkStart a a' hc)
  | chkIdle a _ a' n hc => exact single (Ev2.chkIdle a a' n hc)
  | defDie a => exact die_reach2 a
  | defWait a _ n a' hd => exact single (Ev2.defWait a n a' hd)
  | defDone a _ n a' hd => exact single (Ev2.defDone a n a' hd)
  | finishPass a _ n => exact single (Ev2.finishPass a n)
  | again a _ n y _ hy =>
    obtain ⟨m, hm⟩ := finishPass_idle a n
    have h1 : Reach2 pf (.tl, a) (.tl, finishPass a n) := (single (Ev2.finishPass a n)).tail (Ev2.enter _ m hm)
    exact h1.trans (hy.reach2 (PendOk.ofBase h1.base hpo))
  | fuel a n => exact (single (Ev2.finishPass a n)).tail (Ev2.noteCb .blk _ .modelFuelExhausted rfl)
  | solFragment a sr dl c y hm _ hc => exact hc.reach2 hpo hm
  | solTimeout a sr dl c hm hpn _ => exact (single (Ev2.solAbortTimeout a sr dl c hm hpn)).trans (abort_reach2 _ c)
  | unsolFragment a resp isNull rt dl y hm _ hc => exact hc.reach2 hpo hm
  | unsolTimeout a resp isNull rt dl y hm hpn _ hc =>
    cases hc with
    | finish hd => exact single (Ev2.uwTimeoutEnd a resp isNull rt dl hm hpn hd)
    | retry rt' hd hr => exact single (Ev2.uwRetry a resp isNull rt rt' dl hm hpn hd hr)

theorem Steps.reach2 {x y : Pt × Acc} (hpo : PendOk pf x.2) (h : Star Step x y) :
    Reach2 pf (x.1.ph, x.2) (y.1.ph, y.2) := by
  induction h with
  | refl => exact Star.refl _
  | tail _ r ih => exact ih.trans (r.reach2 (PendOk.ofBase ih.base hpo))

end

/-- for the fragment pending at `x` the hypothesis of `Step.reach2` holds -/
theorem _root_.Dnp3.Proofs.Skel.Step.base {x y : Pt × Acc} (h : Step x y) : Base x.2 y.2 :=
  (h.reach2 (pf := x.2.1.pending) (Or.inr rfl)).base

section
variable {pf : Option Frag}

theorem Ends.reach2 {x : Pt × Acc} {r : StepRes} (hpo : PendOk pf x.2) (h : Ends x r) :
    Reach2 pf (x.1.ph, x.2) (.blk, finishStep r) := by
  obtain ⟨z, hz, hf, e⟩ := h.acc
  have := Steps.reach2 hpo hz
  rw [e]
  rcases hf with hf | hf <;> rw [hf] at this <;> exact this

end

theorem start_reach2 (cfg : OCfg) (evMax : Nat) :
    Reach2 none (.blk, (OState.init cfg evMax, [])) (.blk, Outstation.start cfg evMax) :=
  Ends.reach2 (x := (.blk, _)) (Or.inl rfl) (settle_ends 8 _ (runPass_ends _ .noSleep rfl rfl))

theorem step_reach2 (env : OEnv) (s : OState) (inp : OInput) :
    (∃ f, inp = .setScript f ∧ Outstation.step env s inp = ({ s with script := f s.script }, [])) ∨
    Outstation.step env s inp = (s, []) ∨
    ∃ pf s0 o0, StepInit env s inp pf s0 o0 ∧ Reach2 pf (.blk, (s0, o0)) (.blk, Outstation.step env s inp) := by
  rcases step_steps env s inp with h | h | ⟨pf, s0, o0, z, hi, hz, hf, e⟩
  · exact Or.inl h
  · exact Or.inr (Or.inl h)
  · have := Steps.reach2 hi.pendOk hz
    rw [e]
    exact Or.inr (Or.inr ⟨pf, s0, o0, hi, by rcases hf with hf | hf <;> rw [hf] at this <;> exact this⟩)

def runMon {M : Type} (mon : M → OOut → Option M) : M → List OOut → Option M
  | m, [] => some m
  | m, o :: l => match mon m o with
    | none => none
    | some m' => runMon mon m' l

theorem runMon_append {M : Type} (mon : M → OOut → Option M) (m : M) (l1 l2 : List OOut) :
    runMon mon m (l1 ++ l2) = (runMon mon m l1).bind (fun m' => runMon mon m' l2) := by
  induction l1 generalizing m with
  | nil => rfl
  | cons o l ih =>
    simp only [List.cons_append, runMon]
    cases mon m o with
    | none => rfl
    | some m' => exact ih m'

theorem runMon_append_some {M : Type} {mon : M → OOut → Option M} {m m1 : M} {l1 l2 : List OOut}
    (h : runMon mon m l1 = some m1) : runMon mon m (l1 ++ l2) = runMon mon m1 l2 := by
  rw [runMon_append, h]; rfl

theorem runMon_split {M : Type} {mon : M → OOut → Option M} {m m' : M} {l1 l2 : List OOut}
    (h : runMon mon m (l1 ++ l2) = some m') : ∃ m1, runMon mon m l1 = some m1 ∧ runMon mon m1 l2 = some m' := by
  rw [runMon_append] at h
  cases h1 : runMon mon m l1 with
  | none => rw [h1] at h; cases h
  | some m1 => rw [h1] at h; exact ⟨m1, rfl, h⟩

theorem runMon_cons {M : Type} {mon : M → OOut → Option M} {m m' : M} {o : OOut} {l : List OOut}
    (h : runMon mon m (o :: l) = some m') : ∃ m1, mon m o = some m1 ∧ runMon mon m1 l = some m' := by
  simp only [runMon] at h
  cases h1 : mon m o with
  | none => rw [h1] at h; cases h
  | some m1 => rw [h1] at h; exact ⟨m1, rfl, h⟩

theorem runMon_last {M : Type} {mon : M → OOut → Option M} {m m' : M} {l : List OOut} {o : OOut}
    (h : runMon mon m (l ++ [o]) = some m') : ∃ m1, runMon mon m l = some m1 ∧ mon m1 o = some m' := by
  obtain ⟨m1, h1, h2⟩ := runMon_split h
  obtain ⟨m2, h3, h4⟩ := runMon_cons h2
  cases h4
  exact ⟨m1, h1, h3⟩

def MR {M : Type} (mon : M → OOut → Option M) (J : Ph → OState → M → Prop) (x y : PA) : Prop :=
  ∃ l, y.2.2 = x.2.2 ++ l ∧ ∀ m, J x.1 x.2.1 m → ∃ m', runMon mon m l = some m' ∧ J y.1 y.2.1 m'

theorem MR.refl {M : Type} (mon : M → OOut → Option M) (J : Ph → OState → M → Prop) (x : PA) : MR mon J x x :=
  ⟨[], by simp, fun m h => ⟨m, rfl, h⟩⟩

theorem MR.trans {M : Type} {mon : M → OOut → Option M} {J : Ph → OState → M → Prop} {x y z : PA}
    (h1 : MR mon J x y) (h2 : MR mon J y z) : MR mon J x z := by
  obtain ⟨l1, e1, c1⟩ := h1
  obtain ⟨l2, e2, c2⟩ := h2
  refine ⟨l1 ++ l2, by rw [e2, e1, List.append_assoc], ?_⟩
  intro m hj
  obtain ⟨m1, r1, j1⟩ := c1 m hj
  obtain ⟨m2, r2, j2⟩ := c2 m1 j1
  exact ⟨m2, by rw [runMon_append_some r1]; exact r2, j2⟩

theorem Reach2.mr {M : Type} {mon : M → OOut → Option M} {J : Ph → OState → M → Prop} {pf : Option Frag}
    (hev : ∀ x y, R2 pf x y → MR mon J x y) {x y : PA} (h : Reach2 pf x y) : MR mon J x y :=
  Star.lift (MR.refl mon J) (fun _ _ _ => MR.trans) hev h

/-! To show that a monitor `mon` accepts every output stream, give a relation `J` between phase, session state and
monitor state and three obligations: `hev`, every event keeps it (`MR`; `pf` is the fragment the step works on);
`hinit`, so does the prologue of a step, whose outputs `o0` (the lines of `.txn`, `.add`, `.cut`) the monitor reads too;
`hscript`, a change of the script does not touch it.  `mon_step`, `mon_run`, `mon_trace` then carry `J` over a step, a
run, and the whole trace from construction (`traceOuts`).  Used by `Proofs/OutstationC14Trace.lean`. -/

section
variable {M : Type} (mon : M → OOut → Option M) (J : Ph → OState → M → Prop)
  (hev : ∀ pf x y, R2 pf x y → MR mon J x y)
  (hinit : ∀ env s inp pf s0 o0, StepInit env s inp pf s0 o0 → ∀ m, J .blk s m →
    ∃ m0, runMon mon m o0 = some m0 ∧ J .blk s0 m0)
  (hscript : ∀ s (f : Script → Script) m, J .blk s m → J .blk { s with script := f s.script } m)
include hev hinit hscript

theorem mon_step (env : OEnv) (s : OState) (inp : OInput) (m : M) (hj : J .blk s m) :
    ∃ m', runMon mon m (Outstation.step env s inp).2 = some m' ∧ J .blk (Outstation.step env s inp).1 m' := by
  rcases step_reach2 env s inp with ⟨f, _, e⟩ | e | ⟨pf, s0, o0, hi, hr⟩
  · rw [e]; exact ⟨m, rfl, hscript s f m hj⟩
  · rw [e]; exact ⟨m, rfl, hj⟩
  · obtain ⟨m0, r0, j0⟩ := hinit env s inp pf s0 o0 hi m hj
    obtain ⟨l, el, c⟩ := Reach2.mr (hev pf) hr
    obtain ⟨m', r', j'⟩ := c m0 j0
    have el' : (Outstation.step env s inp).2 = o0 ++ l := el
    exact ⟨m', by rw [el', runMon_append_some r0]; exact r', j'⟩

theorem mon_run (env : OEnv) (ins : List OInput) (s : OState) (m : M) (hj : J .blk s m) :
    ∃ m', runMon mon m (Outstation.run env s ins).2.flatten = some m' ∧ J .blk (Outstation.run env s ins).1 m' := by
  induction ins generalizing s m with
  | nil => exact ⟨m, rfl, hj⟩
  | cons i is ih =>
    obtain ⟨m1, r1, j1⟩ := mon_step mon J hev hinit hscript env s i m hj
    obtain ⟨m2, r2, j2⟩ := ih (Outstation.step env s i).1 m1 j1
    refine ⟨m2, ?_, j2⟩
    show runMon mon m ((Outstation.step env s i).2 :: (Outstation.run env (Outstation.step env s i).1 is).2).flatten = _
    rw [List.flatten_cons, runMon_append_some r1]
    exact r2

end

def traceOuts (cfg : OCfg) (evMax : Nat) (env : OEnv) (ins : List OInput) : List OOut :=
  (Outstation.start cfg evMax).2 ++ (Outstation.run env (Outstation.start cfg evMax).1 ins).2.flatten

theorem mon_trace {M : Type} (mon : M → OOut → Option M) (J : Ph → OState → M → Prop)
    (hev : ∀ pf x y, R2 pf x y → MR mon J x y)
    (hinit : ∀ env s inp pf s0 o0, StepInit env s inp pf s0 o0 → ∀ m, J .blk s m →
      ∃ m0, runMon mon m o0 = some m0 ∧ J .blk s0 m0)
    (hscript : ∀ s (f : Script → Script) m, J .blk s m → J .blk { s with script := f s.script } m)
    (cfg : OCfg) (evMax : Nat) (m0 : M) (h0 : J .blk (OState.init cfg evMax) m0) (env : OEnv) (ins : List OInput) :
    ∃ m', runMon mon m0 (traceOuts cfg evMax env ins) = some m' ∧
      J .blk (Outstation.run env (Outstation.start cfg evMax).1 ins).1 m' := by
  obtain ⟨l, el, c⟩ := Reach2.mr (hev none) (start_reach2 cfg evMax)
  obtain ⟨m1, r1, j1⟩ := c m0 h0
  obtain ⟨m2, r2, j2⟩ := mon_run mon J hev hinit hscript env ins (Outstation.start cfg evMax).1 m1 j1
  have el' : (Outstation.start cfg evMax).2 = l := by simpa using el
  exact ⟨m2, by unfold traceOuts; rw [el', runMon_append_some r1]; exact r2, j2⟩

end Dnp3.Proofs.Skel2
