import Dnp3.Model.Pair
import Dnp3.Proofs.Star
/-!
# The pair model's wire: nothing but what an endpoint transmitted is ever delivered, in order

The history of a run is the list of `Group`s it has produced so far (`hist`).  From it:
`sentM` / `sentO` = payloads of all transmissions (`.tx`, `.txLink`) of the `.m` / `.o` groups,
`deliveredM` / `deliveredO` = payloads of all `.delivered false` / `.delivered true` groups.

Invariant `Inv hist s`: `deliveredM hist ++ (payloads queued in s.o2m)` is a sublist of `sentO hist`
and `deliveredO hist ++ (payloads queued in s.m2o)` is a sublist of `sentM hist`.
It gives `Good hist`: delivered is a sublist of sent (FIFO, nothing twice, nothing foreign).  `Wire` is `Inv` together
with `Good` at every prefix of the history, and is what the moves keep.

`enqM`, `enqO`, `deliverItems`, `pump`, `forceDeliver`, `advance`, `tickLoop`, `step`, `start`, `run` are walked
once: every op is a chain of `Move`s (`step_chain`).  The invariant is kept by every move but `inject`
(`Move.wire`); so is any predicate on the two endpoints that their activations keep (`C02Reach.PairInv.move`).
-/
namespace Dnp3.Proofs.Pair
open Dnp3 Dnp3.Pair

def mPayloads (outs : List Master.MOut) : List Payload :=
  outs.flatMap fun o => match o with
    | .tx dst b => [.frag masterAddr dst b]
    | .txLink c d sr => [.link c d sr]
    | _ => []

def oPayloads (outs : List OOut) : List Payload :=
  outs.flatMap fun o => match o with
    | .tx dst b => [.frag outstationAddr dst b]
    | .txLink c d sr => [.link c d sr]
    | _ => []

def sentM (hist : List Group) : List Payload :=
  hist.flatMap fun g => match g with | .m outs => mPayloads outs | _ => []
def sentO (hist : List Group) : List Payload :=
  hist.flatMap fun g => match g with | .o outs => oPayloads outs | _ => []
def deliveredM (hist : List Group) : List Payload :=
  hist.flatMap fun g => match g with | .delivered false items => items.map (·.p) | _ => []
def deliveredO (hist : List Group) : List Payload :=
  hist.flatMap fun g => match g with | .delivered true items => items.map (·.p) | _ => []

theorem sentM_append (a b : List Group) : sentM (a ++ b) = sentM a ++ sentM b := by simp [sentM]
theorem sentO_append (a b : List Group) : sentO (a ++ b) = sentO a ++ sentO b := by simp [sentO]
theorem deliveredM_append (a b : List Group) : deliveredM (a ++ b) = deliveredM a ++ deliveredM b := by
  simp [deliveredM]
theorem deliveredO_append (a b : List Group) : deliveredO (a ++ b) = deliveredO a ++ deliveredO b := by
  simp [deliveredO]

def qM (s : PState) : List Payload := s.m2o.q.map (·.p)
def qO (s : PState) : List Payload := s.o2m.q.map (·.p)

/-- `Inv` over the payloads queued in the two directions, given as lists -/
def InvL (hist : List Group) (qm qo : List Payload) : Prop :=
  (deliveredM hist ++ qo).Sublist (sentO hist) ∧ (deliveredO hist ++ qm).Sublist (sentM hist)

def Inv (hist : List Group) (s : PState) : Prop := InvL hist (qM s) (qO s)

def Good (hist : List Group) : Prop :=
  (deliveredM hist).Sublist (sentO hist) ∧ (deliveredO hist).Sublist (sentM hist)

theorem InvL.good {hist : List Group} {qm qo : List Payload} (h : InvL hist qm qo) : Good hist :=
  ⟨(List.sublist_append_left _ _).trans h.1, (List.sublist_append_left _ _).trans h.2⟩

def Ok (hist : List Group) : List Group → Prop
  | [] => Good hist
  | g :: gs => Good hist ∧ Ok (hist ++ [g]) gs

theorem Ok.head {hist gs} (h : Ok hist gs) : Good hist := by
  cases gs with
  | nil => exact h
  | cons g gs => exact h.1

theorem sentM_snoc (hist : List Group) (g : Group) :
    sentM (hist ++ [g]) = sentM hist ++ (match g with | .m outs => mPayloads outs | _ => []) := by
  rw [sentM_append]; exact congrArg _ (List.append_nil _)
theorem sentO_snoc (hist : List Group) (g : Group) :
    sentO (hist ++ [g]) = sentO hist ++ (match g with | .o outs => oPayloads outs | _ => []) := by
  rw [sentO_append]; exact congrArg _ (List.append_nil _)
theorem deliveredM_snoc (hist : List Group) (g : Group) :
    deliveredM (hist ++ [g]) =
      deliveredM hist ++ (match g with | .delivered false items => items.map (·.p) | _ => []) := by
  rw [deliveredM_append]; exact congrArg _ (List.append_nil _)
theorem deliveredO_snoc (hist : List Group) (g : Group) :
    deliveredO (hist ++ [g]) =
      deliveredO hist ++ (match g with | .delivered true items => items.map (·.p) | _ => []) := by
  rw [deliveredO_append]; exact congrArg _ (List.append_nil _)

theorem invL_time {hist qm qo} (t : Nat) (h : InvL hist qm qo) : InvL (hist ++ [.time t]) qm qo := by
  simpa only [InvL, sentM_snoc, sentO_snoc, deliveredM_snoc, deliveredO_snoc, List.append_nil] using h

theorem invL_line {hist qm qo} (t : String) (h : InvL hist qm qo) : InvL (hist ++ [.line t]) qm qo := by
  simpa only [InvL, sentM_snoc, sentO_snoc, deliveredM_snoc, deliveredO_snoc, List.append_nil] using h

theorem invL_m {hist qm qo} (outs : List Master.MOut) (h : InvL hist qm qo) :
    InvL (hist ++ [.m outs]) (qm ++ mPayloads outs) qo := by
  simp only [InvL, sentM_snoc, sentO_snoc, deliveredM_snoc, deliveredO_snoc, List.append_nil]
  exact ⟨h.1, by simpa only [List.append_assoc] using h.2.append (List.Sublist.refl _)⟩

theorem invL_o {hist qm qo} (outs : List OOut) (h : InvL hist qm qo) :
    InvL (hist ++ [.o outs]) qm (qo ++ oPayloads outs) := by
  simp only [InvL, sentM_snoc, sentO_snoc, deliveredM_snoc, deliveredO_snoc, List.append_nil]
  exact ⟨by simpa only [List.append_assoc] using h.1.append (List.Sublist.refl _), h.2⟩

theorem invL_delivered_toO {hist qm qo} (items : List Item) (h : InvL hist (items.map (·.p) ++ qm) qo) :
    InvL (hist ++ [.delivered true items]) qm qo := by
  simp only [InvL, sentM_snoc, sentO_snoc, deliveredM_snoc, deliveredO_snoc, List.append_nil]
  exact ⟨h.1, by simpa only [List.append_assoc] using h.2⟩

theorem invL_delivered_toM {hist qm qo} (items : List Item) (h : InvL hist qm (items.map (·.p) ++ qo)) :
    InvL (hist ++ [.delivered false items]) qm qo := by
  simp only [InvL, sentM_snoc, sentO_snoc, deliveredM_snoc, deliveredO_snoc, List.append_nil]
  exact ⟨by simpa only [List.append_assoc] using h.1, h.2⟩

theorem InvL.mono {hist qm qo qm' qo'} (h : InvL hist qm qo) (hm : qm'.Sublist qm) (ho : qo'.Sublist qo) :
    InvL hist qm' qo' :=
  ⟨((List.Sublist.refl _).append ho).trans h.1, ((List.Sublist.refl _).append hm).trans h.2⟩

theorem mstep_m2o (s : PState) (i : Master.MInput) : (mstep s i).1.m2o = s.m2o := rfl
theorem mstep_o2m (s : PState) (i : Master.MInput) : (mstep s i).1.o2m = s.o2m := rfl
theorem mstep_now (s : PState) (i : Master.MInput) : (mstep s i).1.now = s.now := rfl
theorem ostep_m2o (s : PState) (i : OInput) : (ostep s i).1.m2o = s.m2o := rfl
theorem ostep_o2m (s : PState) (i : OInput) : (ostep s i).1.o2m = s.o2m := rfl
theorem ostep_now (s : PState) (i : OInput) : (ostep s i).1.now = s.now := rfl

theorem mstep_qM (s : PState) (i : Master.MInput) : qM (mstep s i).1 = qM s := rfl
theorem mstep_qO (s : PState) (i : Master.MInput) : qO (mstep s i).1 = qO s := rfl
theorem ostep_qM (s : PState) (i : OInput) : qM (ostep s i).1 = qM s := rfl
theorem ostep_qO (s : PState) (i : OInput) : qO (ostep s i).1 = qO s := rfl

-- Below, the last four equations are all that is used of the endpoints.  Left reducible, every `rfl` and
-- every unification that meets `let (s, outs) := mstep ..` evaluates `Master.step` / `Outstation.step` on a
-- symbolic state looking for the pair.
attribute [local irreducible] mstep ostep

theorem foldl_push {α : Type} {f : PState → α → PState} {pay : α → List Payload} {q q' : PState → List Payload}
    (h : ∀ s o, q (f s o) = q s ++ pay o ∧ q' (f s o) = q' s) (outs : List α) (s : PState) :
    q (outs.foldl f s) = q s ++ outs.flatMap pay ∧ q' (outs.foldl f s) = q' s := by
  induction outs generalizing s with
  | nil => exact ⟨(List.append_nil _).symm, rfl⟩
  | cons o outs ih =>
    obtain ⟨h1, h2⟩ := ih (f s o)
    rw [List.foldl_cons, List.flatMap_cons, h1, h2, (h s o).1, (h s o).2, List.append_assoc]
    exact ⟨rfl, rfl⟩

theorem enqM_q (outs : List Master.MOut) (s : PState) :
    qM (enqM s outs) = qM s ++ mPayloads outs ∧ qO (enqM s outs) = qO s :=
  foldl_push (q := qM) (q' := qO) (fun s o => by
    cases o with
    | tx dst b => exact ⟨List.map_append, rfl⟩
    | txLink c d sr => exact ⟨List.map_append, rfl⟩
    | _ => exact ⟨(List.append_nil _).symm, rfl⟩) outs s

theorem enqO_q (outs : List OOut) (s : PState) :
    qO (enqO s outs) = qO s ++ oPayloads outs ∧ qM (enqO s outs) = qM s :=
  foldl_push (q := qO) (q' := qM) (fun s o => by
    cases o with
    | tx dst b => exact ⟨List.map_append, rfl⟩
    | txLink c d sr => exact ⟨List.map_append, rfl⟩
    | _ => exact ⟨(List.append_nil _).symm, rfl⟩) outs s

theorem inv_of_q {hist : List Group} {s : PState} {qm qo : List Payload} (h : InvL hist qm qo)
    (e1 : qM s = qm) (e2 : qO s = qo) : Inv hist s := by
  unfold Inv; rw [e1, e2]; exact h

def SameEnds (s' s : PState) : Prop := s'.m = s.m ∧ s'.o = s.o ∧ s'.env = s.env

theorem SameEnds.symm {s' s : PState} (h : SameEnds s' s) : SameEnds s s' := ⟨h.1.symm, h.2.1.symm, h.2.2.symm⟩

theorem enqM_ends (outs : List Master.MOut) (s : PState) : SameEnds (enqM s outs) s :=
  List.foldlRecOn (motive := fun s' => SameEnds s' s) outs _ ⟨rfl, rfl, rfl⟩ fun s' h o _ => by cases o <;> exact h

theorem enqO_ends (outs : List OOut) (s : PState) : SameEnds (enqO s outs) s :=
  List.foldlRecOn (motive := fun s' => SameEnds s' s) outs _ ⟨rfl, rfl, rfl⟩ fun s' h o _ => by cases o <;> exact h

theorem pump_acc (fuel : Nat) : ∀ (s : PState) (g : List Group),
    pump fuel s g = ((pump fuel s []).1, g ++ (pump fuel s []).2) := by
  induction fuel with
  | zero => intro s g; simp [pump]
  | succ n ih =>
    intro s g
    unfold pump
    simp only []
    split
    · rw [ih _ (g ++ _), ih _ ([] ++ _)]
      simp [List.append_assoc]
    · split
      · rw [ih _ (g ++ _), ih _ ([] ++ _)]
        simp [List.append_assoc]
      · simp

/-! one iteration of `pump` / `tickLoop`, one op of `run`, as equations: `C18Pair` runs the pair model on symbolic delays with these -/

theorem pump_idle (f : Nat) (s : PState) (g : List Group)
    (h1 : dueCount s.now s.m2o.q = 0) (h2 : dueCount s.now s.o2m.q = 0) : pump (f + 1) s g = (s, g) := by
  rw [pump]; simp [h1, h2]

theorem pump_toO (f : Nat) (s : PState) (g : List Group) (k : Nat)
    (h1 : dueCount s.now s.m2o.q = k) (hk : 0 < k) :
    pump (f + 1) s g =
      pump f (deliverItems { s with m2o := { s.m2o with q := s.m2o.q.drop k, consumed := 0 } } true (s.m2o.q.take k)).1
        (g ++ (deliverItems { s with m2o := { s.m2o with q := s.m2o.q.drop k, consumed := 0 } } true (s.m2o.q.take k)).2) := by
  rw [pump]; simp [h1, hk]

theorem pump_toM (f : Nat) (s : PState) (g : List Group) (k : Nat)
    (h1 : dueCount s.now s.m2o.q = 0) (h2 : dueCount s.now s.o2m.q = k) (hk : 0 < k) :
    pump (f + 1) s g =
      pump f (deliverItems { s with o2m := { s.o2m with q := s.o2m.q.drop k, consumed := 0 } } false (s.o2m.q.take k)).1
        (g ++ (deliverItems { s with o2m := { s.o2m with q := s.o2m.q.drop k, consumed := 0 } } false (s.o2m.q.take k)).2) := by
  rw [pump]; simp [h1, h2, hk]

theorem tick_stop (f : Nat) (s : PState) (target t : Nat) (g : List Group)
    (h1 : nextDue s = some t) (h2 : t ≤ target) :
    tickLoop (f + 1) s target g =
      tickLoop f (pump pumpFuel (advance s (t - s.now)).1 (g ++ (advance s (t - s.now)).2)).1 target
        (pump pumpFuel (advance s (t - s.now)).1 (g ++ (advance s (t - s.now)).2)).2 := by
  rw [tickLoop]; simp [h1, h2]

theorem tick_done (f : Nat) (s : PState) (target t : Nat) (g : List Group)
    (h1 : nextDue s = some t) (h2 : ¬ t ≤ target) (h3 : ¬ target > s.now) :
    tickLoop (f + 1) s target g = (s, g) := by
  rw [tickLoop]; simp [h1, h2, h3]

theorem run_cons {s s' s'' : PState} {i : PInput} {is : List PInput} {g : List Group} {gs : List (List Group)}
    (e : Pair.step s i = (s', g)) (h : Pair.run s' is = (s'', gs)) : Pair.run s (i :: is) = (s'', g :: gs) := by
  simp only [Pair.run, e, h]

theorem take_drop_payloads (k : Nat) (q : List Item) :
    (q.take k).map (·.p) ++ (q.drop k).map (·.p) = q.map (·.p) := by
  rw [← List.map_append, List.take_append_drop]

theorem popCovered_append : ∀ (q : List Item) (c : Nat),
    (popCovered c q).1 ++ (popCovered c q).2.1 = q := by
  intro q
  induction q with
  | nil => intro c; rfl
  | cons it rest ih =>
    intro c
    unfold popCovered
    split
    · simp only [List.cons_append, ih]
    · rfl

def isInject : PInput → Bool
  | .inject .. => true
  | _ => false

theorem release_payloads (d : Dir) (now : Nat) : (release d now).q.map (·.p) = d.q.map (·.p) := by
  unfold release
  simp only [List.map_map]
  apply List.map_congr_left
  intro it _
  simp only [Function.comp]
  cases it.due <;> rfl

def addsOf : PInput → OInput → Prop
  | .add t idx cls, i => i = .add t idx cls
  | .addMany t start count cls, i => ∃ k, k < count ∧ i = .add t (start + k) cls
  | _, _ => False

/-- every outstation input except `add` -/
structure _root_.Dnp3.Proofs.C02Reach.OkBase (okO : OInput → Prop) : Prop where
  rx : ∀ src dst data, okO (.rx src dst data)
  tick : ∀ ms, okO (.tick ms)
  txn : ∀ items, okO (.txn items)
  cut : okO .cut
  script : ∀ f, okO (.setScript f)

open Dnp3.Proofs.C02Reach (OkBase)

/-! ## what `Pair.step` is made of

Every op is a chain of moves (`step_chain`): an endpoint runs on some inputs and its transmissions enter the wire
(`MRun`, `ORun`), the relay takes items off a queue, the relay changes its own part of the state, a group that
carries nothing is noted.  An invariant of the pair model is proved once per move: the wire invariant below
(`Move.wire`), state predicates that only concern the endpoints in `C02Reach` (`PairInv.move`). -/

inductive MRun (s : PState) : PState → List Master.MOut → Prop
  | nil : MRun s s []
  | snoc {s1 : PState} {outs : List Master.MOut} (i : Master.MInput) :
      MRun s s1 outs → MRun s (mstep s1 i).1 (outs ++ (mstep s1 i).2)

inductive ORun (okO : OInput → Prop) (s : PState) : PState → List OOut → Prop
  | nil : ORun okO s s []
  | snoc {s1 : PState} {outs : List OOut} (i : OInput) :
      okO i → ORun okO s s1 outs → ORun okO s (ostep s1 i).1 (outs ++ (ostep s1 i).2)

theorem MRun.one (s : PState) (i : Master.MInput) : MRun s (mstep s i).1 (mstep s i).2 := .snoc i .nil

theorem ORun.one {okO : OInput → Prop} (s : PState) {i : OInput} (h : okO i) : ORun okO s (ostep s i).1 (ostep s i).2 :=
  .snoc i h .nil

theorem MRun.foldl {α : Type} {s : PState} {f : PState × List Master.MOut → α → PState × List Master.MOut} {l : List α}
    (hf : ∀ p, ∀ a ∈ l, MRun s p.1 p.2 → MRun s (f p a).1 (f p a).2) :
    MRun s (l.foldl f (s, [])).1 (l.foldl f (s, [])).2 :=
  List.foldlRecOn (motive := fun p => MRun s p.1 p.2) l f .nil fun p h a ha => hf p a ha h

theorem ORun.foldl {okO : OInput → Prop} {α : Type} {s : PState} {f : PState × List OOut → α → PState × List OOut}
    {l : List α} (hf : ∀ p, ∀ a ∈ l, ORun okO s p.1 p.2 → ORun okO s (f p a).1 (f p a).2) :
    ORun okO s (l.foldl f (s, [])).1 (l.foldl f (s, [])).2 :=
  List.foldlRecOn (motive := fun p => ORun okO s p.1 p.2) l f .nil fun p h a ha => hf p a ha h

theorem MRun.q {s s1 : PState} {outs : List Master.MOut} (h : MRun s s1 outs) : qM s1 = qM s ∧ qO s1 = qO s := by
  induction h with
  | nil => exact ⟨rfl, rfl⟩
  | snoc i _ ih => exact ⟨(mstep_qM _ i).trans ih.1, (mstep_qO _ i).trans ih.2⟩

theorem ORun.q {okO : OInput → Prop} {s s1 : PState} {outs : List OOut} (h : ORun okO s s1 outs) :
    qM s1 = qM s ∧ qO s1 = qO s := by
  induction h with
  | nil => exact ⟨rfl, rfl⟩
  | snoc i _ _ ih => exact ⟨(ostep_qM _ i).trans ih.1, (ostep_qO _ i).trans ih.2⟩

def isNote : Group → Prop
  | .time _ => True
  | .line _ => True
  | _ => False

/-- `okO`: the inputs the outstation may get; `inj`: whether the relay may hand over an item that was never queued -/
inductive Move (okO : OInput → Prop) (inj : Prop) : PState × List Group → PState × List Group → Prop
  | m {s s1 : PState} {outs : List Master.MOut} {hist : List Group} :
      MRun s s1 outs → Move okO inj (s, hist) (enqM s1 outs, hist ++ [.m outs])
  | o {s s1 : PState} {outs : List OOut} {hist : List Group} :
      ORun okO s s1 outs → Move okO inj (s, hist) (enqO s1 outs, hist ++ [.o outs])
  /-- delay, hold, clock, time; queued items may be lost (a cut; a transmission into a connection that is gone) -/
  | relay {s s' : PState} {hist : List Group} :
      SameEnds s' s → (qM s').Sublist (qM s) → (qO s').Sublist (qO s) → Move okO inj (s, hist) (s', hist)
  | takeO {s s' : PState} {hist : List Group} (items : List Item) :
      SameEnds s' s → items.map (·.p) ++ qM s' = qM s → qO s' = qO s →
      Move okO inj (s, hist) (s', hist ++ [.delivered true items])
  | takeM {s s' : PState} {hist : List Group} (items : List Item) :
      SameEnds s' s → qM s' = qM s → items.map (·.p) ++ qO s' = qO s →
      Move okO inj (s, hist) (s', hist ++ [.delivered false items])
  | note {s : PState} {hist : List Group} (g : Group) : isNote g → Move okO inj (s, hist) (s, hist ++ [g])
  | inject {s : PState} {hist : List Group} (toO : Bool) (items : List Item) :
      inj → Move okO inj (s, hist) (s, hist ++ [.delivered toO items])

abbrev Chain (okO : OInput → Prop) (inj : Prop) : PState × List Group → PState × List Group → Prop :=
  Skel.Star (Move okO inj)

section
variable {okO : OInput → Prop} {inj : Prop}

theorem Chain.nil_left {s : PState} {hist : List Group} {y : PState × List Group} (c : Chain okO inj (s, hist ++ []) y) :
    Chain okO inj (s, hist) y := by rwa [List.append_nil] at c

theorem Chain.nil_right {x : PState × List Group} {s : PState} {hist : List Group} (c : Chain okO inj x (s, hist)) :
    Chain okO inj x (s, hist ++ []) := by rwa [List.append_nil]

def Wire (x : PState × List Group) : Prop := Inv x.2 x.1 ∧ ∀ pre suf, x.2 = pre ++ suf → Good pre

theorem Wire.snoc {s' : PState} {hist : List Group} {g : Group} (h : ∀ pre suf, hist = pre ++ suf → Good pre)
    (hi : Inv (hist ++ [g]) s') : Wire (s', hist ++ [g]) := by
  refine ⟨hi, fun pre suf e => ?_⟩
  rcases List.eq_nil_or_concat suf with rfl | ⟨suf', g', rfl⟩
  · rw [List.append_nil] at e
    exact e ▸ InvL.good hi
  · rw [List.concat_eq_append, ← List.append_assoc] at e
    exact h pre suf' (List.append_inj_left' e rfl)

theorem Move.wire {x y : PState × List Group} (mv : Move okO False x y) (h : Wire x) : Wire y := by
  cases mv with
  | m r => exact .snoc h.2 (inv_of_q (invL_m _ h.1) ((enqM_q _ _).1.trans (congrArg (· ++ _) r.q.1))
      ((enqM_q _ _).2.trans r.q.2))
  | o r => exact .snoc h.2 (inv_of_q (invL_o _ h.1) ((enqO_q _ _).2.trans r.q.1)
      ((enqO_q _ _).1.trans (congrArg (· ++ _) r.q.2)))
  | relay _ hm ho => exact ⟨h.1.mono hm ho, h.2⟩
  | takeO items _ hm ho => exact .snoc h.2 (invL_delivered_toO items (by rw [hm, ho]; exact h.1))
  | takeM items _ hm ho => exact .snoc h.2 (invL_delivered_toM items (by rw [hm, ho]; exact h.1))
  | note g hg =>
    refine .snoc h.2 ?_
    cases g with
    | time t => exact invL_time t h.1
    | line t => exact invL_line t h.1
    | _ => cases hg
  | inject _ _ hi => cases hi

theorem Chain.wire {x y : PState × List Group} (c : Chain okO False x y) (h : Wire x) : Wire y :=
  Skel.Star.inv (fun _ _ m => m.wire) c h

theorem Chain.m (s : PState) (hist : List Group) (i : Master.MInput) :
    Chain okO inj (s, hist) (enqM (mstep s i).1 (mstep s i).2, hist ++ [.m (mstep s i).2]) := .single (.m (.one s i))

theorem Chain.o (s : PState) (hist : List Group) {i : OInput} (hi : okO i) :
    Chain okO inj (s, hist) (enqO (ostep s i).1 (ostep s i).2, hist ++ [.o (ostep s i).2]) := .single (.o (.one s hi))

variable (B : OkBase okO)
include B

/-- after the group that says which items were handed over -/
theorem deliverItems_chain (s : PState) (toO : Bool) (items : List Item) (hist : List Group) :
    Chain okO inj (s, hist ++ [.delivered toO items])
      ((deliverItems s toO items).1, hist ++ (deliverItems s toO items).2) := by
  unfold deliverItems
  cases toO with
  | true =>
    simp only [if_true]
    rw [List.append_cons hist _ [_]]
    refine .single (.o (ORun.foldl fun p it _ h => ?_))
    split
    · exact .snoc _ (B.rx ..) h
    · exact h
  | false =>
    simp only [Bool.false_eq_true, if_false]
    rw [List.append_cons hist _ [_]]
    refine .single (.m (MRun.foldl fun p it _ h => ?_))
    split <;> exact .snoc _ h

theorem pump_chain (fuel : Nat) : ∀ (s : PState) (g hist : List Group),
    Chain okO inj (s, hist ++ g) ((pump fuel s g).1, hist ++ (pump fuel s g).2) := by
  induction fuel with
  | zero => intro s g hist; unfold pump; rw [← List.append_assoc]; exact .single (.note _ trivial)
  | succ n ih =>
    intro s g hist
    unfold pump
    simp only []
    split
    · refine .trans (.trans (.single (.takeO _
          (s' := { s with m2o := { s.m2o with q := s.m2o.q.drop (dueCount s.now s.m2o.q), consumed := 0 } })
          ⟨rfl, rfl, rfl⟩ (take_drop_payloads _ s.m2o.q) rfl)) (deliverItems_chain B _ true _ _)) ?_
      rw [List.append_assoc]
      exact ih _ _ _
    · split
      · refine .trans (.trans (.single (.takeM _
            (s' := { s with o2m := { s.o2m with q := s.o2m.q.drop (dueCount s.now s.o2m.q), consumed := 0 } })
            ⟨rfl, rfl, rfl⟩ rfl (take_drop_payloads _ s.o2m.q))) (deliverItems_chain B _ false _ _)) ?_
        rw [List.append_assoc]
        exact ih _ _ _
      · exact .refl _

theorem forceDeliver_chain (s : PState) (toO : Bool) (n : Option Nat) (hist : List Group) :
    Chain okO inj (s, hist) ((forceDeliver s toO n).1, hist ++ (forceDeliver s toO n).2) := by
  cases toO with
  | true =>
    let pc := popCovered (match n with | none => s.m2o.octets | some n => min s.m2o.octets (s.m2o.consumed + n)) s.m2o.q
    exact .trans (.single (.takeO pc.1 (s' := { s with m2o := { s.m2o with q := pc.2.1, consumed := pc.2.2 } }) ⟨rfl, rfl, rfl⟩
      ((List.map_append ..).symm.trans (congrArg _ (popCovered_append s.m2o.q _))) rfl))
      (deliverItems_chain B _ true _ _)
  | false =>
    let pc := popCovered (match n with | none => s.o2m.octets | some n => min s.o2m.octets (s.o2m.consumed + n)) s.o2m.q
    exact .trans (.single (.takeM pc.1 (s' := { s with o2m := { s.o2m with q := pc.2.1, consumed := pc.2.2 } }) ⟨rfl, rfl, rfl⟩
      rfl ((List.map_append ..).symm.trans (congrArg _ (popCovered_append s.o2m.q _)))))
      (deliverItems_chain B _ false _ _)

theorem advance_chain (s : PState) (d : Nat) (hist : List Group) :
    Chain okO inj (s, hist) ((advance s d).1, hist ++ (advance s d).2) := by
  unfold advance
  simp only []
  rw [List.append_cons hist _ [_, _], List.append_cons (hist ++ [_]) _ [_]]
  exact .tail (.tail (.tail (.single (.relay (s' := { s with now := s.now + d }) ⟨rfl, rfl, rfl⟩ (.refl _) (.refl _)))
    (.note (.time _) trivial)) (.m (.one _ (.tick d)))) (.o (.one _ (B.tick d)))

theorem tickLoop_chain (fuel : Nat) : ∀ (s : PState) (target : Nat) (g hist : List Group),
    Chain okO inj (s, hist ++ g) ((tickLoop fuel s target g).1, hist ++ (tickLoop fuel s target g).2) := by
  induction fuel with
  | zero => intro s target g hist; unfold tickLoop; rw [← List.append_assoc]; exact .single (.note _ trivial)
  | succ n ih =>
    intro s target g hist
    unfold tickLoop
    simp only []
    have adv : ∀ d, Chain okO inj (s, hist ++ g)
        ((pump pumpFuel (advance s d).1 (g ++ (advance s d).2)).1, hist ++ (pump pumpFuel (advance s d).1 (g ++ (advance s d).2)).2) :=
      fun d => .trans (List.append_assoc hist g _ ▸ advance_chain B s d (hist ++ g)) (pump_chain B _ _ _ _)
    split
    · exact .trans (adv _) (ih _ _ _ _)
    · split
      · exact adv _
      · exact .refl _

theorem step_chain (s : PState) (inp : PInput) (hadd : ∀ i, addsOf inp i → okO i) (hinj : isInject inp = true → inj)
    (hist : List Group) : Chain okO inj (s, hist) ((Pair.step s inp).1, hist ++ (Pair.step s inp).2) := by
  have sameQ : ∀ s' : PState, SameEnds s' s → qM s' = qM s → qO s' = qO s → Chain okO inj (s, hist) (s', hist) :=
    fun s' he hm ho => .single (.relay he (hm ▸ .refl _) (ho ▸ .refl _))
  cases inp with
  | add t idx cls => exact .trans (Chain.o s hist (hadd _ rfl)) (pump_chain B _ _ _ _)
  | addMany t start count cls =>
    unfold Pair.step
    simp only []
    exact .trans (.single (.o (ORun.foldl fun p k hk h => .snoc _ (hadd _ ⟨k, List.mem_range.mp hk, rfl⟩) h)))
      (pump_chain B _ _ _ _)
  | txn items => exact .trans (Chain.o s hist (B.txn items)) (pump_chain B _ _ _ _)
  | script f =>
    -- the outstation's output on `setScript` is not enqueued
    exact .tail (Chain.o s hist (B.script f)) (.relay (enqO_ends _ _).symm ((enqO_q _ _).2 ▸ .refl _)
      ((enqO_q _ _).1 ▸ List.sublist_append_left _ _))
  | user t => exact .trans (Chain.m s hist _) (pump_chain B _ _ _ _)
  | msg m => exact .trans (Chain.m s hist _) (pump_chain B _ _ _ _)
  | tick ms => exact (tickLoop_chain B tickFuel s (s.now + ms) [] hist).nil_left
  | setDelay toO ms => cases toO <;> exact (sameQ (Pair.step s (.setDelay _ ms)).1 ⟨rfl, rfl, rfl⟩ rfl rfl).nil_right
  | setHold toO on =>
    cases on with
    | true => cases toO <;> exact (sameQ (Pair.step s (.setHold _ true)).1 ⟨rfl, rfl, rfl⟩ rfl rfl).nil_right
    | false =>
      cases toO with
      | true =>
        exact .trans (sameQ { s with m2o := release s.m2o s.now } ⟨rfl, rfl, rfl⟩ (release_payloads _ _) rfl)
          (pump_chain B _ _ [] hist).nil_left
      | false =>
        exact .trans (sameQ { s with o2m := release s.o2m s.now } ⟨rfl, rfl, rfl⟩ rfl (release_payloads _ _))
          (pump_chain B _ _ [] hist).nil_left
  | deliver toO n => exact .trans (forceDeliver_chain B s toO n hist) (pump_chain B _ _ _ _)
  | cut =>
    unfold Pair.step
    simp only []
    refine .trans ?_ (pump_chain B _ _ _ hist)
    rw [List.append_cons hist _ [_, _], List.append_cons (hist ++ [_]) _ [_]]
    -- what the master transmits on `eof` is lost with everything queued
    exact .tail (.tail (.tail (.tail (.single (.relay (s' := { s with m2o := s.m2o.clear, o2m := s.o2m.clear })
        ⟨rfl, rfl, rfl⟩ (List.nil_sublist _) (List.nil_sublist _)))
      (.m (.one _ .eof)))
      (.relay (enqM_ends _ _).symm ((enqM_q _ _).1 ▸ List.sublist_append_left _ _) ((enqM_q _ _).2 ▸ .refl _)))
      (.o (.one _ B.cut))) (.m (.one _ .connect))
  | mclock b => exact (sameQ { s with base := b } ⟨rfl, rfl, rfl⟩ rfl rfl).nil_right
  | inject toO src dst data =>
    unfold Pair.step
    simp only []
    by_cases hc : (if toO then s.m2o else s.o2m).consumed ≠ 0
    · rw [if_pos hc]; exact .single (.note (.line _) trivial)
    · rw [if_neg hc]
      exact .trans (.trans (.single (.inject toO _ (hinj rfl))) (deliverItems_chain B s toO _ hist)) (pump_chain B _ _ _ _)

theorem run_chain (ops : List PInput) : ∀ (s : PState) (hist : List Group), (∀ op ∈ ops, ∀ i, addsOf op i → okO i) →
    (∀ op ∈ ops, isInject op = true → inj) →
    Chain okO inj (s, hist) ((Pair.run s ops).1, hist ++ (Pair.run s ops).2.flatten) := by
  induction ops with
  | nil => intro s hist _ _; exact Chain.nil_right (.refl _)
  | cons op ops ih =>
    intro s hist hadd hinj
    show Chain _ _ _ (_, hist ++ ((Pair.step s op).2 ++ (Pair.run (Pair.step s op).1 ops).2.flatten))
    rw [← List.append_assoc]
    exact .trans (step_chain B s op (hadd op (List.mem_cons_self ..)) (hinj op (List.mem_cons_self ..)) hist)
      (ih _ _ (fun o ho => hadd o (List.mem_cons_of_mem _ ho)) (fun o ho => hinj o (List.mem_cons_of_mem _ ho)))

theorem start_chain (ocfg : OCfg) (evMax : Nat) (env : OEnv) (txSize : Nat) (acfg : Master.ACfg)
    (base : Option Nat) (dm2o do2m : Nat) :
    Chain okO inj
      (enqO { m := Master.start txSize, o := (Outstation.start ocfg evMax).1, env := env, base := base,
              m2o := { delay := dm2o }, o2m := { delay := do2m } } (Outstation.start ocfg evMax).2,
       [.o (Outstation.start ocfg evMax).2])
      ((Pair.start ocfg evMax env txSize acfg base dm2o do2m).1, (Pair.start ocfg evMax env txSize acfg base dm2o do2m).2) := by
  unfold Pair.start
  simp only []
  exact .trans (.tail (.single (.m (hist := [_]) (.one _ .connect))) (.m (.one _ (.msg _)))) (pump_chain B _ _ _ [])

end

theorem invL_empty : InvL [] [] [] := ⟨List.Sublist.refl _, List.Sublist.refl _⟩

theorem okBase_true : OkBase fun _ => True := ⟨fun _ _ _ => trivial, fun _ => trivial, fun _ => trivial, trivial, fun _ => trivial⟩

theorem start_wire (ocfg : OCfg) (evMax : Nat) (env : OEnv) (txSize : Nat) (acfg : Master.ACfg)
    (base : Option Nat) (dm2o do2m : Nat) : Wire (Pair.start ocfg evMax env txSize acfg base dm2o do2m) := by
  refine (start_chain okBase_true ocfg evMax env txSize acfg base dm2o do2m).wire
    (.snoc (hist := []) (fun pre suf e => ?_) (inv_of_q (invL_o _ invL_empty) (enqO_q _ _).2 (enqO_q _ _).1))
  obtain ⟨rfl, -⟩ := List.append_eq_nil_iff.mp e.symm
  exact invL_empty.good

def allGroups (r0 : PState × List Group) (ops : List PInput) : List Group :=
  r0.2 ++ (Pair.run r0.1 ops).2.flatten

/-- Stated for a variable start: `allGroups` applied to `Pair.start …` would be evaluated by the elaborator. -/
theorem run_wire (r0 : PState × List Group) (h0 : Wire r0) (ops : List PInput)
    (hni : ∀ op ∈ ops, isInject op = false) : Wire ((Pair.run r0.1 ops).1, allGroups r0 ops) :=
  (run_chain okBase_true ops r0.1 r0.2 (fun _ _ _ _ => trivial) fun op h e => by rw [hni op h] at e; cases e).wire h0

theorem mem_sentO {p : Payload} {hist : List Group} (h : p ∈ sentO hist) :
    ∃ outs, Group.o outs ∈ hist ∧
      ((∃ dst b, p = .frag outstationAddr dst b ∧ OOut.tx dst b ∈ outs) ∨
       (∃ c d sr, p = .link c d sr ∧ OOut.txLink c d sr ∈ outs)) := by
  obtain ⟨g, hg, hp⟩ := List.mem_flatMap.mp h
  cases g with
  | o outs =>
    obtain ⟨o, ho, hp⟩ := List.mem_flatMap.mp hp
    refine ⟨outs, hg, ?_⟩
    cases o with
    | tx dst b => exact .inl ⟨dst, b, List.mem_singleton.mp hp, ho⟩
    | txLink c d sr => exact .inr ⟨c, d, sr, List.mem_singleton.mp hp, ho⟩
    | _ => cases hp
  | _ => cases hp

theorem mem_sentM {p : Payload} {hist : List Group} (h : p ∈ sentM hist) :
    ∃ outs, Group.m outs ∈ hist ∧
      ((∃ dst b, p = .frag masterAddr dst b ∧ Master.MOut.tx dst b ∈ outs) ∨
       (∃ c d sr, p = .link c d sr ∧ Master.MOut.txLink c d sr ∈ outs)) := by
  obtain ⟨g, hg, hp⟩ := List.mem_flatMap.mp h
  cases g with
  | m outs =>
    obtain ⟨o, ho, hp⟩ := List.mem_flatMap.mp hp
    refine ⟨outs, hg, ?_⟩
    cases o with
    | tx dst b => exact .inl ⟨dst, b, List.mem_singleton.mp hp, ho⟩
    | txLink c d sr => exact .inr ⟨c, d, sr, List.mem_singleton.mp hp, ho⟩
    | _ => cases hp
  | _ => cases hp

end Dnp3.Proofs.Pair

namespace Dnp3.Proofs.RequestWire
open Dnp3

theorem request_ctrl (seq : Nat) (h : seq < 16) : AppCtrl.ofNat (0xC0 + seq) = ⟨true, true, false, false, seq⟩ := by
  revert seq; decide

/-- `hf`: the function codes up to 30 are the requests -/
theorem parseRequest_requestBytes (seq f : Nat) (objs : List Nat) (hs : seq < 16) (hf : f ≤ 30) :
    parseRequest (Master.requestBytes seq f objs) =
      .request ⟨true, true, false, false, seq⟩ f (parseObjects (f = 1) objs.length objs) objs := by
  have h1 : ¬ (f = 129 ∨ f = 130) := by omega
  simp [parseRequest, Master.requestBytes, request_ctrl seq hs, knownFunction, hf, h1]

end Dnp3.Proofs.RequestWire
