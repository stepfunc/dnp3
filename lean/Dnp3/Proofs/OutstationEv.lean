import Dnp3.Proofs.OutstationFrame
import Dnp3.Proofs.Star
/-!
# The outstation session: a request handled from idle, the events, the step prologue

* `IdleStage1` / `IdleStage2` (`handleRequestFromIdle_cases`): a request handled from idle by cases, in two stages
  (the handler or the READ preparation; then the response written and the request recorded), with their effects.
* `Ev pf a a'`: one event of the session takes accumulator `a` to `a'`, where `pf` is the fragment that was pending
  when the step began; `Base`, `House`: what every event leaves alone.  The chains of events are read off the control
  flow in `OutstationSkel2` / `OutstationSkel`.
* `init` / `step_init`: what `Outstation.step` does before the session machinery runs, exactly; `StepInit`: the same as
  a relation that forgets the filters of an `.rx` input.
-/
namespace Dnp3.Proofs.Skel
open Dnp3 Dnp3.Proofs.Frame Dnp3.Proofs.Iin

-- safety net: nothing below unfolds a `Db` function
attribute [local irreducible] Db.new Db.add Db.update Db.readSupported Db.select Db.writeResponse
  Db.writeUnsolicited Db.clearWritten Db.reset Db.unwrittenClasses Db.isOverflown

inductive PrepCase (a : Acc) (f : Frag) (ctrl : AppCtrl) (func : Nat) (objs : Except Nat (List ObjHdr)) :
    OState → LastReq → Prop
  | malformed (e : Nat) : objs = .error e →
      PrepCase a f ctrl func objs a.1 ⟨ctrl.seq, f.data, some (emptySolicited ctrl.seq e), none⟩
  | read (hs : List ObjHdr) : func = 1 → objs = .ok hs →
      PrepCase a f ctrl func objs
        (formatReadResponse { a.1 with db := (dbSelectAll a.1.db hs).1 } true ctrl.seq (dbSelectAll a.1.db hs).2).1
        ⟨ctrl.seq, f.data,
          some (formatReadResponse { a.1 with db := (dbSelectAll a.1.db hs).1 } true ctrl.seq (dbSelectAll a.1.db hs).2).2.1,
          (formatReadResponse { a.1 with db := (dbSelectAll a.1.db hs).1 } true ctrl.seq (dbSelectAll a.1.db hs).2).2.2⟩

/-- first half of `handleRequestFromIdle`: what `result` is (the `Bool` beside the request record is
    the echo flag: `true` only for a repeated non-READ request).  `prep` lists what most users need of a malformed
    request or a READ; its last field is the exact state and record -/
inductive IdleStage1 (a : Acc) (f : Frag) (ctrl : AppCtrl) (func : Nat) (objs : Except Nat (List ObjHdr))
    (raw : List Nat) : Acc → Option (LastReq × Bool) → Prop
  | confirm : func = 0 → IdleStage1 a f ctrl func objs raw a none
  | bcast (m : Nat) (a1 : Acc) : func ≠ 0 → f.broadcast = some m →
      processBroadcast a f m ctrl func objs raw = some a1 → IdleStage1 a f ctrl func objs raw a1 none
  | nonRead (hs : List ObjHdr) (a1 : Acc) (r : Option Resp) : func ≠ 0 → func ≠ 1 → f.broadcast = none →
      objs = .ok hs → handleNonRead a func ctrl.seq f.id hs raw = some (a1, r) →
      classify a.1 f ctrl func objs = .newNonRead hs →
      IdleStage1 a f ctrl func objs raw a1 (some (⟨ctrl.seq, f.data, r, none⟩, false))
  | prep (s1 : OState) (lr : LastReq) : Upd [.db, .solBuf, .solLen] a.1 s1 → func ≠ 0 → f.broadcast = none →
      lr.frag = f.data → (lr.series = none ∨ func = 1) → (∀ r, lr.response = some r → r.func = 0x81) →
      s1.select = a.1.select → PrepCase a f ctrl func objs s1 lr →
      IdleStage1 a f ctrl func objs raw (s1, a.2) (some (lr, false))
  | echo (s1 : OState) (last : Option Resp) : Upd [.select] a.1 s1 → func ≠ 0 → func ≠ 1 → f.broadcast = none →
      (s1 = a.1 ∨ ∃ sel, a.1.select = some sel ∧ func = 3 ∧ sel.seq = ctrl.seq ∧
        (sel.frameId + 1) % 4294967296 = f.id ∧ sel.objects = raw ∧
        s1 = { a.1 with select := some { sel with frameId := f.id } }) →
      classify a.1 f ctrl func objs = .repeatNonRead last →
      IdleStage1 a f ctrl func objs raw (s1, a.2)
        (some (⟨ctrl.seq, f.data, last, a.1.lastReq.bind (·.series)⟩, true))

/-- second half, exactly.  The last index is the series `handleRequestFromIdle` returns -/
inductive IdleStage2 (a1 : Acc) (f : Frag) : Option (LastReq × Bool) → Acc → Option Series → Prop
  | nothing : IdleStage2 a1 f none a1 none
  | silent (lr : LastReq) (e : Bool) : lr.response = none →
      IdleStage2 a1 f (some (lr, e)) ({ a1.1 with lastReq := some lr }, a1.2) lr.series
  | echo (lr : LastReq) (r : Resp) : lr.response = some r →
      IdleStage2 a1 f (some (lr, true))
        ({ (repeatSolicited a1 f.src r).1 with lastReq := some lr }, (repeatSolicited a1 f.src r).2) lr.series
  | fresh (lr : LastReq) (r : Resp) (a2 : Acc) (r2 : Resp) : lr.response = some r →
      writeSolicited a1 f.src r = some (a2, r2) →
      IdleStage2 a1 f (some (lr, false))
        ({ a2.1 with lastReq := some { lr with response := some r2, series :=
            if r2.ctrl.con ∧ lr.series.isNone then some ⟨r2.ctrl.seq, true⟩ else lr.series } }, a2.2)
        (if r2.ctrl.con ∧ lr.series.isNone then some ⟨r2.ctrl.seq, true⟩ else lr.series)

/-- `result` of `handleRequestFromIdle` (verbatim) -/
def idleStage1 (a : Acc) (f : Frag) (ctrl : AppCtrl) (func : Nat)
    (objects : Except Nat (List ObjHdr)) (raw : List Nat) : Option (Acc × Option (LastReq × Bool)) :=
  let seq := ctrl.seq
  match classify a.1 f ctrl func objects with
    | .malformed e => some (a, some (⟨seq, f.data, some (emptySolicited seq e), none⟩, false))
    | .newRead hs | .repeatRead _ hs =>
      let (db, iin2) := dbSelectAll a.1.db hs
      let (s, r, series) := formatReadResponse { a.1 with db := db } true seq iin2
      some ((s, a.2), some (⟨seq, f.data, some r, series⟩, false))
    | .newNonRead hs =>
      match handleNonRead a func seq f.id hs raw with
      | none => none
      | some (a, r) => some (a, some (⟨seq, f.data, r, none⟩, false))
    | .repeatNonRead last =>
      let s := a.1
      let s := match s.select with
        | some sel =>
          if func = 3 ∧ sel.seq = seq ∧ (sel.frameId + 1) % 4294967296 = f.id ∧ sel.objects = raw then
            { s with select := some { sel with frameId := f.id } }
          else s
        | none => s
      some ((s, a.2), some (⟨seq, f.data, last, s.lastReq.bind (·.series)⟩, true))
    | .broadcast mode =>
      match processBroadcast a f mode ctrl func objects raw with
      | none => none
      | some a => some (a, none)
    | .solConfirm _ | .unsolConfirm _ => some (a, none)

/-- the rest of `handleRequestFromIdle` (verbatim) -/
def idleStage2 (f : Frag) (result : Option (Acc × Option (LastReq × Bool))) : Option (Acc × Option Series) :=
  match result with
  | none => none
  | some (a, none) => some (a, none)
  | some (a, some (lr, echo)) =>
    match lr.response with
    | none => some (({ a.1 with lastReq := some lr }, a.2), lr.series)
    | some r =>
      if echo then
        let a := repeatSolicited a f.src r
        some (({ a.1 with lastReq := some lr }, a.2), lr.series)
      else
      match writeSolicited a f.src r with
      | none => none
      | some (a, r) =>
        let series := if r.ctrl.con ∧ lr.series.isNone then some ⟨r.ctrl.seq, true⟩ else lr.series
        some (({ a.1 with lastReq := some { lr with response := some r, series := series } }, a.2), series)

theorem handleRequestFromIdle_eq (a : Acc) (f : Frag) (ctrl : AppCtrl) (func : Nat)
    (objs : Except Nat (List ObjHdr)) (raw : List Nat) :
    handleRequestFromIdle a f ctrl func objs raw = idleStage2 f (idleStage1 a f ctrl func objs raw) := rfl

theorem idleStage1_cases {a : Acc} {f : Frag} {ctrl : AppCtrl} {func : Nat}
    {objs : Except Nat (List ObjHdr)} {raw : List Nat} {a1 : Acc} {lr : Option (LastReq × Bool)}
    (heq : idleStage1 a f ctrl func objs raw = some (a1, lr)) : IdleStage1 a f ctrl func objs raw a1 lr := by
  unfold idleStage1 at heq
  have cf := classify_facts a.1 f ctrl func objs
  split at heq
  · rename_i e hc; rw [hc] at cf; cases heq
    exact .prep a.1 _ (.refl _ _) cf.1 cf.2.1 rfl (.inl rfl) (fun _ e => by cases e; rfl) rfl (.malformed e cf.2.2)
  · rename_i hs hc; rw [hc] at cf; cases heq
    exact .prep _ _ (by upd_rfl) (by rw [cf.1]; decide) cf.2.1 rfl (.inr cf.1) (fun _ e => by cases e; rfl) rfl
      (.read hs cf.1 cf.2.2)
  · rename_i rr hs hc; rw [hc] at cf; cases heq
    exact .prep _ _ (by upd_rfl) (by rw [cf.1]; decide) cf.2.1 rfl (.inr cf.1) (fun _ e => by cases e; rfl) rfl
      (.read hs cf.1 cf.2.2)
  · rename_i hs hc; rw [hc] at cf
    dsimp only at heq
    split at heq
    · cases heq
    · rename_i a2 r hn
      cases heq
      exact .nonRead hs _ r cf.1 cf.2.1 cf.2.2.1 cf.2.2.2 hn hc
  · rename_i last hc; rw [hc] at cf
    dsimp only at heq
    cases hsel : a.1.select with
    | none =>
      rw [hsel] at heq; cases heq
      exact .echo _ last (.refl _ _) cf.1 cf.2.1 cf.2.2 (Or.inl rfl) hc
    | some sel =>
      rw [hsel] at heq
      dsimp only at heq
      by_cases hcond : func = 3 ∧ sel.seq = ctrl.seq ∧ (sel.frameId + 1) % 4294967296 = f.id ∧ sel.objects = raw
      · rw [if_pos hcond] at heq; cases heq
        exact .echo _ last (by upd_rfl) cf.1 cf.2.1 cf.2.2
          (Or.inr ⟨sel, hsel, hcond.1, hcond.2.1, hcond.2.2.1, hcond.2.2.2, rfl⟩) hc
      · rw [if_neg hcond] at heq; cases heq
        exact .echo _ last (.refl _ _) cf.1 cf.2.1 cf.2.2 (Or.inl rfl) hc
  · rename_i m hc; rw [hc] at cf
    dsimp only at heq
    split at heq
    · cases heq
    · rename_i a2 hp
      cases heq
      exact .bcast m _ cf.1 cf.2 hp
  · rename_i hc; rw [hc] at cf; cases heq; exact .confirm cf.1
  · rename_i hc; rw [hc] at cf; cases heq; exact .confirm cf.1

theorem idleStage2_cases {f : Frag} {a1 : Acc} {lr : Option (LastReq × Bool)} {a' : Acc} {ser : Option Series}
    (h : idleStage2 f (some (a1, lr)) = some (a', ser)) : IdleStage2 a1 f lr a' ser := by
  unfold idleStage2 at h
  rcases lr with _ | ⟨lr, e⟩
  · cases h; exact .nothing
  dsimp only at h
  split at h
  · cases h; exact .silent lr e ‹_›
  · rename_i r hr
    cases e
    · simp only [Bool.false_eq_true, if_false] at h
      split at h
      · cases h
      · rename_i a2 r2 hw; cases h; exact .fresh lr r a2 r2 hr hw
    · cases h; exact .echo lr r hr

theorem handleRequestFromIdle_cases {a : Acc} {f : Frag} {ctrl : AppCtrl} {func : Nat}
    {objs : Except Nat (List ObjHdr)} {raw : List Nat} {a' : Acc} {ser : Option Series}
    (h : handleRequestFromIdle a f ctrl func objs raw = some (a', ser)) :
    ∃ a1 lr, IdleStage1 a f ctrl func objs raw a1 lr ∧ IdleStage2 a1 f lr a' ser := by
  rw [handleRequestFromIdle_eq] at h
  cases h1 : idleStage1 a f ctrl func objs raw with
  | none => rw [h1] at h; cases h
  | some p =>
    obtain ⟨a1, lr⟩ := p
    rw [h1] at h
    exact ⟨a1, lr, idleStage1_cases h1, idleStage2_cases h⟩

def House (s s' : OState) : Prop :=
  ∃ n l lr p, (p = s.pending ∨ p = none) ∧
    s' = { s with notified := n, nextLinkStatus := l, lastReq := lr, pending := p }

theorem House.refl (s : OState) : House s s := ⟨_, _, _, _, Or.inl rfl, rfl⟩

theorem House.trans {s1 s2 s3 : OState} (h1 : House s1 s2) (h2 : House s2 s3) : House s1 s3 := by
  obtain ⟨n1, l1, lr1, p1, hp1, e1⟩ := h1
  obtain ⟨n2, l2, lr2, p2, hp2, e2⟩ := h2
  subst e1
  subst e2
  refine ⟨n2, l2, lr2, p2, ?_, rfl⟩
  rcases hp2 with h | h
  · subst h; exact hp1
  · exact Or.inr h

theorem House.notified (s : OState) (b : Bool) : House s { s with notified := b } := ⟨_, _, _, _, Or.inl rfl, rfl⟩
theorem House.pendNone (s : OState) : House s { s with pending := none } := ⟨_, _, _, _, Or.inr rfl, rfl⟩
theorem House.link (s : OState) : House s (onLinkActivity s) := ⟨_, _, _, _, Or.inl rfl, rfl⟩
theorem House.lastReq (s : OState) (lr : Option LastReq) : House s { s with lastReq := lr } :=
  ⟨_, _, _, _, Or.inl rfl, rfl⟩

def ReqOf (pf : Option Frag) (f : Frag) (ctrl : AppCtrl) (func : Nat) (objs : Except Nat (List ObjHdr))
    (raw : List Nat) : Prop :=
  pf = some f ∧ parseRequest f.data = .request ctrl func objs raw

def Cb.plain : Cb → Bool
  | .modelFuelExhausted | .solNewRequest | .solTimeout _ | .solWrongSeq .. | .unexpectedConfirm .. => true
  | _ => false

theorem Cb.plain_kind {c : Cb} (h : Cb.plain c = true) : Cb.kind c ∈ [.sol, .fuel] := by
  cases c <;> simp [Cb.plain] at h <;> simp [Cb.kind]

/-- one event of the session: a primitive (`wsol`, `rsol`, `die`, `house`, …) or, where no property asked for less, a
    whole handler (`reqIdle`, `nonRead`, `bcast`, `chkStart`, `unsolConf`).  No premise on the mode except where a
    constructor names one: that nothing runs after `die` is not recorded. -/
inductive Ev (pf : Option Frag) : Acc → Acc → Prop
  | house (a : Acc) (s' : OState) : House a.1 s' → Ev pf a (s', a.2)
  | plainCb (a : Acc) (c : Cb) : Cb.plain c = true → Ev pf a (emitCb a c)
  | die (a : Acc) : Ev pf a (emit ({ a.1 with mode := .dead }, a.2) .panic)
  | wsol (a : Acc) (dst : Nat) (r : Resp) (a' : Acc) (r' : Resp) :
      writeSolicited a dst r = some (a', r') → Ev pf a a'
  | rsol (a : Acc) (dst : Nat) (r : Resp) : Ev pf a (repeatSolicited a dst r)
  | dbReset (a : Acc) : Ev pf a ({ a.1 with db := a.1.db.reset }, a.2)
  | clrDeferred (a : Acc) : Ev pf a ({ a.1 with deferred := none }, a.2)
  | reqIdle (a : Acc) (f : Frag) (ctrl : AppCtrl) (func : Nat) (objs : Except Nat (List ObjHdr)) (raw : List Nat)
      (a' : Acc) (ser : Option Series) : ReqOf pf f ctrl func objs raw →
      handleRequestFromIdle a f ctrl func objs raw = some (a', ser) → Ev pf a a'
  | enterSol (a : Acc) (sr : Series) (c : SolCont) : Ev pf a (enterSolWait a sr c)
  | setSolWait (a : Acc) (sr : Series) (dl : Nat) (c : SolCont) :
      Ev pf a ({ a.1 with mode := .solWait sr dl c }, a.2)
  | chkStart (a a' : Acc) : checkUnsolicited a = some (.inl a') → Ev pf a a'
  | chkIdle (a a' : Acc) (n : NextIdle) : checkUnsolicited a = some (.inr (a', n)) → Ev pf a a'
  | defWait (a : Acc) (n : NextIdle) (a' : Acc) : handleDeferredRead a n = some (.inl a') → Ev pf a a'
  | defDone (a : Acc) (n : NextIdle) (a' : Acc) : handleDeferredRead a n = some (.inr a') → Ev pf a a'
  | finishPass (a : Acc) (n : NextIdle) : Ev pf a (finishPass a n)
  | solConf (a : Acc) (sr : Series) (dl : Nat) (c : SolCont) (f : Frag) (ctrl : AppCtrl) (objs : Except Nat (List ObjHdr))
      (raw : List Nat) : a.1.mode = .solWait sr dl c → ReqOf pf f ctrl 0 objs raw → ctrl.uns = false →
      ctrl.seq = sr.ecsn →
      Ev pf a (clearWrittenEvents ({ a.1 with lastBroadcast := none }, a.2 ++ [.cb (.solConfirmed sr.ecsn)]))
  | fmtRead (a : Acc) (fir : Bool) (seq iin2 : Nat) : Ev pf a ((formatReadResponse a.1 fir seq iin2).1, a.2)
  | unsolConf (a : Acc) (resp : Resp) (isNull : Bool) (retries : Option Nat) (dl : Nat) (f : Frag) (ctrl : AppCtrl)
      (objs : Except Nat (List ObjHdr)) (raw : List Nat) :
      a.1.mode = .unsolWait resp isNull retries dl → ReqOf pf f ctrl 0 objs raw → ctrl.uns = true →
      ctrl.seq = resp.ctrl.seq →
      Ev pf a (afterUnsolSeries (emitCb ({ a.1 with lastBroadcast := if a.1.unsolReported then none else a.1.lastBroadcast }, a.2)
        (.unsolConfirmed resp.ctrl.seq)) isNull true).1
  | uwSolConfirm (a : Acc) (resp : Resp) (isNull : Bool) (retries : Option Nat) (dl : Nat) (f : Frag) (ctrl : AppCtrl)
      (objs : Except Nat (List ObjHdr)) (raw : List Nat) :
      a.1.mode = .unsolWait resp isNull retries dl → ReqOf pf f ctrl 0 objs raw → ctrl.uns = false →
      Ev pf a (if a.1.lastBroadcast = some 1 then ({ a.1 with lastBroadcast := none }, a.2) else a)
  | bcast (a : Acc) (f : Frag) (m : Nat) (ctrl : AppCtrl) (func : Nat) (objs : Except Nat (List ObjHdr)) (raw : List Nat)
      (a' : Acc) : ReqOf pf f ctrl func objs raw → func ≠ 0 → f.broadcast = some m →
      processBroadcast a f m ctrl func objs raw = some a' → Ev pf a a'
  | uwBcastSeen (a : Acc) (resp : Resp) (isNull : Bool) (retries : Option Nat) (dl : Nat) (f : Frag) (m : Nat)
      (ctrl : AppCtrl) (func : Nat) (objs : Except Nat (List ObjHdr)) (raw : List Nat) :
      a.1.mode = .unsolWait resp isNull retries dl → ReqOf pf f ctrl func objs raw → func ≠ 0 →
      f.broadcast = some m → a.1.lastBroadcast = some m →
      Ev pf a ({ a.1 with unsolReported := false }, a.2)
  | nonRead (a : Acc) (f : Frag) (ctrl : AppCtrl) (func : Nat) (hs : List ObjHdr) (raw : List Nat)
      (a' : Acc) (r : Option Resp) : ReqOf pf f ctrl func (.ok hs) raw → func ≠ 0 → func ≠ 1 → f.broadcast = none →
      handleNonRead a func ctrl.seq f.id hs raw = some (a', r) → Ev pf a a'
  | uwDisable (a : Acc) (resp : Resp) (isNull : Bool) (retries : Option Nat) (dl : Nat) (f : Frag) (ctrl : AppCtrl)
      (hs : List ObjHdr) (raw : List Nat) :
      a.1.mode = .unsolWait resp isNull retries dl → ReqOf pf f ctrl 21 (.ok hs) raw →
      Ev pf a (afterUnsolSeries a isNull false).1
  | deferSet (a : Acc) (f : Frag) (ctrl : AppCtrl) (hs : List ObjHdr) (raw : List Nat) :
      ReqOf pf f ctrl 1 (.ok hs) raw → f.broadcast = none → Ev pf a (deferredSet a.1 f ctrl.seq hs, a.2)
  | uwTimeoutEnd (a : Acc) (resp : Resp) (isNull : Bool) (retries : Option Nat) (dl : Nat) :
      a.1.mode = .unsolWait resp isNull retries dl → (a.1.deferred.isSome = true ∨ retries = some 0) →
      Ev pf a (afterUnsolSeries (emitCb a (.unsolTimeout resp.ctrl.seq false)) isNull false).1
  | uwRetry (a : Acc) (resp : Resp) (isNull : Bool) (retries retries' : Option Nat) (dl : Nat) :
      a.1.mode = .unsolWait resp isNull retries dl → a.1.deferred = none →
      ((retries = none ∧ retries' = none) ∨ ∃ n, retries = some (n + 1) ∧ retries' = some n) →
      Ev pf a ({ (repeatUnsolicited (emitCb a (.unsolTimeout resp.ctrl.seq true)) resp).1 with
                  mode := .unsolWait resp isNull retries' (a.1.now + a.1.cfg.ctimeout) },
               (repeatUnsolicited (emitCb a (.unsolTimeout resp.ctrl.seq true)) resp).2)

abbrev Reach (pf : Option Frag) (a0 a : Acc) : Prop := Star (Ev pf) a0 a

/-- every fragment the session looks at in this step is the one that was pending at its start -/
def PendOk (pf : Option Frag) (a : Acc) : Prop := a.1.pending = none ∨ a.1.pending = pf

/-- `kS` without `pending` -/
def kB (s : OState) := (s.cfg, s.now, s.frameId, s.script.appIin)

def Base (a a' : Acc) : Prop :=
  kB a'.1 = kB a.1 ∧ (a'.1.pending = a.1.pending ∨ a'.1.pending = none) ∧ ∃ l, a'.2 = a.2 ++ l

theorem Base.refl (a : Acc) : Base a a := ⟨rfl, Or.inl rfl, [], by simp⟩

theorem Base.trans {a b c : Acc} (h1 : Base a b) (h2 : Base b c) : Base a c := by
  obtain ⟨k1, p1, l1, e1⟩ := h1
  obtain ⟨k2, p2, l2, e2⟩ := h2
  refine ⟨k2.trans k1, ?_, l1 ++ l2, by rw [e2, e1, List.append_assoc]⟩
  rcases p2 with h | h
  · rw [h]; exact p1
  · exact Or.inr h

theorem Base.now {a a' : Acc} (h : Base a a') : a'.1.now = a.1.now := congrArg (·.2.1) h.1

theorem Base.cfg {a a' : Acc} (h : Base a a') : a'.1.cfg = a.1.cfg := congrArg (·.1) h.1

theorem Base.of_eff {F : List Fld} {D : List DbStep} {P : OOut → Prop} {a a' : Acc} (h : Eff F D P a a')
    (hF : Apart [.cfg, .now, .frameId, .appIin, .pend] F := by decide) : Base a a' :=
  have k := h.on hF
  ⟨by rw [kB, kB, k.get .cfg, k.get .now, k.get .frameId, k.get .appIin], k.get .pend, h.2.2.imp fun _ h => h.1⟩

theorem Base.ofHouse {a : Acc} {s' : OState} (h : House a.1 s') : Base a (s', a.2) := by
  obtain ⟨n, l, lr, p, hp, e⟩ := h
  subst e
  refine ⟨rfl, ?_, [], by simp⟩
  rcases hp with h | h
  · exact Or.inl h
  · exact Or.inr h

theorem IdleStage2.base {a1 : Acc} {lr : Option (LastReq × Bool)} {f : Frag} {a' : Acc} {ser : Option Series}
    (h : IdleStage2 a1 f lr a' ser) : Base a1 a' := by
  cases h with
  | nothing => exact Base.refl _
  | silent => exact Base.ofHouse (House.lastReq _ _)
  | echo lr r _ =>
    exact Base.trans (Base.of_eff (repeatSolicited_eff _ _ _)) (Base.ofHouse (House.lastReq _ _))
  | fresh lr r a2 r2 _ hw =>
    exact Base.trans (Base.of_eff (writeSolicited_eff hw))
      (Base.ofHouse (House.lastReq _ _))

theorem IdleStage1.base {a : Acc} {f : Frag} {ctrl : AppCtrl} {func : Nat} {objs : Except Nat (List ObjHdr)}
    {raw : List Nat} {a1 : Acc} {lr : Option (LastReq × Bool)} (h : IdleStage1 a f ctrl func objs raw a1 lr) :
    Base a a1 := by
  cases h with
  | confirm => exact Base.refl _
  | bcast m a1 _ _ hp => exact Base.of_eff (processBroadcast_eff hp)
  | nonRead hs a1 r _ _ _ _ hn => exact Base.of_eff (handleNonRead_eff hn)
  | prep s1 lr _ _ _ _ _ _ _ hp => cases hp <;> exact ⟨rfl, Or.inl rfl, [], by simp⟩
  | echo s1 last _ _ _ _ hs =>
    rcases hs with rfl | ⟨sel, _, _, _, _, _, rfl⟩ <;> exact ⟨rfl, Or.inl rfl, [], by simp⟩

theorem Ev.base {pf : Option Frag} {a a' : Acc} (h : Ev pf a a') : Base a a' := by
  cases h with
  | house s' hh => exact Base.ofHouse hh
  | plainCb c _ => exact ⟨rfl, Or.inl rfl, _, rfl⟩
  | die => exact ⟨rfl, Or.inl rfl, _, rfl⟩
  | wsol dst r a' r' hw => exact Base.of_eff (writeSolicited_eff hw)
  | rsol dst r => exact ⟨rfl, Or.inl rfl, _, rfl⟩
  | dbReset => exact ⟨rfl, Or.inl rfl, [], by simp⟩
  | clrDeferred => exact ⟨rfl, Or.inl rfl, [], by simp⟩
  | reqIdle f ctrl func objs raw a' ser _ hh =>
    obtain ⟨a1, lr, s1, s2⟩ := handleRequestFromIdle_cases hh
    exact Base.trans s1.base s2.base
  | enterSol sr c => exact ⟨rfl, Or.inl rfl, _, rfl⟩
  | setSolWait sr dl c => exact ⟨rfl, Or.inl rfl, [], by simp⟩
  | chkStart a' hc => exact Base.of_eff (checkUnsolicited_cases _ _ hc).eff
  | chkIdle a' n hc => exact Base.of_eff (checkUnsolicited_cases _ _ hc).eff
  | defWait n a' hd => exact Base.of_eff (handleDeferredRead_cases _ _ _ hd).eff
  | defDone n a' hd => exact Base.of_eff (handleDeferredRead_cases _ _ _ hd).eff
  | finishPass n => exact Base.of_eff (finishPass_eff _ _)
  | solConf sr dl c f ctrl objs raw _ _ _ _ =>
    refine Base.trans (b := ({ a.1 with lastBroadcast := none }, a.2 ++ [.cb (.solConfirmed sr.ecsn)])) ?_ ?_
    · exact ⟨rfl, Or.inl rfl, _, rfl⟩
    · exact Base.of_eff (clearWrittenEvents_eff _)
  | fmtRead fir seq iin2 => exact ⟨rfl, Or.inl rfl, [], by simp⟩
  | unsolConf resp isNull retries dl f ctrl objs raw _ _ _ _ =>
    refine Base.trans (b := emitCb ({ a.1 with lastBroadcast := if a.1.unsolReported then none else a.1.lastBroadcast }, a.2)
      (.unsolConfirmed resp.ctrl.seq)) ?_ ?_
    · exact ⟨rfl, Or.inl rfl, _, rfl⟩
    · exact Base.of_eff (afterUnsolSeries_eff _ _ _)
  | uwSolConfirm resp isNull retries dl f ctrl objs raw _ _ _ =>
    split
    · exact ⟨rfl, Or.inl rfl, [], by simp⟩
    · exact Base.refl _
  | bcast f m ctrl func objs raw a' _ _ _ hp =>
    exact Base.of_eff (processBroadcast_eff hp)
  | uwBcastSeen resp isNull retries dl f m ctrl func objs raw _ _ _ _ _ => exact ⟨rfl, Or.inl rfl, [], by simp⟩
  | nonRead f ctrl func hs raw a' r _ _ _ _ hn =>
    exact Base.of_eff (handleNonRead_eff hn)
  | uwDisable resp isNull retries dl f ctrl hs raw _ _ =>
    exact Base.of_eff (afterUnsolSeries_eff _ _ _)
  | deferSet f ctrl hs raw _ _ => exact ⟨rfl, Or.inl rfl, [], by simp⟩
  | uwTimeoutEnd resp isNull retries dl _ _ =>
    refine Base.trans (b := emitCb a (.unsolTimeout resp.ctrl.seq false)) ⟨rfl, Or.inl rfl, _, rfl⟩ ?_
    exact Base.of_eff (afterUnsolSeries_eff _ _ _)
  | uwRetry resp isNull retries retries' dl _ _ _ => rw [unsolRetry_eq]; exact ⟨rfl, Or.inl rfl, [_, _], rfl⟩

theorem Reach.base {pf : Option Frag} {a a' : Acc} (h : Reach pf a a') : Base a a' :=
  Star.lift Base.refl (fun _ _ _ => Base.trans) (fun _ _ => Ev.base) h

theorem PendOk.ofBase {pf : Option Frag} {a a' : Acc} (hb : Base a a') (h : PendOk pf a) : PendOk pf a' := by
  rcases hb.2.1 with e | e
  · unfold PendOk; rw [e]; exact h
  · exact Or.inl e

inductive PopCase (s : OState) : OState × Popped → Prop
  | empty : s.pending = none → PopCase s (s, .nothing)
  | foreign (f : Frag) : s.pending = some f → s.cfg.anymaster = false → f.src ≠ s.cfg.master →
      PopCase s ({ s with pending := none }, .nothing)
  | insufficient (f : Frag) : s.pending = some f → (s.cfg.anymaster = true ∨ f.src = s.cfg.master) →
      parseRequest f.data = .insufficient → PopCase s (s, .error f.src f.broadcast.isSome none)
  | headerError (f : Frag) (q : Nat) : s.pending = some f → (s.cfg.anymaster = true ∨ f.src = s.cfg.master) →
      parseRequest f.data = .headerError q → PopCase s (s, .error f.src f.broadcast.isSome (some q))
  | request (f : Frag) (ctrl : AppCtrl) (func : Nat) (objs : Except Nat (List ObjHdr)) (raw : List Nat) :
      s.pending = some f → (s.cfg.anymaster = true ∨ f.src = s.cfg.master) →
      parseRequest f.data = .request ctrl func objs raw → PopCase s (s, .request f ctrl func objs raw)

theorem not_foreign {s : OState} {f : Frag} (hm : s.cfg.anymaster = true ∨ f.src = s.cfg.master) :
    ¬ ((!s.cfg.anymaster) = true ∧ f.src ≠ s.cfg.master) := by
  rintro ⟨h1, h2⟩
  rcases hm with h | h
  · rw [h] at h1; cases h1
  · exact h2 h

theorem accepted_or_foreign (s : OState) (src : Nat) :
    (s.cfg.anymaster = true ∨ src = s.cfg.master) ∨ (s.cfg.anymaster = false ∧ src ≠ s.cfg.master) := by
  cases h : s.cfg.anymaster
  · by_cases h2 : src = s.cfg.master
    · exact .inl (.inr h2)
    · exact .inr ⟨rfl, h2⟩
  · exact .inl (.inl rfl)

theorem popRequest_iff {s : OState} {r : OState × Popped} : popRequest s = r ↔ PopCase s r := by
  unfold popRequest
  constructor
  · rintro rfl
    cases hp : s.pending with
    | none => exact .empty hp
    | some f =>
      dsimp only
      rcases accepted_or_foreign s f.src with hm | hm
      · rw [if_neg (not_foreign hm)]
        cases hq : parseRequest f.data with
        | insufficient => exact .insufficient f hp hm hq
        | headerError q => exact .headerError f q hp hm hq
        | request c fn o r => exact .request f c fn o r hp hm hq
      · rw [if_pos ⟨by rw [hm.1]; rfl, hm.2⟩]
        exact .foreign f hp hm.1 hm.2
  · intro h
    cases h with
    | empty hp => rw [hp]
    | foreign f hp ha hm => rw [hp]; exact if_pos ⟨by rw [ha]; rfl, hm⟩
    | insufficient f hp hm hq => simp only [hp, hq]; exact if_neg (not_foreign hm)
    | headerError f q hp hm hq => simp only [hp, hq]; exact if_neg (not_foreign hm)
    | request f c fn o r hp hm hq => simp only [hp, hq]; exact if_neg (not_foreign hm)

theorem popRequest_cases {s : OState} {r : OState × Popped} (h : popRequest s = r) : PopCase s r :=
  popRequest_iff.1 h

theorem popRequest_eq_request {s : OState} {f : Frag} {ctrl : AppCtrl} {func : Nat}
    {objs : Except Nat (List ObjHdr)} {raw : List Nat} (hp : s.pending = some f)
    (hq : parseRequest f.data = .request ctrl func objs raw)
    (hm : s.cfg.anymaster = true ∨ f.src = s.cfg.master) :
    popRequest s = (s, .request f ctrl func objs raw) :=
  popRequest_iff.2 (.request f ctrl func objs raw hp hm hq)

theorem House.of_pop {s s' : OState} {p : Popped} (h : popRequest s = (s', p)) : House s s' := by
  cases popRequest_cases h with
  | foreign => exact House.pendNone _
  | _ => exact House.refl _

theorem request_of_pop {s s' : OState} {f : Frag} {ctrl : AppCtrl} {func : Nat} {objs : Except Nat (List ObjHdr)}
    {raw : List Nat} (h : popRequest s = (s', .request f ctrl func objs raw)) :
    s' = s ∧ s.pending = some f ∧ parseRequest f.data = .request ctrl func objs raw ∧
    (s.cfg.anymaster = true ∨ f.src = s.cfg.master) := by
  cases popRequest_cases h with
  | request _ _ _ _ _ hp hm hq => exact ⟨rfl, hp, hq, hm⟩

theorem error_of_pop {s s' : OState} {src : Nat} {bc : Bool} {seq : Option Nat}
    (h : popRequest s = (s', .error src bc seq)) :
    ∃ f, s' = s ∧ s.pending = some f ∧ src = f.src ∧ bc = f.broadcast.isSome ∧
      (s.cfg.anymaster = true ∨ f.src = s.cfg.master) ∧
      ((parseRequest f.data = .insufficient ∧ seq = none) ∨
       ∃ q, parseRequest f.data = .headerError q ∧ seq = some q) := by
  cases popRequest_cases h with
  | insufficient f hp hma hq => exact ⟨f, rfl, hp, rfl, rfl, hma, Or.inl ⟨hq, rfl⟩⟩
  | headerError f q hp hma hq => exact ⟨f, rfl, hp, rfl, rfl, hma, Or.inr ⟨q, hq, rfl⟩⟩

theorem ReqOf.of_pop {pf : Option Frag} {s s' : OState} {f : Frag} {ctrl : AppCtrl} {func : Nat}
    {objs : Except Nat (List ObjHdr)} {raw : List Nat} (hpo : s.pending = none ∨ s.pending = pf)
    (hpop : popRequest s = (s', .request f ctrl func objs raw)) : ReqOf pf f ctrl func objs raw := by
  obtain ⟨-, hp, hq, -⟩ := request_of_pop hpop
  refine ⟨?_, hq⟩
  rcases hpo with e | e
  · rw [hp] at e; cases e
  · rw [← e]; exact hp

theorem runPass_no_fragment (fuel : Nat) (a : Acc) (hp : a.1.pending = none) :
    runPass (fuel + 1) a = afterRequest (runPass fuel) ({ a.1 with notified := false, pending := none }, a.2) := by
  rw [runPass, popRequest_iff.2 (.empty (s := { a.1 with notified := false }) hp)]

def All (P : Acc → Prop) (r : StepRes) : Prop := P (finishStep r)

theorem writeErrorResponse_reach {pf : Option Frag} {a a' : Acc} {src : Nat} {bc : Bool} {seq : Option Nat}
    (hw : writeErrorResponse a src bc seq = some a') : Reach pf a a' := by
  rcases writeErrorResponse_cases hw with rfl | ⟨q, r2, _, hws⟩
  · exact Star.refl _
  · exact Star.single (Ev.wsol _ _ _ _ _ hws)

theorem House.mode {s s' : OState} (h : House s s') : s'.mode = s.mode := by
  obtain ⟨_, _, _, _, _, e⟩ := h; subst e; rfl

theorem House.deferred {s s' : OState} (h : House s s') : s'.deferred = s.deferred := by
  obtain ⟨_, _, _, _, _, e⟩ := h; subst e; rfl


theorem settle_panicked (n : Nat) (a : Acc) : settle n (.panicked a) = .panicked a := by
  cases n <;> rfl

/-- the body of `Outstation.step` for a task that is alive (verbatim).  `step_init` reads the prologue off it. -/
def stepBody (env : OEnv) (s : OState) (inp : OInput) : OState × List OOut :=
  match inp with
  | .setScript f => ({ s with script := f s.script }, [])
  | .rx src dst data =>
    if s.mode matches .dead then (s, []) else
    let bc : Option (Option Nat) :=
      if dst = env.outstation then some none
      else if dst = 0xFFFC then (if env.selfaddr then some none else none)
      else if dst = 0xFFFF then some (some 0)
      else if dst = 0xFFFE then some (some 1)
      else if dst = 0xFFFD then some (some 2)
      else none
    match bc with
    | none => (s, [])
    | some b =>
      if src ≥ 0xFFF0 ∨ data.isEmpty ∨ data.length > env.rx then (s, []) else
      if b.isSome ∧ data.length > 249 then (s, []) else
      let f : Frag := ⟨s.frameId, src, b, data⟩
      let s := { s with frameId := (s.frameId + 1) % 4294967296, pending := some f }
      finishStep (settle 8 (dispatch (s, [])))
  | .tick ms =>
    let s := { s with now := s.now + ms }
    finishStep (settle 8 (dispatch (s, [])))
  | .txn items =>
    let (s, outs) := items.foldl (fun (p : OState × List OOut) it =>
      let (db, u) := match it with
        | .bin idx v flags time => p.1.db.update .binary idx (if v then 1 else 0) flags time
        | .an idx v flags time => p.1.db.update .analog idx v flags time
      ({ p.1 with db := db }, p.2 ++ [.line (updLine u)])) (s, [])
    finishStep (settle 8 (dispatch ({ s with notified := true }, outs)))
  | .add t idx cls =>
    let (db, ok) := s.db.add t idx cls
    finishStep (settle 8 (dispatch ({ s with db := db, notified := true }, [.line s!"add {if ok then 1 else 0}"])))
  | .cut =>
    if s.mode matches .dead then (s, []) else
    let s := { s with db := s.db.reset, lastReq := none, select := none, deferred := none, pending := none,
                      mode := .idle .noSleep }
    finishStep (settle 8 (runPass passFuel (s, [.line "session link stdio UnexpectedEof"])))

theorem step_alive_eq (env : OEnv) (s : OState) (inp : OInput) (h : s.mode ≠ .dead) :
    Outstation.step env s inp = stepBody env s inp := by
  unfold Outstation.step stepBody
  cases hm : s.mode with
  | dead => exact absurd hm h
  | idle n => rfl
  | solWait a b c => rfl
  | unsolWait a b c d => rfl

/-- the database part of a `.txn` input (verbatim) -/
def txnFold (s : OState) (items : List TxnItem) : OState × List OOut :=
  items.foldl (fun (p : OState × List OOut) it =>
      let (db, u) := match it with
        | .bin idx v flags time => p.1.db.update .binary idx (if v then 1 else 0) flags time
        | .an idx v flags time => p.1.db.update .analog idx v flags time
      ({ p.1 with db := db }, p.2 ++ [.line (updLine u)])) (s, [])

theorem txnFold_outs (s : OState) (items : List TxnItem) : ∀ o ∈ (txnFold s items).2, OOut.kind o = .line := by
  unfold txnFold
  refine foldl_inv (fun p : OState × List OOut => ∀ o ∈ p.2, OOut.kind o = .line) _ (fun p it ho => ?_)
    items (s, []) (by simp)
  have line : ∀ u o, o ∈ p.2 ++ [OOut.line u] → OOut.kind o = .line := fun u o h =>
    (List.mem_append.1 h).elim (ho o) fun h => List.mem_singleton.1 h ▸ rfl
  cases it with
  | bin idx v flags time => exact line _
  | an idx v flags time => exact line _

theorem txnFold_upd (s : OState) (items : List TxnItem) : Upd [.db] s (txnFold s items).1 := by
  unfold txnFold
  refine foldl_inv (fun p : OState × List OOut => Upd [.db] s p.1) _ (fun p it hp => hp.trans ?_) items (s, [])
    (.refl _ _)
  cases it <;> upd_rfl

def rxState (s : OState) (f : Frag) : OState :=
  { s with frameId := (s.frameId + 1) % 4294967296, pending := some f }

/-- which destination addresses reach this outstation, and as which kind of broadcast (verbatim) -/
def rxBroadcast (env : OEnv) (dst : Nat) : Option (Option Nat) :=
  if dst = env.outstation then some none
  else if dst = 0xFFFC then (if env.selfaddr then some none else none)
  else if dst = 0xFFFF then some (some 0)
  else if dst = 0xFFFE then some (some 1)
  else if dst = 0xFFFD then some (some 2)
  else none

def cutState (s : OState) : OState :=
  { s with db := s.db.reset, lastReq := none, select := none, deferred := none, pending := none,
           mode := .idle .noSleep }

/-- what a step starts from: the fragment it will look at, the state and the outputs before the
    session machinery runs.  `rx` keeps which address was matched and forgets `RxOk` (the source is valid, the data not
    empty and within the buffer): enough for an invariant; a statement about accepted frames goes through `step_init`. -/
inductive StepInit (env : OEnv) (s : OState) : OInput → Option Frag → OState → List OOut → Prop
  | rx (src dst : Nat) (data : List Nat) (b : Option Nat) : rxBroadcast env dst = some b →
      StepInit env s (.rx src dst data) (some ⟨s.frameId, src, b, data⟩) (rxState s ⟨s.frameId, src, b, data⟩) []
  | tick (ms : Nat) : StepInit env s (.tick ms) s.pending { s with now := s.now + ms } []
  | txn (items : List TxnItem) :
      StepInit env s (.txn items) s.pending { (txnFold s items).1 with notified := true } (txnFold s items).2
  | add (t : PtType) (idx cls : Nat) :
      StepInit env s (.add t idx cls) s.pending { s with db := (s.db.add t idx cls).1, notified := true }
        [.line s!"add {if (s.db.add t idx cls).2 then 1 else 0}"]
  | cut : StepInit env s .cut none (cutState s) [.line "session link stdio UnexpectedEof"]

theorem StepInit.upd {env : OEnv} {s : OState} {inp : OInput} {pf : Option Frag} {s0 : OState} {o0 : List OOut}
    (h : StepInit env s inp pf s0 o0) :
    Upd [.now, .mode, .lastReq, .select, .deferred, .db, .frameId, .pending, .pend, .notified] s s0 := by
  cases h with
  | rx => unfold rxState; upd_rfl
  | tick => upd_rfl
  | txn items => exact (txnFold_upd s items).mono.trans (by upd_rfl)
  | add => upd_rfl
  | cut => unfold cutState; upd_rfl

theorem StepInit.keep {env : OEnv} {s : OState} {inp : OInput} {pf : Option Frag} {s0 : OState} {o0 : List OOut}
    (h : StepInit env s inp pf s0 o0) : ∀ o ∈ o0, OOut.kind o = .line := by
  cases h with
  | txn items => exact txnFold_outs s items
  | rx | tick => simp
  | add | cut => simp [OOut.kind]

theorem StepInit.pendOk {env : OEnv} {s : OState} {inp : OInput} {pf : Option Frag} {s0 : OState} {o0 : List OOut}
    (h : StepInit env s inp pf s0 o0) : PendOk pf (s0, o0) := by
  cases h with
  | rx => exact Or.inr rfl
  | tick => exact Or.inr rfl
  | txn items =>
    exact Or.inr ((txnFold_upd s items).get .pending)
  | add => exact Or.inr rfl
  | cut => exact Or.inl rfl

def StepFrag (env : OEnv) (s : OState) (inp : OInput) (pf : Option Frag) : Prop :=
  match inp with
  | .rx src dst data => pf = none ∨ ∃ b, rxBroadcast env dst = some b ∧ pf = some ⟨s.frameId, src, b, data⟩
  | .tick _ | .txn _ | .add .. => pf = s.pending
  | .cut | .setScript _ => pf = none

theorem StepInit.frag {env : OEnv} {s : OState} {inp : OInput} {pf : Option Frag} {s0 : OState} {o0 : List OOut}
    (h : StepInit env s inp pf s0 o0) : StepFrag env s inp pf := by
  cases h with
  | rx src dst data b hb => exact Or.inr ⟨b, hb, rfl⟩
  | tick => rfl
  | txn => rfl
  | add => rfl
  | cut => rfl

theorem StepInit.mode {env : OEnv} {s : OState} {inp : OInput} {pf : Option Frag} {s0 : OState} {o0 : List OOut}
    (h : StepInit env s inp pf s0 o0) :
    (s0.mode = s.mode ∧ s0.deferred = s.deferred ∧ inp ≠ .cut) ∨
    (inp = .cut ∧ s0.mode = .idle .noSleep ∧ s0.deferred = none) := by
  cases h with
  | rx => exact Or.inl ⟨rfl, rfl, by simp⟩
  | tick => exact Or.inl ⟨rfl, rfl, by simp⟩
  | txn items =>
    exact Or.inl ⟨(txnFold_upd s items).get .mode, (txnFold_upd s items).get .deferred, by simp⟩
  | add => exact Or.inl ⟨rfl, rfl, by simp⟩
  | cut => exact Or.inr ⟨rfl, rfl, rfl⟩

/-- the filters of an `.rx` input: a valid source address, data that is not empty and fits the receive buffer, a
    broadcast within one link frame -/
def RxOk (env : OEnv) (src : Nat) (data : List Nat) (b : Option Nat) : Prop :=
  src < 0xFFF0 ∧ data ≠ [] ∧ data.length ≤ env.rx ∧ (b.isSome → data.length ≤ 249)

instance (env : OEnv) (src : Nat) (data : List Nat) (b : Option Nat) : Decidable (RxOk env src data b) := by
  unfold RxOk; infer_instance

theorem rxOk_iff (env : OEnv) (src : Nat) (data : List Nat) (b : Option Nat) :
    RxOk env src data b ↔
      ¬(src ≥ 0xFFF0 ∨ data.isEmpty ∨ data.length > env.rx) ∧ ¬(b.isSome ∧ data.length > 249) := by
  unfold RxOk
  rw [List.isEmpty_iff]
  constructor
  · rintro ⟨h1, h2, h3, h4⟩
    exact ⟨by rintro (h | h | h) <;> first | omega | exact h2 h, fun ⟨hb, h⟩ => by have := h4 hb; omega⟩
  · rintro ⟨h1, h2⟩
    exact ⟨Nat.lt_of_not_ge fun h => h1 (.inl h), fun h => h1 (.inr (.inl h)),
      Nat.le_of_not_gt fun h => h1 (.inr (.inr h)), fun hb => Nat.le_of_not_gt fun h => h2 ⟨hb, h⟩⟩

inductive Init where
  | done (x : OState × List OOut)
  | dispatch (a : Acc)
  | pass (a : Acc)

def Init.run : Init → OState × List OOut
  | .done x => x
  | .dispatch a => finishStep (settle 8 (Dnp3.dispatch a))
  | .pass a => finishStep (settle 8 (runPass passFuel a))

/-- the step prologue of a task that is alive -/
def init (env : OEnv) (s : OState) : OInput → Init
  | .setScript g => .done ({ s with script := g s.script }, [])
  | .rx src dst data =>
    match rxBroadcast env dst with
    | some b => if RxOk env src data b then .dispatch (rxState s ⟨s.frameId, src, b, data⟩, []) else .done (s, [])
    | none => .done (s, [])
  | .tick ms => .dispatch ({ s with now := s.now + ms }, [])
  | .txn items => .dispatch ({ (txnFold s items).1 with notified := true }, (txnFold s items).2)
  | .add t idx cls => .dispatch ({ s with db := (s.db.add t idx cls).1, notified := true },
      [.line s!"add {if (s.db.add t idx cls).2 then 1 else 0}"])
  | .cut => .pass (cutState s, [.line "session link stdio UnexpectedEof"])

theorem step_dead (env : OEnv) (s : OState) (inp : OInput) (h : s.mode = .dead) :
    Outstation.step env s inp = ((match inp with | .setScript g => { s with script := g s.script } | _ => s), []) := by
  unfold Outstation.step
  rw [h]
  rfl

theorem step_init (env : OEnv) (s : OState) (inp : OInput) (h : s.mode ≠ .dead) :
    Outstation.step env s inp = (init env s inp).run := by
  rw [step_alive_eq env s inp h]
  have alive : ∀ {α} (x y : α), (if s.mode matches .dead then x else y) = y := fun x y => by
    split
    · rename_i hd; exact absurd (by revert hd; cases s.mode <;> simp) h
    · rfl
  cases inp with
  | rx src dst data =>
    unfold stepBody
    dsimp only
    rw [alive, ← rxBroadcast]
    show _ = Init.run (match rxBroadcast env dst with | some b => _ | none => _)
    cases rxBroadcast env dst with
    | none => rfl
    | some b =>
      dsimp only
      by_cases hok : RxOk env src data b
      · rw [if_pos hok, if_neg ((rxOk_iff ..).1 hok).1, if_neg ((rxOk_iff ..).1 hok).2]; rfl
      · rw [if_neg hok]
        by_cases h1 : src ≥ 0xFFF0 ∨ data.isEmpty ∨ data.length > env.rx
        · rw [if_pos h1]; rfl
        · rw [if_neg h1, if_pos (Classical.not_not.1 fun h2 => hok ((rxOk_iff ..).2 ⟨h1, h2⟩))]; rfl
  | cut => unfold stepBody; dsimp only; rw [alive]; rfl
  | _ => rfl

/-- the prologue as a relation, for the inputs that end in a `dispatch`.  The disjunct `inp = .cut` says nothing about
    the step (a disconnect is followed by a pass, not by a dispatch, and a dead task falls under the second disjunct):
    `step_init` and `step_chain` cover it. -/
theorem step_dispatch (env : OEnv) (s : OState) (inp : OInput) :
    (∃ f, inp = .setScript f ∧ Outstation.step env s inp = ({ s with script := f s.script }, [])) ∨
    Outstation.step env s inp = (s, []) ∨
    inp = .cut ∨
    ∃ pf s0 o0, StepInit env s inp pf s0 o0 ∧ inp ≠ .cut ∧
      Outstation.step env s inp = finishStep (settle 8 (dispatch (s0, o0))) := by
  by_cases hd : s.mode = .dead
  · rw [step_dead env s inp hd]
    cases inp <;> first | exact .inl ⟨_, rfl, rfl⟩ | exact .inr (.inl rfl)
  rw [step_init env s inp hd]
  cases inp with
  | setScript g => exact .inl ⟨g, rfl, rfl⟩
  | rx src dst data =>
    dsimp only [init]
    cases hb : rxBroadcast env dst with
    | none => exact .inr (.inl rfl)
    | some b =>
      dsimp only
      split
      · exact .inr (.inr (.inr ⟨_, _, _, .rx src dst data b hb, nofun, rfl⟩))
      · exact .inr (.inl rfl)
  | tick ms => exact .inr (.inr (.inr ⟨_, _, _, .tick ms, nofun, rfl⟩))
  | txn items => exact .inr (.inr (.inr ⟨_, _, _, .txn items, nofun, rfl⟩))
  | add t idx cls => exact .inr (.inr (.inr ⟨_, _, _, .add t idx cls, nofun, rfl⟩))
  | cut => exact .inr (.inr (.inl rfl))

theorem step_tick_eq (env : OEnv) (s : OState) (ms : Nat) (hm : s.mode ≠ .dead) :
    Outstation.step env s (.tick ms) = finishStep (settle 8 (dispatch ({ s with now := s.now + ms }, []))) :=
  step_init env s _ hm

theorem step_txn_eq (env : OEnv) (s : OState) (items : List TxnItem) (hm : s.mode ≠ .dead) :
    Outstation.step env s (.txn items) =
      finishStep (settle 8 (dispatch ({ (txnFold s items).1 with notified := true }, (txnFold s items).2))) :=
  step_init env s _ hm

theorem IdleStage1.eff {a a1 : Acc} {f : Frag} {ctrl : AppCtrl} {func : Nat} {objs : Except Nat (List ObjHdr)}
    {raw : List Nat} {lr : Option (LastReq × Bool)} (h : IdleStage1 a f ctrl func objs raw a1 lr) :
    Eff [.db, .script, .restart, .en1, .en2, .en3, .lastRecorded, .select, .solBuf, .solLen, .lastBroadcast]
      [.select, .writeResponse] (KP [.app, .clear, .bcast]) a a1 := by
  cases h with
  | confirm => exact .refl
  | bcast m a1 _ _ hp => exact (processBroadcast_eff hp).kmono
  | nonRead hs a1 r _ _ _ _ hn => exact (handleNonRead_eff hn).kmono
  | prep s1 lr hk _ _ _ _ _ _ hp =>
    cases hp with
    | malformed => exact .refl
    | read hs => exact .state _ hk.mono (.writeResponse _ _ (by decide) (.selectAll (by decide) _ _ _ .refl))
  | echo s1 last hk _ _ _ _ => exact .state _ hk.mono (.of_eq (hk.get .db))

theorem IdleStage2.eff {a1 : Acc} {lr : Option (LastReq × Bool)} {f : Frag} {a' : Acc} {ser : Option Series}
    (h : IdleStage2 a1 f lr a' ser) : Eff [.lastReq, .lastBroadcast, .solBuf, .solLen] [] (KP [.tx]) a1 a' := by
  cases h with
  | nothing => exact .refl
  | silent => exact .set _ (Upd.lastReq _ _).mono
  | echo lr r _ => exact .trans (repeatSolicited_eff _ _ _).kmono (.set _ (Upd.lastReq _ _).mono)
  | fresh lr r a2 r2 _ hw => exact .trans (writeSolicited_eff hw).kmono (.set _ (Upd.lastReq _ _).mono)

theorem handleRequestFromIdle_eff {a : Acc} {f : Frag} {ctrl : AppCtrl} {func : Nat}
    {objs : Except Nat (List ObjHdr)} {raw : List Nat} {a' : Acc} {ser : Option Series}
    (h : handleRequestFromIdle a f ctrl func objs raw = some (a', ser)) :
    Eff [.db, .script, .restart, .en1, .en2, .en3, .lastRecorded, .select, .solBuf, .solLen, .lastBroadcast, .lastReq]
      [.select, .writeResponse] (KP [.app, .clear, .bcast, .tx]) a a' :=
  have ⟨_, _, s1, s2⟩ := handleRequestFromIdle_cases h
  .trans s1.eff.kmono s2.eff.kmono

theorem popRequest_upd {s s' : OState} {p : Popped} (h : popRequest s = (s', p)) : Upd [.pending] s s' := by
  cases popRequest_cases h with
  | foreign => upd_rfl
  | _ => exact .refl _ _

end Dnp3.Proofs.Skel
