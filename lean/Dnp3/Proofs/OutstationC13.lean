import Dnp3.Proofs.OutstationAct
/-!
# C13 — internal indication bits tell the truth (session-level plumbing)

`Db.*` is opaque: no `Db` function is unfolded; every theorem holds for any database component
(the section "D16 repaired, on a concrete trace" at the end evaluates concrete traces: `d16_hypotheses*` show on them that the hypotheses of the
D16 theorems can be met).
The relation of the class / overflow bits to the event buffer is the database component's job;
here: which state each IIN bit is copied from, and how `restart` / `lastBroadcast` evolve.

Broadcast bit (`broadcast_bit_rule`).  D16 — "accepting an unsolicited confirm cleared `lastBroadcast` for every confirm
mode although no response had reported IIN1.0" — is REPAIRED: `OState.unsolReported` records whether the
unsolicited response awaiting its confirm carried IIN1.0 with no broadcast received since, and the
unsolicited confirm clears the record only then.  Here: the relations that follow `restart` (`RR`), `lastBroadcast` (`BR`),
`unsolReported` (`UR`) and the `Cb.broadcast` callback (`KO`) along the chain of actions every step is (`OutstationAct`:
`Act`, `step_acts`), `restart_bit_interval` and `broadcast_bit_rule` (whose last two clauses say: an accepted unsolicited
confirm changes `lastBroadcast` only if `unsolReported` was set).
The theorems about `ReportedOk`, a broadcast during the unsolicited wait and whole runs are in `Props/C13.lean`.
-/
namespace Dnp3.Proofs.C13
open Dnp3 Dnp3.Proofs.Frame Dnp3.Proofs.Iin Dnp3.Proofs.Skel Dnp3.Proofs.Act

attribute [local irreducible] Db.new Db.add Db.update Db.readSupported Db.select Db.writeResponse
  Db.writeUnsolicited Db.clearWritten Db.reset Db.unwrittenClasses Db.isOverflown

theorem getResponseIin_bits (s s' : OState) (i1 i2 : Nat) (h : getResponseIin s = some (s', i1, i2)) :
    ∃ c1 c2 c3, s.db.unwrittenClasses = some (c1, c2, c3) ∧
      i1.testBit 7 = s.restart ∧
      i1.testBit 1 = c1 ∧ i1.testBit 2 = c2 ∧ i1.testBit 3 = c3 ∧
      i1.testBit 0 = s.lastBroadcast.isSome ∧
      i1.testBit 4 = s.script.appIin.testBit 0 ∧
      i1.testBit 5 = s.script.appIin.testBit 1 ∧
      i1.testBit 6 = s.script.appIin.testBit 2 ∧
      i1 < 256 ∧
      i2.testBit 3 = s.db.isOverflown ∧
      i2.testBit 5 = s.script.appIin.testBit 3 ∧
      (∀ i, i ≠ 3 → i ≠ 5 → i2.testBit i = false) := by
  obtain ⟨c1, c2, c3, hu, _, h1, h2⟩ := getResponseIin_some s s' i1 i2 h
  subst h1 h2
  have b1 := iin1Of_bits s.lastBroadcast.isSome c1 c2 c3 (s.script.appIin.testBit 0) (s.script.appIin.testBit 1)
    (s.script.appIin.testBit 2) s.restart
  have b2 := iin2Of_bits s.db.isOverflown (s.script.appIin.testBit 3)
  exact ⟨c1, c2, c3, hu, b1.2.2.2.2.2.2.2.1, b1.2.1, b1.2.2.1, b1.2.2.2.1, b1.1, b1.2.2.2.2.1, b1.2.2.2.2.2.1,
    b1.2.2.2.2.2.2.1, b1.2.2.2.2.2.2.2.2, b2.1, b2.2.1, b2.2.2⟩

/-- **C13.1** every freshly built solicited response: the transmitted header carries
    `r.iin ||| getResponseIin`, the latter sampled from the state at that moment. -/
theorem iin_of_fresh_response_sol (a : Acc) (dst : Nat) (r : Resp) (a' : Acc) (r' : Resp)
    (h : writeSolicited a dst r = some (a', r')) :
    ∃ s1 i1 i2 bytes, getResponseIin a.1 = some (s1, i1, i2) ∧
      r'.iin1 = r.iin1 ||| i1 ∧ r'.iin2 = r.iin2 ||| i2 ∧
      a'.2 = a.2 ++ [.tx dst bytes] ∧
      bytes.take 4 = [r'.ctrl.toNat, r'.func, r.iin1 ||| i1, r.iin2 ||| i2] := by
  obtain ⟨c1, c2, c3, hu, rfl, rfl⟩ := writeSolicited_eq h
  exact ⟨_, _, _, _, getResponseIin_eq a.1 c1 c2 c3 hu, rfl, rfl, rfl, by rw [hdr_take]; rfl⟩

/-- **C13.1** every freshly built unsolicited response, likewise. -/
theorem iin_of_fresh_response_unsol (a : Acc) (r : Resp) (a' : Acc) (r' : Resp)
    (h : writeUnsolicited a r = some (a', r')) :
    ∃ s1 i1 i2 bytes, getResponseIin a.1 = some (s1, i1, i2) ∧
      r'.iin1 = r.iin1 ||| i1 ∧ r'.iin2 = r.iin2 ||| i2 ∧
      a'.2 = a.2 ++ [.tx a.1.cfg.master bytes] ∧
      bytes.take 4 = [r'.ctrl.toNat, r'.func, r.iin1 ||| i1, r.iin2 ||| i2] := by
  obtain ⟨c1, c2, c3, hu, rfl, rfl⟩ := writeUnsolicited_eq h
  rw [repeatUnsolicited_eq, afterIin_eq]
  exact ⟨_, _, _, _, getResponseIin_eq a.1 c1 c2 c3 hu, rfl, rfl, rfl, by rw [hdr_take]; rfl⟩

/-- **C13.4**: stated for the property, and described, as `Props.C13.app_bits_mirror` -/
theorem app_bits_mirror (a : Acc) (dst : Nat) (r : Resp) (a' : Acc) (r' : Resp)
    (h : writeSolicited a dst r = some (a', r') ∨ writeUnsolicited a r = some (a', r'))
    (hr1 : r.iin1 = 0) (hr2 : r.iin2 &&& 0x20 = 0) :
    r'.iin1.testBit 4 = a.1.script.appIin.testBit 0 ∧
    r'.iin1.testBit 5 = a.1.script.appIin.testBit 1 ∧
    r'.iin1.testBit 6 = a.1.script.appIin.testBit 2 ∧
    r'.iin2.testBit 5 = a.1.script.appIin.testBit 3 := by
  have hr2' : r.iin2.testBit 5 = false := by
    cases hb : r.iin2.testBit 5 with
    | false => rfl
    | true =>
      have := (and_two_pow_ne_zero r.iin2 5).2 hb
      exact absurd hr2 this
  obtain ⟨s1, i1, i2, hg, e1, e2⟩ : ∃ s1 i1 i2, getResponseIin a.1 = some (s1, i1, i2) ∧
      r'.iin1 = r.iin1 ||| i1 ∧ r'.iin2 = r.iin2 ||| i2 := by
    rcases h with h | h
    · obtain ⟨s1, i1, i2, _, hg, e1, e2, _⟩ := iin_of_fresh_response_sol a dst r a' r' h
      exact ⟨s1, i1, i2, hg, e1, e2⟩
    · obtain ⟨s1, i1, i2, _, hg, e1, e2, _⟩ := iin_of_fresh_response_unsol a r a' r' h
      exact ⟨s1, i1, i2, hg, e1, e2⟩
  obtain ⟨c1, c2, c3, hu, b⟩ := getResponseIin_bits _ _ _ _ hg
  rw [e1, e2, hr1]
  simp only [Nat.zero_or, Nat.testBit_or, hr2', Bool.false_or]
  exact ⟨b.2.2.2.2.2.1, b.2.2.2.2.2.2.1, b.2.2.2.2.2.2.2.1, b.2.2.2.2.2.2.2.2.2.2.1⟩

theorem reqOf_unique {pf : Option Frag} {f f' : Frag} {ctrl ctrl' : AppCtrl} {func func' : Nat}
    {objs objs' : Except Nat (List ObjHdr)} {raw raw' : List Nat}
    (h : ReqOf pf f ctrl func objs raw) (h' : ReqOf pf f' ctrl' func' objs' raw') :
    f = f' ∧ ctrl = ctrl' ∧ func = func' ∧ objs = objs' ∧ raw = raw' := by
  obtain ⟨e1, p1⟩ := h
  obtain ⟨e2, p2⟩ := h'
  rw [e1] at e2
  cases e2
  rw [p1] at p2
  cases p2
  exact ⟨rfl, rfl, rfl, rfl, rfl⟩

/-! ## `restart_bit_interval`

Every step is a chain of the actions `Act` (`OutstationAct`, `step_acts`); each rule of this section and the next is a
relation between two accumulators that is reflexive, transitive and holds of every action. -/

theorem Acts.rr {pf : Option Frag} {a a' : Acc} (h : Acts pf a a') : RR (WriteClears pf) a a' := by
  obtain ⟨l, p', e, h, -, hr, -⟩ := Acts.out h
  have key : p'.restart = a.1.restart → (∀ o ∈ l, OOut.kind o ≠ .clear) → RR (WriteClears pf) a a' :=
    fun h1 hk => RR.keep (hr.trans h1) l e (fun hm => hk _ hm rfl)
  cases h with
  | calm l hl | leave l m hl | retry l r n t t' d d' _ _ hl => exact key rfl fun o ho => (hl o ho).1
  | request l r en _ hr' | bcast l r en m _ _ _ hr' => obtain rfl : r = a'.1.restart := hr.symm; exact ⟨l, e, hr'⟩
  | report => exact key rfl (List.forall_mem_singleton.2 nofun)
  | start => exact key rfl (List.forall_mem_cons.2 ⟨nofun, List.forall_mem_singleton.2 nofun⟩)
  | solConf e0 l hl | unsolConf r n t d l _ _ hl => exact key rfl (kinds_cons_confirm nofun nofun hl)
  | solConfInWait | bcastSeen | endFailed => exact key rfl fun _ h => nomatch h

theorem ActsStar.rr {pf : Option Frag} {a a' : Acc} (h : ActsStar pf a a') : RR (WriteClears pf) a a' :=
  Star.lift (RR.refl _) (fun _ _ _ => RR.trans) (fun _ _ => Acts.rr) h

def WriteClearsData (data : List Nat) : Prop :=
  ∃ ctrl hs raw h, parseRequest data = .request ctrl 2 (.ok hs) raw ∧ h ∈ hs ∧ ClearsRestart h

/-- the input that can clear `restart`: a received fragment (or, off the reachable path, one still
    held in `pending`) that is such a WRITE -/
def StepWriteClears (s : OState) : OInput → Prop
  | .rx _ _ data => WriteClearsData data
  | .tick _ | .txn _ | .add .. => ∃ f, s.pending = some f ∧ WriteClearsData f.data
  | .cut | .setScript _ => False

theorem writeClears_data {pf : Option Frag} (h : WriteClears pf) : ∃ f, pf = some f ∧ WriteClearsData f.data := by
  obtain ⟨f, ctrl, hs, raw, hh, e, p, hm, hc⟩ := h
  exact ⟨f, e, ctrl, hs, raw, hh, p, hm, hc⟩

theorem restart_step (env : OEnv) (s : OState) (inp : OInput) :
    ((Outstation.step env s inp).1.restart = s.restart ∧ clearOut ∉ (Outstation.step env s inp).2) ∨
    ((Outstation.step env s inp).1.restart = false ∧ clearOut ∈ (Outstation.step env s inp).2 ∧
      StepWriteClears s inp) := by
  obtain ⟨pf, hf, he⟩ := step_acts env s inp
  obtain ⟨l, e, c⟩ := ActsStar.rr he
  obtain rfl : (Outstation.step env s inp).2 = l := e.trans (List.nil_append l)
  refine c.imp_right fun ⟨hr1, hm, hc⟩ => ⟨hr1, hm, ?_⟩
  obtain ⟨f, rfl, hd⟩ := writeClears_data hc
  cases inp with
  | rx src dst data =>
    rcases hf with hf | ⟨b, _, hf⟩
    · cases hf
    · cases hf; exact hd
  | tick => exact ⟨f, Eq.symm hf, hd⟩
  | txn => exact ⟨f, Eq.symm hf, hd⟩
  | add => exact ⟨f, Eq.symm hf, hd⟩
  | cut => cases hf
  | setScript => cases hf

/-- **C13.2**: stated for the property, and described, as `Props.C13.restart_bit_interval` -/
theorem restart_bit_interval (env : OEnv) (s : OState) (inp : OInput) (cfg : OCfg) (evMax : Nat) :
    (OState.init cfg evMax).restart = true ∧
    ((Outstation.step env s inp).1.restart = true → s.restart = true) ∧
    ((inp matches .cut | .setScript _) ∨ (s.pending = none ∧ (inp matches .tick _ | .txn _ | .add ..)) →
      (Outstation.step env s inp).1.restart = s.restart) ∧
    (s.restart = true → (Outstation.step env s inp).1.restart = false →
      OOut.cb .clearRestartIin ∈ (Outstation.step env s inp).2) ∧
    (OOut.cb .clearRestartIin ∈ (Outstation.step env s inp).2 →
      (Outstation.step env s inp).1.restart = false ∧ StepWriteClears s inp) := by
  rcases restart_step env s inp with ⟨e, hn⟩ | ⟨e, hm, hw⟩
  · refine ⟨rfl, fun ht => e.symm.trans ht, fun _ => e, fun ht hf => ?_, fun hm => absurd hm hn⟩
    rw [e, ht] at hf; cases hf
  · refine ⟨rfl, fun ht => ?_, fun hi => ?_, fun _ _ => hm, fun _ => ⟨e, hw⟩⟩
    · rw [e] at ht; cases ht
    · exfalso
      rcases hi with hi | ⟨hp, hi⟩
      · cases inp <;> simp_all [StepWriteClears]
      · cases inp <;> simp_all [StepWriteClears]

/-- outputs that witness a legitimate change of `lastBroadcast` -/
def BcEvid (o : OOut) : Prop :=
  OOut.kind o = .bcast ∨ OOut.kind o = .unsolConfirmed ∨ ∃ e, o = .cb (.solConfirmed e)

def BcastOf (pf : Option Frag) (m : Nat) : Prop := ∃ f, pf = some f ∧ f.broadcast = some m

def BR (pf : Option Frag) (a a' : Acc) : Prop :=
  ∃ l, a'.2 = a.2 ++ l ∧
    (a'.1.lastBroadcast = a.1.lastBroadcast ∨ a'.1.lastBroadcast = none ∨
      ∃ m, BcastOf pf m ∧ a'.1.lastBroadcast = some m) ∧
    ((∀ o ∈ l, OOut.kind o ≠ .bcast) →
      a'.1.lastBroadcast = a.1.lastBroadcast ∨ a'.1.lastBroadcast = none) ∧
    (¬ IsSolConfirm pf → (∀ o ∈ l, ¬ BcEvid o) → a.1.lastBroadcast = some 1 → a'.1.lastBroadcast = some 1) ∧
    (¬ IsSolConfirm pf → (∀ o ∈ l, ¬ BcEvid o ∧ OOut.kind o ≠ .tx) → a'.1.lastBroadcast = a.1.lastBroadcast)

theorem BR.keep {pf : Option Frag} {a b : Acc} (hk : b.1.lastBroadcast = a.1.lastBroadcast) (l : List OOut)
    (e : b.2 = a.2 ++ l) : BR pf a b :=
  ⟨l, e, Or.inl hk, fun _ => Or.inl hk, fun _ _ h => by rw [hk]; exact h, fun _ _ => hk⟩

theorem BR.refl (pf : Option Frag) (a : Acc) : BR pf a a := BR.keep rfl [] (by simp)

theorem BR.trans {pf : Option Frag} {a b c : Acc} (h1 : BR pf a b) (h2 : BR pf b c) : BR pf a c := by
  obtain ⟨l1, e1, v1, s1, p1, n1⟩ := h1
  obtain ⟨l2, e2, v2, s2, p2, n2⟩ := h2
  refine ⟨l1 ++ l2, by rw [e2, e1, List.append_assoc], ?_, ?_, ?_, ?_⟩
  · rcases v2 with h | h | h
    · rw [h]; exact v1
    · exact Or.inr (Or.inl h)
    · exact Or.inr (Or.inr h)
  · intro hn
    have hn1 : ∀ o ∈ l1, OOut.kind o ≠ .bcast := fun o ho => hn o (by simp [ho])
    have hn2 : ∀ o ∈ l2, OOut.kind o ≠ .bcast := fun o ho => hn o (by simp [ho])
    rcases s2 hn2 with h | h
    · rw [h]; exact s1 hn1
    · exact Or.inr h
  · intro hc hn hb
    exact p2 hc (fun o ho => hn o (by simp [ho])) (p1 hc (fun o ho => hn o (by simp [ho])) hb)
  · intro hc hn
    rw [n2 hc (fun o ho => hn o (by simp [ho])), n1 hc (fun o ho => hn o (by simp [ho]))]

theorem BR.report {pf : Option Frag} {a b : Acc}
    (hk : b.1.lastBroadcast = if a.1.lastBroadcast = some 1 then some 1 else none) (l : List OOut)
    (e : b.2 = a.2 ++ l) (ht : ∃ o ∈ l, OOut.kind o = .tx) : BR pf a b := by
  refine ⟨l, e, ?_, ?_, ?_, ?_⟩
  · by_cases h1 : a.1.lastBroadcast = some 1
    · left; rw [hk, if_pos h1, h1]
    · right; left; rw [hk, if_neg h1]
  · intro _
    by_cases h1 : a.1.lastBroadcast = some 1
    · left; rw [hk, if_pos h1, h1]
    · right; rw [hk, if_neg h1]
  · intro _ _ h1; rw [hk, if_pos h1]
  · intro _ hn
    obtain ⟨o, ho, hkind⟩ := ht
    exact absurd hkind (hn o ho).2

theorem BR.cleared {pf : Option Frag} {a b : Acc} (hk : b.1.lastBroadcast = none) (l : List OOut)
    (e : b.2 = a.2 ++ l) (ht : ∃ o ∈ l, BcEvid o) : BR pf a b := by
  obtain ⟨o, ho, hev⟩ := ht
  exact ⟨l, e, Or.inr (Or.inl hk), fun _ => Or.inr hk, fun _ hn _ => absurd hev (hn o ho),
    fun _ hn => absurd hev (hn o ho).1⟩

theorem Acts.br {pf : Option Frag} {a a' : Acc} (h : Acts pf a a') : BR pf a a' := by
  obtain ⟨l, p', e, h, -, -, -, -, hlb, -⟩ := Acts.out h
  cases h with
  | calm | request | leave | retry | bcastSeen | endFailed => exact BR.keep hlb _ e
  | report dst bytes => exact BR.report hlb _ e ⟨_, List.mem_singleton_self _, rfl⟩
  | start => exact BR.report hlb _ e ⟨_, List.mem_cons_self, rfl⟩
  | solConf e0 l => exact BR.cleared hlb _ e ⟨_, List.mem_cons_self, Or.inr (Or.inr ⟨_, rfl⟩)⟩
  | unsolConf r n t d l =>
    have hlb : a'.1.lastBroadcast = if a.1.unsolReported = true then none else a.1.lastBroadcast := hlb
    by_cases hur : a.1.unsolReported = true
    · rw [if_pos hur] at hlb
      exact BR.cleared hlb _ e ⟨_, List.mem_cons_self, Or.inr (Or.inl rfl)⟩
    · rw [if_neg hur] at hlb
      exact BR.keep hlb _ e
  | solConfInWait hsc =>
    exact ⟨[], e, Or.inr (Or.inl hlb), fun _ => Or.inr hlb, fun hn => absurd hsc hn, fun hn => absurd hsc hn⟩
  | bcast l r en m hq ho =>
    obtain ⟨o, hol, hkind⟩ := ho
    obtain ⟨f, ctrl, func, objs, raw, hreq, _, hb⟩ := hq
    exact ⟨l, e, Or.inr (Or.inr ⟨m, ⟨f, hreq.1, hb⟩, hlb⟩), fun hn => absurd hkind (hn o hol),
      fun _ hn => absurd (Or.inl hkind) (hn o hol), fun _ hn => absurd (Or.inl hkind) (hn o hol).1⟩

theorem ActsStar.br {pf : Option Frag} {a a' : Acc} (h : ActsStar pf a a') : BR pf a a' :=
  Star.lift (BR.refl _) (fun _ _ _ => BR.trans) (fun _ _ => Acts.br) h

/-- a transmitted fragment whose IIN1.0 (broadcast received) is set -/
def ReportsBroadcast : OOut → Prop
  | .tx _ bytes => (bytes.getD 2 0).testBit 0 = true
  | _ => False

def Quiet (o : OOut) : Prop :=
  OOut.kind o ≠ .bcast ∧ (∀ e, o ≠ .cb (.solConfirmed e)) ∧ ¬ ReportsBroadcast o

def Quiet1 (o : OOut) : Prop :=
  OOut.kind o ≠ .bcast ∧ (∀ e, o ≠ .cb (.solConfirmed e)) ∧ OOut.kind o ≠ .unsolWait

def ReportedOk (s : OState) : Prop :=
  ∀ resp isNull retries dl, s.mode = .unsolWait resp isNull retries dl → s.unsolReported = true →
    resp.iin1.testBit 0 = true

def UR (pf : Option Frag) (a a' : Acc) : Prop :=
  ∃ l, a'.2 = a.2 ++ l ∧
    (ReportedOk a.1 → ReportedOk a'.1) ∧
    (¬ IsSolConfirm pf → (∀ o ∈ l, Quiet o) → a.1.unsolReported = false →
      a'.1.unsolReported = false ∧ a'.1.lastBroadcast = a.1.lastBroadcast) ∧
    (¬ IsSolConfirm pf → (∀ o ∈ l, Quiet1 o) → a.1.unsolReported = false → a.1.lastBroadcast = some 1 →
      a'.1.unsolReported = false ∧ a'.1.lastBroadcast = some 1)

theorem ReportedOk.of_eq {s s' : OState} (hm : s'.mode = s.mode) (hu : s'.unsolReported = s.unsolReported)
    (h : ReportedOk s) : ReportedOk s' := by
  intro resp isNull retries dl m u
  rw [hm] at m; rw [hu] at u
  exact h _ _ _ _ m u

theorem ReportedOk.of_notWait {s' : OState} (hm : ∀ r n t d, s'.mode ≠ .unsolWait r n t d) : ReportedOk s' :=
  fun r n t d m _ => absurd m (hm r n t d)

theorem UR.same {pf : Option Frag} {a b : Acc} (hm : b.1.mode = a.1.mode)
    (hu : b.1.unsolReported = a.1.unsolReported) (l : List OOut) (e : b.2 = a.2 ++ l)
    (hl : (∀ o ∈ l, Quiet o) → b.1.lastBroadcast = a.1.lastBroadcast)
    (hl1 : (∀ o ∈ l, Quiet1 o) → a.1.lastBroadcast = some 1 → b.1.lastBroadcast = some 1) : UR pf a b :=
  ⟨l, e, ReportedOk.of_eq hm hu, fun _ hq h0 => ⟨by rw [hu]; exact h0, hl hq⟩,
    fun _ hq h0 h1 => ⟨by rw [hu]; exact h0, hl1 hq h1⟩⟩

theorem UR.refl (pf : Option Frag) (a : Acc) : UR pf a a :=
  UR.same rfl rfl [] (by simp) (fun _ => rfl) (fun _ h => h)

theorem UR.trans {pf : Option Frag} {a b c : Acc} (h1 : UR pf a b) (h2 : UR pf b c) : UR pf a c := by
  obtain ⟨l1, e1, r1, q1, p1⟩ := h1
  obtain ⟨l2, e2, r2, q2, p2⟩ := h2
  refine ⟨l1 ++ l2, by rw [e2, e1, List.append_assoc], fun h => r2 (r1 h), ?_, ?_⟩
  · intro hc hq h0
    obtain ⟨u1, b1⟩ := q1 hc (fun o ho => hq o (by simp [ho])) h0
    obtain ⟨u2, b2⟩ := q2 hc (fun o ho => hq o (by simp [ho])) u1
    exact ⟨u2, b2.trans b1⟩
  · intro hc hq h0 hb
    obtain ⟨u1, b1⟩ := p1 hc (fun o ho => hq o (by simp [ho])) h0 hb
    exact p2 hc (fun o ho => hq o (by simp [ho])) u1 b1

theorem Acts.ur {pf : Option Frag} {a a' : Acc} (h : Acts pf a a') : UR pf a a' := by
  obtain ⟨l, p', e, h, -, -, -, -, hlb, hur, hm⟩ := Acts.out h
  cases h with
  | calm | request | endFailed => exact UR.same hm hur _ e (fun _ => hlb) (fun _ h1 => hlb.trans h1)
  | leave l m _ hn =>
    exact ⟨_, e, fun _ _ _ _ _ m2 _ => absurd (hm.symm.trans m2) (hn _ _ _ _), fun _ _ h0 => ⟨hur.trans h0, hlb⟩,
      fun _ _ h0 h1 => ⟨hur.trans h0, hlb.trans h1⟩⟩
  | retry l r n t t' d d' hm0 =>
    -- the wait goes on for the same response
    refine ⟨_, e, fun hok _ _ _ _ m2 u => ?_, fun _ _ h0 => ⟨hur.trans h0, hlb⟩,
      fun _ _ h0 h1 => ⟨hur.trans h0, hlb.trans h1⟩⟩
    cases hm.symm.trans m2
    exact hok _ _ _ _ hm0 (hur.symm.trans u)
  | report dst bytes hb =>
    refine UR.same hm hur _ e (fun hq => ?_) (fun _ h1 => hlb.trans (if_pos h1))
    have hn : a.1.lastBroadcast = none := by
      cases hl : a.1.lastBroadcast with
      | none => rfl
      | some m => exact absurd (hb (by show a.1.lastBroadcast.isSome = true; rw [hl]; rfl)) (hq _ (List.mem_singleton_self _)).2.2
    exact hlb.trans (by show (if a.1.lastBroadcast = some 1 then some 1 else none) = _; rw [hn]; rfl)
  | start dst bytes q r n t d hb hs =>
    have hm : a'.1.mode = .unsolWait r n t d := hm
    have hur : a'.1.unsolReported = r.iin1.testBit 0 := hur
    refine ⟨_, e, fun _ r2 n2 t2 d2 m u => ?_, fun _ hq _ => ?_, fun _ hq => ?_⟩
    · rw [hm] at m; cases m; rw [hur] at u; exact u
    · -- a quiet transmission does not carry IIN1.0, so nothing was recorded
      have hq1 : ¬ (bytes.getD 2 0).testBit 0 = true := (hq (.tx dst bytes) List.mem_cons_self).2.2
      have h0 : r.iin1.testBit 0 = false := by rw [← hb]; exact Bool.eq_false_iff.2 hq1
      have hn : a.1.lastBroadcast = none := by
        cases hl : a.1.lastBroadcast with
        | none => rfl
        | some m => have := hs (by show a.1.lastBroadcast.isSome = true; rw [hl]; rfl); rw [h0] at this; cases this
      exact ⟨hur.trans h0, hlb.trans (by show (if a.1.lastBroadcast = some 1 then some 1 else none) = _; rw [hn]; rfl)⟩
    · exact absurd rfl (hq (.cb (.unsolWait q)) (by simp)).2.2
  | solConf e0 l =>
    exact UR.same hm hur _ e (fun hq => absurd rfl ((hq _ List.mem_cons_self).2.1 e0))
      (fun hq => absurd rfl ((hq _ List.mem_cons_self).2.1 e0))
  | unsolConf r n t d l =>
    have key : a.1.unsolReported = false → a'.1.lastBroadcast = a.1.lastBroadcast := fun h0 =>
      hlb.trans (by show (if a.1.unsolReported = true then none else a.1.lastBroadcast) = _
                    rw [if_neg (by rw [h0]; exact Bool.false_ne_true)])
    exact ⟨_, e, ReportedOk.of_eq hm hur, fun _ _ h0 => ⟨hur.trans h0, key h0⟩,
      fun _ _ h0 h1 => ⟨hur.trans h0, (key h0).trans h1⟩⟩
  | solConfInWait hsc =>
    exact ⟨[], e, ReportedOk.of_eq hm hur, fun hn => absurd hsc hn, fun hn => absurd hsc hn⟩
  | bcastSeen =>
    have hur : a'.1.unsolReported = false := hur
    exact ⟨[], e, fun _ _ _ _ _ _ u => (nomatch hur.symm.trans u), fun _ _ _ => ⟨hur, hlb⟩,
      fun _ _ _ h1 => ⟨hur, hlb.trans h1⟩⟩
  | bcast l r en m _ ho =>
    obtain ⟨o, hol, hk⟩ := ho
    exact UR.same hm hur l e (fun hq => absurd hk (hq o hol).1) (fun hq => absurd hk (hq o hol).1)

theorem ActsStar.ur {pf : Option Frag} {a a' : Acc} (h : ActsStar pf a a') : UR pf a a' :=
  Star.lift (UR.refl _) (fun _ _ _ => UR.trans) (fun _ _ => Acts.ur) h

/-- **C13.3**: stated for the property, and described, as `Props.C13.broadcast_bit_rule` -/
theorem broadcast_bit_rule (env : OEnv) (s : OState) (inp : OInput) :
    ∃ pf, StepFrag env s inp pf ∧
      ((Outstation.step env s inp).1.lastBroadcast = s.lastBroadcast ∨
        (Outstation.step env s inp).1.lastBroadcast = none ∨
        ∃ m, BcastOf pf m ∧ (Outstation.step env s inp).1.lastBroadcast = some m) ∧
      ((∀ o ∈ (Outstation.step env s inp).2, OOut.kind o ≠ .bcast) →
        (Outstation.step env s inp).1.lastBroadcast = s.lastBroadcast ∨
        (Outstation.step env s inp).1.lastBroadcast = none) ∧
      (¬ IsSolConfirm pf → (∀ o ∈ (Outstation.step env s inp).2, ¬ BcEvid o) →
        s.lastBroadcast = some 1 → (Outstation.step env s inp).1.lastBroadcast = some 1) ∧
      (¬ IsSolConfirm pf → (∀ o ∈ (Outstation.step env s inp).2, ¬ BcEvid o ∧ OOut.kind o ≠ .tx) →
        (Outstation.step env s inp).1.lastBroadcast = s.lastBroadcast) ∧
      (¬ IsSolConfirm pf → (∀ o ∈ (Outstation.step env s inp).2, Quiet o) → s.unsolReported = false →
        (Outstation.step env s inp).1.unsolReported = false ∧
        (Outstation.step env s inp).1.lastBroadcast = s.lastBroadcast) ∧
      (¬ IsSolConfirm pf → (∀ o ∈ (Outstation.step env s inp).2, Quiet1 o) → s.unsolReported = false →
        s.lastBroadcast = some 1 →
        (Outstation.step env s inp).1.unsolReported = false ∧
        (Outstation.step env s inp).1.lastBroadcast = some 1) := by
  obtain ⟨pf, hf, he⟩ := step_acts env s inp
  obtain ⟨l, el, v, st, p, n⟩ := ActsStar.br he
  obtain ⟨l', el', _, q, q1⟩ := ActsStar.ur he
  obtain rfl : (Outstation.step env s inp).2 = l := el.trans (List.nil_append l)
  obtain rfl : (Outstation.step env s inp).2 = l' := el'.trans (List.nil_append l')
  exact ⟨pf, hf, v, st, p, n, q, q1⟩

def KO (pf : Option Frag) (a a' : Acc) : Prop :=
  ∃ l, a'.2 = a.2 ++ l ∧ ((∃ o ∈ l, OOut.kind o = .bcast) → ∃ m, BcastReq pf m)

theorem KO.none {pf : Option Frag} {a b : Acc} (l : List OOut) (e : b.2 = a.2 ++ l)
    (hn : ∀ o ∈ l, OOut.kind o ≠ .bcast) : KO pf a b :=
  ⟨l, e, fun ⟨o, ho, hk⟩ => absurd hk (hn o ho)⟩

theorem KO.refl (pf : Option Frag) (a : Acc) : KO pf a a := KO.none [] (by simp) (by simp)

theorem KO.trans {pf : Option Frag} {a b c : Acc} (h1 : KO pf a b) (h2 : KO pf b c) : KO pf a c := by
  obtain ⟨l1, e1, c1⟩ := h1
  obtain ⟨l2, e2, c2⟩ := h2
  refine ⟨l1 ++ l2, by rw [e2, e1, List.append_assoc], ?_⟩
  rintro ⟨o, ho, hk⟩
  rcases List.mem_append.1 ho with h | h
  · exact c1 ⟨o, h, hk⟩
  · exact c2 ⟨o, h, hk⟩

theorem Acts.ko {pf : Option Frag} {a a' : Acc} (h : Acts pf a a') : KO pf a a' := by
  obtain ⟨l, p', e, h, -⟩ := Acts.out h
  cases h with
  | calm l hl | leave l m hl | retry l r n t t' d d' _ _ hl => exact KO.none l e fun o ho => (hl o ho).2.1
  | request l r en hk => exact KO.none l e fun o ho => (hk o ho).1
  | bcast l r en m hq => exact ⟨l, e, fun _ => ⟨m, hq⟩⟩
  | report => exact KO.none _ e (List.forall_mem_singleton.2 nofun)
  | start => exact KO.none _ e (List.forall_mem_cons.2 ⟨nofun, List.forall_mem_singleton.2 nofun⟩)
  | solConf e0 l hl | unsolConf r n t d l _ _ hl => exact KO.none _ e (kinds_cons_confirm nofun nofun hl)
  | solConfInWait | bcastSeen | endFailed => exact KO.none [] e fun _ h => nomatch h

theorem ActsStar.ko {pf : Option Frag} {a a' : Acc} (h : ActsStar pf a a') : KO pf a a' :=
  Star.lift (KO.refl _) (fun _ _ _ => KO.trans) (fun _ _ => Acts.ko) h

theorem StepInit.pending {env : OEnv} {s : OState} {inp : OInput} {pf : Option Frag} {s0 : OState} {o0 : List OOut}
    (h : StepInit env s inp pf s0 o0) : s0.pending = pf := by
  cases h with
  | rx => rfl
  | tick => rfl
  | txn items => exact (txnFold_upd s items).get .pending
  | add => rfl
  | cut => rfl

/-- a step that shows none of the events that legitimately consume or replace a broadcast record: its
    fragment is not a solicited CONFIRM and every output satisfies `Q` — `Quiet` (an accepted unsolicited
    confirm, retransmissions and responses without IIN1.0 are allowed) or, for a confirm-mandatory record,
    `Quiet1` (an accepted unsolicited confirm and every response short of a new unsolicited series are allowed) -/
def QuietStep (Q : OOut → Prop) (env : OEnv) (s : OState) (inp : OInput) : Prop :=
  (∀ pf, StepFrag env s inp pf → ¬ IsSolConfirm pf) ∧ ∀ o ∈ (Outstation.step env s inp).2, Q o

def QuietRun (Q : OOut → Prop) (env : OEnv) : OState → List OInput → Prop
  | _, [] => True
  | s, i :: is => QuietStep Q env s i ∧ QuietRun Q env (Outstation.step env s i).1 is

theorem QuietRun.keeps {Q : OOut → Prop} {env : OEnv} (I : OState → Prop)
    (hstep : ∀ s i, QuietStep Q env s i → I s → I (Outstation.step env s i).1) :
    ∀ (is : List OInput) (s : OState), I s → QuietRun Q env s is → I (Outstation.run env s is).1
  | [], _, h, _ => h
  | i :: is, s, h, hq => QuietRun.keeps I hstep is _ (hstep s i hq.1 h) hq.2

/-- the one conjunct of `Quiet` / `Quiet1` that quantifies, as a Boolean test -/
def isSolConfirmed : OOut → Bool
  | .cb (.solConfirmed _) => true
  | _ => false

theorem isSolConfirmed_iff (o : OOut) : (∀ e, o ≠ .cb (.solConfirmed e)) ↔ isSolConfirmed o = false := by
  cases o with
  | cb c => cases c <;> simp [isSolConfirmed]
  | _ => simp [isSolConfirmed]

instance (o : OOut) : Decidable (∀ e, o ≠ .cb (.solConfirmed e)) := decidable_of_iff _ (isSolConfirmed_iff o).symm

instance (o : OOut) : Decidable (ReportsBroadcast o) := by
  cases o <;> unfold ReportsBroadcast <;> infer_instance

instance (o : OOut) : Decidable (Quiet o) := by unfold Quiet; infer_instance

instance (o : OOut) : Decidable (Quiet1 o) := by unfold Quiet1; infer_instance

theorem quietStep_rx (Q : OOut → Prop) (env : OEnv) (s : OState) (src dst : Nat) (data : List Nat) (ctrl : AppCtrl)
    (func : Nat) (objs : Except Nat (List ObjHdr)) (raw : List Nat)
    (hp : parseRequest data = .request ctrl func objs raw) (hn : func ≠ 0 ∨ ctrl.uns = true)
    (hq : ∀ o ∈ (Outstation.step env s (.rx src dst data)).2, Q o) : QuietStep Q env s (.rx src dst data) := by
  refine ⟨?_, hq⟩
  rintro pf hf ⟨f, ctrl', objs', raw', e, hp', hu⟩
  rcases hf with hf | ⟨b, _, hf⟩
  · rw [hf] at e; cases e
  · rw [hf] at e; cases e
    rw [hp] at hp'
    cases hp'
    rcases hn with hn | hn
    · exact hn rfl
    · rw [hn] at hu; cases hu

example : Quiet (.cb (.unsolConfirmed 3)) := by decide
example : Quiet1 (.cb (.unsolConfirmed 3)) ∧ Quiet1 (.tx 1 [0xE0, 0x81, 0x81, 0]) ∧ ¬ Quiet1 (.cb (.unsolWait 1)) := by decide
example : Quiet (.tx 1 [0xF0, 0x82, 0x80, 0]) := by decide
example : ¬ Quiet (.tx 1 [0xC0, 0x81, 0x81, 0]) := by decide

/-! ## examples: the hypotheses of the theorems above are satisfiable by concrete, non-trivial states
(the database stays a parameter: only its answer to `unwrittenClasses` is assumed) -/

/-- a session state with unsolicited support, restart still set, a confirm-mandatory broadcast recorded and
    the application reporting need-time + device-trouble -/
def exState (db : Db) : OState :=
  { cfg := { unsolicited := true, retries := some 2 }, script := { appIin := 5 }, lastBroadcast := some 1,
    solBuf := List.replicate 2048 0, unsolBuf := List.replicate 2048 0, db := db }

theorem writeSolicited_some (a : Acc) (dst : Nat) (r : Resp) (c : Bool × Bool × Bool)
    (h : a.1.db.unwrittenClasses = some c) : ∃ a' r', writeSolicited a dst r = some (a', r') := by
  cases hw : writeSolicited a dst r with
  | none => cases (writeSolicited_eq_none.1 hw).symm.trans h
  | some x => exact ⟨x.1, x.2, rfl⟩

theorem writeUnsolicited_some (a : Acc) (r : Resp) (c : Bool × Bool × Bool)
    (h : a.1.db.unwrittenClasses = some c) : ∃ a' r', writeUnsolicited a r = some (a', r') := by
  cases hw : writeUnsolicited a r with
  | none => cases (writeUnsolicited_eq_none.1 hw).symm.trans h
  | some x => exact ⟨x.1, x.2, rfl⟩

/-- `iin_of_fresh_response`, `app_bits_mirror`, `broadcast_forces_con`: a solicited response is built in `exState` -/
example (db : Db) (h : db.unwrittenClasses = some (true, false, true)) :
    ∃ a' r', writeSolicited (exState db, []) 1 (emptySolicited 3 0) = some (a', r') ∧
      (emptySolicited 3 0).iin1 = 0 ∧ (emptySolicited 3 0).iin2 &&& 0x20 = 0 ∧
      (exState db).lastBroadcast = some 1 := by
  obtain ⟨a', r', hw⟩ := writeSolicited_some (exState db, []) 1 (emptySolicited 3 0) _ h
  exact ⟨a', r', hw, rfl, rfl, rfl⟩

/-- … and what the theorems then say about it: restart, class 1, class 3, broadcast, need-time and
    device-trouble are set, class 2, local-control are clear, CON is forced -/
example (db : Db) (h : db.unwrittenClasses = some (true, false, true)) (a' : Acc) (r' : Resp)
    (hw : writeSolicited (exState db, []) 1 (emptySolicited 3 0) = some (a', r')) :
    r'.iin1.testBit 7 = true ∧ r'.iin1.testBit 1 = true ∧ r'.iin1.testBit 2 = false ∧ r'.iin1.testBit 0 = true ∧
    r'.iin1.testBit 4 = true ∧ r'.iin1.testBit 5 = false ∧ r'.iin1.testBit 6 = true ∧ r'.ctrl.con = true := by
  obtain ⟨s1, i1, i2, bytes, hg, e1, _, _, _⟩ := iin_of_fresh_response_sol _ _ _ _ _ hw
  obtain ⟨c1, c2, c3, hu, b⟩ := getResponseIin_bits _ _ _ _ hg
  have hc : (c1, c2, c3) = (true, false, true) := by
    have : (exState db, ([] : List OOut)).1.db.unwrittenClasses = some (true, false, true) := h
    rw [this] at hu; cases hu; rfl
  cases hc
  have hcon : r'.ctrl.con = true := by obtain ⟨_, _, _, _, rfl, _⟩ := writeSolicited_eq hw; rfl
  have m := app_bits_mirror _ 1 _ _ _ (Or.inl hw) rfl rfl
  have z : (emptySolicited 3 0).iin1 = 0 := rfl
  rw [e1, z, Nat.zero_or]
  refine ⟨b.1, b.2.1, b.2.2.1, b.2.2.2.2.1, ?_, ?_, ?_, hcon⟩
  · rw [b.2.2.2.2.2.1]; show Nat.testBit 5 0 = true; decide
  · rw [b.2.2.2.2.2.2.1]; show Nat.testBit 5 1 = false; decide
  · rw [b.2.2.2.2.2.2.2.1]; show Nat.testBit 5 2 = true; decide

/-- `iin_of_fresh_response` for an unsolicited response -/
example (db : Db) (h : db.unwrittenClasses = some (false, true, false)) :
    ∃ a' r', writeUnsolicited (exState db, []) (unsolHeader 4 0) = some (a', r') :=
  writeUnsolicited_some _ _ _ h

/-- `restart_bit_interval` / `StepWriteClears`: the octets `C3 02 50 01 00 07 07 00` (WRITE g80v1 [7..7] = 0) are
    a restart-clearing WRITE … -/
example : WriteClearsData [0xC3, 2, 80, 1, 0, 7, 7, 0] :=
  ⟨⟨true, true, false, false, 3⟩, [⟨80, 1, 0, 7, 7, [0]⟩], [80, 1, 0, 7, 7, 0], ⟨80, 1, 0, 7, 7, [0]⟩,
    by rfl, by simp, rfl, rfl, rfl, 0, by decide, rfl, by decide⟩

/-- … and a WRITE of `1` to the same bit is not -/
example : ¬ ClearsRestart ⟨80, 1, 0, 7, 7, [0x01]⟩ := by
  rintro ⟨_, _, _, i, hi, h7, hb⟩
  have : i = 0 := by simp at h7; omega
  subst this
  revert hb; decide

/-- `broadcast_bit_rule`: the classification predicates are inhabited: `C0 00` is a solicited CONFIRM … -/
example : IsSolConfirm (some ⟨0, 1, none, [0xC0, 0]⟩) :=
  ⟨_, ⟨true, true, false, false, 0⟩, .ok [], [], rfl, by rfl, rfl⟩

/-- … and a fragment received on 0xFFFE is a confirm-mandatory broadcast -/
example (env : OEnv) (h : env.outstation ≠ 0xFFFE) : rxBroadcast env 0xFFFE = some (some 1) := by
  unfold rxBroadcast
  rw [if_neg (fun e => h e.symm)]
  rfl

example : BcastOf (some ⟨0, 1, some 1, [0xC0, 2]⟩) 1 := ⟨_, rfl, rfl⟩

/-- `unsolReported_sound`: a state waiting for the confirm of an unsolicited response that carried IIN1.0
    (IIN1 = 0x81), with the flag set, satisfies `ReportedOk` … -/
example (db : Db) : ReportedOk { exState db with
    mode := .unsolWait ⟨⟨true, true, true, true, 0⟩, 0x82, 0x81, 0, 0⟩ false none 5000, unsolReported := true } := by
  intro r n t d m _
  cases m
  decide

/-- … and with IIN1 = 0x80 it does not -/
example (db : Db) : ¬ ReportedOk { exState db with
    mode := .unsolWait ⟨⟨true, true, true, true, 0⟩, 0x82, 0x80, 0, 0⟩ false none 5000, unsolReported := true } := by
  intro h
  have := h _ _ _ _ rfl rfl
  revert this; decide

/-! ## D16 repaired, on a concrete trace

This section EVALUATES the model (including the current `Db` component).  An outstation with unsolicited
responses enabled starts by sending its null unsolicited response (IIN1 = 0x80, sequence number 0) and waits
for the confirm.  Then: a broadcast RECORD CURRENT TIME on 0xFFFF (confirm mode 0); the unsolicited
confirm; a DELAY MEASURE request. -/

def d16Start : OState := (Outstation.start { unsolicited := true } 10).1
def d16Bcast : OInput := .rx 1 0xFFFF [0xC1, 24]
def d16Confirm : OInput := .rx 1 1024 [0xD0, 0]
def d16Inputs : List OInput := [d16Bcast, d16Confirm, .rx 1 1024 [0xC0, 23]]

def isUnsolWait : Mode → Bool
  | .unsolWait .. => true
  | _ => false

theorem isUnsolWait_elim (m : Mode) (h : isUnsolWait m = true) : ∃ r n t d, m = .unsolWait r n t d := by
  cases m <;> simp [isUnsolWait] at h
  exact ⟨_, _, _, _, rfl⟩

/-- the hypotheses of `broadcast_in_wait_resets_reported`, `unsol_confirm_keeps_unreported` and
    `broadcast_never_dropped_by_unsol_confirm` hold on this trace: the first step starts in the unsolicited
    wait and shows a `Cb.broadcast`; the step that accepts the unsolicited confirm is a `QuietStep` -/
theorem d16_hypotheses :
    (∃ resp isNull retries dl, d16Start.mode = .unsolWait resp isNull retries dl) ∧
    (∃ o ∈ (Outstation.step {} d16Start d16Bcast).2, OOut.kind o = .bcast) ∧
    (Outstation.step {} d16Start d16Bcast).1.unsolReported = false ∧
    QuietRun Quiet {} (Outstation.step {} d16Start d16Bcast).1 [d16Confirm] ∧
    Cb.unsolConfirmed 0 ∈ cbs (Outstation.step {} (Outstation.step {} d16Start d16Bcast).1 d16Confirm).2 := by
  refine ⟨isUnsolWait_elim _ (by decide +kernel), by decide +kernel, by decide +kernel, ⟨?_, trivial⟩, by decide +kernel⟩
  exact quietStep_rx _ _ _ _ _ _ ⟨true, true, false, true, 0⟩ 0 (.ok []) [] (by rfl) (Or.inr rfl) (by decide +kernel)

/-- the same with a confirm-mandatory broadcast (0xFFFE) and a DELAY MEASURE request answered during the wait:
    that response and the one after the unsolicited confirm both carry IIN1 = 0x81 and CON (0xE0 / 0xE1), the
    record `some 1` survives the unsolicited confirm, and only the solicited confirm of a response that
    reported it clears it -/
def d16Inputs1 : List OInput :=
  [.rx 1 0xFFFE [0xC1, 24], .rx 1 1024 [0xC0, 23], d16Confirm, .rx 1 1024 [0xC1, 23], .rx 1 1024 [0xC1, 0]]

/-- the hypotheses of `unsol_confirm_keeps_mandatory` / `mandatory_broadcast_never_dropped_by_unsol_confirm`
    hold on it: both steps after the broadcast are `QuietStep Quiet1` -/
theorem d16_hypotheses_mandatory :
    (∃ o ∈ (Outstation.step {} d16Start (.rx 1 0xFFFE [0xC1, 24])).2, OOut.kind o = .bcast) ∧
    (Outstation.step {} d16Start (.rx 1 0xFFFE [0xC1, 24])).1.lastBroadcast = some 1 ∧
    QuietRun Quiet1 {} (Outstation.step {} d16Start (.rx 1 0xFFFE [0xC1, 24])).1 [.rx 1 1024 [0xC0, 23], d16Confirm] := by
  refine ⟨by decide +kernel, by decide +kernel, ?_, ?_, trivial⟩
  · exact quietStep_rx _ _ _ _ _ _ ⟨true, true, false, false, 0⟩ 23 (.ok []) [] (by rfl) (Or.inl (by decide))
      (by decide +kernel)
  · exact quietStep_rx _ _ _ _ _ _ ⟨true, true, false, true, 0⟩ 0 (.ok []) [] (by rfl) (Or.inr rfl) (by decide +kernel)

end Dnp3.Proofs.C13
