import Dnp3.Proofs.OutstationC03A
import Dnp3.Proofs.DatabaseEv
/-!
# What the outstation session does to its database, in the terms of the database proofs

`Outstation.step` applies the operation the input itself stands for (`add`; the `update`s of a transaction; `reset`
on a disconnect) and then operations of the session, none of which is `add`: the database after the step is
`DbProofs.run` of the database before it (`step_db_run`; `start_db_run` for the start-up pass).  Through
`RunVia.inv` a property of databases that the operations keep is kept by a step of the session: stated as
`Props.C02.step_dbInv`, for a `C02Reach.DbInv`.
-/
namespace Dnp3.Proofs.SessionDb
open Dnp3 Dnp3.DbProofs Dnp3.Proofs.Skel Dnp3.Proofs.C03

abbrev NotAdd (op : DbOp) : Prop := ∀ t idx cls, op ≠ .add t idx cls

theorem noRelease_run {a b : Db} (h : NoRelease a b) : RunVia NotAdd a b := by
  induction h with
  | refl => exact .refl _ _
  | select db hd _ ih => exact ih.snoc (.select hd) fun _ _ _ e => nomatch e
  | writeResponse db cap _ ih => exact ih.snoc (.write cap) fun _ _ _ e => nomatch e
  | writeUnsolicited db c1 c2 c3 cap _ ih => exact ih.snoc (.unsol c1 c2 c3 cap) fun _ _ _ e => nomatch e
  | reset db _ ih => exact ih.snoc .reset fun _ _ _ e => nomatch e

theorem evDb_run {pf : Option Frag} {a a' : Acc} (h : Star (EvDb pf) a a') : RunVia NotAdd a.1.db a'.1.db := by
  induction h with
  | refl => exact .refl _ _
  | tail _ r ih =>
    rcases r.2 with ⟨hn, _⟩ | ⟨_, he, _⟩
    · exact ih.trans (noRelease_run hn)
    · rw [he]; exact ih.snoc .clear fun _ _ _ e => nomatch e

theorem txnFold_run (s : OState) (items : List TxnItem) : RunVia NotAdd s.db (txnFold s items).1.db := by
  refine Frame.foldl_inv (fun p : OState × List OOut => RunVia NotAdd s.db p.1.db) _ (fun p it h => ?_) items (s, [])
    (.refl _ _)
  cases it with
  | bin idx v flags time => exact h.snoc (.update .binary idx (if v then 1 else 0) flags time) fun _ _ _ e => nomatch e
  | an idx v flags time => exact h.snoc (.update .analog idx v flags time) fun _ _ _ e => nomatch e

inductive StartsFrom (s : OState) : OInput → Db → Prop
  | same (inp : OInput) : StartsFrom s inp s.db
  | add (t : PtType) (idx cls : Nat) : StartsFrom s (.add t idx cls) (s.db.add t idx cls).1

theorem stepInit_run {env : OEnv} {s : OState} {inp : OInput} {pf : Option Frag} {s0 : OState} {o0 : List OOut}
    (h : StepInit env s inp pf s0 o0) : ∃ db0, StartsFrom s inp db0 ∧ RunVia NotAdd db0 s0.db := by
  cases h with
  | rx => exact ⟨_, .same _, .refl _ _⟩
  | tick => exact ⟨_, .same _, .refl _ _⟩
  | txn items => exact ⟨_, .same _, txnFold_run s items⟩
  | add t idx cls => exact ⟨_, .add t idx cls, .refl _ _⟩
  | cut => exact ⟨_, .same _, (RunVia.refl _ _).snoc .reset fun _ _ _ e => nomatch e⟩

theorem step_db_run (env : OEnv) (s : OState) (inp : OInput) :
    ∃ db0, StartsFrom s inp db0 ∧ RunVia NotAdd db0 (Outstation.step env s inp).1.db := by
  rcases clear_only_on_confirm env s inp with ⟨f, _, e⟩ | e | ⟨pf, s0, o0, hi, hr⟩
  · rw [e]; exact ⟨_, .same _, .refl _ _⟩
  · rw [e]; exact ⟨_, .same _, .refl _ _⟩
  · obtain ⟨db0, h0, h1⟩ := stepInit_run hi
    exact ⟨db0, h0, h1.trans (evDb_run hr)⟩

theorem start_db_run (cfg : OCfg) (evMax : Nat) : RunVia NotAdd (Db.new evMax none) (Outstation.start cfg evMax).1.db :=
  evDb_run (Reach.evDb (start_reach cfg evMax))

end Dnp3.Proofs.SessionDb
