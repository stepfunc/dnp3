import Dnp3.Model.Crc
import Dnp3.Proofs.CrcSyndromeTable
/-!
# CRC-16/DNP: the table-driven CRC is the bit-serial CRC, and the CRC register is GF(2)-linear

(`CrcSyndromeTable` is imported only for `bitStep_eq`, the closed form of the serial step, which
stands there because the parity argument needs it first.)
-/
namespace Dnp3.Proofs.Crc
open Dnp3

theorem bitStep_xor (x y : Nat) : bitStep (x ^^^ y) = bitStep x ^^^ bitStep y := by
  have h : (if (x ^^^ y) % 2 = 1 then 0xA6BC else 0) =
      (if x % 2 = 1 then 0xA6BC else 0) ^^^ (if y % 2 = 1 then 0xA6BC else 0) := by
    simp only [Nat.xor_mod_two_eq_one]
    by_cases hx : x % 2 = 1 <;> by_cases hy : y % 2 = 1 <;> simp [hx, hy]
  rw [bitStep_eq, bitStep_eq, bitStep_eq, Nat.xor_div_two, h]
  ac_rfl

theorem bitStep_zero : bitStep 0 = 0 := by decide

theorem bitStep8_xor (x y : Nat) : bitStep8 (x ^^^ y) = bitStep8 x ^^^ bitStep8 y := by
  simp only [bitStep8, bitStep_xor]

theorem bitStep8_zero : bitStep8 0 = 0 := by decide

theorem bitStep8_mul256 (h : Nat) : bitStep8 (256 * h) = h := by
  have e : ∀ n, bitStep (2 * n) = n := fun n => by
    rw [bitStep, Nat.mul_mod_right, if_neg (by decide), Nat.mul_div_cancel_left _ (by decide)]
  have e256 : 256 * h = 2 * (2 * (2 * (2 * (2 * (2 * (2 * (2 * h))))))) := by
    simp only [← Nat.mul_assoc]
  rw [bitStep8, e256, e, e, e, e, e, e, e, e]

theorem crcTable_toList : Gen.crcTable.toList = (List.range 256).map bitStep8 := by decide +kernel

theorem crcTable_is_serial {i : Nat} (h : i < 256) : Gen.crcTable.getD i 0 = bitStep8 i := by
  rw [Array.getD_eq_getD_getElem?, ← Array.getElem?_toList, crcTable_toList]
  simp [h]

theorem split_low_octet (acc : Nat) : acc = (acc % 256) ^^^ (256 * (acc / 256)) := by
  apply Nat.eq_of_testBit_eq
  intro i
  rw [Nat.testBit_xor]
  have h256 : (256 : Nat) = 2 ^ 8 := by decide
  rw [h256, Nat.testBit_mod_two_pow, Nat.testBit_two_pow_mul, Nat.testBit_div_two_pow]
  by_cases hi : i < 8
  · have : ¬ i ≥ 8 := by omega
    simp [hi, this]
  · have h8 : i ≥ 8 := by omega
    have : 8 + (i - 8) = i := by omega
    simp [hi, h8]

theorem crcStepT_eq_serial' {acc b : Nat} (hb : b < 256) : crcStepT acc b = crcStepS acc b := by
  unfold crcStepT crcStepS
  have hidx : (acc % 256) ^^^ b < 256 :=
    Nat.xor_lt_two_pow (n := 8) (Nat.mod_lt _ (by decide)) hb
  rw [crcTable_is_serial hidx]
  conv => rhs; rw [split_low_octet acc]
  have hre : acc % 256 ^^^ 256 * (acc / 256) ^^^ b = (acc % 256 ^^^ b) ^^^ 256 * (acc / 256) := by
    ac_rfl
  rw [hre, bitStep8_xor _ (256 * (acc / 256)), bitStep8_mul256]

/-- the bound on `acc` is not needed -/
theorem crcStepT_eq_serial {acc b : Nat} (_hacc : acc < 65536) (hb : b < 256) :
    crcStepT acc b = crcStepS acc b := crcStepT_eq_serial' hb

example : crcStepT 0x3F0D 0x05 = crcStepS 0x3F0D 0x05 := crcStepT_eq_serial (by decide) (by decide)

theorem crcIncT_eq_serial (acc : Nat) (bs : List Nat) (hb : ∀ b ∈ bs, b < 256) :
    crcIncT acc bs = crcIncS acc bs :=
  List.foldl_rel (r := Eq) rfl fun b hbs _ _ h => h ▸ crcStepT_eq_serial' (hb b hbs)

example : crcIncT 0 [0x05, 0x64, 0xFF] = crcIncS 0 [0x05, 0x64, 0xFF] :=
  crcIncT_eq_serial 0 _ (by decide)

theorem crcIncS_cons (r b : Nat) (l : List Nat) : crcIncS r (b :: l) = crcIncS (crcStepS r b) l :=
  List.foldl_cons ..

theorem crcStepS_xor (r s a e : Nat) :
    crcStepS (r ^^^ s) (a ^^^ e) = crcStepS r a ^^^ crcStepS s e := by
  unfold crcStepS
  rw [← bitStep8_xor]
  congr 1
  rw [Nat.xor_assoc, Nat.xor_assoc, ← Nat.xor_assoc s a e, Nat.xor_comm s a, Nat.xor_assoc a s e]

theorem crcIncS_xor (r s : Nat) (a e : List Nat) (hlen : a.length = e.length) :
    crcIncS (r ^^^ s) (List.zipWith (· ^^^ ·) a e) = crcIncS r a ^^^ crcIncS s e := by
  induction a generalizing r s e with
  | nil =>
    cases e with
    | nil => rfl
    | cons _ _ => simp at hlen
  | cons x a ih =>
    cases e with
    | nil => simp at hlen
    | cons y e =>
      rw [List.zipWith_cons_cons, crcIncS_cons, crcIncS_cons, crcIncS_cons, crcStepS_xor]
      exact ih _ _ e (by simpa using hlen)

example : crcIncS (0x3F0D ^^^ 0) (List.zipWith (· ^^^ ·) [1, 2, 3] [0, 0x80, 0]) =
    crcIncS 0x3F0D [1, 2, 3] ^^^ crcIncS 0 [0, 0x80, 0] := crcIncS_xor _ _ _ _ rfl

end Dnp3.Proofs.Crc
