import Dnp3.Proofs.C09AttrValue
import Dnp3.Proofs.C09AttrWriter
import Dnp3.Proofs.C09AttrWalk
/-!
# C09, device attributes: composition of the value, writer and walk theorems

`C09AttrValue` (value grammar), `C09AttrWriter` (`write_all` against its capacity-free
specification) and `C09AttrWalk` (tie to the object-header walk of `Model/ObjectGrammar`) are
combined here into the statements about whole response fragments and series.
-/
namespace Dnp3.Proofs.C09Attr
open Dnp3 Dnp3.Attr Dnp3.App Dnp3.Gen.Attrs
open Dnp3.Proofs.C09AttrValue Dnp3.Proofs.C09AttrWriter Dnp3.Proofs.C09AttrWalk

def Denotes (m : SetMap) (o : Obj) : Prop :=
  o.set < 256 ∧ o.var < 256 ∧ o.var ≠ 0 ∧ o.var ≠ 254 ∧
  if o.var = listVariation then
    ∃ es raw, m.entries o.set = some es ∧ o.value = .list raw ∧ iterList raw = es.map (fun e => (e.var, e.writable))
  else ∃ e, m.get o.set o.var = some e ∧ o.value = e.value

def Good (m : SetMap) (img : List Nat) : Prop :=
  ∃ (o : Obj) (vimg : List Nat), img = objHeader o.set o.var ++ vimg ∧ Denotes m o ∧
    ∀ rest, parseValue (vimg ++ rest) = .ok (o.value, rest)

theorem get_mem {m : SetMap} {set var : Nat} {e : Entry} (h : m.get set var = some e) :
    ∃ es, (set, es) ∈ m ∧ e ∈ es ∧ e.var = var ∧ reservedVars.contains var = false := by
  unfold SetMap.get at h
  split at h
  · cases h
  · rename_i hr
    cases he : m.entries set with
    | none => rw [he] at h; cases h
    | some es =>
      rw [he] at h
      simp only at h
      refine ⟨es, entries_mem he, List.mem_of_find?_eq_some h, ?_, by simpa using hr⟩
      have := List.find?_some h
      simpa using this

theorem listVariation_ne : listVariation ≠ 0 ∧ listVariation ≠ 254 ∧ listVariation < 256 := by decide

theorem not_reserved {var : Nat} (h : reservedVars.contains var = false) : var ≠ 0 ∧ var ≠ 254 ∧ var ≠ listVariation := by
  refine ⟨?_, ?_, ?_⟩ <;> (intro hc; subst hc; revert h; decide)

theorem objectFor_good (m : SetMap) (hm : m.WF) (set var : Nat) (hs : set < 256) (hvar : var < 256) (img : List Nat)
    (h : objectFor m set var = some img) : Good m img := by
  unfold objectFor at h
  split at h
  · -- the list of variations
    rename_i hl
    split at h
    · cases h
    · rename_i es he
      obtain ⟨limg, hli, rfl⟩ := Option.map_eq_some_iff.1 h
      have hn : (es.map fun e => (e.var, e.writable)).length ≤ 255 :=
        Nat.le_of_not_lt fun hc => by rw [attr_list_unencodable _ hc] at hli; cases hli
      obtain ⟨img', raw, h1, _, h3, h4⟩ := attr_list_roundtrip _ hn
      obtain rfl : img' = limg := Option.some.inj (h1.symm.trans hli)
      refine ⟨⟨set, var, .list raw⟩, img', by rw [hl], ⟨hs, hvar, ?_, ?_, ?_⟩, h3⟩
      · exact hl ▸ listVariation_ne.1
      · exact hl ▸ listVariation_ne.2.1
      · simp only [hl, if_true]
        exact ⟨es, raw, he, rfl, h4⟩
  · rename_i hl
    split at h
    · cases h
    · rename_i e hg
      obtain ⟨vimg, hi, rfl⟩ := Option.map_eq_some_iff.1 h
      obtain ⟨es, hmem, hein, _, hres⟩ := get_mem hg
      have hwf : e.WF := (hm.1 _ hmem).2.1 e hein
      have hnr := not_reserved hres
      refine ⟨⟨set, var, e.value⟩, vimg, rfl, ⟨hs, hvar, hnr.1, hnr.2.1, ?_⟩,
        fun rest => attr_roundtrip e.value vimg rest hwf.2.2 hi⟩
      simp only [hl, if_false]
      exact ⟨e, hg, rfl⟩

theorem selObjects_mem (m : SetMap) (s : Selected) (hc : s.cur < 256) (img : List Nat) (h : img ∈ selObjects m s) :
    ∃ k, k < 256 ∧ objectFor m s.set k = some img := by
  fun_induction selObjects m s with
  | case1 s here hstop =>
    simp only [here, Option.mem_toList] at h
    exact ⟨s.cur, hc, h⟩
  | case2 s here hstop hlt ih =>
    rw [List.mem_append] at h
    cases h with
    | inl h => simp only [here, Option.mem_toList] at h; exact ⟨s.cur, hc, h⟩
    | inr h => exact ih (by simp only; omega) h
  | case3 s here hstop hlt =>
    simp only [here, Option.mem_toList] at h
    exact ⟨s.cur, hc, h⟩

theorem allObjects_good (m : SetMap) (hm : m.WF) (sel : List Selected)
    (hsel : ∀ s ∈ sel, s.set < 256 ∧ s.cur < 256) : ∀ img ∈ allObjects m sel, Good m img := by
  intro img h
  unfold allObjects at h
  rw [List.mem_flatMap] at h
  obtain ⟨s, hs, hi⟩ := h
  obtain ⟨k, hk, ho⟩ := selObjects_mem m s (hsel s hs).2 img hi
  exact objectFor_good m hm s.set k (hsel s hs).1 hk img ho

theorem good_images_parse (m : SetMap) (zls : Bool) (L : List (List Nat)) (h : ∀ img ∈ L, Good m img) :
    ∃ objs : List Obj, parseObjs L.flatten = .ok objs ∧ objs.length = L.length ∧ (∀ o ∈ objs, Denotes m o) ∧
      ∃ recs, walk false zls L.flatten = .ok recs ∧ recs.length = L.length := by
  -- choose the decoded object and value image of every image
  have hex : ∃ ps : List (Obj × List Nat), L = ps.map (fun p => objHeader p.1.set p.1.var ++ p.2) ∧
      ∀ p ∈ ps, Denotes m p.1 ∧ ∀ rest, parseValue (p.2 ++ rest) = .ok (p.1.value, rest) := by
    induction L with
    | nil => exact ⟨[], rfl, by simp⟩
    | cons a L ih =>
      obtain ⟨ps, hps, hall⟩ := ih (fun img hi => h img (List.mem_cons_of_mem _ hi))
      obtain ⟨o, vimg, ha, hd, hp⟩ := h a (List.mem_cons_self ..)
      refine ⟨(o, vimg) :: ps, by simp [ha, hps], ?_⟩
      intro p hp'
      rw [List.mem_cons] at hp'
      cases hp' with
      | inl e => subst e; exact ⟨hd, hp⟩
      | inr e => exact hall p e
  obtain ⟨ps, hps, hall⟩ := hex
  have hflat : L.flatten = ps.flatMap (fun p => objHeader p.1.set p.1.var ++ p.2) := by
    rw [hps, List.flatMap_def]
  have hw := walk_attr_objects zls ps (fun p hp =>
    ⟨(hall p hp).1.1, (hall p hp).1.2.1, (hall p hp).1.2.2.1, (hall p hp).1.2.2.2.1, (hall p hp).2⟩)
  rw [← hflat] at hw
  refine ⟨ps.map (·.1), hw.2, by simp [hps], ?_, _, hw.1, by simp [hps]⟩
  intro o ho
  rw [List.mem_map] at ho
  obtain ⟨p, hp, rfl⟩ := ho
  exact (hall p hp).1

example : exMap.WF ∧ (∀ s ∈ [Selected.all 1, Selected.single 1 255], s.set < 256 ∧ s.cur < 256) ∧
    (writeAll exMap 12 [Selected.all 1, Selected.single 1 255] []).1 = [0, 5, 0, 1, 1, 2, 1, 42] := by
  refine ⟨by simp [exMap, SetMap.WF, Entry.WF, Value.WellFormed, reservedVars], by decide, by decide +kernel⟩

example : (∀ o ∈ [(⟨1, 196, .int (-1)⟩ : Obj)], o.set < 256 ∧ o.var < 256 ∧ o.var ≠ 0 ∧ o.var ≠ 254 ∧ o.value.WellFormed) ∧
    buildWrite 100 [⟨1, 196, .int (-1)⟩] = .ok [0, 196, 0, 1, 1, 3, 1, 255] := by
  refine ⟨?_, rfl⟩
  intro o ho
  simp only [List.mem_singleton] at ho
  subst ho
  refine ⟨by decide, by decide, by decide, by decide, ?_⟩
  simp [Value.WellFormed]

end Dnp3.Proofs.C09Attr
