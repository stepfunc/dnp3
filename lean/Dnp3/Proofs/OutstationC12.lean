import Dnp3.Proofs.OutstationSkel
/-!
# C12 — outstation replies are well-formed, correlated, bounded, and report rejections

The session invariant `Inv` and the lemmas about the outstation session model (`Dnp3.Model.Outstation`) behind the C12
property theorems; the properties themselves are stated in `Dnp3.Props.C12`.  Stated here besides are facts
about a single step that stand for themselves (what one request is answered with, which bits a rejection sets, when
the outstation stays silent) and exact characterisations of the defects D1, D5, D7, D13, D14.  The database component
(`Dnp3.Model.Database`) is opaque: no theorem unfolds a `Db.*` definition; what is needed from it is the explicit
hypothesis `DbContract` (discharged in `Dnp3.Proofs.OutstationC12Db`).  Only the `example`s / evaluated
counterexamples in the last section run the database model.
-/
namespace Dnp3.Proofs.C12
open Dnp3 Dnp3.Proofs.Frame
open Dnp3.Proofs.FreezeAtTime
open Dnp3.Proofs.Skel (idleStage1 idleStage2 handleRequestFromIdle_eq Pt Step Star diePt resumePt abortPt PassCase
  SolConfCase SWFCase UWFCase start_steps step_steps)

/-- the only facts about the database the shape theorems need: response writers respect the
    capacity of the cursor they are given -/
structure DbContract : Prop where
  writeResponse_len : ∀ (db : Db) (cap : Nat), (db.writeResponse cap).2.1.length ≤ cap
  writeUnsolicited_len : ∀ (db : Db) (c1 c2 c3 : Bool) (cap : Nat),
    (db.writeUnsolicited c1 c2 c3 cap).2.1.length ≤ cap

theorem ofNat_toNat : ∀ (fir fin con uns : Bool) (seq : Nat), seq < 16 →
    AppCtrl.ofNat (AppCtrl.toNat ⟨fir, fin, con, uns, seq⟩) = ⟨fir, fin, con, uns, seq⟩ := by decide

theorem ofNat_toNat' (c : AppCtrl) (h : c.seq < 16) : AppCtrl.ofNat c.toNat = c := by
  cases c; exact ofNat_toNat _ _ _ _ _ h

theorem toNat_lt : ∀ (fir fin con uns : Bool) (seq : Nat), seq < 16 →
    AppCtrl.toNat ⟨fir, fin, con, uns, seq⟩ < 256 := by decide

theorem toNat_and_10 : ∀ (fir fin con uns : Bool) (seq : Nat), seq < 16 →
    (AppCtrl.toNat ⟨fir, fin, con, uns, seq⟩ &&& 0x10) = if uns then 0x10 else 0 := by decide

theorem toNat_and_F0 : ∀ (seq : Nat), seq < 16 →
    (AppCtrl.toNat ⟨true, true, true, true, seq⟩ &&& 0xF0) = 0xF0 := by decide

theorem toNat_and_0F : ∀ (fir fin con uns : Bool) (seq : Nat), seq < 16 →
    (AppCtrl.toNat ⟨fir, fin, con, uns, seq⟩ &&& 0x0F) = seq :=
  fun fir fin con uns seq h => congrArg AppCtrl.seq (ofNat_toNat fir fin con uns seq h)

theorem ofNat_seq_lt (b : Nat) : (AppCtrl.ofNat b).seq < 16 := by
  show b &&& 0x0F < 16
  exact Nat.lt_of_le_of_lt Nat.and_le_right (by decide)

def SolResp (cfg : OCfg) (r : Resp) : Prop :=
  r.func = 0x81 ∧ r.ctrl.uns = false ∧ r.ctrl.seq < 16 ∧ r.size ≤ cfg.sol

def UnsolResp (cfg : OCfg) (r : Resp) : Prop :=
  r.func = 0x82 ∧ r.ctrl.fir = true ∧ r.ctrl.fin = true ∧ r.ctrl.con = true ∧ r.ctrl.uns = true ∧
  r.ctrl.seq < 16 ∧ r.size ≤ cfg.unsol

def Carries (bytes : List Nat) (r : Resp) : Prop :=
  ∃ rest, bytes = respHeader r ++ rest ∧ bytes.length = max 4 r.size

/-- the structural fact behind C12: every transmitted fragment is the header of a well-formed
    solicited response, or of a well-formed unsolicited response sent to the configured master -/
def TxOk (cfg : OCfg) : OOut → Prop
  | .tx dst b => ∃ r, Carries b r ∧ (SolResp cfg r ∨ (UnsolResp cfg r ∧ dst = cfg.master))
  | _ => True

/-- octet-level reading of `TxOk` -/
def TxShape (cfg : OCfg) (dst : Nat) (b : List Nat) : Prop :=
  4 ≤ b.length ∧ b.getD 0 0 < 256 ∧
  ((b.getD 1 0 = 0x81 ∧ (b.getD 0 0 &&& 0x10) = 0 ∧ b.length ≤ cfg.sol) ∨
   (b.getD 1 0 = 0x82 ∧ (b.getD 0 0 &&& 0xF0) = 0xF0 ∧ dst = cfg.master ∧ b.length ≤ cfg.unsol))

theorem TxOk.shape {cfg : OCfg} {dst : Nat} {b : List Nat} (hs : 4 ≤ cfg.sol) (hu : 4 ≤ cfg.unsol)
    (h : TxOk cfg (.tx dst b)) : TxShape cfg dst b := by
  obtain ⟨r, ⟨rest, hb, hl⟩, hr⟩ := h
  rcases r with ⟨⟨fir, fin, con, uns, seq⟩, func, i1, i2, size⟩
  have hseq : seq < 16 := by
    rcases hr with h | h
    · exact h.2.2.1
    · exact h.1.2.2.2.2.2.1
  refine ⟨by omega, ?_, ?_⟩
  · subst hb; simpa [respHeader] using toNat_lt fir fin con uns seq hseq
  rcases hr with ⟨h1, h2, h3, h4⟩ | ⟨⟨h1, h2, h3, h4, h5, h6, h7⟩, hd⟩
  · left
    simp only at h1 h2 h3 h4
    subst h1 h2 hb
    refine ⟨by simp [respHeader], ?_, by simp only at hl; omega⟩
    simp [respHeader, toNat_and_10 _ _ _ _ _ h3]
  · right
    simp only at h1 h2 h3 h4 h5 h6 h7
    subst h1 h2 h3 h4 h5 hb
    refine ⟨by simp [respHeader], ?_, hd, by simp only at hl; omega⟩
    simp [respHeader, toNat_and_F0 _ h6]

/-- what is stored in `lastReq`.  The stored response answers the request's sequence number only for a non-READ: for a READ it is
    the fragment of the response series sent last (D5 repaired: a continuation fragment replaces the first one).
    The series is recorded with the request because the echo of a repeated non-READ request re-opens the confirm
    wait recorded with it (D14 repaired) -/
def StoredOk (cfg : OCfg) (lr : LastReq) : Prop :=
  lr.seq < 16 ∧ (∀ r, lr.response = some r →
    SolResp cfg r ∧ (lr.frag.getD 1 0 ≠ 1 → r.ctrl.seq = lr.seq ∧ r.ctrl.fir = true ∧ r.ctrl.fin = true)) ∧
  (∀ sr, lr.series = some sr → sr.fin = false → lr.frag.getD 1 0 = 1)

theorem StoredOk.read {cfg : OCfg} {lr : LastReq} (hs : lr.seq < 16) (hf : lr.frag.getD 1 0 = 1)
    (hr : ∀ r, lr.response = some r → SolResp cfg r) : StoredOk cfg lr :=
  ⟨hs, fun r h => ⟨hr r h, fun hne => absurd hf hne⟩, fun _ _ _ => hf⟩

/-- the session invariant (buffer geometry, stored responses well-formed, sequence numbers in range;
    a solicited series that is not finished belongs to a READ) -/
def Inv (cfg : OCfg) (s : OState) : Prop :=
  s.cfg = cfg ∧ 10 ≤ cfg.sol ∧ 4 ≤ cfg.unsol ∧
  s.solBuf.length = cfg.sol ∧ s.unsolBuf.length = cfg.unsol ∧ s.unsolSeq < 16 ∧
  (∀ lr, s.lastReq = some lr → StoredOk cfg lr) ∧
  (∀ r n rt d, s.mode = .unsolWait r n rt d → UnsolResp cfg r) ∧
  (∀ d, s.deferred = some d → d.seq < 16 ∧ d.frag.getD 1 0 = 1) ∧
  (∀ sr dl c, s.mode = .solWait sr dl c → sr.fin = false → ∀ lr, s.lastReq = some lr → lr.frag.getD 1 0 = 1)

def Good (cfg : OCfg) (a : Acc) : Prop := Inv cfg a.1 ∧ ∀ o ∈ a.2, TxOk cfg o

theorem Good.stored {cfg : OCfg} {a : Acc} (h : Good cfg a) {lr : LastReq} (hl : a.1.lastReq = some lr) : StoredOk cfg lr :=
  h.1.2.2.2.2.2.2.1 lr hl

theorem Good.openRead {cfg : OCfg} {a : Acc} (h : Good cfg a) {sr : Series} {dl : Nat} {c : SolCont}
    (hm : a.1.mode = .solWait sr dl c) (hf : sr.fin = false) : ∀ lr, a.1.lastReq = some lr → lr.frag.getD 1 0 = 1 :=
  h.1.2.2.2.2.2.2.2.2.2 sr dl c hm hf

theorem Good.emit {cfg : OCfg} {a : Acc} (h : Good cfg a) {o : OOut} (ho : TxOk cfg o) : Good cfg (emit a o) := by
  refine ⟨h.1, ?_⟩
  intro o' ho'
  simp only [Dnp3.emit, List.mem_append, List.mem_singleton] at ho'
  rcases ho' with ho' | rfl
  · exact h.2 _ ho'
  · exact ho

theorem Good.emitCb {cfg : OCfg} {a : Acc} (h : Good cfg a) (c : Cb) : Good cfg (emitCb a c) :=
  h.emit trivial

def HasBits (x m : Nat) : Prop := x &&& m = m

theorem HasBits.self (m : Nat) : HasBits m m := Nat.and_self m

theorem HasBits.or_left {x m : Nat} (h : HasBits x m) (y : Nat) : HasBits (x ||| y) m := by
  unfold HasBits at *
  apply Nat.eq_of_testBit_eq
  intro i
  have := congrArg (fun n => n.testBit i) h
  simp only [Nat.testBit_and, Nat.testBit_or] at this ⊢
  revert this
  cases x.testBit i <;> cases y.testBit i <;> cases m.testBit i <;> simp

theorem HasBits.or_right {x m : Nat} (h : HasBits x m) (y : Nat) : HasBits (y ||| x) m := by
  rw [Nat.or_comm]; exact h.or_left y

theorem HasBits.nonzero {x m : Nat} (h : HasBits x m) (hm : m ≠ 0) : x ≠ 0 := by
  intro hx; subst hx; unfold HasBits at h; simp at h; exact hm h.symm

theorem hdr_fits {buf : List Nat} {r : Resp} (h : max 4 r.size ≤ buf.length) :
    (writeAt buf 0 (respHeader r)).length = buf.length ∧
    Carries ((writeAt buf 0 (respHeader r)).take (max 4 r.size)) r :=
  ⟨by rw [writeAt_length]; simp only [respHeader, List.length_cons, List.length_nil]; omega,
   _, hdr_take buf r r.size, by rw [hdr_take]; simp [respHeader]; omega⟩

/-! Every transmission of the session goes through `repeatSolicited` or `repeatUnsolicited`: the only two places where
an output has to be shown well-formed. -/

theorem Good.repeatSolicited {cfg : OCfg} {a : Acc} (h : Good cfg a) (dst : Nat) {r : Resp}
    (hr : SolResp cfg r) : Good cfg (repeatSolicited a dst r) := by
  obtain ⟨⟨hc, h10, hu4, hsl, hrest⟩, ho⟩ := h
  obtain ⟨hlen, hcar⟩ := hdr_fits (buf := a.1.solBuf) (r := r) (by have := hr.2.2.2; omega)
  exact Good.emit (a := ({ a.1 with solBuf := writeAt a.1.solBuf 0 (respHeader r) }, a.2))
    ⟨⟨hc, h10, hu4, hlen.trans hsl, hrest⟩, ho⟩ (o := .tx _ _) ⟨r, hcar, .inl hr⟩

theorem Good.repeatUnsolicited {cfg : OCfg} {a : Acc} (h : Good cfg a) {r : Resp}
    (hr : UnsolResp cfg r) : Good cfg (repeatUnsolicited a r) := by
  obtain ⟨⟨hc, h10, hu4, hsl, hul, hrest⟩, ho⟩ := h
  obtain ⟨hlen, hcar⟩ := hdr_fits (buf := a.1.unsolBuf) (r := r) (by have := hr.2.2.2.2.2.2; omega)
  exact Good.emit (a := ({ a.1 with unsolBuf := writeAt a.1.unsolBuf 0 (respHeader r) }, a.2))
    ⟨⟨hc, h10, hu4, hsl, hlen.trans hul, hrest⟩, ho⟩ (o := .tx _ _) ⟨r, hcar, .inr ⟨hr, by rw [hc]⟩⟩

/-- `get_response_iin` touches `lastBroadcast` only -/
theorem Good.afterIin {cfg : OCfg} {a : Acc} (h : Good cfg a) : Good cfg (Iin.afterIin a.1, a.2) := by
  rw [Iin.afterIin_eq]; exact h

theorem Good.writeSolicited {cfg : OCfg} {a a' : Acc} {dst : Nat} {r r' : Resp} (h : Good cfg a)
    (hr : SolResp cfg r) (hw : writeSolicited a dst r = some (a', r')) :
    Good cfg a' ∧ SolResp cfg r' ∧ r'.ctrl.seq = r.ctrl.seq ∧ r'.ctrl.fir = r.ctrl.fir ∧
      r'.ctrl.fin = r.ctrl.fin ∧ r'.size = r.size := by
  obtain ⟨_, _, _, _, rfl, rfl⟩ := writeSolicited_eq hw
  exact ⟨h.afterIin.repeatSolicited dst hr, hr, rfl, rfl, rfl, rfl⟩

theorem Good.writeUnsolicited {cfg : OCfg} {a a' : Acc} {r r' : Resp} (h : Good cfg a)
    (hr : UnsolResp cfg r) (hw : writeUnsolicited a r = some (a', r')) :
    Good cfg a' ∧ UnsolResp cfg r' ∧ r'.ctrl = r.ctrl := by
  obtain ⟨_, _, _, _, rfl, rfl⟩ := writeUnsolicited_eq hw
  exact ⟨h.afterIin.repeatUnsolicited hr, hr, rfl⟩

theorem TxOk.of_kind {cfg : OCfg} {ks : List OKind} (hk : OKind.tx ∉ ks := by decide) (o : OOut) (h : KP ks o) :
    TxOk cfg o := by
  cases o with
  | tx => exact absurd h hk
  | _ => trivial

theorem TxOk.of_app {cfg : OCfg} (o : OOut) (h : AppP o) : TxOk cfg o := by
  obtain ⟨c, rfl⟩ := AppP.cb h; trivial

/-- the bridge from the effects of the primitives: one that changes nothing `Inv` reads, and whose outputs are
    well-formed (as a rule: transmits nothing) -/
theorem Good.of_eff {cfg : OCfg} {F : List Fld} {D : List DbStep} {P : OOut → Prop} {a a' : Acc} (h : Good cfg a)
    (he : Eff F D P a a') (hP : ∀ o, P o → TxOk cfg o)
    (hF : Apart [.cfg, .solLen, .unsolBuf, .unsolSeq, .lastReq, .mode, .deferred] F := by decide) : Good cfg a' := by
  have k := he.on hF
  obtain ⟨l, e, hl⟩ := he.2.2
  refine ⟨?_, fun o ho => ?_⟩
  · have hc : a'.1.cfg = a.1.cfg := k.get .cfg
    have hs : a'.1.solBuf.length = a.1.solBuf.length := k.get .solLen
    have hu : a'.1.unsolBuf = a.1.unsolBuf := k.get .unsolBuf
    have hq : a'.1.unsolSeq = a.1.unsolSeq := k.get .unsolSeq
    have hr : a'.1.lastReq = a.1.lastReq := k.get .lastReq
    have hm : a'.1.mode = a.1.mode := k.get .mode
    have hd : a'.1.deferred = a.1.deferred := k.get .deferred
    unfold Inv; rw [hc, hs, hu, hq, hr, hm, hd]; exact h.1
  · rw [e] at ho
    rcases List.mem_append.1 ho with ho | ho
    · exact h.2 o ho
    · exact hP o (hl o ho)

theorem Good.handleWrite {cfg : OCfg} {a : Acc} (h : Good cfg a) (seq : Nat) (hs : List ObjHdr) :
    Good cfg (handleWrite a seq hs).1 :=
  h.of_eff (handleWrite_eff (P := TxOk cfg) trivial (fun _ => trivial) a seq hs) fun _ ho => ho

theorem Good.handleFreeze {cfg : OCfg} {a : Acc} (h : Good cfg a) (seq : Nat) (k : FreezeKind) (hs : List ObjHdr) :
    Good cfg (handleFreeze a seq k hs).1 :=
  h.of_eff (handleFreeze_eff (P := TxOk cfg) (fun _ => trivial) (fun _ _ _ => trivial) a seq k hs) fun _ ho => ho

theorem Good.handleFreezeAtTime {cfg : OCfg} {a : Acc} (h : Good cfg a) (seq : Nat) (hs : List ObjHdr) :
    Good cfg (handleFreezeAtTime a seq hs).1 :=
  h.of_eff (handleFreezeAtTime_eff (P := TxOk cfg) (fun _ => trivial) (fun _ _ _ => trivial) a seq hs) fun _ ho => ho

theorem Good.handleEnableDisable {cfg : OCfg} {a : Acc} (h : Good cfg a) (en : Bool) (seq : Nat) (hs : List ObjHdr) :
    Good cfg (handleEnableDisable a en seq hs).1 :=
  h.of_eff (handleEnableDisable_eff (TxOk cfg) a en seq hs) fun _ ho => ho

/-- split all `if`/`match`, looking through `let`/`have` -/
local macro "splits" : tactic => `(tactic| repeat' (first | split | (dsimp only; split)))

def NonReadResp (cfg : OCfg) (seq : Nat) (r : Resp) : Prop :=
  SolResp cfg r ∧ r.ctrl.seq = seq ∧ r.ctrl.fir = true ∧ r.ctrl.fin = true

theorem emptySolicited_ok {cfg : OCfg} {seq : Nat} (h : seq < 16) (i : Nat) :
    NonReadResp cfg seq (emptySolicited seq i) :=
  ⟨⟨rfl, rfl, h, Nat.zero_le _⟩, rfl, rfl, rfl⟩

theorem singleResponse_ok {cfg : OCfg} {seq : Nat} (h : seq < 16) (i : Nat) {size : Nat} (hs : size ≤ cfg.sol) :
    NonReadResp cfg seq (singleResponse seq i size) :=
  ⟨⟨rfl, rfl, h, hs⟩, rfl, rfl, rfl⟩

theorem NonReadResp.of_some {cfg : OCfg} {seq : Nat} {r0 : Resp} (h : NonReadResp cfg seq r0) :
    ∀ r, some r0 = some r → NonReadResp cfg seq r :=
  fun _ e => Option.some.inj e ▸ h

theorem handleEnableDisable_resp {cfg : OCfg} {seq : Nat} (hseq : seq < 16) (a : Acc) (en : Bool) (hs : List ObjHdr) :
    NonReadResp cfg seq (handleEnableDisable a en seq hs).2 := by
  unfold handleEnableDisable; split <;> exact emptySolicited_ok hseq _

theorem Good.writeSol4 {cfg : OCfg} {s : OState} {out : List OOut} (h : Good cfg (s, out)) {data : List Nat}
    (hd : data.length ≤ cfg.sol - 4) : Good cfg ({ s with solBuf := writeAt s.solBuf 4 data }, out) := by
  obtain ⟨⟨hc, h10, hu4, hsl, hrest⟩, ho⟩ := h
  refine ⟨⟨hc, h10, hu4, ?_, hrest⟩, ho⟩
  show (writeAt _ _ _).length = _
  dsimp only at hsl
  rw [writeAt_length] <;> omega

theorem Good.countOfOne {cfg : OCfg} {a : Acc} (h : Good cfg a) {seq : Nat} (hseq : seq < 16) (g v value : Nat) :
    Good cfg (countOfOne a seq g v value).1 ∧ NonReadResp cfg seq (countOfOne a seq g v value).2 :=
  ⟨Good.writeSol4 (s := a.1) (out := a.2) h (by have := h.1.2.1; simp only [List.length_cons, List.length_nil]; omega),
    singleResponse_ok hseq _ h.1.2.1⟩

theorem Good.handleRestart {cfg : OCfg} {a : Acc} (h : Good cfg a) {seq : Nat} (hseq : seq < 16) (name : Cb) :
    Good cfg (handleRestart a seq name).1 ∧ NonReadResp cfg seq (handleRestart a seq name).2 := by
  unfold Dnp3.handleRestart
  splits
  · exact ⟨h.emitCb _, emptySolicited_ok hseq _⟩
  · exact (h.emitCb _).countOfOne hseq _ _ _
  · exact (h.emitCb _).countOfOne hseq _ _ _

def CtlFits (cap : Nat) (r : CtlRun) : Prop := r.cap = cap ∧ r.out.length ≤ cap

theorem go_fits (kind : Option CtlKind) (fixedStatus : Nat) (maxctl : Option Nat) (h : ObjHdr)
    (isz : Nat) (hb : List Nat) (cap : Nat)
    (items : List (List Nat × List Nat)) (r : CtlRun) (count : Nat) (hdrOut body : List Nat)
    (hc : r.cap = cap) (hl : r.out.length + hdrOut.length + body.length ≤ cap)
    (hh : count ≠ 0 → hdrOut.length = hb.length + (if isz = 1 then 1 else 2)) :
    CtlFits cap (ctlHeader.go kind fixedStatus maxctl h isz hb items r count hdrOut body) := by
  fun_induction ctlHeader.go kind fixedStatus maxctl h isz hb items r count hdrOut body
  · exact ⟨hc, by simp; omega⟩
  · exact ⟨hc, by simp; omega⟩
  · rename_i hx _ ih
    obtain ⟨qc, qo⟩ := ctl_status_out _ _ _ _ _ _ _ _ _ _ hx
    exact ih (qc.trans hc) (by simpa [qo] using hl) hh
  · rename_i hx _ _ _ _ _
    obtain ⟨qc, qo⟩ := ctl_status_out _ _ _ _ _ _ _ _ _ _ hx
    exact ⟨qc.trans hc, by simp [qo]; omega⟩
  · rename_i r0 count hdrOut body ix obj rest _ r1 st called hx _ newHdr0 item total hfit c cnt newHdr ih
    obtain ⟨qc, qo⟩ := ctl_status_out _ _ _ _ _ _ _ _ _ _ hx
    have hcnt : cnt.length = if isz = 1 then 1 else 2 := by simp only [cnt]; split <;> rfl
    refine ih (qc.trans hc) ?_ (fun _ => by simp only [newHdr, List.length_append, hcnt])
    simp only [total, newHdr0, qc, qo, hc] at hfit
    simp only [newHdr, List.length_append, hcnt, qo]
    by_cases h0 : count = 0
    · have : (if isz = 1 then [0] else [0, 0] : List Nat).length = (if isz = 1 then 1 else 2) := by split <;> rfl
      simp only [h0, if_true, List.length_append, this] at hfit
      omega
    · simp only [h0, if_false, hh h0] at hfit
      omega

theorem CtlFits.ctlAll {cap : Nat} (kind : Option CtlKind) (fixedStatus : Nat) (maxctl : Option Nat)
    (hs : List ObjHdr) {r : CtlRun} (hr : CtlFits cap r) : CtlFits cap (ctlAll kind fixedStatus maxctl hs r) := by
  unfold Dnp3.ctlAll
  apply foldl_inv (CtlFits cap) _ _ _ _ hr
  intro r h hr
  split
  · exact hr
  · unfold Dnp3.ctlHeader
    exact go_fits kind fixedStatus maxctl h _ _ cap _ r 0 [] [] hr.1 (by simpa using hr.2) (by simp)

theorem ctlFinish_out (r : CtlRun) : (ctlFinish r).out = r.out := by
  unfold Dnp3.ctlFinish; split <;> rfl

theorem ctlFinish_overflow (r : CtlRun) : (ctlFinish r).overflow = r.overflow := by
  unfold Dnp3.ctlFinish; split <;> rfl

theorem ctlFinish_status (r : CtlRun) : (ctlFinish r).status = r.status := by
  unfold Dnp3.ctlFinish; split <;> rfl

theorem Good.ctlRun {cfg : OCfg} {a : Acc} (h : Good cfg a) (kind : Option CtlKind) (fs : Nat) (mc : Option Nat)
    (hs : List ObjHdr) (cap : Nat) :
    Good cfg (ctlFinish (ctlAll kind fs mc hs { acc := a, cap := cap })).acc ∧
    (ctlFinish (ctlAll kind fs mc hs { acc := a, cap := cap })).out.length ≤ cap :=
  ⟨h.of_eff ((ctlAll_eff kind fs mc hs { acc := a, cap := cap }).trans (ctlFinish_eff _)) TxOk.of_app,
    by rw [ctlFinish_out]; exact (CtlFits.ctlAll kind fs mc hs (r := { acc := a, cap := cap }) ⟨rfl, Nat.zero_le _⟩).2⟩

def NonReadOk (cfg : OCfg) (seq : Nat) (x : Option (Acc × Option Resp)) : Prop :=
  ∀ a' ro, x = some (a', ro) → Good cfg a' ∧ ∀ r, ro = some r → NonReadResp cfg seq r

theorem NonReadOk.of {cfg : OCfg} {seq : Nat} {a : Acc} {ro : Option Resp} (ha : Good cfg a)
    (hr : ∀ r, ro = some r → NonReadResp cfg seq r) : NonReadOk cfg seq (some (a, ro)) :=
  fun _ _ e => by cases e; exact ⟨ha, hr⟩

theorem NonReadOk.ite {cfg : OCfg} {seq : Nat} {c : Prop} [Decidable c] {t e : Option (Acc × Option Resp)}
    (ht : NonReadOk cfg seq t) (he : NonReadOk cfg seq e) : NonReadOk cfg seq (if c then t else e) := by
  split
  · exact ht
  · exact he

theorem Good.handleControls {cfg : OCfg} {a a' : Acc} (h : Good cfg a) {func seq frameId : Nat} (hseq : seq < 16)
    {hs : List ObjHdr} {raw : List Nat} {ro : Option Resp}
    (hc : handleControls a func seq frameId hs raw = some (a', ro)) :
    Good cfg a' ∧ ∀ r, ro = some r → NonReadResp cfg seq r := by
  obtain rfl : a.1.cfg = cfg := h.1.1
  have h10 := h.1.2.1
  have run := fun kind fs mc => h.ctlRun kind fs mc hs (a.1.cfg.sol - 4)
  -- the echo of a finished run written behind the header; arming the select state is no concern of the invariant
  have fin : ∀ {R : CtlRun} (i : Nat) (sel : Option Sel), Good a.1.cfg R.acc ∧ R.out.length ≤ a.1.cfg.sol - 4 →
      Good a.1.cfg ({ R.acc.1 with select := sel, solBuf := writeAt R.acc.1.solBuf 4 R.out }, R.acc.2) ∧
      ∀ r, some (singleResponse seq i (4 + R.out.length)) = some r → NonReadResp a.1.cfg seq r :=
    fun {R} i sel hr => ⟨Good.writeSol4 (s := { R.acc.1 with select := sel }) hr.1 hr.2,
      (singleResponse_ok hseq i (by have := hr.2; omega)).of_some⟩
  obtain ⟨x, hx, c⟩ := handleControls_cases a func seq frameId hs raw
  cases hx.symm.trans hc
  cases c with
  | param =>
    refine ⟨h, fun r hr => ?_⟩
    split at hr
    · cases hr
    · exact (emptySolicited_ok hseq _).of_some r hr
  | select R _ _ hR => subst hR; exact fin _ _ (run _ _ _)
  | reject st R _ _ _ hR => subst hR; exact fin _ _ (run _ _ _)
  | operate k R _ _ hR => subst hR; exact fin _ _ (run _ _ _)
  | noAck => exact ⟨(run _ _ _).1, fun _ hr => nomatch hr⟩

/-- the control functions always return (no `unwrap` on a `WriteError` is left: D1 repaired) -/
theorem handleControls_total (a : Acc) (func seq frameId : Nat) (hs : List ObjHdr) (raw : List Nat) :
    ∃ a' ro, handleControls a func seq frameId hs raw = some (a', ro) :=
  let ⟨x, hx, _⟩ := handleControls_cases a func seq frameId hs raw
  ⟨x.1, x.2, hx⟩

theorem Good.nonReadRes {cfg : OCfg} {a : Acc} (h : Good cfg a) {seq : Nat} (hseq : seq < 16) (func frameId : Nat)
    (hs : List ObjHdr) (raw : List Nat) : NonReadOk cfg seq (nonReadRes a func seq frameId hs raw) := by
  have e := fun i => (@emptySolicited_ok cfg seq hseq i).of_some
  have noResp : ∀ r, (none : Option Resp) = some r → NonReadResp cfg seq r := fun _ hr => nomatch hr
  unfold Frame.nonReadRes
  -- the rows of the dispatch table, in its order
  exact .ite (.of (h.handleWrite _ _) (e _)) <|
    .ite (.of (h.countOfOne hseq _ _ _).1 (h.countOfOne hseq _ _ _).2.of_some) <|
    .ite (.of h (e 0)) <|
    .ite (.of (h.handleRestart hseq _).1 (h.handleRestart hseq _).2.of_some) <|
    .ite (.of (h.handleRestart hseq _).1 (h.handleRestart hseq _).2.of_some) <|
    .ite (fun _ _ hc => h.handleControls hseq hc) <|
    .ite (.of (h.handleFreeze _ _ _) (e _)) <|
    .ite (.of (h.handleFreeze _ _ _) noResp) <|
    .ite (.of (h.handleFreeze _ _ _) (e _)) <|
    .ite (.of (h.handleFreeze _ _ _) noResp) <|
    .ite (.of (h.handleFreezeAtTime _ _) (e _)) <|
    .ite (.of (h.handleFreezeAtTime _ _) noResp) <|
    .ite (.of (h.handleEnableDisable _ _ _) (handleEnableDisable_resp hseq _ _ _).of_some) <|
    .ite (.of (h.handleEnableDisable _ _ _) (handleEnableDisable_resp hseq _ _ _).of_some) <|
    .of h (e _)

theorem Good.handleNonRead {cfg : OCfg} {a a' : Acc} (h : Good cfg a) {func seq frameId : Nat} (hseq : seq < 16)
    {hs : List ObjHdr} {raw : List Nat} {ro : Option Resp}
    (hn : handleNonRead a func seq frameId hs raw = some (a', ro)) :
    Good cfg a' ∧ ∀ r, ro = some r → NonReadResp cfg seq r := by
  obtain ⟨r0, hres, rfl⟩ := handleNonRead_res hn
  have key := h.nonReadRes hseq func frameId hs raw _ _ hres
  refine ⟨key.1, fun r hr => ?_⟩
  -- the IIN2 bits ORed in afterwards are no concern of `NonReadResp`
  cases r0 with
  | none => cases hr
  | some r1 => cases hr; exact key.2 r1 rfl

theorem parseRequest_seq_lt {d : List Nat} {ctrl : AppCtrl} {func : Nat} {objects : Except Nat (List ObjHdr)}
    {raw : List Nat} (h : parseRequest d = .request ctrl func objects raw) : ctrl.seq < 16 := by
  obtain ⟨c, _, rfl, _⟩ := parseRequest_request h
  exact ofNat_seq_lt c

theorem parseRequest_headerError_seq {d : List Nat} {seq : Nat} (h : parseRequest d = .headerError seq) :
    ∃ c rest, d = c :: rest ∧ seq = (AppCtrl.ofNat c).seq := by
  unfold parseRequest at h
  split at h
  · rename_i c f objs
    refine ⟨c, f :: objs, rfl, ?_⟩
    dsimp only at h
    repeat' (split at h)
    all_goals first | (simp only [ReqParse.headerError.injEq] at h; exact h.symm) | simp at h
  · simp at h

theorem Good.popRequest {cfg : OCfg} {s : OState} {out : List OOut} (h : Good cfg (s, out)) :
    Good cfg ((popRequest s).1, out) := by
  have hc := Skel.popRequest_cases (s := s) rfl
  generalize Dnp3.popRequest s = r at hc ⊢
  cases hc <;> exact h

theorem popRequest_error_seq {s s' : OState} {src : Nat} {bc : Bool} {seq : Nat}
    (h : popRequest s = (s', .error src bc (some seq))) : seq < 16 := by
  obtain ⟨f, -, -, -, -, -, ⟨_, hn⟩ | ⟨q, hq, e⟩⟩ := Skel.error_of_pop h
  · cases hn
  · cases e
    obtain ⟨c, _, _, rfl⟩ := parseRequest_headerError_seq hq
    exact ofNat_seq_lt c

theorem Good.repeatResp {cfg : OCfg} {s : OState} {out : List OOut} (h : Good cfg (s, out)) {f : Frag} {ctrl : AppCtrl}
    {func : Nat} {objects : Except Nat (List ObjHdr)} {resp : Option Resp}
    (hc : (∃ hs, classify s f ctrl func objects = .repeatRead resp hs) ∨
          classify s f ctrl func objects = .repeatNonRead resp) {r : Resp} (hr : resp = some r) : SolResp cfg r := by
  obtain ⟨lr0, hl0, _, _, rfl⟩ := classify_repeat hc
  exact ((h.stored hl0).2.1 r hr).1

def NoOpen (m : Mode) : Prop := ∀ sr dl c, m = .solWait sr dl c → sr.fin = true

theorem NoOpen.elim {m : Mode} (h : NoOpen m) {sr : Series} {dl : Nat} {c : SolCont} (hm : m = .solWait sr dl c)
    (hf : sr.fin = false) {P : Prop} : P :=
  absurd (h sr dl c hm) (by rw [hf]; decide)

theorem NoOpen.idle (n : NextIdle) : NoOpen (.idle n) := fun _ _ _ h => by cases h

theorem NoOpen.unsolWait (r : Resp) (n : Bool) (rt : Option Nat) (d : Nat) : NoOpen (.unsolWait r n rt d) :=
  fun _ _ _ h => by cases h

/-- what `Inv` asks of a mode, given the stored request: an unsolicited wait holds a well-formed response, a
    solicited series that is not finished belongs to the stored READ -/
def ModeOk (cfg : OCfg) (lr : Option LastReq) : Mode → Prop
  | .unsolWait r _ _ _ => UnsolResp cfg r
  | .solWait sr _ _ => sr.fin = false → ∀ l, lr = some l → l.frag.getD 1 0 = 1
  | _ => True

theorem Good.setMode {cfg : OCfg} {a : Acc} (h : Good cfg a) (m : Mode) (hm : ModeOk cfg a.1.lastReq m) :
    Good cfg ({ a.1 with mode := m }, a.2) := by
  obtain ⟨⟨h1, h2, h3, h4, h5, h6, h7, _, h9, _⟩, ho⟩ := h
  exact ⟨⟨h1, h2, h3, h4, h5, h6, h7, fun _ _ _ _ e => by subst e; exact hm, h9,
    fun _ _ _ e => by subst e; exact hm⟩, ho⟩

theorem Good.reSolWait {cfg : OCfg} {a : Acc} (h : Good cfg a) {sr : Series} {dl : Nat} {c : SolCont}
    (hm : a.1.mode = .solWait sr dl c) (dl' : Nat) (c' : SolCont) :
    Good cfg ({ a.1 with mode := .solWait sr dl' c' }, a.2) :=
  h.setMode _ (h.openRead hm)

theorem Good.setLastReq {cfg : OCfg} {a : Acc} (h : Good cfg a) (lr : Option LastReq)
    (hl : ∀ l, lr = some l → StoredOk cfg l)
    (hs : ∀ sr dl c, a.1.mode = .solWait sr dl c → sr.fin = false → ∀ l, lr = some l → l.frag.getD 1 0 = 1) :
    Good cfg ({ a.1 with lastReq := lr }, a.2) := by
  obtain ⟨⟨h1, h2, h3, h4, h5, h6, _, h8, h9, _⟩, ho⟩ := h
  exact ⟨⟨h1, h2, h3, h4, h5, h6, hl, h8, h9, hs⟩, ho⟩

theorem Good.setDeferred {cfg : OCfg} {a : Acc} (h : Good cfg a) (d : Option Deferred)
    (hd : ∀ x, d = some x → x.seq < 16 ∧ x.frag.getD 1 0 = 1) : Good cfg ({ a.1 with deferred := d }, a.2) := by
  obtain ⟨⟨h1, h2, h3, h4, h5, h6, h7, h8, _, h10⟩, ho⟩ := h
  exact ⟨⟨h1, h2, h3, h4, h5, h6, h7, h8, hd, h10⟩, ho⟩

theorem Good.clearDeferred {cfg : OCfg} {a : Acc} (h : Good cfg a) : Good cfg ({ a.1 with deferred := none }, a.2) :=
  h.setDeferred none (fun x hx => by simp at hx)

theorem Good.setUnsolSeq {cfg : OCfg} {a : Acc} (h : Good cfg a) {n : Nat} (hn : n < 16) :
    Good cfg ({ a.1 with unsolSeq := n }, a.2) := by
  obtain ⟨⟨h1, h2, h3, h4, h5, _, h7, h8, h9⟩, ho⟩ := h
  exact ⟨⟨h1, h2, h3, h4, h5, hn, h7, h8, h9⟩, ho⟩

theorem Good.writeUnsol4 {cfg : OCfg} {s : OState} {out : List OOut} (h : Good cfg (s, out)) {data : List Nat}
    (hd : data.length ≤ cfg.unsol - 4) : Good cfg ({ s with unsolBuf := writeAt s.unsolBuf 4 data }, out) := by
  obtain ⟨⟨hc, h10, hu4, hsl, hul, hrest⟩, ho⟩ := h
  refine ⟨⟨hc, h10, hu4, hsl, ?_, hrest⟩, ho⟩
  show (writeAt _ _ _).length = _
  dsimp only at hul
  rw [writeAt_length] <;> omega

def ModeIs (m : Mode) (a : Acc) : Prop := a.1.mode = m

theorem ModeIs.countOfOne {m : Mode} {a : Acc} (h : ModeIs m a) (seq g v value : Nat) :
    ModeIs m (countOfOne a seq g v value).1 := h

theorem ModeIs.handleControls {m : Mode} {a a' : Acc} (h : ModeIs m a) {func seq frameId : Nat}
    {hs : List ObjHdr} {raw : List Nat} {ro : Option Resp}
    (hc : handleControls a func seq frameId hs raw = some (a', ro)) : ModeIs m a' :=
  Eq.trans ((handleControls_eff hc).get .mode) h

theorem Good.formatReadResponse {cfg : OCfg} (hdb : DbContract) {s : OState} {out : List OOut}
    (h : Good cfg (s, out)) (fir : Bool) {seq : Nat} (hseq : seq < 16) (iin2 : Nat) :
    Good cfg ((formatReadResponse s fir seq iin2).1, out) ∧
    SolResp cfg (formatReadResponse s fir seq iin2).2.1 ∧
    (formatReadResponse s fir seq iin2).2.1.ctrl.seq = seq ∧
    (formatReadResponse s fir seq iin2).2.1.ctrl.fir = fir ∧
    (∀ sr, (formatReadResponse s fir seq iin2).2.2 = some sr → sr.ecsn = seq) := by
  have hc : s.cfg = cfg := h.1.1
  have h10 := h.1.2.1
  rw [formatReadResponse_eq]
  have hl := hdb.writeResponse_len s.db (s.cfg.sol - 4)
  generalize s.db.writeResponse (s.cfg.sol - 4) = w at hl ⊢
  rw [hc] at hl
  refine ⟨Good.writeSol4 (s := { s with db := w.1 }) h hl, ⟨rfl, rfl, hseq, by dsimp only; omega⟩, rfl, rfl, ?_⟩
  intro sr hsr
  dsimp only at hsr
  split at hsr
  · cases hsr; rfl
  · cases hsr

theorem Good.processBroadcast {cfg : OCfg} {a a' : Acc} (h : Good cfg a) {f : Frag} {mode : Nat} {ctrl : AppCtrl}
    (hseq : ctrl.seq < 16) {func : Nat} {objects : Except Nat (List ObjHdr)} {raw : List Nat}
    (hp : processBroadcast a f mode ctrl func objects raw = some a') : Good cfg a' := by
  obtain ⟨a1, action, hc, rfl⟩ := processBroadcast_cases hp
  have h0 : Good cfg ({ a.1 with lastBroadcast := some mode }, a.2) := h
  refine Good.emitCb ?_ _
  cases hc with
  | nothing => exact h0
  | write => exact h0.handleWrite _ _
  | control _ _ _ _ _ hc => exact (h0.handleControls hseq hc).1
  | freeze => exact h0.handleFreeze _ _ _
  | freezeAt => exact h0.handleFreezeAtTime _ _
  | record => exact h0
  | enable => exact h0.handleEnableDisable _ _ _
  | disable => exact h0.handleEnableDisable _ _ _

theorem Good.clearWrittenEvents {cfg : OCfg} {a : Acc} (h : Good cfg a) : Good cfg (clearWrittenEvents a) :=
  h.of_eff (clearWrittenEvents_eff a) (TxOk.of_kind)

theorem Good.writeErrorResponse {cfg : OCfg} {a a' : Acc} (h : Good cfg a) {dst : Nat} {bc : Bool} {seq : Option Nat}
    (hseq : ∀ n, seq = some n → n < 16) (hw : writeErrorResponse a dst bc seq = some a') : Good cfg a' := by
  rcases Frame.writeErrorResponse_cases hw with rfl | ⟨n, r1, hn, hws⟩
  · exact h
  · exact (h.writeSolicited (emptySolicited_ok (hseq n hn) _).1 hws).1

def CbOnly (base : List OOut) (a : Acc) : Prop := ∃ l, a.2 = base ++ l ∧ ∀ o ∈ l, ∃ c, o = OOut.cb c

theorem CbOnly.refl (a : Acc) : CbOnly a.2 a := ⟨[], by simp, fun o ho => by simp at ho⟩

theorem CbOnly.trans {base : List OOut} {a b : Acc} (h1 : CbOnly base a) (h2 : CbOnly a.2 b) : CbOnly base b := by
  obtain ⟨l1, e1, c1⟩ := h1
  obtain ⟨l2, e2, c2⟩ := h2
  refine ⟨l1 ++ l2, by rw [e2, e1, List.append_assoc], fun o ho => ?_⟩
  simp only [List.mem_append] at ho
  rcases ho with ho | ho
  · exact c1 o ho
  · exact c2 o ho

theorem CbOnly.noTx {base : List OOut} {a : Acc} (h : CbOnly base a) : txFrags a.2 = txFrags base := by
  obtain ⟨l, hl, hc⟩ := h
  rw [hl, txFrags_append, txFrags_cbs l hc, List.append_nil]

theorem CbOnly.frame {κ} {K : OState → κ} {P : OOut → Prop} {base : List OOut} {a a' : Acc} (h : CbOnly base a)
    (hf : Frame K P a a') (hP : ∀ o, P o → ∃ c, o = .cb c) : CbOnly base a' := by
  obtain ⟨_, l, e, hl⟩ := hf
  exact h.trans ⟨l, e, fun o ho => hP o (hl o ho)⟩

theorem CbOnly.handleControls {base : List OOut} {a a' : Acc} (h : CbOnly base a) {func seq frameId : Nat}
    {hs : List ObjHdr} {raw : List Nat} {ro : Option Resp}
    (hc : handleControls a func seq frameId hs raw = some (a', ro)) : CbOnly base a' :=
  h.frame (handleControls_eff hc).outs fun _ => AppP.cb

theorem CbOnly.handleNonRead {base : List OOut} {a a' : Acc} (h : CbOnly base a) {func seq frameId : Nat}
    {hs : List ObjHdr} {raw : List Nat} {ro : Option Resp}
    (hn : handleNonRead a func seq frameId hs raw = some (a', ro)) : CbOnly base a' :=
  h.frame (handleNonRead_eff hn).outs fun _ => KP.app_cb

/-- what `idleStage1` hands to the writer -/
def PreStored (cfg : OCfg) (f : Frag) (ctrl : AppCtrl) (func : Nat) (lr : LastReq) : Prop :=
  lr.seq = ctrl.seq ∧ lr.frag = f.data ∧
  ∀ r, lr.response = some r → SolResp cfg r ∧ r.ctrl.seq = ctrl.seq ∧ r.ctrl.fir = true ∧ (func ≠ 1 → r.ctrl.fin = true)

theorem PreStored.nonRead {cfg : OCfg} {f : Frag} {ctrl : AppCtrl} {func : Nat} {ro : Option Resp}
    (h : ∀ r, ro = some r → NonReadResp cfg ctrl.seq r) : PreStored cfg f ctrl func ⟨ctrl.seq, f.data, ro, none⟩ :=
  ⟨rfl, rfl, fun r hr => ⟨(h r hr).1, (h r hr).2.1, (h r hr).2.2.1, fun _ => (h r hr).2.2.2⟩⟩

theorem Good.writeStored {cfg : OCfg} {a a2 : Acc} (h : Good cfg a) {f : Frag} {ctrl : AppCtrl} {func : Nat}
    {lr : LastReq} {r r2 : Resp} (hp : PreStored cfg f ctrl func lr) (hr : lr.response = some r)
    (hw : Dnp3.writeSolicited a f.src r = some (a2, r2)) (series : Option Series) :
    Good cfg a2 ∧ PreStored cfg f ctrl func { lr with response := some r2, series := series } := by
  obtain ⟨b1, b2, b3, b4⟩ := hp.2.2 r hr
  obtain ⟨g2, s2, e1, e2, e3, _⟩ := h.writeSolicited b1 hw
  refine ⟨g2, hp.1, hp.2.1, fun r' hr' => ?_⟩
  cases hr'
  exact ⟨s2, e1.trans b2, e2.trans b3, fun hne => e3.trans (b4 hne)⟩

theorem Good.storeRequest {cfg : OCfg} {a : Acc} (h : Good cfg a) (hm : NoOpen a.1.mode) {lr : LastReq}
    (hl : StoredOk cfg lr) : Good cfg ({ a.1 with lastReq := some lr }, a.2) :=
  h.setLastReq _ (fun _ e => by cases e; exact hl) (fun _ _ _ hmo hf => hm.elim hmo hf)

theorem idleStage1_frame {a a' : Acc} {f : Frag} {ctrl : AppCtrl} {func : Nat} {objects : Except Nat (List ObjHdr)}
    {raw : List Nat} {olr : Option (LastReq × Bool)} (hi : idleStage1 a f ctrl func objects raw = some (a', olr)) :
    CbOnly a.2 a' ∧ a'.1.mode = a.1.mode :=
  have e := (Skel.idleStage1_cases hi).eff
  ⟨(CbOnly.refl a).frame e.outs fun _ => KP.bcast_cb, e.get .mode⟩

/-- the series kept with an echoed record is unfinished only for a READ, by the invariant of the stored
    request -/
theorem Good.idleStage1 {cfg : OCfg} (hdb : DbContract) {a a' : Acc} (h : Good cfg a) {f : Frag} {ctrl : AppCtrl}
    {func : Nat} {objects : Except Nat (List ObjHdr)} {raw : List Nat} (hseq : ctrl.seq < 16)
    (hfn : f.data.getD 1 0 = func) {olr : Option (LastReq × Bool)}
    (hi : idleStage1 a f ctrl func objects raw = some (a', olr)) :
    Good cfg a' ∧ ∀ lr e, olr = some (lr, e) → PreStored cfg f ctrl func lr ∧
      (∀ sr, lr.series = some sr → sr.fin = false → func = 1) := by
  cases Skel.idleStage1_cases hi with
  | confirm => exact ⟨h, fun _ _ hl => nomatch hl⟩
  | bcast m a1 _ _ hp => exact ⟨h.processBroadcast hseq hp, fun _ _ hl => nomatch hl⟩
  | nonRead hs a1 r _ _ _ _ hn =>
    refine ⟨(h.handleNonRead hseq hn).1, fun lr e hl => ?_⟩
    cases hl
    exact ⟨.nonRead (h.handleNonRead hseq hn).2, fun _ hs _ => nomatch hs⟩
  | prep s1 lr _ _ _ _ _ _ _ hp =>
    cases hp with
    | malformed e =>
      refine ⟨h, fun lr e hl => ?_⟩
      cases hl
      exact ⟨.nonRead (emptySolicited_ok hseq _).of_some, fun _ hs _ => nomatch hs⟩
    | read hs h1 =>
      have hf := Good.formatReadResponse hdb (s := { a.1 with db := (dbSelectAll a.1.db hs).1 }) (out := a.2) h true hseq
        (dbSelectAll a.1.db hs).2
      refine ⟨hf.1, fun lr e hl => ?_⟩
      cases hl
      refine ⟨⟨rfl, rfl, fun r hr => ?_⟩, fun _ _ _ => h1⟩
      cases hr
      exact ⟨hf.2.1, hf.2.2.1, hf.2.2.2.1, fun hne => absurd h1 hne⟩
  | echo s1 last _ _ h1 _ hs1 hcl =>
    -- the stored record is handed on, `select` may be refreshed
    obtain ⟨lr0, hl0, hs0, hf0, rfl⟩ := classify_repeat (Or.inr hcl)
    have hst := h.stored hl0
    have hne : lr0.frag.getD 1 0 ≠ 1 := by rw [hf0, hfn]; exact h1
    refine ⟨by rcases hs1 with rfl | ⟨sel, _, _, _, _, _, rfl⟩ <;> exact h, fun lr e hl => ?_⟩
    cases hl
    refine ⟨⟨rfl, rfl, fun r hr => ?_⟩, fun sr hsr hf => ?_⟩
    · obtain ⟨h1, h2⟩ := hst.2.1 r hr
      obtain ⟨h2, h3, h4⟩ := h2 hne
      exact ⟨h1, h2.trans hs0, h3, fun _ => h4⟩
    · rw [hl0] at hsr
      exact absurd (hst.2.2 sr hsr hf) hne

theorem PreStored.stored {cfg : OCfg} {f : Frag} {ctrl : AppCtrl} {func : Nat} {lr : LastReq}
    (hseq : ctrl.seq < 16) (hfn : f.data.getD 1 0 = func) (h : PreStored cfg f ctrl func lr)
    (hser : ∀ sr, lr.series = some sr → sr.fin = false → func = 1) : StoredOk cfg lr := by
  obtain ⟨h1, h2, h3⟩ := h
  refine ⟨h1 ▸ hseq, fun r hr => ?_, fun sr hs hf => by rw [h2, hfn]; exact hser sr hs hf⟩
  obtain ⟨a1, a2, a3, a4⟩ := h3 r hr
  exact ⟨a1, fun hne => ⟨a2.trans h1.symm, a3, a4 (by rw [h2, hfn] at hne; exact hne)⟩⟩

/-- `hm`: the request is handled from the idle state — no solicited series is open (`runPass` is only
    entered with `mode = .idle _`) -/
theorem Good.handleRequestFromIdle {cfg : OCfg} (hdb : DbContract) {a a' : Acc} (h : Good cfg a) (hm : NoOpen a.1.mode)
    {f : Frag} {ctrl : AppCtrl} {func : Nat} {objects : Except Nat (List ObjHdr)} {raw : List Nat}
    (hreq : parseRequest f.data = .request ctrl func objects raw) {series : Option Series}
    (hh : handleRequestFromIdle a f ctrl func objects raw = some (a', series)) :
    Good cfg a' ∧ ∀ sr, series = some sr → sr.fin = false → ∀ lr, a'.1.lastReq = some lr → lr.frag.getD 1 0 = 1 := by
  have hseq := parseRequest_seq_lt hreq
  have hfn := parseRequest_func hreq
  rw [handleRequestFromIdle_eq] at hh
  cases hi : Skel.idleStage1 a f ctrl func objects raw with
  | none => rw [hi] at hh; cases hh
  | some p =>
  obtain ⟨a1, olr⟩ := p
  rw [hi] at hh
  obtain ⟨hg, hp⟩ := h.idleStage1 hdb hseq hfn hi
  have hm1 : NoOpen a1.1.mode := (idleStage1_frame hi).2 ▸ hm
  have store : ∀ {b : Acc} {l : LastReq}, Good cfg b → b.1.mode = a1.1.mode → StoredOk cfg l →
      Good cfg ({ b.1 with lastReq := some l }, b.2) ∧
      ∀ sr, l.series = some sr → sr.fin = false → ∀ l', some l = some l' → l'.frag.getD 1 0 = 1 :=
    fun hb hbm hl => ⟨hb.storeRequest (hbm ▸ hm1) hl, fun sr hs hf _ e => by cases e; exact hl.2.2 sr hs hf⟩
  cases Skel.idleStage2_cases hh with
  | nothing => exact ⟨hg, fun _ hs => nomatch hs⟩
  | silent lr e hr => exact store hg rfl ((hp lr e rfl).1.stored hseq hfn (hp lr e rfl).2)
  | echo lr r hr =>
    exact store (hg.repeatSolicited f.src (((hp lr _ rfl).1.2.2 r hr).1)) rfl ((hp lr _ rfl).1.stored hseq hfn (hp lr _ rfl).2)
  | fresh lr r a2 r2 hr hw =>
    obtain ⟨hps, hser⟩ := hp lr _ rfl
    obtain ⟨g2, p2⟩ := hg.writeStored hps hr hw
      (if r2.ctrl.con ∧ lr.series.isNone then some ⟨r2.ctrl.seq, true⟩ else lr.series)
    refine store g2 ((writeSolicited_eff hw).get .mode : _ = _) (p2.stored hseq hfn fun sr hs hf => ?_)
    -- a series opened here for the confirm of a single fragment is finished
    dsimp only at hs
    split at hs
    · cases hs; cases hf
    · exact hser sr hs hf

theorem Good.enterSolWait {cfg : OCfg} {a : Acc} (h : Good cfg a) (series : Series) (cont : SolCont)
    (hs : series.fin = false → ∀ lr, a.1.lastReq = some lr → lr.frag.getD 1 0 = 1) :
    Good cfg (enterSolWait a series cont) := by
  unfold Dnp3.enterSolWait
  exact (h.emitCb _).setMode _ hs

theorem Good.startUnsolSeries {cfg : OCfg} {a a' : Acc} (h : Good cfg a) {r : Resp} (hr : UnsolResp cfg r)
    {isNull : Bool} (hs : startUnsolSeries a r isNull = some a') : Good cfg a' := by
  unfold Dnp3.startUnsolSeries at hs
  split at hs
  · simp at hs
  · rename_i a1 r1 hw
    cases hs
    obtain ⟨g1, u1, _⟩ := h.writeUnsolicited hr hw
    exact (g1.emitCb _).setMode _ u1

theorem unsolHeader_ok {cfg : OCfg} {seq size : Nat} (hs : seq < 16) (hz : size ≤ cfg.unsol) :
    UnsolResp cfg (unsolHeader seq size) := ⟨rfl, rfl, rfl, rfl, rfl, hs, hz⟩

def GoodSum {β : Type} (cfg : OCfg) (proj : β → Acc) : Acc ⊕ β → Prop
  | .inl a => Good cfg a
  | .inr b => Good cfg (proj b)

theorem Good.checkUnsolicited {cfg : OCfg} (hdb : DbContract) {a : Acc} (h : Good cfg a)
    {x : Acc ⊕ (Acc × NextIdle)} (hc : checkUnsolicited a = some x) : GoodSum cfg Prod.fst x := by
  obtain rfl : a.1.cfg = cfg := h.1.1
  have hu4 := h.1.2.2.1
  have hsq : a.1.unsolSeq < 16 := h.1.2.2.2.2.2.1
  have hl := hdb.writeUnsolicited_len a.1.db a.1.en1 a.1.en2 a.1.en3 (a.1.cfg.unsol - 4)
  have hg : Good a.1.cfg (afterDbWrite a.1, a.2) :=
    Good.writeUnsol4 (s := { a.1 with db := _ }) h hl
  cases checkUnsolicited_cases a x hc with
  | unsupported => exact h
  | null a' _ _ hs =>
    exact Good.startUnsolSeries (h.setUnsolSeq (seq4Next_lt _ hsq)) (unsolHeader_ok hsq (Nat.zero_le _)) hs
  | tooEarly => exact h
  | disabled => exact h
  | noEvents => exact hg
  | data dl a' _ _ _ _ _ hs =>
    exact Good.startUnsolSeries (hg.setUnsolSeq (seq4Next_lt _ hsq)) (unsolHeader_ok hsq (by omega)) hs

theorem Good.afterUnsolSeries {cfg : OCfg} {a : Acc} (h : Good cfg a) (isNull confirmed : Bool) :
    Good cfg (afterUnsolSeries a isNull confirmed).1 :=
  h.of_eff (afterUnsolSeries_eff a isNull confirmed) (TxOk.of_kind)

theorem Good.handleDeferredRead {cfg : OCfg} (hdb : DbContract) {a : Acc} (h : Good cfg a) {next : NextIdle}
    {x : Acc ⊕ Acc} (hd : handleDeferredRead a next = some x) : GoodSum cfg id x := by
  -- the stored READ is answered: its response becomes the stored one
  have stored : ∀ {d a2 r2}, a.1.deferred = some d →
      Dnp3.writeSolicited ((deferredFormat a.1 d).1, a.2) d.addr (deferredFormat a.1 d).2.1 = some (a2, r2) →
      d.frag.getD 1 0 = 1 ∧
      Good cfg ({ a2.1 with lastReq := some ⟨d.seq, d.frag, some r2, (deferredFormat a.1 d).2.2⟩ }, a2.2) := by
    intro d a2 r2 hdef hw
    obtain ⟨hdseq, hdfrag⟩ := h.1.2.2.2.2.2.2.2.2.1 d hdef
    have hf := Good.formatReadResponse hdb
      (Good.clearDeferred (a := ({ a.1 with db := (deferredSelect a.1.db d.hdrs).1, notified := true }, a.2)) h)
      true hdseq (d.iin2 ||| (deferredSelect a.1.db d.hdrs).2)
    obtain ⟨g2, s2, _⟩ := hf.1.writeSolicited hf.2.1 hw
    exact ⟨hdfrag, g2.setLastReq _ (fun l hl => by cases hl; exact .read hdseq hdfrag fun _ hr' => by cases hr'; exact s2)
      (fun _ _ _ _ _ l hl => by cases hl; exact hdfrag)⟩
  cases handleDeferredRead_cases a next x hd with
  | none => exact h
  | answered d a2 r2 hdef hw => exact (stored hdef hw).2
  | awaiting d a2 r2 sr hdef hw =>
    exact (stored hdef hw).2.enterSolWait _ _ (fun _ l hl => by cases hl; exact (stored hdef hw).1)

theorem Good.finishPass {cfg : OCfg} {a : Acc} (h : Good cfg a) (next : NextIdle) : Good cfg (finishPass a next) := by
  unfold Dnp3.finishPass
  refine Good.setMode ?_ _ trivial
  -- the link-status timer: armed and not due, armed and due (the request goes out on the link, not a fragment), none
  split
  · split
    · exact h
    · exact Good.emit (a := a) h trivial
  · exact h

theorem good_diePt {cfg : OCfg} {a : Acc} (h : Good cfg a) : Good cfg (diePt a).2 :=
  Good.emit (h.setMode .dead trivial) trivial

theorem good_resumePt {cfg : OCfg} {a : Acc} (h : Good cfg a) (c : SolCont) : Good cfg (resumePt a c).2 := by
  cases c with
  | fromRequest => exact h
  | fromDeferred n => exact h.clearDeferred

theorem good_abortPt {cfg : OCfg} {a : Acc} (h : Good cfg a) (c : SolCont) : Good cfg (abortPt a c).2 :=
  good_resumePt (a := ({ a.1 with db := a.1.db.reset }, a.2)) h c

theorem Good.storeResponse {cfg : OCfg} {a : Acc} (h : Good cfg a) {r : Resp} (hr : SolResp cfg r)
    (hread : ∀ lr, a.1.lastReq = some lr → lr.frag.getD 1 0 = 1) :
    Good cfg ({ a.1 with lastReq := a.1.lastReq.map (fun lr => { lr with response := some r }) }, a.2) ∧
    ∀ lr, a.1.lastReq.map (fun lr => { lr with response := some r }) = some lr → lr.frag.getD 1 0 = 1 := by
  have hread' : ∀ lr, a.1.lastReq.map (fun lr => { lr with response := some r }) = some lr → lr.frag.getD 1 0 = 1 := by
    intro l hl
    obtain ⟨lr0, h0, rfl⟩ := Option.map_eq_some_iff.1 hl
    exact hread lr0 h0
  refine ⟨h.setLastReq _ (fun l hl => ?_) (fun _ _ _ _ _ l hl => hread' l hl), hread'⟩
  obtain ⟨lr0, h0, rfl⟩ := Option.map_eq_some_iff.1 hl
  exact .read (h.stored h0).1 (hread lr0 h0) fun _ hr' => by cases hr'; exact hr

theorem Good.popped {cfg : OCfg} {a : Acc} (h : Good cfg a) {s : OState} {p : Popped}
    (hp : Dnp3.popRequest a.1 = (s, p)) : Good cfg (onLinkActivity { s with pending := none }, a.2) ∧ s.mode = a.1.mode := by
  have h1 := Good.popRequest (s := a.1) (out := a.2) h
  rw [hp] at h1
  exact ⟨h1, (Skel.House.of_pop hp).mode⟩

theorem popped_seq {a : Acc} {s : OState} {f : Frag} {ctrl : AppCtrl} {func : Nat} {objs : Except Nat (List ObjHdr)}
    {raw : List Nat} (hp : popRequest a.1 = (s, .request f ctrl func objs raw)) :
    ctrl.seq < 16 ∧ f.data.getD 1 0 = func :=
  have hreq := (Skel.request_of_pop hp).2.2.1
  ⟨parseRequest_seq_lt hreq, parseRequest_func hreq⟩

/-- `hm`: a pass of the idle loop starts with no solicited series open (it is entered with `mode = .idle _`) -/
theorem good_passCase {cfg : OCfg} (hdb : DbContract) {a : Acc} {fuel : Nat} {y : Pt × Acc} (h : Good cfg a) (hm : NoOpen a.1.mode)
    (hy : PassCase a fuel y) : Good cfg y.2 := by
  obtain ⟨s, p, hp, hy⟩ := hy
  obtain ⟨g1, hs⟩ := Good.popped (a := ({ a.1 with notified := false }, a.2)) h hp
  cases hy with
  | nothing => exact g1
  | errorDie | requestDie => exact good_diePt g1
  | error a' hw =>
    refine g1.writeErrorResponse (fun n hn => ?_) hw
    subst hn; exact popRequest_error_seq hp
  | requestWait a' sr hq =>
    have hi := g1.handleRequestFromIdle hdb (hs ▸ hm) (Skel.request_of_pop hp).2.2.1 hq
    exact hi.1.enterSolWait _ _ (hi.2 _ rfl)
  | request a' hq => exact (g1.handleRequestFromIdle hdb (hs ▸ hm) (Skel.request_of_pop hp).2.2.1 hq).1

/-- the next fragment: the series is not finished, so the stored request is the READ it answers -/
theorem good_solConfCase {cfg : OCfg} (hdb : DbContract) {a5 : Acc} {sr : Series} {dl : Nat} {cont : SolCont}
    {dst : Nat} {y : Pt × Acc} (g5 : Good cfg a5) (hm5 : a5.1.mode = .solWait sr dl cont)
    (hnext : seq4Next sr.ecsn < 16) (hc : SolConfCase a5 sr cont dst y) : Good cfg y.2 := by
  have next : ∀ {s6 r6 nx a7 r7}, sr.fin = false →
      formatReadResponse a5.1 false (seq4Next sr.ecsn) 0 = (s6, r6, nx) →
      writeSolicited (s6, a5.2) dst r6 = some (a7, r7) →
      Good cfg ({ a7.1 with lastReq := a7.1.lastReq.map (fun lr => { lr with response := some r7 }) }, a7.2) ∧
      ∀ lr, a7.1.lastReq.map (fun lr => { lr with response := some r7 }) = some lr → lr.frag.getD 1 0 = 1 := by
    intro s6 r6 nx a7 r7 hfin hf hw
    have gf := Good.formatReadResponse hdb (s := a5.1) (out := a5.2) g5 false hnext 0
    have hfm : (formatReadResponse a5.1 false (seq4Next sr.ecsn) 0).1.mode = _ := hm5
    rw [hf] at gf hfm
    obtain ⟨g7, s7, _⟩ := gf.1.writeSolicited gf.2.1 hw
    exact g7.storeResponse s7 (g7.openRead (((writeSolicited_eff hw).get .mode : _ = _).trans hfm) hfin)
  cases hc with
  | done => exact good_resumePt g5 cont
  | die => exact good_diePt g5
  | last s6 r6 a7 r7 hfin hf hw => exact good_resumePt (next hfin hf hw).1 cont
  | next s6 r6 sr' a7 r7 hfin hf hw =>
    exact (next hfin hf hw).1.setMode _ fun _ => (next hfin hf hw).2

theorem good_swfCase {cfg : OCfg} (hdb : DbContract) {a : Acc} {sr : Series} {dl : Nat} {cont : SolCont} {y : Pt × Acc}
    (h : Good cfg a) (hm : a.1.mode = .solWait sr dl cont) (hc : SWFCase a sr cont y) : Good cfg y.2 := by
  obtain ⟨s, p, hp, hc⟩ := hc
  obtain ⟨g, hm'⟩ := h.popped hp
  have g2 : Good cfg ({ onLinkActivity s with pending := none }, a.2) := g
  cases hc with
  | nothing => exact g
  | error | newRequest => exact good_abortPt (Good.emitCb (a := (onLinkActivity s, a.2)) g _) cont
  | echo resp hcl =>
    unfold Skel2.solEchoAcc
    dsimp only
    cases resp with
    | some r =>
      have g1 : Good cfg (onLinkActivity s, a.2) := g
      exact (g2.repeatSolicited _ (g1.repeatResp (Or.inl ⟨_, hcl⟩) rfl)).reSolWait (hm'.trans hm) _ _
    | none => exact g2.reSolWait (hm'.trans hm) _ _
  | unsolConfirm | wrongSeq => exact Good.emitCb g2 _
  | confirmed _ hs hcc =>
    have g5 := Good.clearWrittenEvents
      (a := ({ onLinkActivity s with pending := none, lastBroadcast := none }, a.2 ++ [.cb (.solConfirmed sr.ecsn)]))
      (Good.emitCb g2 _)
    exact good_solConfCase hdb g5 (Eq.trans ((clearWrittenEvents_eff _).get .mode) (hm'.trans hm))
      (seq4Next_lt _ (hs ▸ (popped_seq hp).1)) hcc

theorem Good.deferredSet {cfg : OCfg} {s : OState} {out : List OOut} (h : Good cfg (s, out)) (f : Frag) {seq : Nat}
    (hseq : seq < 16) (hf : f.data.getD 1 0 = 1) (hs : List ObjHdr) : Good cfg (deferredSet s f seq hs, out) := by
  rw [deferredSet_spec]
  refine Good.setDeferred (a := (s, out)) h _ (fun x hx => ?_)
  cases hx
  exact ⟨hseq, hf⟩

/-- `hm`: no solicited series is open (the fragment is dispatched from `mode = .unsolWait …`) -/
theorem good_uwfCase {cfg : OCfg} {a : Acc} {resp : Resp} {isNull : Bool} {y : Pt × Acc} (h : Good cfg a)
    (hm : NoOpen a.1.mode) (hc : UWFCase a resp isNull y) : Good cfg y.2 := by
  obtain ⟨s, p, hp, hc⟩ := hc
  obtain ⟨g, hm'⟩ := h.popped hp
  have stored : ∀ {f : Frag} {ctrl : AppCtrl} {func : Nat} {hs : List ObjHdr} {raw : List Nat}
      {a4 : Acc} {r4 : Option Resp} {a5 : Acc} {r5 : Option Resp},
      popRequest a.1 = (s, .request f ctrl func (.ok hs) raw) →
      handleNonRead ({ onLinkActivity { s with pending := none } with deferred := none }, a.2) func ctrl.seq f.id hs raw
        = some (a4, r4) →
      Skel2.NRWritten a4 f.src r4 a5 r5 →
      Good cfg ({ a5.1 with lastReq := some ⟨ctrl.seq, f.data, r5, none⟩ }, a5.2) := by
    intro f ctrl func hs raw a4 r4 a5 r5 hp hn hw
    obtain ⟨hseq, hfn⟩ := popped_seq hp
    obtain ⟨g4, n4⟩ := g.clearDeferred.handleNonRead hseq hn
    have hm4 : NoOpen a4.1.mode := (handleNonRead_eff hn).get .mode ▸ (show NoOpen s.mode from hm' ▸ hm)
    have p4 : PreStored cfg f ctrl func ⟨ctrl.seq, f.data, r4, none⟩ := .nonRead n4
    have key : Good cfg a5 ∧ NoOpen a5.1.mode ∧ PreStored cfg f ctrl func ⟨ctrl.seq, f.data, r5, none⟩ := by
      rcases hw with ⟨rfl, rfl, rfl⟩ | ⟨r, r', rfl, hws, rfl⟩
      · exact ⟨g4, hm4, p4⟩
      · exact ⟨(g4.writeStored p4 rfl hws none).1, ((writeSolicited_eff hws).get .mode : _ = _) ▸ hm4, (g4.writeStored p4 rfl hws none).2⟩
    exact key.1.storeRequest key.2.1 (key.2.2.stored hseq hfn fun _ hs => nomatch hs)
  cases hc with
  | nothing | otherConfirm => exact g
  | errorDie => exact good_diePt (a := ({ s with pending := none }, a.2)) g
  | error a' hw =>
    have g : Good cfg ({ s with pending := none }, a.2) := g
    refine Good.writeErrorResponse g.clearDeferred ?_ hw
    intro n hn; subst hn; exact popRequest_error_seq hp
  | unsolConfirm =>
    exact (Good.emitCb
      (a := ({ onLinkActivity { s with pending := none } with
        lastBroadcast := if s.unsolReported then none else s.lastBroadcast }, a.2)) g _).afterUnsolSeries _ _
  | solConfirm => show Good cfg (if _ then _ else _); split <;> exact g
  | bcast m a' _ _ hb =>
    have g1 : Good cfg a' := Good.processBroadcast g.clearDeferred (popped_seq hp).1 hb
    exact g1
  | malformedDie => exact good_diePt g
  | malformed a' r' _ _ hw => exact (g.clearDeferred.writeSolicited (emptySolicited_ok (popped_seq hp).1 _).1 hw).1
  | nonReadWriteDie a4 r _ _ _ hn => exact good_diePt (g.clearDeferred.handleNonRead (popped_seq hp).1 hn).1
  | nonRead a4 r4 a5 r5 _ _ _ hn hw => exact stored hp hn hw
  | disable a4 r4 a5 r5 _ hn hw => exact (stored hp hn hw).afterUnsolSeries _ _
  | read => exact g.deferredSet _ (popped_seq hp).1 (popped_seq hp).2 _
  | echo last _ hcl =>
    unfold Skel2.uwEchoAcc
    refine Good.clearDeferred ?_
    cases last with
    | none => exact g
    | some r => exact g.repeatSolicited _ (g.repeatResp (Or.inr hcl) rfl)

theorem good_step {cfg : OCfg} (hdb : DbContract) {x y : Pt × Acc} (hs : Step x y) (h : Good cfg x.2) :
    Good cfg y.2 := by
  cases hs with
  | pass a n y hm _ hy => exact good_passCase hdb h (hm ▸ NoOpen.idle n) hy
  | chkDie a _ _ => exact good_diePt h
  | chkStart a _ a' hc => exact h.checkUnsolicited hdb hc
  | chkIdle a _ a' n hc => exact h.checkUnsolicited hdb hc
  | defDie a _ n _ => exact good_diePt h
  | defWait a _ n a' hd => exact h.handleDeferredRead hdb hd
  | defDone a _ n a' hd => exact h.handleDeferredRead hdb hd
  | finishPass a _ n _ => exact h.finishPass n
  | again a _ n y _ hy => exact good_passCase hdb (h.finishPass n) (NoOpen.idle _) hy
  | fuel a n _ => exact (h.finishPass n).emitCb _
  | solFragment a sr dl c y hm _ hc => exact good_swfCase hdb h hm hc
  | solTimeout a sr dl c _ _ _ => exact good_abortPt (h.emitCb _) c
  | unsolFragment a resp isNull rt dl y hm _ hc => exact good_uwfCase h (hm ▸ NoOpen.unsolWait _ _ _ _) hc
  | unsolTimeout a resp isNull rt dl y hm _ _ hc =>
    have hr : UnsolResp cfg resp := h.1.2.2.2.2.2.2.2.1 _ _ _ _ hm
    cases hc with
    | finish => exact (h.emitCb _).afterUnsolSeries _ _
    | retry rt' =>
      exact Good.setMode ((h.emitCb _).repeatUnsolicited hr) _ hr

theorem Good.star {cfg : OCfg} (hdb : DbContract) {x z : Pt × Acc} (hz : Star Step x z) (h : Good cfg x.2) :
    Good cfg z.2 :=
  Star.inv (I := fun x => Good cfg x.2) (fun _ _ hs => good_step hdb hs) hz h

theorem Inv.init (cfg : OCfg) (evMax : Nat) (hsol : 10 ≤ cfg.sol) (hunsol : 4 ≤ cfg.unsol) :
    Inv cfg (OState.init cfg evMax) := by
  refine ⟨rfl, hsol, hunsol, ?_, ?_, ?_, ?_, ?_, ?_, ?_⟩
  · simp [OState.init]
  · simp [OState.init]
  · simp [OState.init]
  · intro lr h; simp [OState.init] at h
  · intro r n rt d h; simp [OState.init] at h
  · intro d h; simp [OState.init] at h
  · intro sr dl c h; simp [OState.init] at h

theorem Good.of_inv {cfg : OCfg} {s : OState} (h : Inv cfg s) : Good cfg (s, []) :=
  ⟨h, fun o ho => by simp at ho⟩

theorem Good.start {cfg : OCfg} (hdb : DbContract) (evMax : Nat) (hsol : 10 ≤ cfg.sol) (hunsol : 4 ≤ cfg.unsol) :
    Good cfg (Outstation.start cfg evMax) := by
  obtain ⟨z, hz, _, e⟩ := start_steps cfg evMax
  rw [e]
  exact Good.star hdb hz (Good.of_inv (Inv.init cfg evMax hsol hunsol))

theorem Good.step {cfg : OCfg} (hdb : DbContract) (env : OEnv) {s : OState} (h : Inv cfg s) (inp : OInput) :
    Good cfg (Outstation.step env s inp) := by
  have h0 := Good.of_inv h
  have line : ∀ (l : String) (o : OOut), o ∈ [OOut.line l] → TxOk cfg o := fun l o ho =>
    List.mem_singleton.1 ho ▸ trivial
  rcases step_steps env s inp with ⟨f, _, e⟩ | e | ⟨pf, s0, o0, z, hi, hz, _, e⟩
  · rw [e]; exact h0
  · rw [e]; exact h0
  · rw [e]
    refine Good.star hdb hz ?_
    cases hi with
    | rx => exact h0
    | tick => exact h0
    | txn items =>
      have : Good cfg (Skel.txnFold s items) := by
        unfold Skel.txnFold
        apply foldl_inv (Good cfg) _ _ _ _ h0
        intro p it hp
        exact Good.emit (a := ({ p.1 with db := _ }, p.2)) hp trivial
      exact this
    | add => exact ⟨h, line _⟩
    | cut =>
      -- a disconnect: the new session starts from a state with nothing stored
      obtain ⟨h1, h2, h3, h4, h5, h6, _⟩ := h
      exact ⟨⟨h1, h2, h3, h4, h5, h6, fun _ hl => (by cases hl), fun _ _ _ _ hm => (by cases hm),
        fun _ hd => (by cases hd), fun _ _ _ hm => (by cases hm)⟩, line _⟩

theorem step_preserves_inv {cfg : OCfg} (hdb : DbContract) (env : OEnv) {s : OState} (h : Inv cfg s) (inp : OInput) :
    Inv cfg (Outstation.step env s inp).1 := (Good.step hdb env h inp).1

/-- **tx_shape**: stated for the property, and described, as `Props.C12.step_tx_shape` -/
theorem step_tx_shape {cfg : OCfg} (hdb : DbContract) (env : OEnv) {s : OState} (h : Inv cfg s) (inp : OInput)
    (dst : Nat) (b : List Nat) (hb : OOut.tx dst b ∈ (Outstation.step env s inp).2) : TxShape cfg dst b :=
  TxOk.shape (by have := h.2.1; omega) h.2.2.1 ((Good.step hdb env h inp).2 _ hb)

theorem step_tx_ok {cfg : OCfg} (hdb : DbContract) (env : OEnv) {s : OState} (h : Inv cfg s) (inp : OInput)
    (dst : Nat) (b : List Nat) (hb : OOut.tx dst b ∈ (Outstation.step env s inp).2) :
    ∃ r, Carries b r ∧ (SolResp cfg r ∨ (UnsolResp cfg r ∧ dst = cfg.master)) :=
  (Good.step hdb env h inp).2 _ hb

theorem start_inv {cfg : OCfg} (hdb : DbContract) (evMax : Nat) (hsol : 10 ≤ cfg.sol) (hunsol : 4 ≤ cfg.unsol) :
    Inv cfg (Outstation.start cfg evMax).1 := (Good.start hdb evMax hsol hunsol).1

theorem reachable_inv {cfg : OCfg} (hdb : DbContract) {evMax : Nat} {env : OEnv} (hsol : 10 ≤ cfg.sol)
    (hunsol : 4 ≤ cfg.unsol) {s : OState} (hr : Outstation.Reachable cfg evMax env s) : Inv cfg s := by
  induction hr with
  | start => exact start_inv hdb evMax hsol hunsol
  | step s i _ ih => exact step_preserves_inv hdb env ih i

theorem run_tx_shape {cfg : OCfg} (hdb : DbContract) (env : OEnv) : ∀ (inputs : List OInput) (s : OState), Inv cfg s →
    Inv cfg (Outstation.run env s inputs).1 ∧
    ∀ outs ∈ (Outstation.run env s inputs).2, ∀ dst b, OOut.tx dst b ∈ outs → TxShape cfg dst b
  | [], s, h => ⟨h, fun outs ho => by simp [Outstation.run] at ho⟩
  | i :: is, s, h => by
    have hs := step_preserves_inv hdb env h i
    have ih := run_tx_shape hdb env is _ hs
    unfold Outstation.run
    refine ⟨ih.1, fun outs ho dst b hb => ?_⟩
    simp only [List.mem_cons] at ho
    rcases ho with rfl | ho
    · exact step_tx_shape hdb env h i dst b hb
    · exact ih.2 outs ho dst b hb

/-- any configuration whose solicited / unsolicited buffers have at least 10 / 4 octets (the library enforces 249) -/
theorem trace_tx_shape {cfg : OCfg} (hdb : DbContract) (env : OEnv) (evMax : Nat) (hsol : 10 ≤ cfg.sol)
    (hunsol : 4 ≤ cfg.unsol) (inputs : List OInput) :
    ∀ outs ∈ (Outstation.start cfg evMax).2 :: (Outstation.run env (Outstation.start cfg evMax).1 inputs).2,
      ∀ dst b, OOut.tx dst b ∈ outs → TxShape cfg dst b := by
  intro outs ho dst b hb
  simp only [List.mem_cons] at ho
  rcases ho with rfl | ho
  · exact TxOk.shape (by omega) hunsol ((Good.start hdb evMax hsol hunsol).2 _ hb)
  · exact (run_tx_shape hdb env inputs _ (start_inv hdb evMax hsol hunsol)).2 outs ho dst b hb

def SentOne (outs outs' : List OOut) (dst : Nat) (r : Resp) : Prop :=
  ∃ rest, outs' = outs ++ [.tx dst (respHeader r ++ rest)]

theorem repeatSolicited_out (a : Acc) (dst : Nat) (r : Resp) : SentOne a.2 (repeatSolicited a dst r).2 dst r :=
  ⟨(a.1.solBuf.drop 4).take (max 4 r.size - 4), by rw [repeatSolicited_eq, hdr_take]⟩

theorem repeatUnsolicited_out (a : Acc) (r : Resp) :
    SentOne a.2 (repeatUnsolicited a r).2 a.1.cfg.master r :=
  ⟨(a.1.unsolBuf.drop 4).take (max 4 r.size - 4), by rw [repeatUnsolicited_eq, hdr_take]⟩

theorem writeSolicited_out {a a' : Acc} {dst : Nat} {r r' : Resp} (hw : writeSolicited a dst r = some (a', r')) :
    SentOne a.2 a'.2 dst r' ∧ r'.func = r.func ∧ r'.size = r.size ∧ r'.ctrl.seq = r.ctrl.seq ∧
      r'.ctrl.fir = r.ctrl.fir ∧ r'.ctrl.fin = r.ctrl.fin ∧ r'.ctrl.uns = r.ctrl.uns ∧
      ∀ m, HasBits r.iin2 m → HasBits r'.iin2 m := by
  obtain ⟨_, _, _, _, rfl, rfl⟩ := writeSolicited_eq hw
  exact ⟨repeatSolicited_out _ dst _, rfl, rfl, rfl, rfl, rfl, rfl, fun m hm => hm.or_left _⟩

theorem writeUnsolicited_out {a a' : Acc} {r r' : Resp} (hw : writeUnsolicited a r = some (a', r')) :
    ∃ s' i1 i2, getResponseIin a.1 = some (s', i1, i2) ∧ SentOne a.2 a'.2 s'.cfg.master r' ∧
      r'.func = r.func ∧ r'.ctrl = r.ctrl ∧ r'.size = r.size := by
  obtain ⟨c1, c2, c3, hu, rfl, rfl⟩ := writeUnsolicited_eq hw
  refine ⟨_, _, _, Iin.getResponseIin_eq a.1 c1 c2 c3 hu, ?_, rfl, rfl, rfl⟩
  rw [Iin.afterIin_eq]
  exact repeatUnsolicited_out ({ a.1 with lastBroadcast := _ }, a.2) _

def OkErr {α : Type} (x : Except Nat α) : Prop :=
  ∀ e, x = .error e → e = iin2NoFunc ∨ e = iin2ObjUnknown ∨ e = iin2ParamError

theorem OkErr.ok {α : Type} (a : α) : OkErr (Except.ok a : Except Nat α) := fun e h => by simp at h
theorem OkErr.const {α : Type} {e : Nat} (h : e = iin2NoFunc ∨ e = iin2ObjUnknown ∨ e = iin2ParamError) :
    OkErr (Except.error e : Except Nat α) :=
  fun _ he => Except.error.inj he ▸ h

theorem OkErr.of_eq {α : Type} {x y : Except Nat α} (hx : OkErr x) (h : x = y) : OkErr y := h ▸ hx

theorem parseObjects_okErr (isRead : Bool) (fuel : Nat) (d : List Nat) : OkErr (parseObjects isRead fuel d) := by
  -- every return is `.ok`, one of the three constants, or the error of the recursive call handed on
  fun_induction parseObjects isRead fuel d
  all_goals try simp -zeta +zetaDelta only
  all_goals splits
  all_goals first
    | exact OkErr.ok _ | exact OkErr.const (by decide)
    | exact (‹∀ rest', OkErr (parseObjects _ _ rest')› _).of_eq ‹_ = _›

/-- the echo of a stored response (`e = true`, D14 repaired) is `r` itself, verbatim -/
theorem idle_sends {a a' a1 : Acc} {f : Frag} {ctrl : AppCtrl} {func : Nat} {objects : Except Nat (List ObjHdr)}
    {raw : List Nat} {series : Option Series} {lr : LastReq} {e : Bool} {r : Resp}
    (hi : idleStage1 a f ctrl func objects raw = some (a1, some (lr, e))) (hr : lr.response = some r)
    (hh : handleRequestFromIdle a f ctrl func objects raw = some (a', series)) :
    ∃ r', SentOne a1.2 a'.2 f.src r' ∧ r'.func = r.func ∧ r'.ctrl.seq = r.ctrl.seq ∧ r'.ctrl.fir = r.ctrl.fir ∧
      r'.ctrl.fin = r.ctrl.fin ∧ r'.ctrl.uns = r.ctrl.uns ∧ (∀ m, HasBits r.iin2 m → HasBits r'.iin2 m) ∧
      a'.1.lastReq = some { lr with response := some r', series := series } ∧
      (e = true → r' = r ∧ series = lr.series) := by
  rw [handleRequestFromIdle_eq, hi] at hh
  cases Skel.idleStage2_cases hh with
  | silent _ _ h0 => rw [hr] at h0; cases h0
  | echo _ r0 h0 =>
    cases hr.symm.trans h0
    refine ⟨r, repeatSolicited_out a1 f.src r, rfl, rfl, rfl, rfl, rfl, fun m hm => hm, ?_, fun _ => ⟨rfl, rfl⟩⟩
    show some lr = some _
    cases lr
    simp only at hr
    subst hr
    rfl
  | fresh _ r0 a2 r2 h0 hw =>
    cases hr.symm.trans h0
    obtain ⟨hs, h1, _, h5, h6, h7, h8, h3⟩ := writeSolicited_out hw
    exact ⟨r2, hs, h1, h5, h6, h7, h8, h3, rfl, fun h => nomatch h⟩

theorem idle_silent {a a' a1 : Acc} {f : Frag} {ctrl : AppCtrl} {func : Nat} {objects : Except Nat (List ObjHdr)}
    {raw : List Nat} {series : Option Series} {olr : Option (LastReq × Bool)}
    (hi : idleStage1 a f ctrl func objects raw = some (a1, olr))
    (hr : ∀ lr e, olr = some (lr, e) → lr.response = none)
    (hh : handleRequestFromIdle a f ctrl func objects raw = some (a', series)) : a'.2 = a1.2 := by
  rw [handleRequestFromIdle_eq, hi] at hh
  cases Skel.idleStage2_cases hh with
  | nothing => rfl
  | silent => rfl
  | echo lr r h0 => rw [hr lr _ rfl] at h0; cases h0
  | fresh lr r _ _ h0 => rw [hr lr _ rfl] at h0; cases h0

theorem idleStage1_malformed {a : Acc} {f : Frag} {ctrl : AppCtrl} {func : Nat} {e : Nat} {raw : List Nat}
    (hf : func ≠ 0) (hb : f.broadcast = none) :
    idleStage1 a f ctrl func (.error e) raw =
      some (a, some (⟨ctrl.seq, f.data, some (emptySolicited ctrl.seq e), none⟩, false)) := by
  unfold idleStage1; rw [classify_malformed hf hb]

/-- the answer of `rejection_flagged_objects` is sent whenever the IIN can be computed (`unwritten_classes`
    does not underflow) -/
theorem rejection_flagged_objects_isSome {a : Acc} {f : Frag} {ctrl : AppCtrl} {func : Nat} {e : Nat}
    {raw : List Nat} {x : OState × Nat × Nat} (hf : func ≠ 0) (hb : f.broadcast = none)
    (hg : getResponseIin a.1 = some x) :
    ∃ y, handleRequestFromIdle a f ctrl func (.error e) raw = some y := by
  rw [handleRequestFromIdle_eq, idleStage1_malformed hf hb]; unfold idleStage2
  simp only [Bool.false_eq_true, if_false, writeSolicited_of_iin (s := x.1) (i1 := x.2.1) (i2 := x.2.2) hg]
  exact ⟨_, rfl⟩

theorem idleStage1_newNonRead {a a1 : Acc} {f : Frag} {ctrl : AppCtrl} {func : Nat} {objects : Except Nat (List ObjHdr)}
    {raw : List Nat} {hs : List ObjHdr} {ro : Option Resp} (hc : classify a.1 f ctrl func objects = .newNonRead hs)
    (hn : handleNonRead a func ctrl.seq f.id hs raw = some (a1, ro)) :
    idleStage1 a f ctrl func objects raw = some (a1, some (⟨ctrl.seq, f.data, ro, none⟩, false)) := by
  unfold idleStage1; rw [hc]; dsimp only; rw [hn]

/-- the stored record is handed on for the echo (`s1`: `select` may be refreshed) -/
theorem idleStage1_echo {a : Acc} {f : Frag} {ctrl : AppCtrl} {func : Nat} {objects : Except Nat (List ObjHdr)}
    {raw : List Nat} {last : Option Resp} (hc : classify a.1 f ctrl func objects = .repeatNonRead last) :
    ∃ s1, s1.lastReq = a.1.lastReq ∧ idleStage1 a f ctrl func objects raw =
      some ((s1, a.2), some (⟨ctrl.seq, f.data, last, s1.lastReq.bind (·.series)⟩, true)) := by
  unfold idleStage1; rw [hc]
  exact ⟨_, by splits <;> rfl, rfl⟩

theorem idle_newNonRead_sends {a a' a1 : Acc} {f : Frag} {ctrl : AppCtrl} {func : Nat}
    {objects : Except Nat (List ObjHdr)} {raw : List Nat} {series : Option Series} {hs : List ObjHdr} {r : Resp}
    (hc : classify a.1 f ctrl func objects = .newNonRead hs)
    (hn : handleNonRead a func ctrl.seq f.id hs raw = some (a1, some r))
    (hh : handleRequestFromIdle a f ctrl func objects raw = some (a', series)) :
    ∃ r', SentOne a1.2 a'.2 f.src r' ∧ r'.func = r.func ∧ r'.ctrl.seq = r.ctrl.seq ∧ r'.ctrl.fir = r.ctrl.fir ∧
      r'.ctrl.fin = r.ctrl.fin ∧ r'.ctrl.uns = r.ctrl.uns ∧ (∀ m, HasBits r.iin2 m → HasBits r'.iin2 m) := by
  obtain ⟨r', h0, h1, h2, h3, h4, h5, h6, _⟩ := idle_sends (idleStage1_newNonRead hc hn) rfl hh
  exact ⟨r', h0, h1, h2, h3, h4, h5, h6⟩

theorem idle_newNonRead_silent {a a' a1 : Acc} {f : Frag} {ctrl : AppCtrl} {func : Nat}
    {objects : Except Nat (List ObjHdr)} {raw : List Nat} {series : Option Series} {hs : List ObjHdr}
    (hc : classify a.1 f ctrl func objects = .newNonRead hs)
    (hn : handleNonRead a func ctrl.seq f.id hs raw = some (a1, none))
    (hh : handleRequestFromIdle a f ctrl func objects raw = some (a', series)) :
    a'.2 = a1.2 ∧ series = none := by
  rw [handleRequestFromIdle_eq, idleStage1_newNonRead hc hn] at hh
  cases Skel.idleStage2_cases hh with
  | silent => exact ⟨rfl, rfl⟩
  | fresh _ _ _ _ h0 => cases h0

/-- a fold that ORs what each element contributes (`g`, which may look at the state the elements before it left) into
    the component `acc`: every bit the element at any position contributes is set in the result -/
theorem foldl_or_bits {σ α : Type} (step : σ → α → σ) (acc : σ → Nat) (g : σ → α → Nat)
    (hstep : ∀ p x, acc (step p x) = acc p ||| g p x) (m : Nat) (pre : List α) (x : α) (post : List α) (p : σ)
    (h : HasBits (g (pre.foldl step p) x) m) : HasBits (acc ((pre ++ x :: post).foldl step p)) m := by
  rw [List.foldl_append, List.foldl_cons]
  refine foldl_inv (fun q => HasBits (acc q) m) step (fun q y hq => by rw [hstep]; exact hq.or_left _) post _ ?_
  rw [hstep]; exact h.or_right _

def freezeRej (h : ObjHdr) : Nat :=
  if h.group = 20 ∧ h.var = 0 ∧ h.qual = 0x06 then 0
  else if h.group = 20 ∧ h.var = 0 ∧ (h.qual = 0x00 ∨ h.qual = 0x01) then 0
  else iin2NoFunc

theorem handleFreezeHeader_iin (a : Acc) (k : FreezeKind) (h : ObjHdr) : (handleFreezeHeader a k h).2 = freezeRej h := by
  unfold handleFreezeHeader freezeRej
  splits <;> rfl

/-- (e1) FREEZE family: any rejected header sets NO_FUNC_CODE_SUPPORT in the response record -/
theorem rejection_flagged_freeze (a : Acc) (seq : Nat) (k : FreezeKind) (hs : List ObjHdr) (h : ObjHdr) (hm : h ∈ hs)
    (hrej : freezeRej h = iin2NoFunc) : HasBits (handleFreeze a seq k hs).2.iin2 iin2NoFunc := by
  obtain ⟨pre, post, rfl⟩ := List.append_of_mem hm
  exact foldl_or_bits (fun (p : Acc × Nat) h => ((handleFreezeHeader p.1 k h).1, p.2 ||| (handleFreezeHeader p.1 k h).2))
    (·.2) (fun _ h => freezeRej h) (fun p h => by rw [handleFreezeHeader_iin]) _ pre h post (a, 0)
    (by rw [hrej]; exact HasBits.self _)

/-- a g50v2 (time and interval) header with exactly one object: it arms FREEZE_AT_TIME -/
def isFreezeTiming (h : ObjHdr) : Bool := h.group = 50 ∧ h.var = 2 ∧ h.a = 1

/-- what one header of a FREEZE_AT_TIME request contributes to IIN2; `timing` = a valid g50v2 header came
    before it -/
def freezeAtRej (timing : Bool) (h : ObjHdr) : Nat :=
  if h.group = 50 ∧ h.var = 2 then (if h.a = 1 then 0 else iin2ParamError)
  else if timing then freezeRej h else iin2ParamError

theorem freezeAtTimeStep_snd (p : Acc × Nat × Bool) (h : ObjHdr) :
    (freezeAtTimeStep p h).2 = (p.2.1 ||| freezeAtRej p.2.2 h, p.2.2 || isFreezeTiming h) := by
  obtain ⟨a, i, t⟩ := p
  unfold freezeAtTimeStep freezeAtRej isFreezeTiming
  by_cases hg : h.group = 50 ∧ h.var = 2
  · by_cases ha : h.a = 1
    · simp [hg, ha]
    · simp [hg, ha]
  · cases t
    · have : ¬ (h.group = 50 ∧ h.var = 2 ∧ h.a = 1) := fun c => hg ⟨c.1, c.2.1⟩
      simp [hg, this]
    · simp [hg, handleFreezeHeader_iin]

theorem freezeAtTime_foldl_timing : ∀ (hs : List ObjHdr) (p : Acc × Nat × Bool),
    (hs.foldl freezeAtTimeStep p).2.2 = (p.2.2 || hs.any isFreezeTiming)
  | [], p => by simp
  | h :: hs, p => by
    rw [List.foldl_cons, freezeAtTime_foldl_timing hs, freezeAtTimeStep_snd]
    simp [Bool.or_assoc]

/-- (e1') FREEZE_AT_TIME: every IIN2 bit of the verdict `freezeAtRej` of a header at any position is set in the
    response record -/
theorem rejection_flagged_freeze_at_time (a : Acc) (seq : Nat) (pre : List ObjHdr) (h : ObjHdr) (post : List ObjHdr)
    (m : Nat) (hrej : HasBits (freezeAtRej (pre.any isFreezeTiming) h) m) :
    HasBits (handleFreezeAtTime a seq (pre ++ h :: post)).2.iin2 m := by
  rw [handleFreezeAtTime_eq]
  exact foldl_or_bits freezeAtTimeStep (·.2.1) (fun p h => freezeAtRej p.2.2 h)
    (fun p h => congrArg Prod.fst (freezeAtTimeStep_snd p h)) m pre h post (a, 0, false)
    (by rw [freezeAtTime_foldl_timing]; exact hrej)

-- hypotheses of `rejection_flagged_freeze_at_time`: a counter header with no g50v2 before it, a g50v2 with
-- count 2, and an analog header after a valid g50v2
example : freezeAtRej (([] : List ObjHdr).any isFreezeTiming) ⟨20, 0, 6, 0, 0, []⟩ = iin2ParamError := by decide
example : freezeAtRej (([] : List ObjHdr).any isFreezeTiming) ⟨50, 2, 7, 2, 0, []⟩ = iin2ParamError := by decide
example : freezeAtRej ([(⟨50, 2, 7, 1, 0, []⟩ : ObjHdr)].any isFreezeTiming) ⟨30, 0, 6, 0, 0, []⟩ = iin2NoFunc := by decide
-- an accepted request (g50v2 count 1, then all counters) adds no IIN2 bit
example (a : Acc) : (handleFreezeAtTime a 3 [⟨50, 2, 7, 1, 0, []⟩, ⟨20, 0, 6, 0, 0, []⟩]).2.iin2 = 0 := by
  simp [handleFreezeAtTime, handleFreezeHeader, emptySolicited]

def enableRej (h : ObjHdr) : Nat :=
  if h.group = 60 ∧ h.qual = 0x06 ∧ (h.var = 2 ∨ h.var = 3 ∨ h.var = 4) then 0 else iin2NoFunc

/-- (e2) ENABLE/DISABLE UNSOLICITED: any rejected header (or unsolicited not configured) sets
    NO_FUNC_CODE_SUPPORT -/
theorem rejection_flagged_enable (a : Acc) (en : Bool) (seq : Nat) (hs : List ObjHdr)
    (hrej : a.1.cfg.unsolicited = false ∨ ∃ h ∈ hs, enableRej h = iin2NoFunc) :
    HasBits (handleEnableDisable a en seq hs).2.iin2 iin2NoFunc := by
  unfold handleEnableDisable
  cases hu : a.1.cfg.unsolicited with
  | false => exact HasBits.self _
  | true =>
    obtain ⟨h, hm, hr⟩ := hrej.resolve_left (by simp [hu])
    obtain ⟨pre, post, rfl⟩ := List.append_of_mem hm
    simp only [Bool.not_true, Bool.false_eq_true, if_false]
    refine foldl_or_bits _ (·.2) (fun _ h => enableRej h) (fun p h => ?_) _ pre h post (a.1, 0)
      (by rw [hr]; exact HasBits.self _)
    unfold enableRej
    by_cases hg : h.group = 60 ∧ h.qual = 0x06
    · by_cases h2 : h.var = 2
      · simp [hg, h2]
      · by_cases h3 : h.var = 3
        · simp [hg, h3]
        · by_cases h4 : h.var = 4 <;> simp [hg, h2, h3, h4]
    · have : ∀ v, ¬ (h.group = 60 ∧ h.qual = 0x06 ∧ v) := fun v c => hg ⟨c.1, c.2.1⟩
      simp [this]

def selectIins (db : Db) : List ObjHdr → List Nat
  | [] => []
  | h :: hs => (db.select (toReadHdr h)).2 :: selectIins (db.select (toReadHdr h)).1 hs

theorem dbSelectAll_bits (m : Nat) (hs : List ObjHdr) : ∀ (db : Db) (i : Nat), i ∈ selectIins db hs → HasBits i m →
    HasBits (dbSelectAll db hs).2 m := by
  induction hs with
  | nil => intro db i hi; cases hi
  | cons h hs ih =>
    intro db i hi hm
    rcases List.mem_cons.1 hi with rfl | hi
    · exact hm.or_left _
    · exact (ih _ i hi hm).or_right _

/-- (e3) READ: every IIN2 bit any header's `select` reports is in the READ response's IIN2 -/
theorem rejection_flagged_read {a a' : Acc} {f : Frag} {ctrl : AppCtrl} {func : Nat}
    {objects : Except Nat (List ObjHdr)} {raw : List Nat} {series : Option Series} {hs : List ObjHdr}
    (hc : classify a.1 f ctrl func objects = .newRead hs ∨ ∃ r0, classify a.1 f ctrl func objects = .repeatRead r0 hs)
    (hh : handleRequestFromIdle a f ctrl func objects raw = some (a', series)) :
    ∃ r, SentOne a.2 a'.2 f.src r ∧ r.func = 0x81 ∧ r.ctrl.seq = ctrl.seq ∧ r.ctrl.fir = true ∧ r.ctrl.uns = false ∧
      ∀ i ∈ selectIins a.1.db hs, ∀ m, HasBits i m → HasBits r.iin2 m := by
  have hi : ∀ fr, fr = formatReadResponse { a.1 with db := (dbSelectAll a.1.db hs).1 } true ctrl.seq (dbSelectAll a.1.db hs).2 →
      idleStage1 a f ctrl func objects raw = some ((fr.1, a.2), some (⟨ctrl.seq, f.data, some fr.2.1, fr.2.2⟩, false)) := by
    intro fr hfr
    subst hfr
    unfold idleStage1
    rcases hc with hc | ⟨r0, hc⟩ <;> rw [hc]
  obtain ⟨r', h0, h1, h2, h3, _, h5, h6, _⟩ := idle_sends (hi _ rfl) rfl hh
  refine ⟨r', h0, h1, h2, h3, h5, fun i hi m hm => h6 m ?_⟩
  exact dbSelectAll_bits m hs a.1.db i hi hm

def writeStep (p : Acc × Nat) (h : ObjHdr) : Acc × Nat :=
  ((handleWriteHeader p.1 h).1, p.2 ||| (handleWriteHeader p.1 h).2)

theorem handleWrite_fold (a : Acc) (seq : Nat) (hs : List ObjHdr) :
    handleWrite a seq hs = ((hs.foldl writeStep (a, 0)).1, emptySolicited seq (hs.foldl writeStep (a, 0)).2) := rfl

/-- stated for the property, and described, as `Props.C12.write_accumulates` -/
theorem write_accumulates (a : Acc) (seq : Nat) (pre : List ObjHdr) (h : ObjHdr) :
    (handleWrite a seq (pre ++ [h])).2.iin2 =
      (handleWrite a seq pre).2.iin2 ||| (handleWriteHeader (handleWrite a seq pre).1 h).2 := by
  simp only [handleWrite_fold, List.foldl_append, List.foldl_cons, List.foldl_nil]
  rfl

theorem write_no_header (a : Acc) (seq : Nat) : (handleWrite a seq []).2.iin2 = 0 := rfl

/-- **write_rejection_flagged**: stated for the property, and described, as `Props.C12.write_rejection_flagged` -/
theorem write_rejection_flagged (a : Acc) (seq : Nat) (pre : List ObjHdr) (h : ObjHdr) (post : List ObjHdr)
    (m : Nat) (hrej : HasBits (handleWriteHeader (handleWrite a seq pre).1 h).2 m) :
    HasBits (handleWrite a seq (pre ++ h :: post)).2.iin2 m := by
  simp only [handleWrite_fold] at hrej ⊢
  exact foldl_or_bits writeStep (·.2) (fun p h => (handleWriteHeader p.1 h).2) (fun _ _ => rfl) m pre h post _ hrej

theorem write_single_header (a : Acc) (seq : Nat) (h : ObjHdr) :
    (handleWrite a seq [h]).2.iin2 = (handleWriteHeader a h).2 := by
  have := write_accumulates a seq [] h
  rw [write_no_header, Nat.zero_or] at this
  exact this

theorem handleWriteHeader_unsupported (a : Acc) (h : ObjHdr)
    (h1 : ¬ (h.group = 80 ∧ h.var = 1 ∧ h.qual = 0x00)) (h2 : ¬ (h.group = 50 ∧ h.var = 1 ∧ h.qual = 0x07))
    (h3 : ¬ (h.group = 50 ∧ h.var = 3 ∧ h.qual = 0x07)) : (handleWriteHeader a h).2 = iin2NoFunc := by
  unfold handleWriteHeader; simp [h1, h2, h3]

theorem handleWrite_resp (a : Acc) (seq : Nat) (hs : List ObjHdr) :
    (handleWrite a seq hs).2 = emptySolicited seq (handleWrite a seq hs).2.iin2 := rfl

/-- the former D7 witness `c1 02 | 50 01 00 04 04 00 | 50 01 00 07 07 00`: first header rejected,
    second accepted -/
def d7Fragment : List Nat := [0xC1, 0x02, 0x50, 0x01, 0x00, 0x04, 0x04, 0x00, 0x50, 0x01, 0x00, 0x07, 0x07, 0x00]

def d7Hdr1 : ObjHdr := ⟨80, 1, 0, 4, 4, [0]⟩
def d7Hdr2 : ObjHdr := ⟨80, 1, 0, 7, 7, [0]⟩

theorem d7Fragment_parses :
    parseRequest d7Fragment = .request ⟨true, true, false, false, 1⟩ 2 (.ok [d7Hdr1, d7Hdr2]) (d7Fragment.drop 2) := by
  rfl

theorem d7Hdr1_rejected (a : Acc) : (handleWriteHeader a d7Hdr1).2 = iin2ParamError := by
  simp [handleWriteHeader, d7Hdr1, handleWriteIin, bitAt, iin2ParamError, List.range, List.range.loop]

theorem d7Hdr2_accepted (a : Acc) : (handleWriteHeader a d7Hdr2).2 = 0 := by
  simp [handleWriteHeader, d7Hdr2, handleWriteIin, bitAt, List.range, List.range.loop]

def Correlated (dst : Nat) (ctrl : AppCtrl) (func : Nat) : OOut → Prop
  | .tx d b => d = dst ∧ ∃ r rest, b = respHeader r ++ rest ∧ r.func = 0x81 ∧ r.ctrl.uns = false ∧
      r.ctrl.seq = ctrl.seq ∧ r.ctrl.fir = true ∧ (func ≠ 1 → r.ctrl.fin = true)
  | _ => True

theorem Correlated.octets {dst : Nat} {ctrl : AppCtrl} {func d : Nat} {b : List Nat} (hseq : ctrl.seq < 16)
    (h : Correlated dst ctrl func (.tx d b)) :
    d = dst ∧ b.getD 1 0 = 0x81 ∧ (AppCtrl.ofNat (b.getD 0 0)).seq = ctrl.seq ∧
      (AppCtrl.ofNat (b.getD 0 0)).fir = true ∧ (AppCtrl.ofNat (b.getD 0 0)).uns = false ∧
      (func ≠ 1 → (AppCtrl.ofNat (b.getD 0 0)).fin = true) := by
  obtain ⟨hd, r, rest, rfl, h1, h2, h3, h4, h5⟩ := h
  have : AppCtrl.ofNat ((respHeader r ++ rest).getD 0 0) = r.ctrl := by
    simp only [respHeader, List.cons_append, List.getD_cons_zero]
    exact ofNat_toNat' r.ctrl (h3 ▸ hseq)
  rw [this]
  exact ⟨hd, by simp [respHeader, h1], h3, h4, h2, h5⟩

/-- CONFIRM (function 0) in the idle state: no output, no state change (the sequence number is not even recorded) -/
theorem silent_confirm_idle (a : Acc) (f : Frag) (ctrl : AppCtrl) (objects : Except Nat (List ObjHdr)) (raw : List Nat) :
    handleRequestFromIdle a f ctrl 0 objects raw = some (a, none) :=
  handleRequestFromIdle_confirm a f ctrl objects raw

/-- the session stores the very record it sent (`r'`) for retries -/
theorem startUnsolSeries_out {a a' : Acc} {r : Resp} {isNull : Bool} (hs : startUnsolSeries a r isNull = some a') :
    ∃ r' rest retries, a'.2 = a.2 ++ [.tx a.1.cfg.master (respHeader r' ++ rest), .cb (.unsolWait r.ctrl.seq)] ∧
      r'.ctrl = r.ctrl ∧ r'.func = r.func ∧ r'.size = r.size ∧ a'.1.unsolSeq = a.1.unsolSeq ∧
      a'.1.mode = .unsolWait r' isNull retries (a.1.now + a.1.cfg.ctimeout) := by
  obtain ⟨c1, c2, c3, r', _, hr, rfl⟩ := startUnsolSeries_eq a r isNull a' hs
  refine ⟨r', ((Iin.afterIin a.1).unsolBuf.drop 4).take (max 4 r'.size - 4),
    if isNull then some 0 else a.1.cfg.retries, ?_, by rw [hr], by rw [hr], by rw [hr], ?_, rfl⟩
  · dsimp only; rw [hdr_take]
  · show (Iin.afterIin a.1).unsolSeq = _
    rw [Iin.afterIin_eq]

/-- the control run an OPERATE performs: `respond_with_status` when the select check fails,
    otherwise `operate_with_response` -/
def operateRun (a : Acc) (seq frameId : Nat) (hs : List ObjHdr) (raw : List Nat) : CtlRun :=
  match (match a.1.select with
      | none => some 2
      | some sel => matchOperate sel a.1.cfg.stimeout a.1.now seq frameId raw) with
  | some st => ctlAll none st none hs { acc := a, cap := a.1.cfg.sol - 4 }
  | none => ctlAll (some .sbo) 0 a.1.cfg.maxctl hs { acc := a, cap := a.1.cfg.sol - 4 }

/-- **D1 repaired**: stated for the property, and described, as `Props.C12.operate_echo_overflow_clean` -/
theorem operate_echo_overflow_clean (a : Acc) (seq frameId : Nat) (hs : List ObjHdr) (raw : List Nat)
    (hall : hs.all isControlHdr = true)
    (hov : (operateRun a seq frameId hs raw).overflow = true) :
    ∃ a' r, handleControls a 4 seq frameId hs raw = some (a', some r) ∧ r.iin2 = 0 ∧ r.ctrl.seq = seq ∧
      r.size = 4 + (operateRun a seq frameId hs raw).out.length ∧
      a'.1.select = (ctlFinish (operateRun a seq frameId hs raw)).acc.1.select := by
  unfold handleControls
  unfold operateRun at hov ⊢
  simp only [hall, Bool.not_true, Bool.false_eq_true, if_false, show (4 : Nat) ≠ 3 by decide, if_true]
  cases hsel : a.1.select with
  | none =>
    simp only [hsel] at hov
    simp only [hov, Bool.not_true, Bool.false_eq_true, false_and, if_false, ctlFinish_out]
    exact ⟨_, _, rfl, rfl, rfl, rfl, rfl⟩
  | some sel =>
    simp only [hsel] at hov
    cases hm : matchOperate sel a.1.cfg.stimeout a.1.now seq frameId raw with
    | some st =>
      simp only [hm] at hov
      simp only [hm, hov, Bool.not_true, Bool.false_eq_true, false_and, if_false, ctlFinish_out]
      exact ⟨_, _, rfl, rfl, rfl, rfl, rfl⟩
    | none =>
      simp only [hm] at hov
      simp only [hm, hov, Bool.not_true, Bool.false_eq_true, false_and, if_false, ctlFinish_out]
      exact ⟨_, _, rfl, rfl, rfl, rfl, rfl⟩

/-- **D13**: stated for the property, and described, as `Props.C12.select_echo_overflow_clean` -/
theorem select_echo_overflow_clean (a : Acc) (func seq frameId : Nat) (hs : List ObjHdr) (raw : List Nat)
    (hf : func = 3 ∨ func = 5) (hall : hs.all isControlHdr = true)
    (hov : (ctlAll (some (if func = 3 then CtlKind.select else CtlKind.dop)) 0 a.1.cfg.maxctl hs
              { acc := a, cap := a.1.cfg.sol - 4 }).overflow = true) :
    ∃ a' r, handleControls a func seq frameId hs raw = some (a', some r) ∧ r.iin2 = 0 ∧ r.ctrl.seq = seq ∧
      r.size = 4 + (ctlAll (some (if func = 3 then CtlKind.select else CtlKind.dop)) 0 a.1.cfg.maxctl hs
              { acc := a, cap := a.1.cfg.sol - 4 }).out.length ∧
      (func = 3 → a'.1.select = (ctlFinish (ctlAll (some CtlKind.select) 0 a.1.cfg.maxctl hs
              { acc := a, cap := a.1.cfg.sol - 4 })).acc.1.select) := by
  unfold handleControls
  rcases hf with rfl | rfl
  · simp only [if_true] at hov
    simp only [hall, Bool.not_true, Bool.false_eq_true, if_false, if_true, ctlFinish_overflow, hov,
      Bool.not_true, false_and, ctlFinish_out]
    exact ⟨_, _, rfl, rfl, rfl, rfl, fun _ => rfl⟩
  · simp only [show (5 : Nat) ≠ 3 by decide, if_false] at hov
    simp only [hall, Bool.not_true, Bool.false_eq_true, if_false, show (5 : Nat) ≠ 3 by decide,
      show (5 : Nat) ≠ 4 by decide, if_true, hov, false_and, ctlFinish_out]
    exact ⟨_, _, rfl, rfl, rfl, rfl, fun h => absurd h (by decide)⟩

/-- 62 analog output commands g41v2 (qualifier 0x17, indices 0…61, value 0, status 0) -/
def d1Header : ObjHdr := ⟨41, 2, 0x17, 62, 0, (List.range 62).flatMap fun i => [i, 0, 0, 0]⟩

/-- **D13 counterexample**: the same request as DIRECT_OPERATE is answered with a truncated echo of
    60 of the 62 objects (4 + 4 + 60·4 = 248 octets; the 61st does not fit 249) and IIN2 = 0 -/
theorem direct_operate_echo_truncated_d1 :
    (handleControls (OState.init { sol := 249 } 0, []) 5 1 0 [d1Header] []).map
        (fun p => p.2.map (fun r => (r.iin2, r.size))) = some (some (0, 248)) := by
  decide +kernel

/-- the same request as OPERATE with no SELECT before it (the former D1 witness): the NO_SELECT echo overflows after
    60 of the 62 objects (4 + 60·4 = 244 octets).  Evaluated; involves no database function -/
theorem d1_operateRun :
    ((operateRun (OState.init { sol := 249 } 0, []) 1 0 [d1Header] []).overflow,
     (operateRun (OState.init { sol := 249 } 0, []) 1 0 [d1Header] []).out.length) = (true, 244) := by
  decide +kernel

/-- the next fragment of a solicited series, as `sol_confirm_wait` writes it after a matching CONFIRM -/
def solContinuation (a : Acc) (f : Frag) (series : Series) (cont : SolCont) : StepRes :=
  let a1 := clearWrittenEvents
    ({ onLinkActivity a.1 with pending := none, lastBroadcast := none }, a.2 ++ [.cb (.solConfirmed series.ecsn)])
  let fr := formatReadResponse a1.1 false (seq4Next series.ecsn) 0
  match writeSolicited (fr.1, a1.2) f.src fr.2.1 with
  | none => die a1
  | some (a2, r2) =>
    -- the fragment just sent becomes the stored response of the READ (D5 repaired)
    let a2 : Acc := ({ a2.1 with lastReq := a2.1.lastReq.map (fun lr => { lr with response := some r2 }) }, a2.2)
    match fr.2.2 with
    | none => resumeAfterSol a2 cont
    | some sr => .blocked ({ a2.1 with mode := .solWait sr (a2.1.now + a2.1.cfg.ctimeout) cont }, a2.2)

theorem solWait_confirm_continues (a : Acc) (series : Series) (dl : Nat) (cont : SolCont) (f : Frag) (ctrl : AppCtrl)
    (objects : Except Nat (List ObjHdr)) (raw : List Nat)
    (hp : a.1.pending = some f) (hreq : parseRequest f.data = .request ctrl 0 objects raw)
    (hm : a.1.cfg.anymaster = true ∨ f.src = a.1.cfg.master) (hu : ctrl.uns = false)
    (hs : ctrl.seq = series.ecsn) (hfin : series.fin = false) :
    solWaitOnFragment a series dl cont = solContinuation a f series cont := by
  obtain ⟨y, ⟨s, p, hpop, hy⟩, e⟩ := Skel.solWaitOnFragment_cases a series dl cont
  rw [Skel.popRequest_eq_request hp hreq hm] at hpop
  cases hpop
  rw [e]
  unfold solContinuation
  cases hy with
  | newRequest h0 => exact absurd rfl h0
  | unsolConfirm hu' => exact nomatch hu.symm.trans hu'
  | wrongSeq _ hne => exact absurd hs hne
  | confirmed _ _ hcc =>
    cases hcc with
    | done h => exact nomatch hfin.symm.trans h
    | die s6 r6 next _ hfr hw | next s6 r6 sr' a7 r7 _ hfr hw => simp only [hfr, hw]; rfl
    | last s6 r6 a7 r7 _ hfr hw => simp only [hfr, hw]; exact Skel.run_resumePt _ _

/-- D5 repaired: after a continuation fragment is sent, the stored response of the last request IS that
    fragment's response record (so a repeated READ echoes the fragment that awaits the confirm) -/
theorem solContinuation_stores {a : Acc} {f : Frag} {series : Series} {cont : SolCont} {a1 a2 : Acc}
    {fr : OState × Resp × Option Series} {r2 : Resp}
    (ha1 : a1 = clearWrittenEvents
      ({ onLinkActivity a.1 with pending := none, lastBroadcast := none }, a.2 ++ [.cb (.solConfirmed series.ecsn)]))
    (hfr : fr = formatReadResponse a1.1 false (seq4Next series.ecsn) 0)
    (hw : writeSolicited (fr.1, a1.2) f.src fr.2.1 = some (a2, r2)) :
    a2.2 = a1.2 ++ [.tx f.src (a2.1.solBuf.take (max 4 r2.size))] ∧
    a2.1.solBuf = writeAt fr.1.solBuf 0 (respHeader r2) ∧
    a2.1.lastReq = a.1.lastReq ∧
    solContinuation a f series cont =
      (let a3 : Acc := ({ a2.1 with lastReq := a.1.lastReq.map (fun lr => { lr with response := some r2 }) }, a2.2)
       match fr.2.2 with
       | none => resumeAfterSol a3 cont
       | some sr => .blocked ({ a3.1 with mode := .solWait sr (a3.1.now + a3.1.cfg.ctimeout) cont }, a3.2)) ∧
    -- in particular, when more fragments follow, the wait for the next CONFIRM is entered in that state
    ∀ sr, fr.2.2 = some sr → ∃ a', solContinuation a f series cont = .blocked a' ∧
      a'.1.mode = .solWait sr (a2.1.now + a2.1.cfg.ctimeout) cont ∧
      a'.1.lastReq = a.1.lastReq.map (fun lr => { lr with response := some r2 }) ∧
      a'.1.solBuf = a2.1.solBuf ∧ a'.2 = a2.2 := by
  subst ha1; subst hfr
  have hl : a2.1.lastReq = a.1.lastReq := by
    rw [((writeSolicited_eff hw).get .lastReq : _ = _), formatReadResponse_eq]
    exact (clearWrittenEvents_eff _).get .lastReq
  have hc : solContinuation a f series cont =
      (let a3 : Acc := ({ a2.1 with lastReq := a.1.lastReq.map (fun lr => { lr with response := some r2 }) }, a2.2)
       match (formatReadResponse (clearWrittenEvents
          ({ onLinkActivity a.1 with pending := none, lastBroadcast := none },
            a.2 ++ [.cb (.solConfirmed series.ecsn)])).1 false (seq4Next series.ecsn) 0).2.2 with
       | none => resumeAfterSol a3 cont
       | some sr => .blocked ({ a3.1 with mode := .solWait sr (a3.1.now + a3.1.cfg.ctimeout) cont }, a3.2)) := by
    unfold solContinuation
    dsimp only
    rw [hw]
    dsimp only
    rw [hl]
  obtain ⟨_, _, _, _, _, ha2⟩ := writeSolicited_eq hw
  rw [Iin.afterIin_eq] at ha2
  refine ⟨by rw [ha2]; rfl, by rw [ha2]; rfl, hl, hc, fun sr hsr => ?_⟩
  rw [hc]
  dsimp only
  rw [hsr]
  exact ⟨_, rfl, rfl, rfl, rfl, rfl⟩

/-- re-writing the header a buffer already starts with changes nothing: the echo `repeat_solicited` sends for
    the record stored by `solContinuation_stores` is, octet for octet, the continuation fragment -/
theorem repeatSolicited_verbatim (a : Acc) (dst : Nat) (r : Resp) {buf0 : List Nat}
    (hb : a.1.solBuf = writeAt buf0 0 (respHeader r)) :
    (repeatSolicited a dst r).2 = a.2 ++ [.tx dst (a.1.solBuf.take (max 4 r.size))] ∧
    (repeatSolicited a dst r).1.solBuf = a.1.solBuf := by
  rw [repeatSolicited_eq, hb, writeAt_zero_idem]
  exact ⟨rfl, rfl⟩

theorem solWait_confirm_wrong_seq (a : Acc) (series : Series) (dl : Nat) (cont : SolCont) (f : Frag) (ctrl : AppCtrl)
    (objects : Except Nat (List ObjHdr)) (raw : List Nat)
    (hp : a.1.pending = some f) (hreq : parseRequest f.data = .request ctrl 0 objects raw)
    (hm : a.1.cfg.anymaster = true ∨ f.src = a.1.cfg.master) (hs : ctrl.uns = true ∨ ctrl.seq ≠ series.ecsn) :
    ∃ c, solWaitOnFragment a series dl cont =
      .blocked ({ onLinkActivity a.1 with pending := none }, a.2 ++ [.cb c]) := by
  obtain ⟨y, ⟨s, p, hpop, hy⟩, e⟩ := Skel.solWaitOnFragment_cases a series dl cont
  rw [Skel.popRequest_eq_request hp hreq hm] at hpop
  cases hpop
  rw [e]
  cases hy with
  | newRequest h0 => exact absurd rfl h0
  | unsolConfirm | wrongSeq => exact ⟨_, rfl⟩
  | confirmed hu hseq => exact (hs.elim (fun h => nomatch hu.symm.trans h) (· hseq)).elim

/-- **continuation fragments are correlated**: stated for the property, and described, as `Props.C12.continuation_correlated` -/
theorem continuation_correlated {s : OState} {out : List OOut} {ecsn dst : Nat} {a2 : Acc} {r2 : Resp}
    (hw : writeSolicited ((formatReadResponse s false (seq4Next ecsn) 0).1, out) dst
            (formatReadResponse s false (seq4Next ecsn) 0).2.1 = some (a2, r2)) :
    SentOne out a2.2 dst r2 ∧ r2.func = 0x81 ∧ r2.ctrl.seq = seq4Next ecsn ∧ r2.ctrl.fir = false ∧
      r2.ctrl.uns = false := by
  obtain ⟨hs, h1, _, h5, h6, _, h8, _⟩ := writeSolicited_out hw
  exact ⟨hs, h1, h5, h6, h8⟩

/-- applies wherever `handle_non_read` + `write_solicited` are composed (idle path, unsolicited confirm wait) -/
theorem nonread_response_correlated {cfg : OCfg} {a a1 a2 : Acc} (h : Good cfg a) {func seq frameId dst : Nat}
    (hseq : seq < 16) {hs : List ObjHdr} {raw : List Nat} {r r2 : Resp}
    (hn : handleNonRead a func seq frameId hs raw = some (a1, some r))
    (hw : writeSolicited a1 dst r = some (a2, r2)) :
    CbOnly a.2 a1 ∧ SentOne a1.2 a2.2 dst r2 ∧ r2.func = 0x81 ∧ r2.ctrl.seq = seq ∧ r2.ctrl.fir = true ∧
      r2.ctrl.fin = true ∧ r2.ctrl.uns = false ∧ ∀ m, HasBits r.iin2 m → HasBits r2.iin2 m := by
  obtain ⟨⟨p1, p2, _, _⟩, q2, q3, q4⟩ := (h.handleNonRead hseq hn).2 r rfl
  obtain ⟨hs', h1, _, h5, h6, h7, h8, h3⟩ := writeSolicited_out hw
  exact ⟨CbOnly.handleNonRead (CbOnly.refl a) hn, hs', h1.trans p1, h5.trans q2, h6.trans q3, h7.trans q4,
    h8.trans p2, h3⟩

theorem unsolWait_malformed_answered (a : Acc) (resp : Resp) (isNull : Bool) (f : Frag) (ctrl : AppCtrl)
    (func e : Nat) (raw : List Nat) (hp : a.1.pending = some f)
    (hreq : parseRequest f.data = .request ctrl func (.error e) raw)
    (hm : a.1.cfg.anymaster = true ∨ f.src = a.1.cfg.master) (hf : func ≠ 0) (hb : f.broadcast = none) :
    unsolWaitOnFragment a resp isNull =
      match writeSolicited ({ onLinkActivity { a.1 with pending := none } with deferred := none }, a.2) f.src
              (emptySolicited ctrl.seq e) with
      | none => die (onLinkActivity { a.1 with pending := none }, a.2)
      | some (a', _) => .blocked a' := by
  unfold unsolWaitOnFragment
  rw [Skel.popRequest_eq_request hp hreq hm]
  simp only [classify_malformed hf hb]
  rfl

/-! ## Concrete instances of the hypotheses

Everything below this line EVALUATES the database model (`Db.*`); it is here to show that the hypotheses of the
theorems above (and of their statements in `Dnp3.Props.C12`) are satisfiable by non-trivial states. -/

def cfgU : OCfg := { unsolicited := true, sol := 249, unsol := 249 }
def master1 : Frag := ⟨0, 1, none, [0xC1, 1, 60, 1, 6]⟩

-- the state after construction with unsolicited responses enabled is inside a NULL-unsolicited confirm wait
-- (it satisfies `Inv`: `Dnp3.Proofs.OutstationC12Db`)
example : (Outstation.start cfgU 0).2.length = 2 := by decide +kernel
example : txFrags (Outstation.start cfgU 0).2 = [(1, [0xF0, 0x82, 0x80, 0x00])] := by decide +kernel

-- `step_tx_shape` instance: class-0 READ answered from idle
example : txFrags (Outstation.step {} (Outstation.start {} 0).1 (.rx 1 1024 [0xC1, 1, 60, 1, 6])).2 =
    [(1, [0xC1, 0x81, 0x80, 0x00])] := by decide +kernel

-- `rejection_flagged_header` hypothesis
example : (getResponseIin (OState.init {} 0)).isSome = true := by decide +kernel

-- `popRequest_headerError` hypotheses (D6 repaired): function code 0x70 is unknown — a header error; from the
-- configured master (1), unicast, it is answered with IIN2.0 …
example : parseRequest [0xC1, 0x70] = .headerError 1 := by rfl
example : (OState.init {} 0).cfg.anymaster = true ∨ (⟨0, 1, none, [0xC1, 0x70]⟩ : Frag).src = (OState.init {} 0).cfg.master :=
  Or.inr rfl
example : txFrags (Outstation.step {} (Outstation.start {} 0).1 (.rx 1 1024 [0xC1, 0x70])).2 =
    [(1, [0xC1, 0x81, 0x80, 0x01])] := by decide +kernel
-- … `popRequest_foreign` hypotheses: from another master (2) it is dropped; `rejection_header_broadcast_silent`: sent
-- to the broadcast address 0xFFFF it is not answered either
example : (OState.init {} 0).cfg.anymaster = false ∧ (⟨0, 2, none, [0xC1, 0x70]⟩ : Frag).src ≠ (OState.init {} 0).cfg.master := by
  decide
example : txFrags (Outstation.step {} (Outstation.start {} 0).1 (.rx 2 1024 [0xC1, 0x70])).2 = [] := by decide +kernel
example : txFrags (Outstation.step {} (Outstation.start {} 0).1 (.rx 1 0xFFFF [0xC1, 0x70])).2 = [] := by decide +kernel

-- `idle_repeat_echo_verbatim` hypothesis (D14 repaired).  `d14State`: ASSIGN_CLASS (22, not implemented) seq 1 was
-- answered with IIN1 = 0x80, IIN2 = 0x01; then a class-1 event was recorded (IIN1.1 would now be set)
def d14State : OState :=
  (Outstation.run {} (Outstation.start {} 10).1
    [.rx 1 1024 [0xC1, 22], .add .binary 0 1, .txn [TxnItem.bin 0 true 1 5]]).1
example : (match classify d14State ⟨d14State.frameId, 1, none, [0xC1, 22]⟩ ⟨true, true, false, false, 1⟩ 22 (.ok []) with
    | .repeatNonRead (some r) => some (r.iin1, r.iin2)
    | _ => none) = some (0x80, 0x01) := by decide +kernel
-- the repeat is answered with the stored octets (IIN1 = 0x80), a new request (seq 2) with the current IIN1 = 0x82
example : txFrags (Outstation.step {} d14State (.rx 1 1024 [0xC1, 22])).2 = [(1, [0xC1, 0x81, 0x80, 0x01])] := by
  decide +kernel
example : txFrags (Outstation.step {} d14State (.rx 1 1024 [0xC2, 22])).2 = [(1, [0xC2, 0x81, 0x82, 0x01])] := by
  decide +kernel

-- `parseObjects_error` instances: unknown object, truncated header, qualifier not valid for the variation
example : parseObjects false 2 [99, 1] = .error iin2ObjUnknown := by rfl
example : parseObjects false 3 [1, 2, 0] = .error iin2ParamError := by rfl
example : parseObjects false 3 [12, 1, 6] = .error iin2NoFunc := by rfl

-- `rejection_flagged_objects`: WRITE with an unknown object from the master, idle
example : (handleRequestFromIdle (OState.init {} 0, []) ⟨0, 1, none, [0xC1, 2, 99, 1, 6]⟩
    ⟨true, true, false, false, 1⟩ 2 (.error iin2ObjUnknown) [99, 1, 6]).isSome = true := by decide +kernel
example : txFrags (Outstation.step {} (Outstation.start {} 0).1 (.rx 1 1024 [0xC1, 2, 99, 1, 6])).2 =
    [(1, [0xC1, 0x81, 0x80, 0x02])] := by decide +kernel

-- `rejection_flagged_unsupported`: ASSIGN_CLASS (22) is not implemented
example : (22 : Nat) ∉ [2, 3, 4, 5, 6, 7, 8, 9, 10, 11, 12, 13, 14, 20, 21, 23, 24] := by decide
example : txFrags (Outstation.step {} (Outstation.start {} 0).1 (.rx 1 1024 [0xC1, 22])).2 =
    [(1, [0xC1, 0x81, 0x80, 0x01])] := by decide +kernel

-- `rejection_flagged_controls`: SELECT with an analog-input header
example : [(⟨30, 1, 6, 0, 0, []⟩ : ObjHdr)].all isControlHdr = false := by decide

-- `rejection_flagged_freeze` / `rejection_flagged_enable`
example : freezeRej ⟨30, 0, 6, 0, 0, []⟩ = iin2NoFunc := by decide
example : enableRej ⟨60, 1, 6, 0, 0, []⟩ = iin2NoFunc := by decide
example : (OState.init {} 0).cfg.unsolicited = false := rfl

-- `write_rejection_flagged` hypothesis, and the former D7 witness at the step level: the rejected first
-- header's PARAMETER_ERROR is reported (IIN2 = 0x04) although the second header cleared IIN1.7
example (a : Acc) : HasBits (handleWriteHeader (handleWrite a 1 []).1 d7Hdr1).2 iin2ParamError := by
  rw [show (handleWrite a 1 []).1 = a from rfl, d7Hdr1_rejected]; exact HasBits.self _
example : txFrags (Outstation.step {} (Outstation.start {} 0).1 (.rx 1 1024 d7Fragment)).2 =
    [(1, [0xC1, 0x81, 0x00, 0x04])] := by decide +kernel

-- `silent_functions_partial`: FREEZE_AT_TIME_NR (12) from the master: nothing transmitted
example : txFrags (Outstation.step {} (Outstation.start {} 0).1 (.rx 1 1024 [0xC1, 12])).2 = [] := by decide +kernel
example : (OState.init {} 0).lastReq = none := rfl

-- `solicited_correlated_idle`: hypotheses
example : parseRequest master1.data =
    .request ⟨true, true, false, false, 1⟩ 1 (.ok [⟨60, 1, 6, 0, 0, []⟩]) [60, 1, 6] := by rfl
example : (handleRequestFromIdle ((Outstation.start {} 0).1, []) master1 ⟨true, true, false, false, 1⟩ 1
    (.ok [⟨60, 1, 6, 0, 0, []⟩]) [60, 1, 6]).isSome = true := by decide +kernel

-- `unsolicited_numbering`: construction with unsolicited enabled starts the NULL series with seq 0 …
example : (checkUnsolicited (OState.init cfgU 0, [])).map (fun x => match x with
      | .inl a' => some (a'.1.unsolSeq, txFrags a'.2)
      | .inr _ => none) = some (some (1, [(1, [0xF0, 0x82, 0x80, 0x00])])) := by decide +kernel

-- `unsolicited_retry_verbatim` hypotheses
example : (Outstation.start cfgU 0).1.deferred = none := by decide +kernel

-- `solWait_confirm_continues` hypotheses (a CONFIRM seq 3 pending while fragment 3 of a series awaits it)
example : parseRequest [0xC3, 0] = .request ⟨true, true, false, false, 3⟩ 0 (.ok []) [] := by rfl

-- `solContinuation_stores` (D5 repaired).  A READ of class 1 answered in two fragments (solicited buffer of 30
-- octets, 8 binary events); `d5State`: fragment 1 (seq 1, FIR, CON) awaits its CONFIRM
def d5State : OState :=
  (Outstation.run {} (Outstation.start { sol := 30, unsol := 30 } 100).1
    [.add .binary 0 1, .txn ((List.range 8).map fun i => TxnItem.bin 0 (i % 2 == 0) 1 i),
     .rx 1 1024 [0xC1, 1, 60, 2, 6]]).1
def d5Confirm : Frag := ⟨d5State.frameId, 1, none, [0xC1, 0]⟩
def d5A1 : Acc := clearWrittenEvents
  ({ onLinkActivity { d5State with pending := some d5Confirm } with pending := none, lastBroadcast := none },
   [.cb (.solConfirmed 1)])
def d5Fr : OState × Resp × Option Series := formatReadResponse d5A1.1 false (seq4Next 1) 0

example : (match d5State.mode with | .solWait sr _ _ => some (sr.ecsn, sr.fin) | _ => none) = some (1, false) := by
  decide +kernel
-- hypotheses `ha1`, `hfr` hold by `rfl` for `a := ({ d5State with pending := some d5Confirm }, [])`; `hw`:
example : (writeSolicited (d5Fr.1, d5A1.2) d5Confirm.src d5Fr.2.1).isSome = true := by decide +kernel
-- at the step level: the CONFIRM releases fragment 2 (seq 2, FIN, CON), and that fragment's record is stored …
example : txFrags (Outstation.step {} d5State (.rx 1 1024 [0xC1, 0])).2 =
    [(1, [0x62, 0x81, 0x80, 0x00, 2, 1, 40, 1, 0, 0, 0, 1])] := by decide +kernel
example : ((Outstation.step {} d5State (.rx 1 1024 [0xC1, 0])).1.lastReq.bind (·.response)).map
    (fun r => (r.ctrl.toNat, r.size)) = some (0x62, 12) := by decide +kernel
-- … so the READ repeated while fragment 2 awaits its CONFIRM is answered with fragment 2 again (`repeatSolicited_verbatim`)
example : txFrags (Outstation.step {} (Outstation.step {} d5State (.rx 1 1024 [0xC1, 0])).1
    (.rx 1 1024 [0xC1, 1, 60, 2, 6])).2 = [(1, [0x62, 0x81, 0x80, 0x00, 2, 1, 40, 1, 0, 0, 0, 1])] := by decide +kernel

-- `NoOpen` (hypothesis of `good_passCase`, `Good.handleRequestFromIdle`, `good_uwfCase`)
example : NoOpen (Outstation.start {} 0).1.mode := by
  intro sr dl c h
  have : (match (Outstation.start {} 0).1.mode with | .solWait .. => true | _ => false) = false := by decide +kernel
  rw [h] at this; cases this

-- `operate_echo_overflow_clean` hypotheses
example : [d1Header].all isControlHdr = true := by decide
example : (operateRun (OState.init { sol := 249 } 0, []) 1 0 [d1Header] []).overflow = true :=
  (Prod.mk.inj d1_operateRun).1

-- the echo parses back (evaluated instance only; the general round-trip theorem is NOT proved): the echo of a
-- DIRECT_OPERATE with two g41v2 commands (status octets 9 in the request, handler status 0) re-parses to the
-- same header with the status octets replaced
def echoHdr : ObjHdr := ⟨41, 2, 0x17, 2, 0, [5, 1, 0, 9, 7, 2, 0, 9]⟩
example : (ctlAll (some .dop) 0 none [echoHdr] { acc := (OState.init {} 0, []), cap := 2044 }).out =
    [41, 2, 0x17, 2, 5, 1, 0, 0, 7, 2, 0, 0] := by decide +kernel
example : parseObjects false 12 [41, 2, 0x17, 2, 5, 1, 0, 0, 7, 2, 0, 0] =
    .ok [⟨41, 2, 0x17, 2, 0, [5, 1, 0, 0, 7, 2, 0, 0]⟩] := by rfl

end Dnp3.Proofs.C12
