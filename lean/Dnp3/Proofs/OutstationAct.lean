import Dnp3.Proofs.OutstationSkel
/-!
# The protocol-state machine of the outstation session

What the IIN rules (C13) and the unsolicited-reporting rules (C14) read of the session state is small: the clock, `restart`,
the class enables, `unsol`, `lastBroadcast`, `unsolReported` and `mode` (`PState`).  `Act pf p l p'` lists the twelve
things the session can do to it, each with the outputs `l` that witness it.  Every event of `Skel.Ev` is a chain of them
(`Ev.acts`: the one walk over the events), and so is every step, prologue included (`step_acts`); the rules of C13 and
C14 are proved per action.  Before the machine: the two fields only a request handler changes, `restart` (`C13.RR`) and
the class enables (`C14.EnRule`), followed through the handlers once (`RE`); the machine is in `Dnp3.Proofs.Act`.
A chain of actions forgets which handler ran, and in which mode: a rule that needs that as well
(`Props.C13.broadcast_in_wait_resets_reported`) goes back to `Skel.Step` / `step_dispatch` for it.

`Db.*` is opaque: no `Db` function is unfolded.
-/
namespace Dnp3.Proofs.C13
open Dnp3 Dnp3.Proofs.Frame Dnp3.Proofs.Iin Dnp3.Proofs.Skel

attribute [local irreducible] Db.new Db.add Db.update Db.readSupported Db.select Db.writeResponse
  Db.writeUnsolicited Db.clearWritten Db.reset Db.unwrittenClasses Db.isOverflown

/-- an object header of a WRITE that clears the restart bit: g80v1, qualifier 0x00, whose range
    reaches index 7 with that bit zero (for parsed headers `start ≤ stop`, so this is `start ≤ 7 ≤ stop`) -/
def ClearsRestart (h : ObjHdr) : Prop :=
  h.group = 80 ∧ h.var = 1 ∧ h.qual = 0x00 ∧ ∃ i, i ≤ h.b - h.a ∧ h.a + i = 7 ∧ bitAt h.data i = false

def WriteClears (pf : Option Frag) : Prop :=
  ∃ f ctrl hs raw h, pf = some f ∧ parseRequest f.data = .request ctrl 2 (.ok hs) raw ∧ h ∈ hs ∧ ClearsRestart h

/-- how `restart` and the `clearRestartIin` callback move together between two accumulators;
    `C` = what must be true if the callback was emitted -/
def RR (C : Prop) (a a' : Acc) : Prop :=
  ∃ l, a'.2 = a.2 ++ l ∧
    ((a'.1.restart = a.1.restart ∧ clearOut ∉ l) ∨ (a'.1.restart = false ∧ clearOut ∈ l ∧ C))

theorem RR.refl (C : Prop) (a : Acc) : RR C a a := ⟨[], by simp, Or.inl ⟨rfl, by simp⟩⟩

theorem RR.trans {C : Prop} {a b c : Acc} (h1 : RR C a b) (h2 : RR C b c) : RR C a c := by
  obtain ⟨l1, e1, c1⟩ := h1
  obtain ⟨l2, e2, c2⟩ := h2
  refine ⟨l1 ++ l2, by rw [e2, e1, List.append_assoc], ?_⟩
  rcases c2 with ⟨r2, n2⟩ | ⟨r2, m2, hc⟩
  · rcases c1 with ⟨r1, n1⟩ | ⟨r1, m1, hc⟩
    · exact Or.inl ⟨r2.trans r1, by simp [n1, n2]⟩
    · exact Or.inr ⟨r2.trans r1, by simp [m1], hc⟩
  · exact Or.inr ⟨r2, by simp [m2], hc⟩

theorem RR.mono {C C' : Prop} {a b : Acc} (h : RR C a b) (hc : C → C') : RR C' a b := by
  obtain ⟨l, e, c⟩ := h
  refine ⟨l, e, ?_⟩
  rcases c with c | ⟨r, m, hC⟩
  · exact Or.inl c
  · exact Or.inr ⟨r, m, hc hC⟩

theorem RR.keep {C : Prop} {a b : Acc} (hr : b.1.restart = a.1.restart) (l : List OOut) (e : b.2 = a.2 ++ l)
    (hn : clearOut ∉ l) : RR C a b := ⟨l, e, Or.inl ⟨hr, hn⟩⟩

theorem RR.foldl2 {α β : Type} (f : Acc × β → α → Acc × β) (C : α → Prop)
    (hf : ∀ p x, RR (C x) p.1 (f p x).1) (l : List α) (p : Acc × β) :
    RR (∃ x ∈ l, C x) p.1 (l.foldl f p).1 := by
  induction l generalizing p with
  | nil => exact RR.refl _ _
  | cons x xs ih =>
    simp only [List.foldl_cons]
    refine RR.trans ((hf p x).mono (fun h => ⟨x, by simp, h⟩)) ((ih (f p x)).mono ?_)
    rintro ⟨y, hy, hc⟩
    exact ⟨y, by simp [hy], hc⟩

theorem handleWriteIin_rr (a : Acc) (start stop : Nat) (data : List Nat) :
    RR (∃ i, i ≤ stop - start ∧ start + i = 7 ∧ bitAt data i = false) a (handleWriteIin a start stop data).1 := by
  unfold handleWriteIin
  refine (RR.foldl2 _ (fun i => start + i = 7 ∧ bitAt data i = false) ?_ _ _).mono ?_
  · intro p i
    dsimp only
    by_cases h7 : start + i = 7
    · rw [if_pos h7]
      cases hb : bitAt data i with
      | true => simp only [if_true]; exact RR.refl _ _
      | false =>
        simp only [Bool.false_eq_true, if_false]
        exact ⟨[clearOut], rfl, Or.inr ⟨rfl, by simp, h7, trivial⟩⟩
    · rw [if_neg h7]; exact RR.refl _ _
  · rintro ⟨i, hi, hc⟩
    exact ⟨i, by have := List.mem_range.1 hi; omega, hc⟩

theorem RR.of_eff {F D P} {C : Prop} {a b : Acc} (h : Frame.Eff F D P a b) (hc : ¬ P clearOut)
    (hF : Fld.restart ∉ F := by decide) : RR C a b :=
  have ⟨l, e, p⟩ := h.2.2
  RR.keep (h.get .restart hF) l e (fun hm => hc (p _ hm))

theorem not_app_clear : ¬ AppP clearOut := by simp [AppP, clearOut, OOut.isApp, Cb.isApp]

theorem handleWriteHeader_rr (a : Acc) (h : ObjHdr) : RR (ClearsRestart h) a (handleWriteHeader a h).1 := by
  by_cases h80 : h.group = 80 ∧ h.var = 1 ∧ h.qual = 0x00
  · unfold handleWriteHeader
    rw [if_pos h80]
    exact (handleWriteIin_rr a h.a h.b h.data).mono (fun hc => ⟨h80.1, h80.2.1, h80.2.2, hc⟩)
  · exact .of_eff (handleWriteHeader_time_eff (P := AppP) (fun _ => rfl) a h h80) not_app_clear

theorem handleWrite_rr (a : Acc) (seq : Nat) (hs : List ObjHdr) :
    RR (∃ h ∈ hs, ClearsRestart h) a (handleWrite a seq hs).1 := by
  unfold handleWrite
  dsimp only
  exact RR.foldl2 (fun (p : Acc × Nat) h => ((handleWriteHeader p.1 h).1, p.2 ||| (handleWriteHeader p.1 h).2))
    ClearsRestart (fun p h => handleWriteHeader_rr p.1 h) hs (a, 0)

def IsSolConfirm (pf : Option Frag) : Prop :=
  ∃ f ctrl objs raw, pf = some f ∧ parseRequest f.data = .request ctrl 0 objs raw ∧ ctrl.uns = false

def BcastReq (pf : Option Frag) (m : Nat) : Prop :=
  ∃ f ctrl func objs raw, ReqOf pf f ctrl func objs raw ∧ func ≠ 0 ∧ f.broadcast = some m

end Dnp3.Proofs.C13

namespace Dnp3.Proofs.C14
open Dnp3 Dnp3.Proofs.Frame Dnp3.Proofs.Skel

def NotUW (m : Mode) : Prop := ∀ r isNull rt dl, m ≠ .unsolWait r isNull rt dl

theorem NotUW.idle (n : NextIdle) : NotUW (.idle n) := fun _ _ _ _ h => nomatch h
theorem NotUW.solWait (sr : Series) (dl : Nat) (c : SolCont) : NotUW (.solWait sr dl c) := fun _ _ _ _ h => nomatch h
theorem NotUW.dead : NotUW .dead := fun _ _ _ _ h => nomatch h

def isClassHdr (v : Nat) (h : ObjHdr) : Bool := h.group = 60 ∧ h.qual = 0x06 ∧ h.var = v

def IsFunc (pf : Option Frag) (fn : Nat) : Prop :=
  ∃ f ctrl hs raw, pf = some f ∧ parseRequest f.data = .request ctrl fn (.ok hs) raw

def IsUnsolConfirm (pf : Option Frag) : Prop :=
  ∃ f ctrl objs raw, pf = some f ∧ parseRequest f.data = .request ctrl 0 objs raw ∧ ctrl.uns = true

def EnOf (s : OState) : Bool × Bool × Bool := (s.en1, s.en2, s.en3)

def Lowered (x x' : Bool) : Prop := x' = x ∨ x' = false

theorem Lowered.trans {x y z : Bool} (h1 : Lowered x y) (h2 : Lowered y z) : Lowered x z := by
  rcases h2 with h | h
  · rw [h]; exact h1
  · exact Or.inr h

/-- **C14.2 (b)** ENABLE / DISABLE_UNSOLICITED (functions 20 / 21): each g60v2 / g60v3 / g60v4 all-objects
    (qualifier 0x06) header sets the corresponding class enable to `enable`; an enable without such a header keeps
    its value; without unsolicited support none changes. -/
theorem handleEnableDisable_spec (a : Acc) (enable : Bool) (seq : Nat) (hs : List ObjHdr) :
    EnOf (handleEnableDisable a enable seq hs).1.1 =
      (if a.1.cfg.unsolicited ∧ hs.any (isClassHdr 2) then enable else a.1.en1,
       if a.1.cfg.unsolicited ∧ hs.any (isClassHdr 3) then enable else a.1.en2,
       if a.1.cfg.unsolicited ∧ hs.any (isClassHdr 4) then enable else a.1.en3) := by
  unfold handleEnableDisable
  cases hu : a.1.cfg.unsolicited with
  | false => simp [EnOf]
  | true =>
    simp only [Bool.not_true, Bool.false_eq_true, if_false, true_and]
    generalize (0 : Nat) = z
    generalize a.1 = s
    induction hs generalizing s z with
    | nil => rfl
    | cons h hs ih =>
      rw [List.foldl_cons, List.any_cons, List.any_cons, List.any_cons]
      -- a header is of one class at most
      have iff : ∀ v, isClassHdr v h = true ↔ h.group = 60 ∧ h.qual = 0x06 ∧ h.var = v := fun _ => decide_eq_true_iff
      have no : ∀ {v w : Nat}, h.var = v → v ≠ w → isClassHdr w h = false := fun hv hne =>
        Bool.eq_false_iff.2 fun hw => hne (hv.symm.trans ((iff _).1 hw).2.2)
      by_cases h2 : h.group = 60 ∧ h.qual = 0x06 ∧ h.var = 2
      · rw [if_pos h2, ih, (iff 2).2 h2, no h2.2.2 (by decide : 2 ≠ 3), no h2.2.2 (by decide : 2 ≠ 4)]
        cases hs.any (isClassHdr 2) <;> rfl
      by_cases h3 : h.group = 60 ∧ h.qual = 0x06 ∧ h.var = 3
      · rw [if_neg h2, if_pos h3, ih, (iff 3).2 h3, no h3.2.2 (by decide : 3 ≠ 2), no h3.2.2 (by decide : 3 ≠ 4)]
        cases hs.any (isClassHdr 3) <;> rfl
      by_cases h4 : h.group = 60 ∧ h.qual = 0x06 ∧ h.var = 4
      · rw [if_neg h2, if_neg h3, if_pos h4, ih, (iff 4).2 h4, no h4.2.2 (by decide : 4 ≠ 2), no h4.2.2 (by decide : 4 ≠ 3)]
        cases hs.any (isClassHdr 4) <;> rfl
      · rw [if_neg h2, if_neg h3, if_neg h4, ih, Bool.eq_false_iff.2 (mt (iff 2).1 h2),
          Bool.eq_false_iff.2 (mt (iff 3).1 h3), Bool.eq_false_iff.2 (mt (iff 4).1 h4)]
        rfl
theorem disable_lowers (a : Acc) (seq : Nat) (hs : List ObjHdr) :
    Lowered a.1.en1 (handleEnableDisable a false seq hs).1.1.en1 ∧
    Lowered a.1.en2 (handleEnableDisable a false seq hs).1.1.en2 ∧
    Lowered a.1.en3 (handleEnableDisable a false seq hs).1.1.en3 := by
  have sp := handleEnableDisable_spec a false seq hs
  simp only [EnOf, Prod.mk.injEq] at sp
  have low : ∀ (c : Prop) [Decidable c] (x : Bool), Lowered x (if c then false else x) := fun c _ x => by
    split
    · exact Or.inr rfl
    · exact Or.inl rfl
  exact ⟨sp.1 ▸ low _ _, sp.2.1 ▸ low _ _, sp.2.2 ▸ low _ _⟩


/-- how the class enables may move in a step whose fragment is `pf`: only ENABLE_UNSOLICITED raises one, only that
    or DISABLE_UNSOLICITED changes one -/
def EnRule (pf : Option Frag) (e e' : Bool × Bool × Bool) : Prop :=
  ¬ IsFunc pf 20 → (Lowered e.1 e'.1 ∧ Lowered e.2.1 e'.2.1 ∧ Lowered e.2.2 e'.2.2) ∧ (¬ IsFunc pf 21 → e' = e)

theorem EnRule.refl (pf : Option Frag) (e : Bool × Bool × Bool) : EnRule pf e e :=
  fun _ => ⟨⟨.inl rfl, .inl rfl, .inl rfl⟩, fun _ => rfl⟩

theorem EnRule.trans {pf : Option Frag} {e1 e2 e3 : Bool × Bool × Bool} (h1 : EnRule pf e1 e2) (h2 : EnRule pf e2 e3) :
    EnRule pf e1 e3 := fun hn =>
  ⟨⟨(h1 hn).1.1.trans (h2 hn).1.1, (h1 hn).1.2.1.trans (h2 hn).1.2.1, (h1 hn).1.2.2.trans (h2 hn).1.2.2⟩,
    fun h21 => ((h2 hn).2 h21).trans ((h1 hn).2 h21)⟩

theorem EnRule.of_upd {pf : Option Frag} {F} {s t : OState} (h : Upd F s t)
    (hF : Apart [.en1, .en2, .en3] F := by decide) : EnRule pf (EnOf s) (EnOf t) := by
  have k := h.on hF
  unfold EnOf
  rw [k.get .en1, k.get .en2, k.get .en3]
  exact .refl _ _

end Dnp3.Proofs.C14

namespace Dnp3.Proofs.Act
open Dnp3 Dnp3.Proofs.Frame Dnp3.Proofs.Iin Dnp3.Proofs.Skel Dnp3.Proofs.C13 Dnp3.Proofs.C14

attribute [local irreducible] Db.new Db.add Db.update Db.readSupported Db.select Db.writeResponse
  Db.writeUnsolicited Db.clearWritten Db.reset Db.unwrittenClasses Db.isOverflown

def RE (pf : Option Frag) (a a' : Acc) : Prop := RR (WriteClears pf) a a' ∧ EnRule pf (EnOf a.1) (EnOf a'.1)

theorem RE.refl (pf : Option Frag) (a : Acc) : RE pf a a := ⟨RR.refl _ _, EnRule.refl _ _⟩

theorem RE.of_eff {pf : Option Frag} {F D P} {a b : Acc} (h : Frame.Eff F D P a b) (hc : ¬ P clearOut)
    (hF : Apart [.restart, .en1, .en2, .en3] F := by decide) : RE pf a b :=
  ⟨.of_eff h hc (hF _ (by decide)), .of_upd h.1 fun f hf => hF f (by revert f; decide)⟩

variable {pf : Option Frag} {f : Frag} {ctrl : AppCtrl} {func : Nat} {raw : List Nat}

theorem handleWrite_re {hs : List ObjHdr} (hq : ReqOf pf f ctrl 2 (.ok hs) raw) (a : Acc) (seq : Nat) :
    RE pf a (handleWrite a seq hs).1 :=
  ⟨(handleWrite_rr a seq hs).mono fun ⟨h, hm, hc⟩ => ⟨f, ctrl, hs, raw, h, hq.1, hq.2, hm, hc⟩,
    .of_upd (handleWrite_eff (P := fun _ => True) trivial (fun _ => trivial) a seq hs).1⟩

theorem handleEnableDisable_re {hs : List ObjHdr} {en : Bool} (hq : ReqOf pf f ctrl (if en then 20 else 21) (.ok hs) raw)
    (a : Acc) (seq : Nat) : RE pf a (handleEnableDisable a en seq hs).1 := by
  refine ⟨.of_eff (handleEnableDisable_eff (fun _ => False) a en seq hs) id, fun hn => ?_⟩
  cases en with
  | true => exact absurd ⟨f, ctrl, hs, raw, hq.1, hq.2⟩ hn
  | false => exact ⟨disable_lowers a seq hs, fun h21 => absurd ⟨f, ctrl, hs, raw, hq.1, hq.2⟩ h21⟩

theorem handleNonRead_re {hs : List ObjHdr} {a a' : Acc} {r : Option Resp} (hq : ReqOf pf f ctrl func (.ok hs) raw)
    (h : handleNonRead a func ctrl.seq f.id hs raw = some (a', r)) : RE pf a a' := by
  obtain ⟨r0, c, -⟩ := handleNonRead_cases h
  cases c with
  | write h2 e => subst h2 e; exact handleWrite_re hq a _
  | enable h20 e => subst h20 e; exact handleEnableDisable_re (en := true) hq a _
  | disable h21 e => subst h21 e; exact handleEnableDisable_re (en := false) hq a _
  | control _ e => exact .of_eff (handleControls_eff e) not_app_clear
  | misc _ _ _ e => exact .of_eff (e.imp fun _ h => h.1) not_app_clear

theorem BCCase.re {objs : Except Nat (List ObjHdr)} {a0 a1 : Acc} (hq : ReqOf pf f ctrl func objs raw)
    (h : BCCase a0 f ctrl func objs raw a1) : RE pf a0 a1 := by
  cases h with
  | nothing => exact RE.refl _ _
  | write hs h2 ho => subst h2 ho; exact handleWrite_re hq a0 _
  | control hs a1 r _ _ hc => exact .of_eff (handleControls_eff hc) not_app_clear
  | freeze hs k _ _ _ _ =>
    exact .of_eff (handleFreeze_eff (P := AppP) (fun _ => rfl) (fun _ _ _ => rfl) _ _ _ _) not_app_clear
  | freezeAt hs _ _ =>
    exact .of_eff (handleFreezeAtTime_eff (P := AppP) (fun _ => rfl) (fun _ _ _ => rfl) _ _ _) not_app_clear
  | record _ => exact RE.refl pf a0
  | enable hs h20 ho => subst h20 ho; exact handleEnableDisable_re (en := true) hq a0 _
  | disable hs h21 ho => subst h21 ho; exact handleEnableDisable_re (en := false) hq a0 _

structure PState where
  now : Nat
  restart : Bool
  en : Bool × Bool × Bool
  unsol : UnsolState
  lastBroadcast : Option Nat
  unsolReported : Bool
  mode : Mode

def pOf (s : OState) : PState := ⟨s.now, s.restart, EnOf s, s.unsol, s.lastBroadcast, s.unsolReported, s.mode⟩

def Plain (l : List OOut) : Prop :=
  ∀ o ∈ l, OOut.kind o ≠ .clear ∧ OOut.kind o ≠ .bcast ∧ OOut.kind o ≠ .unsolWait

theorem Plain.nil : Plain [] := fun _ h => nomatch h

theorem Plain.ofKinds {l : List OOut} {ks : List OKind} (h : ∀ o ∈ l, KP ks o)
    (hk : OKind.clear ∉ ks ∧ OKind.bcast ∉ ks ∧ OKind.unsolWait ∉ ks) : Plain l :=
  fun o ho => ⟨fun e => hk.1 (e ▸ h o ho), fun e => hk.2.1 (e ▸ h o ho), fun e => hk.2.2 (e ▸ h o ho)⟩

theorem Plain.single {o : OOut} (h : OOut.kind o ≠ .clear ∧ OOut.kind o ≠ .bcast ∧ OOut.kind o ≠ .unsolWait) :
    Plain [o] := fun _ ho => List.mem_singleton.1 ho ▸ h

/-- one thing the session does to the protocol state, with the outputs that show it.  `restart` and the enables move
    only in `request` / `bcast` (the step's own request is handled), `lastBroadcast` in `bcast` (recorded), `report` /
    `start` (reported: kept only if confirm-mandatory) and the three confirms, `unsolReported` in `start` and
    `bcastSeen`, `unsol` at the end of a series (`unsolConf`, `endFailed`), `mode` in `start`, `leave`, `retry`.
    There is no action of its own for a task that dies: it is `leave` to the mode `dead` (`NotUW.dead`), with `panic`
    among the plain outputs. -/
inductive Act (pf : Option Frag) : PState → List OOut → PState → Prop
  | calm (p : PState) (l : List OOut) : Plain l → Act pf p l p
  | request (p : PState) (l : List OOut) (r : Bool) (e : Bool × Bool × Bool) :
      (∀ o ∈ l, OOut.kind o ≠ .bcast ∧ OOut.kind o ≠ .unsolWait) →
      ((r = p.restart ∧ clearOut ∉ l) ∨ (r = false ∧ clearOut ∈ l ∧ WriteClears pf)) → EnRule pf p.en e →
      Act pf p l { p with restart := r, en := e }
  | bcast (p : PState) (l : List OOut) (r : Bool) (e : Bool × Bool × Bool) (m : Nat) : BcastReq pf m →
      (∃ o ∈ l, OOut.kind o = .bcast) → (∀ o ∈ l, OOut.kind o ≠ .unsolWait) →
      ((r = p.restart ∧ clearOut ∉ l) ∨ (r = false ∧ clearOut ∈ l ∧ WriteClears pf)) → EnRule pf p.en e →
      Act pf p l { p with restart := r, en := e, lastBroadcast := some m }
  | report (p : PState) (dst : Nat) (bytes : List Nat) :
      (p.lastBroadcast.isSome = true → (bytes.getD 2 0).testBit 0 = true) →
      Act pf p [.tx dst bytes] { p with lastBroadcast := if p.lastBroadcast = some 1 then some 1 else none }
  | start (p : PState) (dst : Nat) (bytes : List Nat) (q : Nat) (r : Resp) (n : Bool) (t : Option Nat) (d : Nat) :
      (bytes.getD 2 0).testBit 0 = r.iin1.testBit 0 → (p.lastBroadcast.isSome = true → r.iin1.testBit 0 = true) →
      (n = true → p.unsol = .nullRequired ∧ t = some 0 ∧ r.size = 0) →
      (n = false → ∃ dl, p.unsol = .ready dl ∧ (∀ x, dl = some x → x ≤ p.now) ∧
        (p.en.1 || p.en.2.1 || p.en.2.2) = true) →
      Act pf p [.tx dst bytes, .cb (.unsolWait q)]
        { p with lastBroadcast := if p.lastBroadcast = some 1 then some 1 else none,
                 unsolReported := r.iin1.testBit 0, mode := .unsolWait r n t d }
  | leave (p : PState) (l : List OOut) (m : Mode) : Plain l → NotUW m → Act pf p l { p with mode := m }
  | retry (p : PState) (l : List OOut) (r : Resp) (n : Bool) (t t' : Option Nat) (d d' : Nat) :
      p.mode = .unsolWait r n t d → ((t = none ∧ t' = none) ∨ ∃ k, t = some (k + 1) ∧ t' = some k) → Plain l →
      Act pf p l { p with mode := .unsolWait r n t' d' }
  | solConf (p : PState) (e : Nat) (l : List OOut) : (∀ o ∈ l, OOut.kind o = .confirm) →
      Act pf p (.cb (.solConfirmed e) :: l) { p with lastBroadcast := none }
  | unsolConf (p : PState) (r : Resp) (n : Bool) (t : Option Nat) (d : Nat) (l : List OOut) :
      p.mode = .unsolWait r n t d → IsUnsolConfirm pf → (∀ o ∈ l, OOut.kind o = .confirm) →
      Act pf p (.cb (.unsolConfirmed r.ctrl.seq) :: l)
        { p with lastBroadcast := if p.unsolReported = true then none else p.lastBroadcast, unsol := .ready none }
  | solConfInWait (p : PState) : IsSolConfirm pf → Act pf p [] { p with lastBroadcast := none }
  | bcastSeen (p : PState) : Act pf p [] { p with unsolReported := false }
  | endFailed (p : PState) (r : Resp) (n : Bool) (t : Option Nat) (d : Nat) (u : UnsolState) :
      p.mode = .unsolWait r n t d → (u = .nullRequired ↔ n = true) → Act pf p [] { p with unsol := u }

def Acts (pf : Option Frag) (a a' : Acc) : Prop := ∃ l, a'.2 = a.2 ++ l ∧ Act pf (pOf a.1) l (pOf a'.1)

abbrev ActsStar (pf : Option Frag) (a a' : Acc) : Prop := Star (Acts pf) a a'

theorem Acts.of {a a' : Acc} (l : List OOut) (e : a'.2 = a.2 ++ l) {p' : PState} (h : Act pf (pOf a.1) l p')
    (hp : pOf a'.1 = p') : Acts pf a a' := ⟨l, e, hp ▸ h⟩

theorem Acts.out {a a' : Acc} (h : Acts pf a a') :
    ∃ l p', a'.2 = a.2 ++ l ∧ Act pf (pOf a.1) l p' ∧ a'.1.now = p'.now ∧ a'.1.restart = p'.restart ∧
      EnOf a'.1 = p'.en ∧ a'.1.unsol = p'.unsol ∧ a'.1.lastBroadcast = p'.lastBroadcast ∧
      a'.1.unsolReported = p'.unsolReported ∧ a'.1.mode = p'.mode :=
  let ⟨l, e, h⟩ := h
  ⟨l, _, e, h, rfl, rfl, rfl, rfl, rfl, rfl, rfl⟩

theorem kinds_cons_confirm {c : Cb} {l : List OOut} {k : OKind} (hc : Cb.kind c ≠ k) (hk : OKind.confirm ≠ k)
    (hl : ∀ o ∈ l, OOut.kind o = .confirm) : ∀ o ∈ OOut.cb c :: l, OOut.kind o ≠ k := by
  intro o ho
  rcases List.mem_cons.1 ho with rfl | ho
  · exact hc
  · rw [hl o ho]; exact hk

theorem Acts.state (a : Acc) (s' : OState) (hp : pOf s' = pOf a.1) : Acts pf a (s', a.2) :=
  .of [] (List.append_nil _).symm (.calm _ _ Plain.nil) hp

theorem hdr_iin1 (buf : List Nat) (r : Resp) (n : Nat) :
    ((writeAt buf 0 (respHeader r)).take (max 4 n)).getD 2 0 = r.iin1 := by
  rw [hdr_take]; rfl

theorem writeSolicited_acts {a : Acc} {dst : Nat} {r : Resp} {a' : Acc} {r' : Resp}
    (h : writeSolicited a dst r = some (a', r')) : Acts pf a a' := by
  obtain ⟨c1, c2, c3, _, hr, rfl⟩ := writeSolicited_eq h
  have b0 := (iin1Of_bits a.1.lastBroadcast.isSome c1 c2 c3 (a.1.script.appIin.testBit 0)
    (a.1.script.appIin.testBit 1) (a.1.script.appIin.testBit 2) a.1.restart).1
  refine .of _ rfl (.report _ dst _ fun hs => ?_) (by rw [afterIin_eq]; rfl)
  rw [hdr_iin1, hr]
  show (r.iin1 ||| _).testBit 0 = true
  rw [Nat.testBit_or, b0, show a.1.lastBroadcast.isSome = true from hs, Bool.or_true]

theorem startUnsolSeries_acts {a : Acc} {r : Resp} {isNull : Bool} {a' : Acc} (h : startUnsolSeries a r isNull = some a')
    (hn : isNull = true → a.1.unsol = .nullRequired ∧ r.size = 0)
    (hd : isNull = false → ∃ dl, a.1.unsol = .ready dl ∧ (∀ x, dl = some x → x ≤ a.1.now) ∧
      (a.1.en1 || a.1.en2 || a.1.en3) = true) : Acts pf a a' := by
  obtain ⟨c1, c2, c3, r', _, hr, e⟩ := startUnsolSeries_eq a r isNull a' h
  have b0 := (iin1Of_bits a.1.lastBroadcast.isSome c1 c2 c3 (a.1.script.appIin.testBit 0)
    (a.1.script.appIin.testBit 1) (a.1.script.appIin.testBit 2) a.1.restart).1
  subst e
  refine .of _ rfl (.start _ _ _ _ r' isNull _ _ ?_ (fun hs => ?_) (fun hi => ?_) hd) (by rw [afterIin_eq]; rfl)
  · rw [hdr_iin1]
  · rw [hr]
    show (r.iin1 ||| _).testBit 0 = true
    rw [Nat.testBit_or, b0, show a.1.lastBroadcast.isSome = true from hs, Bool.or_true]
  · subst hi
    exact ⟨(hn rfl).1, rfl, by rw [hr]; exact (hn rfl).2⟩

theorem pOf_of_upd {F} {s s' : OState} (h : Upd F s s')
    (hF : Apart [.now, .unsol, .lastBroadcast, .unsolReported, .mode] F := by decide) :
    pOf s' = { pOf s with restart := s'.restart, en := EnOf s' } := by
  have k := h.on hF
  rw [pOf, pOf, k.get .now, k.get .unsol, k.get .lastBroadcast, k.get .unsolReported, k.get .mode]

theorem nrp_kinds {o : OOut} (h : KP [.app, .clear] o) : OOut.kind o ≠ .bcast ∧ OOut.kind o ≠ .unsolWait := by
  constructor <;> intro e <;> simp [KP, e] at h

theorem handleNonRead_acts {hs : List ObjHdr} {a a' : Acc} {r : Option Resp} (hq : ReqOf pf f ctrl func (.ok hs) raw)
    (h : handleNonRead a func ctrl.seq f.id hs raw = some (a', r)) : Acts pf a a' := by
  obtain ⟨⟨l, e, hr⟩, he⟩ := handleNonRead_re hq h
  obtain ⟨hu, -, l', e', hp⟩ := Frame.handleNonRead_eff h
  obtain rfl : l' = l := List.append_cancel_left (e'.symm.trans e)
  exact .of l' e (.request _ _ _ _ (fun o ho => nrp_kinds (hp o ho)) hr he) (pOf_of_upd hu)

theorem processBroadcast_acts {a : Acc} {m : Nat} {objs : Except Nat (List ObjHdr)} {a' : Acc}
    (hq : ReqOf pf f ctrl func objs raw) (h0 : func ≠ 0) (hb : f.broadcast = some m)
    (h : processBroadcast a f m ctrl func objs raw = some a') : Acts pf a a' := by
  obtain ⟨a1, action, hc, rfl⟩ := processBroadcast_cases h
  obtain ⟨⟨l, e, hr⟩, he⟩ := BCCase.re hq hc
  obtain ⟨hu, -, l', e', hp⟩ := hc.eff
  obtain rfl : l' = l := List.append_cancel_left (e'.symm.trans e)
  have hcb : OOut.cb (.broadcast func action) ≠ clearOut := nofun
  refine .of (l' ++ [.cb (.broadcast func action)]) (by show a1.2 ++ _ = _; rw [e, List.append_assoc])
    (.bcast _ _ a1.1.restart (EnOf a1.1) m ⟨f, ctrl, func, objs, raw, hq, h0, hb⟩
      ⟨_, List.mem_append_right _ (List.mem_singleton_self _), rfl⟩ (fun o ho => ?_) ?_ he) (pOf_of_upd hu)
  · rcases List.mem_append.1 ho with ho | ho
    · exact (nrp_kinds (hp o ho)).2
    · rw [List.mem_singleton.1 ho]; nofun
  · exact hr.imp (fun ⟨x, y⟩ => ⟨x, by simp [y, hcb.symm]⟩) (fun ⟨x, y, z⟩ => ⟨x, by simp [y], z⟩)

theorem afterConfirmed_pOf (b : Acc) (isNull : Bool) :
    pOf (afterUnsolSeries b isNull true).1.1 = { pOf b.1 with unsol := .ready none } := by
  cases isNull with
  | true => rfl
  | false => rw [afterUnsolSeries_confirmed, clearWrittenEvents_eq]; rfl

theorem endFailed_acts {a : Acc} {resp : Resp} {isNull : Bool} {rt : Option Nat} {dl : Nat}
    (hm : a.1.mode = .unsolWait resp isNull rt dl) : Acts pf a (afterUnsolSeries a isNull false).1 := by
  cases isNull with
  | true => exact .of [] (List.append_nil _).symm (.endFailed _ resp true rt dl .nullRequired hm (by simp)) rfl
  | false =>
    exact .of [] (List.append_nil _).symm
      (.endFailed _ resp false rt dl (.ready (some (a.1.now + a.1.cfg.rdelay))) hm (by simp)) rfl

theorem Acts.emitCb (a : Acc) (c : Cb) (h : Cb.kind c ≠ .clear ∧ Cb.kind c ≠ .bcast ∧ Cb.kind c ≠ .unsolWait) :
    Acts pf a (emitCb a c) := .of [.cb c] rfl (.calm _ _ (.single h)) rfl

theorem repeatSolicited_acts (a : Acc) (dst : Nat) (r : Resp) : Acts pf a (repeatSolicited a dst r) :=
  .of [_] rfl (.calm _ _ (.single ⟨nofun, nofun, nofun⟩)) rfl

theorem enterSolWait_acts (a : Acc) (sr : Series) (c : SolCont) : Acts pf a (enterSolWait a sr c) :=
  .of [.cb (.solWait sr.ecsn)] rfl (.leave _ _ _ (.single ⟨nofun, nofun, nofun⟩) (.solWait _ _ _)) rfl

theorem reqIdle_acts {a : Acc} {objs : Except Nat (List ObjHdr)} {a' : Acc} {ser : Option Series}
    (hq : ReqOf pf f ctrl func objs raw)
    (h : handleRequestFromIdle a f ctrl func objs raw = some (a', ser)) : ActsStar pf a a' := by
  obtain ⟨a1, lr, s1, s2⟩ := handleRequestFromIdle_cases h
  have r1 : ActsStar pf a a1 := by
    cases s1 with
    | confirm => exact .refl _
    | bcast m a1 h0 hb hp => exact .single (processBroadcast_acts hq h0 hb hp)
    | nonRead hs a1 r _ _ _ ho hn => subst ho; exact .single (handleNonRead_acts hq hn)
    | prep s1 lr _ _ _ _ _ _ _ hp => cases hp <;> exact .single (.state a _ rfl)
    | echo s1 last _ _ _ _ hs =>
      rcases hs with rfl | ⟨sel, _, _, _, _, _, rfl⟩ <;> exact .single (.state a _ rfl)
  refine r1.trans ?_
  cases s2 with
  | nothing => exact .refl _
  | silent => exact .single (.state a1 _ rfl)
  | echo lr r _ =>
    exact .tail (.single (repeatSolicited_acts a1 f.src r)) (.state (repeatSolicited a1 f.src r) _ rfl)
  | fresh lr r a2 r2 _ hw => exact .tail (.single (writeSolicited_acts hw)) (.state a2 _ rfl)

theorem chkCase_acts {a : Acc} {res : Acc ⊕ (Acc × NextIdle)} (h : ChkCase a res) :
    ActsStar pf a (Sum.elim id Prod.fst res) := by
  cases h with
  | unsupported | tooEarly | disabled => exact .refl _
  | noEvents => exact .single (.state a _ rfl)
  | null a1 _ hn hs =>
    exact .tail (.single (.state a { a.1 with unsolSeq := seq4Next a.1.unsolSeq } rfl))
      (startUnsolSeries_acts hs (fun _ => ⟨hn, rfl⟩) nofun)
  | data dl a1 _ hr hd hen _ hs =>
    exact .tail (.single (.state a { afterDbWrite a.1 with unsolSeq := seq4Next a.1.unsolSeq } rfl))
      (startUnsolSeries_acts hs nofun fun _ => ⟨dl, hr, hd, hen⟩)

theorem defCase_acts {a : Acc} {next : NextIdle} {res : Acc ⊕ Acc} (h : DefCase a next res) :
    ActsStar pf a (Sum.elim id id res) := by
  cases h with
  | none => exact .refl _
  | answered d a2 r2 _ hw _ _ =>
    exact .tail (.tail (.single (.state a (deferredFormat a.1 d).1 rfl)) (writeSolicited_acts hw)) (.state a2 _ rfl)
  | awaiting d a2 r2 sr _ hw =>
    exact .tail (.tail (.tail (.single (.state a (deferredFormat a.1 d).1 rfl)) (writeSolicited_acts hw))
      (.state a2 { a2.1 with lastReq := some ⟨d.seq, d.frag, some r2, (deferredFormat a.1 d).2.2⟩ } rfl))
      (enterSolWait_acts _ _ _)

theorem Ev.acts {a a' : Acc} (h : Ev pf a a') : ActsStar pf a a' := by
  cases h with
  | house s' hh =>
    obtain ⟨n, l, lr, p, hp, rfl⟩ := hh
    exact .single (.state a _ rfl)
  | dbReset | clrDeferred | fmtRead | deferSet => exact .single (.state a _ rfl)
  | plainCb c hc =>
    have hk := Cb.plain_kind hc
    exact .single (.emitCb a c ⟨fun e => by simp [e] at hk, fun e => by simp [e] at hk, fun e => by simp [e] at hk⟩)
  | die => exact .single (.of [.panic] rfl (.leave _ _ _ (.single ⟨nofun, nofun, nofun⟩) .dead) rfl)
  | wsol dst r a' r' hw => exact .single (writeSolicited_acts hw)
  | rsol dst r => exact .single (repeatSolicited_acts a dst r)
  | reqIdle f ctrl func objs raw a' ser hq hh => exact reqIdle_acts hq hh
  | enterSol sr c => exact .single (enterSolWait_acts a sr c)
  | setSolWait sr dl c => exact .single (.of [] (List.append_nil _).symm (.leave _ _ _ .nil (.solWait _ _ _)) rfl)
  | chkStart a' hc => exact chkCase_acts (checkUnsolicited_cases _ _ hc)
  | chkIdle a' n hc => exact chkCase_acts (checkUnsolicited_cases _ _ hc)
  | defWait n a' hd => exact defCase_acts (handleDeferredRead_cases _ _ _ hd)
  | defDone n a' hd => exact defCase_acts (handleDeferredRead_cases _ _ _ hd)
  | finishPass n =>
    obtain ⟨ls, l, e, hl⟩ := finishPass_eq a n
    rw [e]
    refine .single (.of l rfl (.leave _ _ _ ?_ (.idle _)) rfl)
    rcases hl with rfl | rfl
    · exact .nil
    · exact .single ⟨nofun, nofun, nofun⟩
  | solConf sr dl c f ctrl objs raw _ _ _ _ =>
    obtain ⟨l, e, hl⟩ := (clearWrittenEvents_eff
      ({ a.1 with lastBroadcast := none }, a.2 ++ [.cb (.solConfirmed sr.ecsn)])).2.2
    exact .single (.of _ (e.trans (List.append_assoc _ _ _))
      (.solConf _ sr.ecsn l fun o ho => List.mem_singleton.1 (hl o ho)) (by rw [clearWrittenEvents_eq]; rfl))
  | unsolConf resp isNull retries dl f ctrl objs raw hm hq hu _ =>
    obtain ⟨l, e, hl⟩ := afterUnsolSeries_emitCb_outs
      ({ a.1 with lastBroadcast := if a.1.unsolReported then none else a.1.lastBroadcast }, a.2)
      (.unsolConfirmed resp.ctrl.seq) isNull true
    exact .single (.of _ e (.unsolConf _ resp isNull retries dl l hm ⟨f, ctrl, objs, raw, hq.1, hq.2, hu⟩ hl)
      (afterConfirmed_pOf _ _))
  | uwSolConfirm resp isNull retries dl f ctrl objs raw _ hq hu =>
    split
    · exact .single (.of [] (List.append_nil _).symm (.solConfInWait _ ⟨f, ctrl, objs, raw, hq.1, hq.2, hu⟩) rfl)
    · exact .refl _
  | bcast f m ctrl func objs raw a' hq h0 hb hp => exact .single (processBroadcast_acts hq h0 hb hp)
  | uwBcastSeen resp isNull retries dl f m ctrl func objs raw _ _ _ _ _ =>
    exact .single (.of [] (List.append_nil _).symm (.bcastSeen _) rfl)
  | nonRead f ctrl func hs raw a' r hq _ _ _ hn => exact .single (handleNonRead_acts hq hn)
  | uwDisable resp isNull retries dl f ctrl hs raw hm _ => exact .single (endFailed_acts hm)
  | uwTimeoutEnd resp isNull retries dl hm _ =>
    exact .tail (.single (.emitCb a (.unsolTimeout resp.ctrl.seq false) ⟨nofun, nofun, nofun⟩)) (endFailed_acts hm)
  | uwRetry resp isNull retries retries' dl hm _ hrt =>
    rw [unsolRetry_eq]
    exact .single (.of [_, _] rfl (.retry _ _ resp isNull retries retries' dl _ hm hrt
      (List.forall_mem_cons.2 ⟨⟨nofun, nofun, nofun⟩, List.forall_mem_singleton.2 ⟨nofun, nofun, nofun⟩⟩)) rfl)

theorem Reach.acts {a a' : Acc} (h : Reach pf a a') : ActsStar pf a a' :=
  Star.lift Star.refl (fun _ _ _ => Star.trans) (fun _ _ => Ev.acts) h

theorem StepInit.acts {env : OEnv} {s : OState} {inp : OInput} {s0 : OState} {o0 : List OOut}
    (h : StepInit env s inp pf s0 o0) : Acts pf ({ s with now := s0.now }, []) (s0, o0) := by
  have k := h.upd
  have hp : pOf s0 = { pOf s with now := s0.now, mode := s0.mode } := by
    rw [pOf, pOf, EnOf, EnOf, k.get .restart, k.get .en1, k.get .en2, k.get .en3, k.get .unsol, k.get .lastBroadcast,
      k.get .unsolReported]
  have hl : Plain o0 := .ofKinds (ks := [.line]) (fun o hm => by rw [KP, h.keep o hm]; simp) (by decide)
  rcases h.mode with ⟨hm, _, _⟩ | ⟨_, hm, _⟩
  · exact .of o0 (List.nil_append _).symm (.calm _ _ hl) (hp.trans (by rw [hm]; rfl))
  · exact .of o0 (List.nil_append _).symm (.leave _ _ s0.mode hl (hm ▸ .idle _)) hp

/-- every step is a chain of actions from `(s, [])` with the clock at its value for the step (none for a dropped
    frame or a dead task; a script change touches nothing the rules read) -/
theorem step_acts (env : OEnv) (s : OState) (inp : OInput) :
    ∃ pf, StepFrag env s inp pf ∧
      ActsStar pf ({ s with now := (Outstation.step env s inp).1.now }, []) (Outstation.step env s inp) := by
  rcases step_reach env s inp with ⟨f, rfl, e⟩ | e | ⟨pf, s0, o0, hi, hr⟩
  · exact ⟨none, rfl, by rw [e]; exact .single (.state _ _ rfl)⟩
  · exact ⟨match inp with | .tick _ | .txn _ | .add .. => s.pending | _ => none, by cases inp <;> simp [StepFrag],
      by rw [e]; exact .single (.state _ _ rfl)⟩
  · exact ⟨pf, hi.frag, .trans (.single (by rw [(Reach.base hr).now]; exact StepInit.acts hi)) (Reach.acts hr)⟩

end Dnp3.Proofs.Act
