import Dnp3.Model.Ffi
/-!
# Cheaper ways to evaluate the checks of C20 over the generated table of conversion arms

Each check of `Dnp3.Props.C20` is a closed `Bool` computation over `Dnp3.Gen.Ffi.armsN` / `fieldsN` that the kernel
evaluates.  Here: computations that look fewer names up, each with the lemma, over variable lists, that it implies
the check of `Model/Ffi.lean` it stands for.

Looking a name up (`nm`) is what costs the kernel most, so the checks are arranged to do it for few rows.
`armsN` is `(chunk ++ chunk) ++ … ++ chunk`, and the kernel takes a row of the first chunk through every one of these
`++`; `simp only [armsN, List.append_assoc]` in front of an evaluation turns the table into `chunk ++ (chunk ++ …)`,
where every row is one step away.
-/
namespace Dnp3.Proofs.FfiTables
open Dnp3.Gen.Ffi Dnp3.Ffi

/-- `p` holds of every row for which a cheaper, sufficient test `s` fails -/
theorem all_of_or {α} {p : α → Bool} (s : α → Bool) (hs : ∀ a, s a = true → p a = true) {l : List α}
    (h : l.all (fun a => s a || p a) = true) : l.all p = true := by
  simp only [List.all_eq_true, Bool.or_eq_true] at h ⊢
  exact fun a ha => (h a ha).elim (hs a) id

/-- one row (the last) of every run of rows that `same` relates to the next -/
def runHeads {α} (same : α → α → Bool) : List α → List α
  | a :: b :: l => if same a b then runHeads same (b :: l) else a :: runHeads same (b :: l)
  | l => l

theorem all_runHeads {α} {same : α → α → Bool} {p : α → Bool}
    (hp : ∀ a b, same a b = true → p a = p b) : ∀ l : List α, (runHeads same l).all p = l.all p
  | [] => rfl
  | [_] => rfl
  | a :: b :: l => by
    have ih := all_runHeads hp (b :: l)
    rw [runHeads]
    split
    · rw [ih, List.all_cons (a := a), hp a b ‹_›]; simp
    · rw [List.all_cons, ih, List.all_cons (a := a)]

/-- a set of numbers as the bits of one number: the kernel's arithmetic on it is cheap -/
def bits (ks : List Nat) : Nat := ks.foldr (fun k m => m ||| 1 <<< k) 0

theorem testBit_bits {k : Nat} : ∀ {ks : List Nat}, k ∈ ks → (bits ks).testBit k = true
  | j :: ks, h => by
    rw [bits, List.foldr_cons, Nat.testBit_or, Nat.one_shiftLeft, Nat.testBit_two_pow]
    rcases List.mem_cons.1 h with rfl | h
    · simp
    · exact Bool.or_eq_true_iff.2 (.inl (testBit_bits h))

/-- the two D22 arms relate variants of different names, so it is enough to look for them among the arms whose two
    interned names differ -/
theorem filter_isD22 (l : List ArmN) : l.filter isD22 = (l.filter fun a => a.lvar != a.rvar).filter isD22 := by
  have : nRejectedByIin2 ≠ nIinError ∧ nIinError ≠ nRejectedByIin2 := by decide
  rw [List.filter_filter]
  congr; funext a
  by_cases e : a.lvar = a.rvar
  · simp only [isD22, e]
    generalize nm a.rvar = x
    by_cases x = nIinError <;> simp_all
  · simp [e]

def renamedInto (as : List ArmN) : Nat := bits ((as.filter fun a => a.lvar != a.rvar).map (·.rty))

/-- a namesake for `a` is a variant of `a`'s target type, so arms into other types (`g` false) need not be searched -/
theorem namesakeAvailable_filter (g : Nat → Bool) (as : List ArmN) {a : ArmN} (h : g a.rty = true) :
    namesakeAvailable (as.filter (fun b => g b.rty)) a = namesakeAvailable as a := by
  simp only [namesakeAvailable, List.any_filter]
  congr; funext b
  by_cases hb : b.rty = a.rty <;> simp [hb, h]

/-- a number that depends on the name `i` only through its normal form (nothing rests on the constants: two names
    that meet here are told apart by the full search) -/
def nameHash (i : Nat) : Nat := (norm (nm i)).foldl (fun k c => (k * 31 + c) % 509) 0

def slot (ty var : Nat) : Nat := ty * 509 + nameHash var

def offered (as : List ArmN) : Nat := bits ((as.filter fun b => !delegates b).map fun b => slot b.rty b.rvar)

theorem namesakeAvailable_offered {as : List ArmN} {a : ArmN} (h : namesakeAvailable as a = true) :
    (offered as).testBit (slot a.rty a.lvar) = true := by
  simp only [namesakeAvailable, Bool.and_eq_true, List.any_eq_true, beq_iff_eq] at h
  obtain ⟨-, b, hb, ⟨hty, hd⟩, hn⟩ := h
  refine testBit_bits (List.mem_map.2 ⟨b, List.mem_filter.2 ⟨hb, hd⟩, ?_⟩)
  rw [slot, slot, nameHash, nameHash, hty, hn]

/-- conversion and target variant of an arm in one number (nothing rests on its being injective) -/
def target (a : ArmN) : Nat := a.impl * 1024 + a.rvar

/-- `injectiveGrouped`, looking for a collision only where conversion and target variant occur again later in the
    table: two arms collide only if they agree in both.  One pass: the kernel keeps the set of every tail. -/
def injectiveFast (m2o : List ManyToOne) : List ArmN → Bool
  | [] => true
  | a :: rest =>
    (!(bits (rest.map target)).testBit (target a) || !collidesWithAny m2o a (takeImpl a.impl rest)) &&
      injectiveFast m2o rest

theorem collidesWithAny_takeImpl {m2o : List ManyToOne} {a : ArmN} {i : Nat} : ∀ {l : List ArmN},
    collidesWithAny m2o a (takeImpl i l) = true → target a ∈ l.map target
  | b :: l, h => by
    rw [takeImpl] at h
    split at h
    · rw [collidesWithAny, Bool.or_eq_true] at h
      rcases h with h | h
      · have : target b = target a := by simp_all [armsCollide, target]
        simp [this]
      · simp [collidesWithAny_takeImpl h]
    · simp [collidesWithAny] at h

theorem injectiveGrouped_of_fast {m2o : List ManyToOne} :
    ∀ {l : List ArmN}, injectiveFast m2o l = true → injectiveGrouped m2o l = true
  | [], _ => rfl
  | a :: rest, h => by
    rw [injectiveFast, Bool.and_eq_true] at h
    rw [injectiveGrouped, injectiveGrouped_of_fast h.2, Bool.and_true, Bool.not_eq_true']
    cases hc : collidesWithAny m2o a (takeImpl a.impl rest) with
    | false => rfl
    | true => simp [hc, testBit_bits (collidesWithAny_takeImpl hc)] at h

theorem fieldNamesake_of_same_name (rn : List FieldRename) (cs : List (Name × Name)) (f : FieldN)
    (h : (f.kind ≤ 2 && f.chain.contains f.field) = true) : FieldNamesake rn cs f = true := by
  simp only [Bool.and_eq_true, decide_eq_true_eq, List.contains_iff_mem] at h
  have : f.kind ≠ 4 ∧ f.kind ≠ 5 ∧ f.kind ≠ 6 ∧ f.kind ≠ 3 := by omega
  have hm : normField (nm f.field) ∈ f.chain.map fun i => normField (nm i) := List.mem_map_of_mem h.2
  simp [FieldNamesake, this, h.1, hm]

end Dnp3.Proofs.FfiTables
