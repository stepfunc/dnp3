import Dnp3.Model.ObjectGrammar
/-! helper lemmas for `walk_exact` (C09): every successful read returns exactly the octets it consumed; the
walk unfolded by one accepted header -/
namespace Dnp3.App
open Dnp3.Gen Dnp3.Gen.App

/-- `bs` is a list of octets; `File70.allOctets` and `Attr.allOctets` unfold to the same statement -/
def bytesOk (bs : List Nat) : Prop := ∀ b ∈ bs, b < 256

theorem bytesOk_append {a b : List Nat} : bytesOk (a ++ b) ↔ bytesOk a ∧ bytesOk b := by
  simp only [bytesOk, List.mem_append, or_imp, forall_and]

theorem bytesOk_cons {x : Nat} {r : List Nat} (h : bytesOk (x :: r)) : x < 256 ∧ bytesOk r :=
  ⟨h x (List.mem_cons_self), fun b hb => h b (List.mem_cons_of_mem x hb)⟩

theorem readU8_eq {bs r : List Nat} {x : Nat} (h : readU8 bs = some (x, r)) : bs = x :: r := by
  unfold readU8 at h; split at h <;> simp at h; rw [h.1, h.2]

theorem readU16_eq {bs r : List Nat} {x : Nat} (h : readU16 bs = some (x, r)) (ok : bytesOk bs) : bs = le16 x ++ r := by
  unfold readU16 at h; split at h
  · rename_i lo hi r'
    simp only [Option.some.injEq, Prod.mk.injEq] at h
    obtain ⟨rfl, rfl⟩ := h
    have hlo : lo < 256 := ok lo (by simp)
    simp only [le16, List.cons_append, List.nil_append]
    congr 1
    · omega
    · congr 1; omega
  · cases h

theorem readIdx_eq {w : Bool} {bs r : List Nat} {x : Nat} (h : readIdx w bs = some (x, r)) (ok : bytesOk bs) :
    bs = leIdx w x ++ r := by
  unfold readIdx at h
  cases w
  · simp only [Bool.false_eq_true, ↓reduceIte] at h; simp only [leIdx, Bool.false_eq_true, ↓reduceIte]; exact readU8_eq h
  · simp only [↓reduceIte] at h; simp only [leIdx, ↓reduceIte]; exact readU16_eq h ok

theorem parseRange_exact {w : Bool} {bs r : List Nat} {s : Spec} (h : parseRange w bs = .ok (s, r)) (ok : bytesOk bs) :
    bs = s.bytes ++ r ∧ (∃ a b, s = .range w a b ∧ a ≤ b) := by
  unfold parseRange at h
  split at h
  · cases h
  · rename_i start r1 h1
    split at h
    · cases h
    · rename_i stop r2 h2
      split at h
      · cases h
      · rename_i hle
        injection h with h; injection h with ha hb; subst ha; subst hb
        have e1 := readIdx_eq h1 ok
        have ok1 : bytesOk r1 := by rw [e1] at ok; exact (bytesOk_append.1 ok).2
        have e2 := readIdx_eq h2 ok1
        refine ⟨?_, start, stop, rfl, by omega⟩
        simp only [Spec.bytes, List.append_assoc]; rw [← e2, ← e1]

theorem parseCount_exact {w p : Bool} {bs r : List Nat} {s : Spec} (h : parseCount w p bs = .ok (s, r)) (ok : bytesOk bs) :
    bs = s.bytes ++ r ∧ (∃ n, s = if p then .countPrefix w n else .count w n) := by
  unfold parseCount at h
  split at h
  · cases h
  · rename_i n r1 h1
    injection h with h; injection h with ha hb; subst ha; subst hb
    have e1 := readIdx_eq h1 ok
    refine ⟨?_, n, rfl⟩
    cases p <;> simp only [Spec.bytes, Bool.false_eq_true, ↓reduceIte] <;> exact e1

theorem parseFree_exact {bs r : List Nat} {s : Spec} (h : parseFree bs = .ok (s, r)) (ok : bytesOk bs) :
    bs = s.bytes ++ r ∧ (∃ len, s = .free 1 len) := by
  unfold parseFree at h
  split at h
  · cases h
  · rename_i c r1 h1
    split at h
    · cases h
    · rename_i hc
      split at h
      · cases h
      · rename_i len r2 h2
        injection h with h; injection h with ha hb; subst ha; subst hb
        have e1 := readU8_eq h1
        have ok1 : bytesOk r1 := by rw [e1] at ok; exact (bytesOk_cons ok).2
        have e2 := readU16_eq h2 ok1
        obtain rfl : c = 1 := Decidable.of_not_not hc
        refine ⟨?_, len, rfl⟩
        simp only [Spec.bytes, List.cons_append, List.nil_append]; rw [← e2, ← e1]

/-- `QualifierCode::parse` on the code of a header form: what follows is read by the function of that form -/
theorem parseSpec_qualifier (s : Spec) (bs : List Nat) :
    parseSpec s.qualifier bs = match s with
      | .all => .ok (.all, bs)
      | .range w _ _ => parseRange w bs
      | .count w _ => parseCount w false bs
      | .countPrefix w _ => parseCount w true bs
      | .free _ _ => parseFree bs := by
  rcases s with _ | ⟨_ | _, _, _⟩ | ⟨_ | _, _⟩ | ⟨_ | _, _⟩ | _ <;> rfl

theorem parseSpec_exact {q : Nat} {bs r : List Nat} {s : Spec} (h : parseSpec q bs = .ok (s, r)) (ok : bytesOk bs) :
    bs = s.bytes ++ r ∧ s.qualifier = q ∧ (∀ w a b, s = .range w a b → a ≤ b) ∧ (∀ c len, s = .free c len → c = 1) := by
  rcases parseSpec_cases h with ⟨hq, h⟩ | ⟨w, hq, h⟩ | ⟨w, p, hq, h⟩ | ⟨hq, h⟩
  · cases h; exact ⟨rfl, hq.symm, nofun, nofun⟩
  · obtain ⟨e, a, b, rfl, hab⟩ := parseRange_exact h ok
    refine ⟨e, ?_, ?_, nofun⟩
    · subst hq; cases w <;> rfl
    · intro w a' b' h; cases h; exact hab
  · obtain ⟨e, n, rfl⟩ := parseCount_exact h ok
    subst hq
    cases p <;> cases w <;> exact ⟨e, rfl, nofun, nofun⟩
  · obtain ⟨e, len, rfl⟩ := parseFree_exact h ok
    exact ⟨e, hq.symm, nofun, fun c _ h => by cases h; rfl⟩

theorem take_of_suffix {r bs : List Nat} (h : r <:+ bs) : bs = bs.take (bs.length - r.length) ++ r := by
  obtain ⟨t, rfl⟩ := h
  simp [List.take_left']

/-- what (payload kind, variation, header spec) imply for the payload length; `none` for group 0
    attribute objects, whose length is decided by the attribute's own type / length octets -/
def impliedLen (k : Payload) (var : Variation) (spec : Spec) : Option Nat :=
  match k with
  | .none | .emptySeq | .attrNone => some 0
  | .bits => some ((spec.nobj + 7) / 8)
  | .dbits => some ((spec.nobj + 3) / 4)
  | .fixed g v => some (fixedSize g v * spec.nobj)
  | .octets => some (var.var * spec.nobj)
  | .prefFixed g v => some ((idxSize spec.wide + fixedSize g v) * spec.nobj)
  | .prefOctets => some ((var.var + idxSize spec.wide) * spec.nobj)
  | .file _ => (match spec with | .free _ len => some len | _ => none)
  | .attr | .prefAttr => none

theorem readIdx_suffix {w : Bool} {bs r : List Nat} {x : Nat} (h : readIdx w bs = some (x, r)) : r <:+ bs := by
  unfold readIdx at h
  split at h
  · unfold readU16 at h
    split at h
    · cases h; exact (List.suffix_cons _ _).trans (List.suffix_cons _ _)
    · cases h
  · rw [readU8_eq h]; exact List.suffix_cons _ _

theorem readPayload_exact {zls : Bool} {var : Variation} {k : Payload} {spec : Spec} {bs p r : List Nat}
    (h : readPayload zls var k spec.start spec.nobj spec.wide bs = .ok (p, r)) :
    bs = p ++ r ∧ (∀ n, impliedLen k var spec = some n → p.length = n) ∧
      ((k = .octets ∨ k = .prefOctets) → var.var = 0 → zls = true) := by
  have take : ∀ {m}, takeE m bs = .ok (p, r) → bs = p ++ r ∧ ∀ n, some m = some n → p.length = n :=
    fun ht => ⟨(takeE_iff.1 ht).1, fun n hn => Option.some.inj hn ▸ (takeE_iff.1 ht).2⟩
  have other : k ≠ .octets → k ≠ .prefOctets → (k = .octets ∨ k = .prefOctets) → var.var = 0 → zls = true :=
    fun h1 h2 hk => (hk.elim h1 h2).elim
  cases k with
  | none | emptySeq | attrNone => cases h; exact ⟨rfl, fun n hn => Option.some.inj hn ▸ rfl, other nofun nofun⟩
  | bits | dbits | fixed | prefFixed => exact ⟨(take h).1, (take h).2, other nofun nofun⟩
  | octets | prefOctets =>
    simp only [readPayload] at h
    split at h
    · cases h
    · rename_i hz
      exact ⟨(take h).1, (take h).2, fun _ h0 => by cases zls <;> simp_all⟩
  | attr =>
    have h := ite_error_ok (ite_error_ok h)
    split at h
    · cases h
    · cases h; exact ⟨take_of_suffix (attrValue_suffix ‹_›), nofun, other nofun nofun⟩
  | prefAttr =>
    have h := ite_error_ok h
    split at h
    · cases h
    · have h := ite_error_ok h
      split at h
      · cases h
      · cases h
        exact ⟨take_of_suffix ((attrValue_suffix ‹_›).trans (readIdx_suffix ‹_›)), nofun, other nofun nofun⟩
  | file v => cases h

/-- the generated lookup table is self-consistent: the arm for group `g`, variation pattern `v` yields `GroupgVarv`
    (or the wildcard `Groupg(var)`) of that same group -/
theorem lookupTableOk_holds :
    (lookupTable.all fun row => row.2.all fun arm =>
      match arm.2 with
      | some (.fixed g' v') => g' == row.1 && arm.1 == some v'
      | some (.wild g') => g' == row.1
      | none => true) = true := by decide +kernel

theorem lookup_sound {g v : Nat} {var : Variation} (h : lookup g v = some var) : var.group = g ∧ var.var = v := by
  unfold lookup at h
  split at h
  · cases h
  · rename_i g0 arms hrow
    have hmem := List.mem_of_find?_eq_some hrow
    have hg : g0 = g := by
      have := List.find?_some hrow; simpa using this
    have hall := lookupTableOk_holds
    rw [List.all_eq_true] at hall
    have hrowok := hall _ hmem
    simp only at hrowok
    rw [List.all_eq_true] at hrowok
    split at h
    · rename_i pv g' v' harm
      have hm := List.mem_of_find?_eq_some harm
      have hp := List.find?_some harm
      have := hrowok _ hm
      simp only [Bool.and_eq_true, beq_iff_eq] at this
      injection h with h; subst h
      simp only [Variation.group, Variation.var]
      simp only [Bool.or_eq_true, beq_iff_eq] at hp
      obtain ⟨h1, h2⟩ := this
      subst h2
      rcases hp with hp | hp
      · injection hp with hp; exact ⟨by omega, hp⟩
      · cases hp
    · rename_i pv g' harm
      have hm := List.mem_of_find?_eq_some harm
      have := hrowok _ hm
      simp only [beq_iff_eq] at this
      injection h with h; subst h
      simp only [Variation.group, Variation.var, and_true]
      omega
    · cases h

structure RecOk (isRead zls : Bool) (r : HeaderRec) : Prop where
  /-- the variation is the one `Variation::lookup` returns for the two octets -/
  known : lookup r.var.group r.var.var = some r.var
  inTable : tableGet (tableFor isRead r.spec) r.var = some r.kind
  len : ∀ n, impliedLen r.kind r.var r.spec = some n → r.payload.length = n
  /-- `Range::from`: stop is not below start -/
  range : ∀ w a b, r.spec = .range w a b → a ≤ b
  /-- zero-length octet strings only with the option -/
  zeroLen : (r.kind = .octets ∨ r.kind = .prefOctets) → r.var.var = 0 → zls = true
  /-- free-format: count is 1 and the sub-cursor was consumed exactly -/
  free : ∀ c len, r.spec = .free c len → c = 1 ∧ ∃ v, r.kind = .file v ∧ fileRead v r.payload = .ok []

theorem parseBody_exact {isRead zls : Bool} {var : Variation} {spec : Spec} {bs rest : List Nat} {rec : HeaderRec}
    (h : parseBody isRead zls var spec bs = .ok (rec, rest)) (hk : lookup var.group var.var = some var)
    (hr : ∀ w a b, spec = .range w a b → a ≤ b) (hf : ∀ c len, spec = .free c len → c = 1) :
    bs = rec.payload ++ rest ∧ rec.var = var ∧ rec.spec = spec ∧ RecOk isRead zls rec := by
  unfold parseBody at h
  split at h
  · rename_i c len
    split at h
    · cases h
    · rename_i sub r hs
      have ht := takeE_iff.1 hs
      split at h
      · rename_i v hv
        split at h
        · cases h
        · rename_i left hl
          split at h
          · rename_i hempty
            cases h
            obtain rfl : left = [] := List.isEmpty_iff.1 hempty
            refine ⟨ht.1, rfl, rfl, hk, hv, fun n hn => Option.some.inj hn ▸ ht.2, hr, ?_, ?_⟩
            · rintro (hx | hx) <;> cases hx
            · intro c' len' he; cases he
              exact ⟨hf _ _ rfl, v, rfl, hl⟩
          · cases h
      · cases h
      · cases h
  · rename_i hnf
    split at h
    · cases h
    · rename_i k hk2
      split at h
      · cases h
      · rename_i payload r hp
        cases h
        obtain ⟨he, hlen, hz⟩ := readPayload_exact hp
        exact ⟨he, rfl, rfl, hk, hk2, hlen, hr, hz, fun c len he2 => absurd he2 (hnf c len)⟩

theorem parseOne_exact {isRead zls : Bool} {bs rest : List Nat} {rec : HeaderRec}
    (h : parseOne isRead zls bs = .ok (rec, rest)) (ok : bytesOk bs) :
    bs = rec.image ++ rest ∧ RecOk isRead zls rec := by
  unfold parseOne at h
  split at h
  · rename_i g v r0
    split at h
    · cases h
    · rename_i var hl
      split at h
      · cases h
      · rename_i q r
        split at h
        · cases h
        · rename_i spec r1 hs
          have ok1 : bytesOk r := (bytesOk_cons (bytesOk_cons (bytesOk_cons ok).2).2).2
          obtain ⟨e1, hq, hrange, hfree⟩ := parseSpec_exact hs ok1
          have hgv := lookup_sound hl
          have hk : lookup var.group var.var = some var := by rw [hgv.1, hgv.2]; exact hl
          obtain ⟨e2, hv, hsp, hok⟩ := parseBody_exact h hk hrange hfree
          refine ⟨?_, hok⟩
          simp only [HeaderRec.image, hv, hsp, hgv.1, hgv.2, hq, List.cons_append, List.nil_append, List.append_assoc]
          rw [← e2, ← e1]
  · cases h

theorem walk_cons {isRead zls : Bool} {bs rest : List Nat} {r : HeaderRec}
    (h : parseOne isRead zls bs = .ok (r, rest)) :
    walk isRead zls bs =
      match walk isRead zls rest with
      | .error e => .error e
      | .ok rs => .ok (r :: rs) := by
  have hne : bs.isEmpty = false := by
    cases bs with
    | nil => simp [parseOne] at h
    | cons _ _ => rfl
  rw [walk]
  simp only [hne, Bool.false_eq_true, ↓reduceIte]
  split
  · rename_i e he; rw [h] at he; cases he
  · rename_i r' rest' he
    rw [h] at he; cases he
    rfl

theorem walk_single {isRead zls : Bool} {bs : List Nat} {r : HeaderRec}
    (h : parseOne isRead zls bs = .ok (r, [])) : walk isRead zls bs = .ok [r] := by
  rw [walk_cons h, walk]; rfl

end Dnp3.App
