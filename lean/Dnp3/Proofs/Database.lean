import Dnp3.Proofs.DbTables
import Dnp3.Proofs.DatabaseEnc
import Dnp3.Proofs.DatabaseEv
import Dnp3.Proofs.DatabaseStatic
import Dnp3.Proofs.DatabaseCap
import Dnp3.Proofs.DatabaseX
/-!
# Proofs about the outstation database model (C03 / C11 / C13 component level)
-/
