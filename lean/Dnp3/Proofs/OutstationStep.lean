import Dnp3.Proofs.OutstationEv
/-!
# The control flow of the outstation session, exactly

The model runs the session task in continuation-passing style (`afterRequest k`, `afterUnsol k`, `afterDeferred k`,
with `k = runPass fuel`).  `Pt` names the points between which control passes (with the fuel left for further
passes), `run` the model expression a point stands for, and `Step x y` says that ONE handler takes the task from
point `x` to point `y`: each constructor carries the handler's own case lemma (`PassCase`, `SWFCase`, `UWFCase`,
`UWTCase`, `checkUnsolicited`, `handleDeferredRead`), so nothing the model computes is forgotten.
`step_chain` / `start_chain`: what `Outstation.step` and `Outstation.start` compute is the end of a chain of
`Step`s — a first handler, then only handlers inside the idle pass (`TStep`) or the fragment handler of a wait that
retains the fragment (`LStep`); `step_steps` / `start_steps` forget which can follow which; `Settles` keeps what
`settle` runs exactly (it dispatches again as long as a fragment is retained, `settle_retains` / `settle_quiet`).
An invariant of the session is therefore proved once per handler (`Star.inv`), without following the continuations
again; the event chains of `OutstationSkel2` / `OutstationSkel` are read off the same way.

How an invariant of the session is proved (smallest instance: `NoPanicOutstation`, from `GoodAt` to `step_good`):
1. state it on control points, `IAt : Pt × Acc → Prop`, with `.halt` apart (after the point that failed a panicked
   task has only set `mode := .dead` and emitted `.panic`: `diePt`);
2. it survives the point helpers `diePt`, `resumePt`, `abortPt`, `finishUnsolPt` (record updates: `Eff.set _ (by upd_rfl)`
   through the bridge `I.of_eff` of the relation, see `OutstationUpd`);
3. one lemma per case type: `PassCase` (`PassOf`, 6 leaves), `SWFCase` (`SWFOf`, 7) with `SolConfCase` (4), `UWFCase`
   (`UWFOf`, 15), `UWTCase` (2).  A leaf is the handler's primitives in sequence, each read off its effect:
   `(X_eff h).get .f` for one field, the bridge for the whole relation;
4. `i_step : Step x y → IAt x → IAt y`, a line per constructor (`chk*` / `def*` take `checkUnsolicited_cases` /
   `handleDeferredRead_cases` and their `.eff`);
5. `StepInit` gives the invariant at the first point (`StepInit.upd`, `StepInit.keep`), `step_steps` the chain,
   `Star.inv` the end (`start_steps` for the start-up pass).  Where only the first handler establishes it:
   `step_chain` and `Chain.inv`.
-/
namespace Dnp3.Proofs.Skel
open Dnp3 Dnp3.Proofs.Frame Dnp3.Proofs.Iin

attribute [local irreducible] Db.new Db.add Db.update Db.readSupported Db.select Db.writeResponse
  Db.writeUnsolicited Db.clearWritten Db.reset Db.unwrittenClasses Db.isOverflown

/-- where the session task is: `blk` blocked in (or being dispatched from) `mode`, which is genuine; `halt`
    panicked; inside the idle pass, about to run `check_unsolicited` (`req`), `handle_deferred_read` (`uns`) or
    `check_link_status` (`dfr`), with the fuel left for further passes and the idle action computed so far -/
inductive Pt where
  | blk | halt | req (fuel : Nat) | uns (fuel : Nat) (n : NextIdle) | dfr (fuel : Nat) (n : NextIdle)

/-- the model expression that runs the task on from a point -/
def run : Pt × Acc → StepRes
  | (.blk, a) => .blocked a
  | (.halt, a) => .panicked a
  | (.req fuel, a) => afterRequest (runPass fuel) a
  | (.uns fuel n, a) => afterUnsol (runPass fuel) a n
  | (.dfr fuel n, a) => afterDeferred (runPass fuel) a n

def diePt (a : Acc) : Pt × Acc := (.halt, emit ({ a.1 with mode := .dead }, a.2) .panic)

/-- `resumeAfterSol` -/
def resumePt (a : Acc) : SolCont → Pt × Acc
  | .fromRequest => (.req passFuel, a)
  | .fromDeferred n => (.dfr passFuel n, ({ a.1 with deferred := none }, a.2))

/-- `abortSeries` -/
def abortPt (a : Acc) (c : SolCont) : Pt × Acc := resumePt ({ a.1 with db := a.1.db.reset }, a.2) c

/-- `finishUnsol` -/
def finishUnsolPt (a : Acc) (isNull confirmed : Bool) : Pt × Acc :=
  (.uns passFuel (afterUnsolSeries a isNull confirmed).2, (afterUnsolSeries a isNull confirmed).1)

theorem run_resumePt (a : Acc) (c : SolCont) : run (resumePt a c) = resumeAfterSol a c := by
  cases c <;> rfl

theorem run_abortPt (a : Acc) (c : SolCont) : run (abortPt a c) = abortSeries a c :=
  run_resumePt _ c

/-- what one iteration of `runPass` does, up to `afterRequest`, with what `popRequest` returned; `s` is the state
    `popRequest` leaves -/
inductive PassOf (a : Acc) (fuel : Nat) (s : OState) : Popped → Pt × Acc → Prop
  | nothing : PassOf a fuel s .nothing (.req fuel, ({ s with pending := none }, a.2))
  | errorDie {src bc seq} : writeErrorResponse (onLinkActivity { s with pending := none }, a.2) src bc seq = none →
      PassOf a fuel s (.error src bc seq) (diePt (onLinkActivity { s with pending := none }, a.2))
  | error {src bc seq} (a' : Acc) :
      writeErrorResponse (onLinkActivity { s with pending := none }, a.2) src bc seq = some a' →
      PassOf a fuel s (.error src bc seq) (.req fuel, a')
  | requestDie {f ctrl func objs raw} :
      handleRequestFromIdle (onLinkActivity { s with pending := none }, a.2) f ctrl func objs raw = none →
      PassOf a fuel s (.request f ctrl func objs raw) (diePt (onLinkActivity { s with pending := none }, a.2))
  | requestWait {f ctrl func objs raw} (a' : Acc) (sr : Series) :
      handleRequestFromIdle (onLinkActivity { s with pending := none }, a.2) f ctrl func objs raw = some (a', some sr) →
      PassOf a fuel s (.request f ctrl func objs raw) (.blk, enterSolWait a' sr .fromRequest)
  | request {f ctrl func objs raw} (a' : Acc) :
      handleRequestFromIdle (onLinkActivity { s with pending := none }, a.2) f ctrl func objs raw = some (a', none) →
      PassOf a fuel s (.request f ctrl func objs raw) (.req fuel, a')

def PassCase (a : Acc) (fuel : Nat) (y : Pt × Acc) : Prop :=
  ∃ s p, popRequest { a.1 with notified := false } = (s, p) ∧ PassOf a fuel s p y

theorem runPass_cases (fuel : Nat) (a : Acc) : ∃ y, PassCase a fuel y ∧ runPass (fuel + 1) a = run y := by
  unfold runPass
  dsimp only
  generalize hpop : popRequest { a.1 with notified := false } = sp
  obtain ⟨s, p⟩ := sp
  suffices ∃ y, PassOf a fuel s p y ∧ _ = run y from let ⟨y, hy, e⟩ := this; ⟨y, ⟨s, p, hpop, hy⟩, e⟩
  cases p with
  | nothing => exact ⟨_, .nothing, rfl⟩
  | error src bc seq =>
    dsimp only
    cases hw : writeErrorResponse (onLinkActivity { s with pending := none }, a.2) src bc seq with
    | none => exact ⟨_, .errorDie hw, rfl⟩
    | some a' => exact ⟨_, .error a' hw, rfl⟩
  | request f ctrl func objs raw =>
    dsimp only
    cases hq : handleRequestFromIdle (onLinkActivity { s with pending := none }, a.2) f ctrl func objs raw with
    | none => exact ⟨_, .requestDie hq, rfl⟩
    | some p =>
      obtain ⟨a', ser⟩ := p
      cases ser with
      | none => exact ⟨_, .request a' hq, rfl⟩
      | some sr => exact ⟨_, .requestWait a' sr hq, rfl⟩

/-- a READ repeated in the solicited confirm wait -/
def _root_.Dnp3.Proofs.Skel2.solEchoAcc (a : Acc) (sr : Series) (c : SolCont) (dst : Nat) (resp : Option Resp) : Acc :=
  let a1 : Acc := ({ a.1 with pending := none }, a.2)
  let a2 := match resp with | some r => repeatSolicited a1 dst r | none => a1
  ({ a2.1 with mode := .solWait sr (a2.1.now + a2.1.cfg.ctimeout) c }, a2.2)

/-- what follows the confirm of a solicited fragment; `a5` is the accumulator after the confirmed events
    were cleared, `dst` the master -/
inductive SolConfCase (a5 : Acc) (sr : Series) (cont : SolCont) (dst : Nat) : Pt × Acc → Prop
  | done : sr.fin = true → SolConfCase a5 sr cont dst (resumePt a5 cont)
  | die (s6 : OState) (r6 : Resp) (next : Option Series) : sr.fin = false →
      formatReadResponse a5.1 false (seq4Next sr.ecsn) 0 = (s6, r6, next) →
      writeSolicited (s6, a5.2) dst r6 = none → SolConfCase a5 sr cont dst (diePt a5)
  | last (s6 : OState) (r6 : Resp) (a7 : Acc) (r7 : Resp) : sr.fin = false →
      formatReadResponse a5.1 false (seq4Next sr.ecsn) 0 = (s6, r6, none) →
      writeSolicited (s6, a5.2) dst r6 = some (a7, r7) →
      SolConfCase a5 sr cont dst (resumePt
        ({ a7.1 with lastReq := a7.1.lastReq.map (fun lr => { lr with response := some r7 }) }, a7.2) cont)
  | next (s6 : OState) (r6 : Resp) (sr' : Series) (a7 : Acc) (r7 : Resp) : sr.fin = false →
      formatReadResponse a5.1 false (seq4Next sr.ecsn) 0 = (s6, r6, some sr') →
      writeSolicited (s6, a5.2) dst r6 = some (a7, r7) →
      SolConfCase a5 sr cont dst (.blk,
        ({ a7.1 with lastReq := a7.1.lastReq.map (fun lr => { lr with response := some r7 }),
                     mode := .solWait sr' (a7.1.now + a7.1.cfg.ctimeout) cont }, a7.2))

/-- what `solWaitOnFragment` does with what `popRequest` returned; `s` is the state `popRequest` leaves -/
inductive SWFOf (a : Acc) (sr : Series) (cont : SolCont) (s : OState) : Popped → Pt × Acc → Prop
  | nothing : SWFOf a sr cont s .nothing (.blk, ({ s with pending := none }, a.2))
  | error {src bc seq} :
      SWFOf a sr cont s (.error src bc seq) (abortPt (emitCb (onLinkActivity s, a.2) .solNewRequest) cont)
  | newRequest {f ctrl func objs raw} : func ≠ 0 →
      (∀ r hs, classify (onLinkActivity s) f ctrl func objs ≠ .repeatRead r hs) →
      SWFOf a sr cont s (.request f ctrl func objs raw) (abortPt (emitCb (onLinkActivity s, a.2) .solNewRequest) cont)
  | echo {f ctrl hs raw} (resp : Option Resp) : classify (onLinkActivity s) f ctrl 1 (.ok hs) = .repeatRead resp hs →
      SWFOf a sr cont s (.request f ctrl 1 (.ok hs) raw) (.blk, Skel2.solEchoAcc (onLinkActivity s, a.2) sr cont f.src resp)
  | unsolConfirm {f ctrl objs raw} : ctrl.uns = true →
      SWFOf a sr cont s (.request f ctrl 0 objs raw) (.blk,
        emitCb ({ onLinkActivity s with pending := none }, a.2) (.unexpectedConfirm true ctrl.seq))
  | wrongSeq {f ctrl objs raw} : ctrl.uns = false → ctrl.seq ≠ sr.ecsn →
      SWFOf a sr cont s (.request f ctrl 0 objs raw) (.blk,
        emitCb ({ onLinkActivity s with pending := none }, a.2) (.solWrongSeq sr.ecsn ctrl.seq))
  | confirmed {f ctrl objs raw y} : ctrl.uns = false → ctrl.seq = sr.ecsn →
      SolConfCase (clearWrittenEvents ({ onLinkActivity s with pending := none, lastBroadcast := none },
        a.2 ++ [.cb (.solConfirmed sr.ecsn)])) sr cont f.src y →
      SWFOf a sr cont s (.request f ctrl 0 objs raw) y

def SWFCase (a : Acc) (sr : Series) (cont : SolCont) (y : Pt × Acc) : Prop :=
  ∃ s p, popRequest a.1 = (s, p) ∧ SWFOf a sr cont s p y

theorem solWaitOnFragment_cases (a : Acc) (sr : Series) (dl : Nat) (cont : SolCont) :
    ∃ y, SWFCase a sr cont y ∧ solWaitOnFragment a sr dl cont = run y := by
  unfold solWaitOnFragment
  dsimp only
  generalize hpop : popRequest a.1 = sp
  obtain ⟨s, p⟩ := sp
  suffices ∃ y, SWFOf a sr cont s p y ∧ _ = run y from let ⟨y, hy, e⟩ := this; ⟨y, ⟨s, p, hpop, hy⟩, e⟩
  cases p with
  | nothing => exact ⟨_, .nothing, rfl⟩
  | error src bc seq => exact ⟨_, .error, (run_abortPt _ _).symm⟩
  | request f ctrl func objs raw =>
    dsimp only
    have cf := classify_facts (onLinkActivity s) f ctrl func objs
    have new : func ≠ 0 → (∀ r hs, classify (onLinkActivity s) f ctrl func objs ≠ .repeatRead r hs) →
        ∃ y, SWFOf a sr cont s (.request f ctrl func objs raw) y ∧
          abortSeries (emitCb (onLinkActivity s, a.2) .solNewRequest) cont = run y :=
      fun h0 hc => ⟨_, .newRequest h0 hc, (run_abortPt _ _).symm⟩
    cases hc : classify (onLinkActivity s) f ctrl func objs with
    | malformed e => rw [hc] at cf; exact new cf.1 (by simp [hc])
    | newRead hs => rw [hc] at cf; exact new (by rw [cf.1]; decide) (by simp [hc])
    | newNonRead hs => rw [hc] at cf; exact new cf.1 (by simp [hc])
    | repeatNonRead last => rw [hc] at cf; exact new cf.1 (by simp [hc])
    | broadcast m => rw [hc] at cf; exact new cf.1 (by simp [hc])
    | repeatRead resp hs =>
      rw [hc] at cf
      obtain ⟨h1, -, ho⟩ := cf
      subst h1 ho
      exact ⟨_, .echo resp hc, rfl⟩
    | unsolConfirm seq =>
      rw [hc] at cf
      obtain ⟨h0, hu, hs⟩ := cf
      subst h0 hs
      exact ⟨_, .unsolConfirm hu, rfl⟩
    | solConfirm seq =>
      rw [hc] at cf
      obtain ⟨h0, hu, hs⟩ := cf
      subst h0 hs
      dsimp only
      by_cases hseq : ctrl.seq = sr.ecsn
      · rw [if_neg (fun h => h hseq)]
        generalize hx : clearWrittenEvents _ = a5
        have hx' : clearWrittenEvents ({ onLinkActivity s with pending := none, lastBroadcast := none },
            a.2 ++ [.cb (.solConfirmed sr.ecsn)]) = a5 := hx
        suffices ∃ y, SolConfCase a5 sr cont f.src y ∧ _ = run y by
          obtain ⟨y, hy, e⟩ := this
          exact ⟨y, .confirmed hu hseq (hx' ▸ hy), e⟩
        cases hfin : sr.fin with
        | true => exact ⟨_, .done hfin, (run_resumePt _ _).symm⟩
        | false =>
          simp only [Bool.false_eq_true, if_false]
          generalize hfr : formatReadResponse a5.1 false (seq4Next sr.ecsn) 0 = fr
          obtain ⟨s6, r6, next⟩ := fr
          dsimp only
          cases hw : writeSolicited (s6, a5.2) f.src r6 with
          | none => exact ⟨_, .die s6 r6 next hfin hfr hw, rfl⟩
          | some p =>
            obtain ⟨a7, r7⟩ := p
            cases next with
            | none => exact ⟨_, .last s6 r6 a7 r7 hfin hfr hw, (run_resumePt _ _).symm⟩
            | some sr' => exact ⟨_, .next s6 r6 sr' a7 r7 hfin hfr hw, rfl⟩
      · rw [if_pos hseq]; exact ⟨_, .wrongSeq hu hseq, rfl⟩

/-- a non-READ request repeated in the unsolicited confirm wait -/
def _root_.Dnp3.Proofs.Skel2.uwEchoAcc (a : Acc) (dst : Nat) (last : Option Resp) : Acc :=
  let a1 := match last with | some r => repeatSolicited a dst r | none => a
  ({ a1.1 with deferred := none }, a1.2)

theorem _root_.Dnp3.Proofs.Skel2.solEchoAcc_fields (a : Acc) (sr : Series) (c : SolCont) (dst : Nat) (resp : Option Resp) :
    (Skel2.solEchoAcc a sr c dst resp).1.lastReq = a.1.lastReq ∧
    (Skel2.solEchoAcc a sr c dst resp).1.deferred = a.1.deferred := by
  cases resp <;> simp [Skel2.solEchoAcc, repeatSolicited_eq]

theorem _root_.Dnp3.Proofs.Skel2.uwEchoAcc_fields (a : Acc) (dst : Nat) (last : Option Resp) :
    (Skel2.uwEchoAcc a dst last).1.lastReq = a.1.lastReq ∧ (Skel2.uwEchoAcc a dst last).1.deferred = none ∧
    (Skel2.uwEchoAcc a dst last).1.pending = a.1.pending ∧ (Skel2.uwEchoAcc a dst last).1.mode = a.1.mode := by
  cases last <;> simp [Skel2.uwEchoAcc, repeatSolicited_eq]

def _root_.Dnp3.Proofs.Skel2.NRWritten (a4 : Acc) (dst : Nat) (r4 : Option Resp) (a5 : Acc) (r5 : Option Resp) : Prop :=
  (r4 = none ∧ a5 = a4 ∧ r5 = none) ∨
  ∃ r r', r4 = some r ∧ writeSolicited a4 dst r = some (a5, r') ∧ r5 = some r'

theorem _root_.Dnp3.Proofs.Skel2.NRWritten.eff {a4 a5 : Acc} {dst : Nat} {r4 r5 : Option Resp}
    (h : Skel2.NRWritten a4 dst r4 a5 r5) : Eff [.lastBroadcast, .solBuf, .solLen] [] (KP [.tx]) a4 a5 := by
  rcases h with ⟨_, rfl, _⟩ | ⟨_, _, _, hw, _⟩
  · exact .refl
  · exact writeSolicited_eff hw

/-- what `unsolWaitOnFragment` does with what `popRequest` returned; `s` is the state `popRequest` leaves, the
    fragment is consumed and (for a request) the link activity noted before anything else happens.  Neither
    `processBroadcast` nor `handleNonRead` fails (`processBroadcast_ne_none`, `handleNonRead_ne_none`) -/
inductive UWFOf (a : Acc) (resp : Resp) (isNull : Bool) (s : OState) : Popped → Pt × Acc → Prop
  | nothing : UWFOf a resp isNull s .nothing (.blk, ({ s with pending := none }, a.2))
  | errorDie {src bc seq} :
      writeErrorResponse ({ s with pending := none, deferred := none }, a.2) src bc seq = none →
      UWFOf a resp isNull s (.error src bc seq) (diePt ({ s with pending := none }, a.2))
  | error {src bc seq} (a' : Acc) :
      writeErrorResponse ({ s with pending := none, deferred := none }, a.2) src bc seq = some a' →
      UWFOf a resp isNull s (.error src bc seq) (.blk, a')
  | unsolConfirm {f ctrl objs raw} : ctrl.uns = true → ctrl.seq = resp.ctrl.seq →
      UWFOf a resp isNull s (.request f ctrl 0 objs raw) (finishUnsolPt (emitCb
        ({ onLinkActivity { s with pending := none } with
            lastBroadcast := if s.unsolReported then none else s.lastBroadcast }, a.2)
        (.unsolConfirmed resp.ctrl.seq)) isNull true)
  | otherConfirm {f ctrl objs raw} : ctrl.uns = true → ctrl.seq ≠ resp.ctrl.seq →
      UWFOf a resp isNull s (.request f ctrl 0 objs raw) (.blk, (onLinkActivity { s with pending := none }, a.2))
  | solConfirm {f ctrl objs raw} : ctrl.uns = false →
      UWFOf a resp isNull s (.request f ctrl 0 objs raw) (.blk,
        if s.lastBroadcast = some 1 then
          ({ onLinkActivity { s with pending := none } with lastBroadcast := none }, a.2)
         else (onLinkActivity { s with pending := none }, a.2))
  | bcast {f ctrl func objs raw} (m : Nat) (a' : Acc) : func ≠ 0 → f.broadcast = some m →
      processBroadcast ({ onLinkActivity { s with pending := none } with deferred := none }, a.2) f m ctrl func objs raw
        = some a' →
      UWFOf a resp isNull s (.request f ctrl func objs raw) (.blk, ({ a'.1 with unsolReported := false }, a'.2))
  | malformedDie {f ctrl func e raw} : func ≠ 0 → f.broadcast = none →
      writeSolicited ({ onLinkActivity { s with pending := none } with deferred := none }, a.2) f.src
        (emptySolicited ctrl.seq e) = none →
      UWFOf a resp isNull s (.request f ctrl func (.error e) raw) (diePt (onLinkActivity { s with pending := none }, a.2))
  | malformed {f ctrl func e raw} (a' : Acc) (r' : Resp) : func ≠ 0 → f.broadcast = none →
      writeSolicited ({ onLinkActivity { s with pending := none } with deferred := none }, a.2) f.src
        (emptySolicited ctrl.seq e) = some (a', r') →
      UWFOf a resp isNull s (.request f ctrl func (.error e) raw) (.blk, a')
  | nonReadWriteDie {f ctrl func hs raw} (a4 : Acc) (r : Resp) : func ≠ 0 → func ≠ 1 → f.broadcast = none →
      handleNonRead ({ onLinkActivity { s with pending := none } with deferred := none }, a.2) func ctrl.seq f.id hs raw
        = some (a4, some r) →
      writeSolicited a4 f.src r = none →
      classify (onLinkActivity { s with pending := none }) f ctrl func (.ok hs) = .newNonRead hs →
      UWFOf a resp isNull s (.request f ctrl func (.ok hs) raw) (diePt a4)
  | nonRead {f ctrl func hs raw} (a4 : Acc) (r4 : Option Resp) (a5 : Acc) (r5 : Option Resp) :
      func ≠ 0 → func ≠ 1 → f.broadcast = none →
      handleNonRead ({ onLinkActivity { s with pending := none } with deferred := none }, a.2) func ctrl.seq f.id hs raw
        = some (a4, r4) →
      Skel2.NRWritten a4 f.src r4 a5 r5 → func ≠ 21 →
      classify (onLinkActivity { s with pending := none }) f ctrl func (.ok hs) = .newNonRead hs →
      UWFOf a resp isNull s (.request f ctrl func (.ok hs) raw)
        (.blk, ({ a5.1 with lastReq := some ⟨ctrl.seq, f.data, r5, none⟩ }, a5.2))
  | disable {f ctrl hs raw} (a4 : Acc) (r4 : Option Resp) (a5 : Acc) (r5 : Option Resp) : f.broadcast = none →
      handleNonRead ({ onLinkActivity { s with pending := none } with deferred := none }, a.2) 21 ctrl.seq f.id hs raw
        = some (a4, r4) →
      Skel2.NRWritten a4 f.src r4 a5 r5 →
      classify (onLinkActivity { s with pending := none }) f ctrl 21 (.ok hs) = .newNonRead hs →
      UWFOf a resp isNull s (.request f ctrl 21 (.ok hs) raw)
        (finishUnsolPt ({ a5.1 with lastReq := some ⟨ctrl.seq, f.data, r5, none⟩ }, a5.2) isNull false)
  | read {f ctrl hs raw} : f.broadcast = none →
      ((∃ r, classify (onLinkActivity { s with pending := none }) f ctrl 1 (.ok hs) = .repeatRead r hs) ∨
        classify (onLinkActivity { s with pending := none }) f ctrl 1 (.ok hs) = .newRead hs) →
      UWFOf a resp isNull s (.request f ctrl 1 (.ok hs) raw)
        (.blk, (deferredSet (onLinkActivity { s with pending := none }) f ctrl.seq hs, a.2))
  | echo {f ctrl func objs raw} (last : Option Resp) : func ≠ 0 →
      classify (onLinkActivity { s with pending := none }) f ctrl func objs = .repeatNonRead last →
      UWFOf a resp isNull s (.request f ctrl func objs raw)
        (.blk, Skel2.uwEchoAcc (onLinkActivity { s with pending := none }, a.2) f.src last)

def UWFCase (a : Acc) (resp : Resp) (isNull : Bool) (y : Pt × Acc) : Prop :=
  ∃ s p, popRequest a.1 = (s, p) ∧ UWFOf a resp isNull s p y

theorem unsolWaitOnFragment_cases (a : Acc) (resp : Resp) (isNull : Bool) :
    ∃ y, UWFCase a resp isNull y ∧ unsolWaitOnFragment a resp isNull = run y := by
  unfold unsolWaitOnFragment
  dsimp only
  generalize hpop : popRequest a.1 = sp
  obtain ⟨s, p⟩ := sp
  suffices ∃ y, UWFOf a resp isNull s p y ∧ _ = run y from let ⟨y, hy, e⟩ := this; ⟨y, ⟨s, p, hpop, hy⟩, e⟩
  cases p with
  | nothing => exact ⟨_, .nothing, rfl⟩
  | error src bc seq =>
    dsimp only
    cases hw : writeErrorResponse ({ s with pending := none, deferred := none }, a.2) src bc seq with
    | none => exact ⟨_, .errorDie hw, rfl⟩
    | some a' => exact ⟨_, .error a' hw, rfl⟩
  | request f ctrl func objs raw =>
    dsimp only
    have cf := classify_facts (onLinkActivity { s with pending := none }) f ctrl func objs
    cases hc : classify (onLinkActivity { s with pending := none }) f ctrl func objs with
    | unsolConfirm seq =>
      rw [hc] at cf
      obtain ⟨h0, hu, hs⟩ := cf
      subst h0
      dsimp only
      by_cases hseq : seq = resp.ctrl.seq
      · rw [if_pos hseq]; subst hseq; exact ⟨_, .unsolConfirm hu hs.symm, rfl⟩
      · rw [if_neg hseq]; exact ⟨_, .otherConfirm hu (fun h => hseq (hs.trans h)), rfl⟩
    | solConfirm seq =>
      rw [hc] at cf
      obtain ⟨h0, hu, _⟩ := cf
      subst h0
      exact ⟨_, .solConfirm hu, rfl⟩
    | broadcast m =>
      rw [hc] at cf
      dsimp only
      cases hp : processBroadcast ({ onLinkActivity { s with pending := none } with deferred := none }, a.2)
          f m ctrl func objs raw with
      | none => exact absurd hp (processBroadcast_ne_none _ _ _ _ _ _ _)
      | some a' => exact ⟨_, .bcast m a' cf.1 cf.2 hp, rfl⟩
    | malformed e =>
      rw [hc] at cf
      obtain ⟨h0, hb, ho⟩ := cf
      subst ho
      dsimp only
      cases hw : writeSolicited ({ onLinkActivity { s with pending := none } with deferred := none }, a.2) f.src
          (emptySolicited ctrl.seq e) with
      | none => exact ⟨_, .malformedDie h0 hb hw, rfl⟩
      | some p => exact ⟨_, .malformed p.1 p.2 h0 hb hw, rfl⟩
    | newNonRead hs =>
      rw [hc] at cf
      obtain ⟨h0, h1, hb, ho⟩ := cf
      subst ho
      dsimp only
      cases hn : handleNonRead ({ onLinkActivity { s with pending := none } with deferred := none }, a.2)
          func ctrl.seq f.id hs raw with
      | none => exact absurd hn (handleNonRead_ne_none _ _ _ _ _ _)
      | some p =>
        obtain ⟨a4, r4⟩ := p
        dsimp only
        have fin : ∀ a5 r5, Skel2.NRWritten a4 f.src r4 a5 r5 →
            ∃ y, UWFOf a resp isNull s (.request f ctrl func (.ok hs) raw) y ∧
            (if func = 21 then finishUnsol ({ a5.1 with lastReq := some ⟨ctrl.seq, f.data, r5, none⟩ }, a5.2) isNull false
             else .blocked ({ a5.1 with lastReq := some ⟨ctrl.seq, f.data, r5, none⟩ }, a5.2)) =
              run y := by
          intro a5 r5 hw
          by_cases h21 : func = 21
          · rw [if_pos h21]; subst h21; exact ⟨_, .disable a4 r4 a5 r5 hb hn hw hc, rfl⟩
          · rw [if_neg h21]; exact ⟨_, .nonRead a4 r4 a5 r5 h0 h1 hb hn hw h21 hc, rfl⟩
        cases r4 with
        | none => exact fin a4 none (.inl ⟨rfl, rfl, rfl⟩)
        | some r =>
          dsimp only
          cases hw : writeSolicited a4 f.src r with
          | none => exact ⟨_, .nonReadWriteDie a4 r h0 h1 hb hn hw hc, rfl⟩
          | some q => exact fin q.1 (some q.2) (.inr ⟨r, q.2, rfl, hw, rfl⟩)
    | newRead hs =>
      rw [hc] at cf
      obtain ⟨h1, hb, ho⟩ := cf
      subst h1 ho
      exact ⟨_, .read hb (.inr hc), rfl⟩
    | repeatRead rr hs =>
      rw [hc] at cf
      obtain ⟨h1, hb, ho⟩ := cf
      subst h1 ho
      exact ⟨_, .read hb (.inl ⟨rr, hc⟩), rfl⟩
    | repeatNonRead last => rw [hc] at cf; exact ⟨_, .echo last cf.1 hc, rfl⟩

inductive UWTCase (a : Acc) (resp : Resp) (isNull : Bool) (retries : Option Nat) : Pt × Acc → Prop
  | finish : (a.1.deferred.isSome = true ∨ retries = some 0) →
      UWTCase a resp isNull retries (finishUnsolPt (emitCb a (.unsolTimeout resp.ctrl.seq false)) isNull false)
  | retry (retries' : Option Nat) : a.1.deferred = none →
      ((retries = none ∧ retries' = none) ∨ ∃ n, retries = some (n + 1) ∧ retries' = some n) →
      UWTCase a resp isNull retries (.blk,
        ({ (repeatUnsolicited (emitCb a (.unsolTimeout resp.ctrl.seq true)) resp).1 with
            mode := .unsolWait resp isNull retries' (a.1.now + a.1.cfg.ctimeout) },
         (repeatUnsolicited (emitCb a (.unsolTimeout resp.ctrl.seq true)) resp).2))

theorem unsolWaitTimeout_cases (a : Acc) (resp : Resp) (isNull : Bool) (retries : Option Nat) :
    ∃ y, UWTCase a resp isNull retries y ∧ unsolWaitTimeout a resp isNull retries = run y := by
  unfold unsolWaitTimeout
  cases hd : a.1.deferred with
  | some d =>
    simp only [Option.isSome_some, if_true, Bool.not_false]
    exact ⟨_, .finish (Or.inl (by rw [hd]; rfl)), rfl⟩
  | none =>
    simp only [Option.isSome_none, Bool.false_eq_true, if_false]
    match retries with
    | none =>
      simp only [Bool.not_true, Bool.false_eq_true, if_false]
      exact ⟨_, .retry none hd (Or.inl ⟨rfl, rfl⟩), rfl⟩
    | some 0 =>
      simp only [Bool.not_false, if_true]
      exact ⟨_, .finish (Or.inr rfl), rfl⟩
    | some (n+1) =>
      simp only [Bool.not_true, Bool.false_eq_true, if_false]
      exact ⟨_, .retry (some n) hd (Or.inr ⟨n, rfl, rfl⟩), rfl⟩

theorem dispatch_idle {a : Acc} {next : NextIdle} (hm : a.1.mode = .idle next) (hw : idleWakes a.1 = true) :
    dispatch a = runPass passFuel a := by
  unfold dispatch
  rw [hm]
  simp only [hw, if_true]

theorem dispatch_solWait_eq {a : Acc} {sr : Series} {dl : Nat} {cont : SolCont} (hm : a.1.mode = .solWait sr dl cont) :
    dispatch a = if a.1.pending.isSome then solWaitOnFragment a sr dl cont
      else if dl ≤ a.1.now then solWaitTimeout a sr cont else .blocked a := by
  unfold dispatch
  rw [hm]

theorem dispatch_unsolWait_eq {a : Acc} {resp : Resp} {isNull : Bool} {retries : Option Nat} {dl : Nat}
    (hm : a.1.mode = .unsolWait resp isNull retries dl) :
    dispatch a = if a.1.pending.isSome then unsolWaitOnFragment a resp isNull
      else if dl ≤ a.1.now then unsolWaitTimeout a resp isNull retries else .blocked a := by
  unfold dispatch
  rw [hm]

theorem dispatch_solWait {a : Acc} {sr : Series} {dl : Nat} {cont : SolCont} (hm : a.1.mode = .solWait sr dl cont)
    (hp : a.1.pending.isSome = true) : dispatch a = solWaitOnFragment a sr dl cont := by
  rw [dispatch_solWait_eq hm, if_pos hp]

theorem dispatch_unsolWait {a : Acc} {resp : Resp} {isNull : Bool} {retries : Option Nat} {dl : Nat}
    (hm : a.1.mode = .unsolWait resp isNull retries dl) (hp : a.1.pending.isSome = true) :
    dispatch a = unsolWaitOnFragment a resp isNull := by
  rw [dispatch_unsolWait_eq hm, if_pos hp]

theorem solWaitOnFragment_foreign (a : Acc) (sr : Series) (dl : Nat) (cont : SolCont) (f : Frag)
    (hp : a.1.pending = some f) (hfm : a.1.cfg.anymaster = false ∧ f.src ≠ a.1.cfg.master) :
    solWaitOnFragment a sr dl cont = .blocked ({ a.1 with pending := none }, a.2) := by
  simp only [solWaitOnFragment, popRequest_iff.2 (.foreign f hp hfm.1 hfm.2)]

theorem unsolWaitOnFragment_foreign (a : Acc) (resp : Resp) (isNull : Bool) (f : Frag)
    (hp : a.1.pending = some f) (hfm : a.1.cfg.anymaster = false ∧ f.src ≠ a.1.cfg.master) :
    unsolWaitOnFragment a resp isNull = .blocked ({ a.1 with pending := none }, a.2) := by
  simp only [unsolWaitOnFragment, popRequest_iff.2 (.foreign f hp hfm.1 hfm.2)]

theorem pending_none_of_not_isSome {s : OState} (h : ¬ s.pending.isSome = true) : s.pending = none := by
  cases hp : s.pending with
  | none => rfl
  | some f => rw [hp] at h; exact absurd rfl h

/-- one handler runs: from a point to the point it hands control to -/
inductive Step : Pt × Acc → Pt × Acc → Prop
  /-- a pass that starts from a blocking point has the full fuel: `dispatch` (and `Outstation.step` on `.cut`,
      `Outstation.start`) calls `runPass passFuel`, and `passFuel = 63 + 1` (Model/Outstation.lean; a bound of the
      model, the loop of `run_idle_state` has none) -/
  | pass (a : Acc) (n : NextIdle) (y : Pt × Acc) : a.1.mode = .idle n → idleWakes a.1 = true → PassCase a 63 y →
      Step (.blk, a) y
  | chkDie (a : Acc) (fuel : Nat) : checkUnsolicited a = none → Step (.req fuel, a) (diePt a)
  | chkStart (a : Acc) (fuel : Nat) (a' : Acc) : checkUnsolicited a = some (.inl a') → Step (.req fuel, a) (.blk, a')
  | chkIdle (a : Acc) (fuel : Nat) (a' : Acc) (n : NextIdle) : checkUnsolicited a = some (.inr (a', n)) →
      Step (.req fuel, a) (.uns fuel n, a')
  | defDie (a : Acc) (fuel : Nat) (n : NextIdle) : handleDeferredRead a n = none → Step (.uns fuel n, a) (diePt a)
  | defWait (a : Acc) (fuel : Nat) (n : NextIdle) (a' : Acc) : handleDeferredRead a n = some (.inl a') →
      Step (.uns fuel n, a) (.blk, a')
  | defDone (a : Acc) (fuel : Nat) (n : NextIdle) (a' : Acc) : handleDeferredRead a n = some (.inr a') →
      Step (.uns fuel n, a) (.dfr fuel n, a')
  | finishPass (a : Acc) (fuel : Nat) (n : NextIdle) : idleWakes (finishPass a n).1 = false →
      Step (.dfr fuel n, a) (.blk, finishPass a n)
  /-- the idle wait returns at once: the next pass follows without blocking -/
  | again (a : Acc) (fuel : Nat) (n : NextIdle) (y : Pt × Acc) : idleWakes (finishPass a n).1 = true →
      PassCase (finishPass a n) fuel y → Step (.dfr (fuel + 1) n, a) y
  /-- the model's bound on consecutive passes is used up.  `NoPanicOutstation.runPass_passFuel` (without a keep-alive
      period of 0, what `runPass passFuel` returns does not depend on what runs at fuel 0) is a statement about
      `runPass`; no lemma says of a chain of `Step`s that it never takes this one -/
  | fuel (a : Acc) (n : NextIdle) : idleWakes (finishPass a n).1 = true →
      Step (.dfr 0 n, a) (.blk, emitCb (finishPass a n) .modelFuelExhausted)
  | solFragment (a : Acc) (sr : Series) (dl : Nat) (c : SolCont) (y : Pt × Acc) : a.1.mode = .solWait sr dl c →
      a.1.pending.isSome = true → SWFCase a sr c y → Step (.blk, a) y
  | solTimeout (a : Acc) (sr : Series) (dl : Nat) (c : SolCont) : a.1.mode = .solWait sr dl c → a.1.pending = none →
      dl ≤ a.1.now → Step (.blk, a) (abortPt (emitCb a (.solTimeout sr.ecsn)) c)
  | unsolFragment (a : Acc) (resp : Resp) (isNull : Bool) (rt : Option Nat) (dl : Nat) (y : Pt × Acc) :
      a.1.mode = .unsolWait resp isNull rt dl → a.1.pending.isSome = true → UWFCase a resp isNull y → Step (.blk, a) y
  | unsolTimeout (a : Acc) (resp : Resp) (isNull : Bool) (rt : Option Nat) (dl : Nat) (y : Pt × Acc) :
      a.1.mode = .unsolWait resp isNull rt dl → a.1.pending = none → dl ≤ a.1.now → UWTCase a resp isNull rt y →
      Step (.blk, a) y

/-- a handler that runs inside the idle pass: every handler of a dispatch but the first starts from such a point -/
def TStep (x y : Pt × Acc) : Prop := Step x y ∧ x.1 ≠ .blk

/-- the task is blocked in a confirm wait with a fragment retained: the test of `settle`'s loop (`settle_retains`,
    `settle_quiet`), so `settle` runs that wait's handler again -/
def Retains (s : OState) : Prop :=
  s.pending.isSome = true ∧ ((∃ sr dl c, s.mode = .solWait sr dl c) ∨ ∃ r n rt dl, s.mode = .unsolWait r n rt dl)

/-- a handler that runs after the first of a step: inside the idle pass, or from a wait that retains a fragment
    (so never a timeout, which asks for `pending = none`, and never a pass from a blocking point, which asks for
    the mode `idle`) -/
def LStep (x y : Pt × Acc) : Prop := Step x y ∧ (x.1 = .blk → Retains x.2.1)

def EndsBy (R : Pt × Acc → Pt × Acc → Prop) (x : Pt × Acc) (r : StepRes) : Prop :=
  ∃ z, Star R x z ∧ (z.1 = .blk ∨ z.1 = .halt) ∧ r = run z

abbrev Ends := EndsBy Step
abbrev Tail := EndsBy TStep
abbrev Later := EndsBy LStep

section
variable {R : Pt × Acc → Pt × Acc → Prop}

theorem EndsBy.blocked (a : Acc) : EndsBy R (.blk, a) (.blocked a) := ⟨_, .refl _, .inl rfl, rfl⟩

theorem EndsBy.die (a : Acc) : EndsBy R (diePt a) (die a) := ⟨_, .refl _, .inr rfl, rfl⟩

theorem EndsBy.trans {x y : Pt × Acc} {r : StepRes} (h : Star R x y) (hy : EndsBy R y r) : EndsBy R x r := by
  obtain ⟨z, hz, hf, e⟩ := hy
  exact ⟨z, h.trans hz, hf, e⟩

theorem EndsBy.head {x y : Pt × Acc} {r : StepRes} (h : R x y) (hy : EndsBy R y r) : EndsBy R x r :=
  .trans (.single h) hy

theorem EndsBy.acc {x : Pt × Acc} {r : StepRes} (h : EndsBy R x r) :
    ∃ z, Star R x z ∧ (z.1 = .blk ∨ z.1 = .halt) ∧ finishStep r = z.2 := by
  obtain ⟨⟨p, a⟩, hz, hf, e⟩ := h
  refine ⟨_, hz, hf, ?_⟩
  rcases hf with rfl | rfl <;> (subst e; rfl)

end

theorem Tail.ends {x : Pt × Acc} {r : StepRes} (h : Tail x r) : Ends x r := by
  obtain ⟨z, hz, hf, e⟩ := h
  exact ⟨z, Star.lift Star.refl (fun _ _ _ => Star.trans) (fun _ _ h => .single h.1) hz, hf, e⟩

theorem Tail.later {x : Pt × Acc} {r : StepRes} (h : Tail x r) : Later x r := by
  obtain ⟨z, hz, hf, e⟩ := h
  exact ⟨z, Star.lift Star.refl (fun _ _ _ => Star.trans) (fun _ _ h => .single ⟨h.1, fun hb => absurd hb h.2⟩) hz, hf, e⟩

theorem Later.ends {x : Pt × Acc} {r : StepRes} (h : Later x r) : Ends x r := by
  obtain ⟨z, hz, hf, e⟩ := h
  exact ⟨z, Star.lift Star.refl (fun _ _ _ => Star.trans) (fun _ _ h => .single h.1) hz, hf, e⟩

theorem run_tail (y : Pt × Acc) : Tail y (run y) := by
  -- by induction on the fuel: `dfr`, then `uns`, then `req`
  have key : ∀ fuel, (∀ a n, Tail (.dfr fuel n, a) (afterDeferred (runPass fuel) a n)) ∧
      (∀ a n, Tail (.uns fuel n, a) (afterUnsol (runPass fuel) a n)) ∧
      (∀ a, Tail (.req fuel, a) (afterRequest (runPass fuel) a)) := by
    intro fuel
    induction fuel with
    | zero => exact go fun a n hw => .head ⟨.fuel a n hw, nofun⟩ (.blocked _)
    | succ fuel ih =>
      refine go fun a n hw => ?_
      obtain ⟨y, hy, e⟩ := runPass_cases fuel (finishPass a n)
      rw [e]
      refine .head ⟨.again a fuel n y hw hy, nofun⟩ ?_
      obtain ⟨s, p, -, hy⟩ := hy
      cases hy with
      | nothing | error | request => exact ih.2.2 _
      | errorDie | requestDie => exact .die _
      | requestWait => exact .blocked _
  obtain ⟨p, a⟩ := y
  cases p with
  | blk => exact .blocked a
  | halt => exact ⟨_, .refl _, .inr rfl, rfl⟩
  | dfr fuel n => exact (key fuel).1 a n
  | uns fuel n => exact (key fuel).2.1 a n
  | req fuel => exact (key fuel).2.2 a
where
  go {fuel : Nat}
      (hk : ∀ a n, idleWakes (finishPass a n).1 = true → Tail (.dfr fuel n, a) (runPass fuel (finishPass a n))) :
      (∀ a n, Tail (.dfr fuel n, a) (afterDeferred (runPass fuel) a n)) ∧
      (∀ a n, Tail (.uns fuel n, a) (afterUnsol (runPass fuel) a n)) ∧
      (∀ a, Tail (.req fuel, a) (afterRequest (runPass fuel) a)) := by
    have dfr : ∀ a n, Tail (.dfr fuel n, a) (afterDeferred (runPass fuel) a n) := fun a n => by
      unfold afterDeferred
      dsimp only
      split
      · exact hk a n ‹_›
      · exact .head ⟨.finishPass a fuel n (Bool.eq_false_iff.2 ‹_›), nofun⟩ (.blocked _)
    have uns : ∀ a n, Tail (.uns fuel n, a) (afterUnsol (runPass fuel) a n) := fun a n => by
      unfold afterUnsol
      split
      · exact .head ⟨.defDie a fuel n ‹_›, nofun⟩ (.die a)
      · exact .head ⟨.defWait a fuel n _ ‹_›, nofun⟩ (.blocked _)
      · exact .head ⟨.defDone a fuel n _ ‹_›, nofun⟩ (dfr _ n)
    refine ⟨dfr, uns, fun a => ?_⟩
    unfold afterRequest
    split
    · exact .head ⟨.chkDie a fuel ‹_›, nofun⟩ (.die a)
    · exact .head ⟨.chkStart a fuel _ ‹_›, nofun⟩ (.blocked _)
    · exact .head ⟨.chkIdle a fuel _ _ ‹_›, nofun⟩ (uns _ _)

theorem runPass_first (a : Acc) (n : NextIdle) (hm : a.1.mode = .idle n) (hw : idleWakes a.1 = true) :
    ∃ y, Step (.blk, a) y ∧ Tail y (runPass passFuel a) := by
  obtain ⟨y, hy, e⟩ := runPass_cases 63 a
  exact ⟨y, .pass a n y hm hw hy, e ▸ run_tail y⟩

theorem runPass_ends (a : Acc) (n : NextIdle) (hm : a.1.mode = .idle n) (hw : idleWakes a.1 = true) :
    Ends (.blk, a) (runPass passFuel a) := by
  obtain ⟨y, hs, ht⟩ := runPass_first a n hm hw
  exact .head hs ht.ends

theorem idleWakes_of_pending {s : OState} (h : idleWakes s = false) : s.pending = none := by
  unfold idleWakes at h
  cases hp : s.pending with
  | none => rfl
  | some f => simp [hp] at h

theorem dispatch_first (a : Acc) :
    (dispatch a = .blocked a ∧ (a.1.mode = .dead ∨ a.1.pending = none)) ∨
    ∃ y, Step (.blk, a) y ∧ Tail y (dispatch a) := by
  unfold dispatch
  split
  · exact .inl ⟨rfl, .inl ‹_›⟩
  · rename_i n hm
    split
    · exact .inr (runPass_first a n hm ‹_›)
    · exact .inl ⟨rfl, .inr (idleWakes_of_pending (Bool.eq_false_iff.2 ‹_›))⟩
  · rename_i sr dl cont hm
    split
    · obtain ⟨y, hy, e⟩ := solWaitOnFragment_cases a sr dl cont
      exact .inr ⟨y, .solFragment a sr dl cont y hm ‹_› hy, e ▸ run_tail y⟩
    · rename_i hp
      split
      · exact .inr ⟨_, .solTimeout a sr dl cont hm (pending_none_of_not_isSome hp) ‹_›,
          show Tail _ (abortSeries (emitCb a (.solTimeout sr.ecsn)) cont) from run_abortPt _ cont ▸ run_tail _⟩
      · exact .inl ⟨rfl, .inr (pending_none_of_not_isSome hp)⟩
  · rename_i resp isNull rt dl hm
    split
    · obtain ⟨y, hy, e⟩ := unsolWaitOnFragment_cases a resp isNull
      exact .inr ⟨y, .unsolFragment a resp isNull rt dl y hm ‹_› hy, e ▸ run_tail y⟩
    · rename_i hp
      split
      · obtain ⟨y, hy, e⟩ := unsolWaitTimeout_cases a resp isNull rt
        exact .inr ⟨y, .unsolTimeout a resp isNull rt dl y hm (pending_none_of_not_isSome hp) ‹_› hy, e ▸ run_tail y⟩
      · exact .inl ⟨rfl, .inr (pending_none_of_not_isSome hp)⟩

theorem dispatch_retains {a : Acc} (h : Retains a.1) : ∃ y, Step (.blk, a) y ∧ Tail y (dispatch a) := by
  obtain ⟨hp, ⟨sr, dl, c, hm⟩ | ⟨r, n, rt, dl, hm⟩⟩ := h
  · obtain ⟨y, hy, e⟩ := solWaitOnFragment_cases a sr dl c
    exact ⟨y, .solFragment a sr dl c y hm hp hy, dispatch_solWait hm hp ▸ e ▸ run_tail y⟩
  · obtain ⟨y, hy, e⟩ := unsolWaitOnFragment_cases a r n
    exact ⟨y, .unsolFragment a r n rt dl y hm hp hy, dispatch_unsolWait hm hp ▸ e ▸ run_tail y⟩

theorem dispatch_ends (a : Acc) : Ends (.blk, a) (dispatch a) := by
  rcases dispatch_first a with ⟨e, -⟩ | ⟨y, hs, ht⟩
  · rw [e]; exact .blocked a
  · exact .head hs ht.ends

/-- what one step runs: nothing, or a first handler and then handlers that can follow it -/
def Chain (x : Pt × Acc) (r : StepRes) : Prop := r = .blocked x.2 ∨ ∃ y, Step x y ∧ Later y r

theorem Chain.ends {a : Acc} {r : StepRes} (h : Chain (.blk, a) r) : Ends (.blk, a) r := by
  rcases h with rfl | ⟨y, hs, hl⟩
  · exact .blocked a
  · exact .head hs hl.ends

theorem settle_retains {a : Acc} (h : Retains a.1) (n : Nat) : settle (n + 1) (.blocked a) = settle n (dispatch a) := by
  conv => lhs; unfold settle
  obtain ⟨hp, ⟨_, _, _, hm⟩ | ⟨_, _, _, _, hm⟩⟩ := h <;> simp [hm, hp]

theorem settle_quiet {a : Acc} (h : ¬ Retains a.1) (n : Nat) : settle n (.blocked a) = .blocked a := by
  cases n with
  | zero => rfl
  | succ n =>
    unfold settle
    dsimp only
    -- by mode and by the test of the loop: the test fails (`rfl`); it holds in a wait, against `h`; or the mode is no
    -- wait and the test reads `false && _`
    split <;> split <;> first
      | rfl
      | exact absurd ⟨by simpa using ‹_›, .inl ⟨_, _, _, ‹_›⟩⟩ h
      | exact absurd ⟨by simpa using ‹_›, .inr ⟨_, _, _, _, ‹_›⟩⟩ h
      | exact absurd ‹_› (by simp)

theorem settle_blocked_no_pending (n : Nat) (a : Acc) (h : a.1.pending = none) :
    settle n (.blocked a) = .blocked a :=
  settle_quiet (fun hr => by rw [Retains, h] at hr; exact nomatch hr.1) n

/-- `settle n r`, exactly: as long as the task is blocked in a confirm wait with a fragment retained (and `n` allows)
    that wait's fragment handler runs, then handlers inside the idle pass -/
inductive Settles : Nat → StepRes → StepRes → Prop
  | stop {n : Nat} {r : StepRes} : (∀ a, r = .blocked a → Retains a.1 → n = 0) → Settles n r r
  | again {n : Nat} {a : Acc} {y : Pt × Acc} {r r' : StepRes} : Retains a.1 → Step (.blk, a) y → Tail y r →
      Settles n r r' → Settles (n + 1) (.blocked a) r'

theorem settle_settles (n : Nat) (r : StepRes) : Settles n r (settle n r) := by
  induction n generalizing r with
  | zero => exact .stop fun _ _ _ => rfl
  | succ n ih =>
    cases r with
    | panicked a => rw [settle_panicked]; exact .stop fun _ e => nomatch e
    | blocked a =>
      by_cases hr : Retains a.1
      · obtain ⟨y, hs, ht⟩ := dispatch_retains hr
        rw [settle_retains hr]
        exact .again hr hs ht (ih _)
      · rw [settle_quiet hr]
        exact .stop fun b e hb => absurd (by cases e; exact hb) hr

theorem Settles.later {x : Pt × Acc} {n : Nat} {r r' : StepRes} (hs : Settles n r r') (h : Later x r) : Later x r' := by
  induction hs with
  | stop => exact h
  | again hr hs ht _ ih =>
    obtain ⟨⟨p, b⟩, hz, hf, e⟩ := h
    rcases hf with rfl | rfl
    · cases e; exact ih (.trans hz (.head ⟨hs, fun _ => hr⟩ ht.later))
    · cases e

/-- an invariant that the first handler of a step establishes and the later ones keep holds where the step ends, unless
    the step ran no handler; used as `(quiesce_chain b 8).inv first later` (`C05T.quiesce_nr`, `C05T.quiesce_between`,
    `broadcast_never_answered` of Proofs/OutstationC07.lean) -/
theorem Chain.inv {I : Pt × Acc → Prop} {x : Pt × Acc} {r : StepRes} (h : Chain x r)
    (h1 : ∀ y, Step x y → I y) (hI : ∀ x y, LStep x y → I x → I y) :
    r = .blocked x.2 ∨ ∃ z, I z ∧ (z.1 = .blk ∨ z.1 = .halt) ∧ finishStep r = z.2 := by
  rcases h with e | ⟨y, hs, hl⟩
  · exact .inl e
  · obtain ⟨z, hz, hf, e⟩ := hl.acc
    exact .inr ⟨z, Star.inv hI hz (h1 y hs), hf, e⟩

theorem settle_later {x : Pt × Acc} (n : Nat) (r : StepRes) (h : Later x r) : Later x (settle n r) :=
  (settle_settles n r).later h

theorem Settles.ends {x : Pt × Acc} {n : Nat} {r r' : StepRes} (hs : Settles n r r') (h : Ends x r) : Ends x r' := by
  induction hs with
  | stop => exact h
  | again hr hs ht _ ih =>
    obtain ⟨⟨p, b⟩, hz, hf, e⟩ := h
    rcases hf with rfl | rfl
    · cases e; exact ih (.trans hz (.head hs ht.ends))
    · cases e

theorem settle_ends {x : Pt × Acc} (n : Nat) (r : StepRes) (h : Ends x r) : Ends x (settle n r) :=
  (settle_settles n r).ends h

theorem quiesce_chain (a : Acc) (n : Nat) : Chain (.blk, a) (settle n (dispatch a)) := by
  rcases dispatch_first a with ⟨e, hd⟩ | ⟨y, hs, ht⟩
  · rw [e]
    refine .inl (settle_quiet (fun hr => ?_) n)
    rcases hd with hd | hd
    · rw [Retains, hd] at hr; rcases hr.2 with ⟨_, _, _, h⟩ | ⟨_, _, _, _, h⟩ <;> cases h
    · rw [Retains, hd] at hr; exact nomatch hr.1
  · exact .inr ⟨y, hs, settle_later n _ ht.later⟩

/-- a pass that starts (after a disconnect, at construction), then `settle` -/
theorem quiesce_pass_chain (a : Acc) (m : NextIdle) (hm : a.1.mode = .idle m) (hw : idleWakes a.1 = true) (n : Nat) :
    Chain (.blk, a) (settle n (runPass passFuel a)) := by
  obtain ⟨y, hs, ht⟩ := runPass_first a m hm hw
  exact .inr ⟨y, hs, settle_later n _ ht.later⟩

/-- `8` is the fuel `Outstation.start` and `Outstation.step` give `settle` (Model/Outstation.lean): a bound of the model,
    of which at most one round is used (`C04.settles_done`) -/
theorem start_chain (cfg : OCfg) (evMax : Nat) :
    Chain (.blk, (OState.init cfg evMax, [])) (settle 8 (runPass passFuel (OState.init cfg evMax, []))) :=
  quiesce_pass_chain _ .noSleep rfl rfl 8

/-- every step either does nothing to the session (dropped frame, dead task, script change) or, from a `StepInit`
    start, runs a first handler and then those that can follow it until the task blocks or has panicked -/
theorem step_chain (env : OEnv) (s : OState) (inp : OInput) :
    (∃ f, inp = .setScript f ∧ Outstation.step env s inp = ({ s with script := f s.script }, [])) ∨
    Outstation.step env s inp = (s, []) ∨
    ∃ pf s0 o0 r, StepInit env s inp pf s0 o0 ∧ Chain (.blk, (s0, o0)) r ∧ Outstation.step env s inp = finishStep r := by
  rcases step_dispatch env s inp with h | h | h | ⟨pf, s0, o0, hi, _, e⟩
  · exact Or.inl h
  · exact Or.inr (Or.inl h)
  · subst h
    by_cases hd : s.mode = .dead
    · exact Or.inr (Or.inl (step_dead env s _ hd))
    · exact Or.inr (Or.inr ⟨_, _, _, _, .cut,
        quiesce_pass_chain (cutState s, [.line "session link stdio UnexpectedEof"]) .noSleep rfl
          (by simp [idleWakes, cutState]) 8, step_init env s _ hd⟩)
  · exact Or.inr (Or.inr ⟨pf, s0, o0, _, hi, quiesce_chain (s0, o0) 8, e⟩)

theorem start_steps (cfg : OCfg) (evMax : Nat) :
    ∃ z, Star Step (.blk, (OState.init cfg evMax, [])) z ∧ (z.1 = .blk ∨ z.1 = .halt) ∧
      Outstation.start cfg evMax = z.2 :=
  (start_chain cfg evMax).ends.acc

theorem step_steps (env : OEnv) (s : OState) (inp : OInput) :
    (∃ f, inp = .setScript f ∧ Outstation.step env s inp = ({ s with script := f s.script }, [])) ∨
    Outstation.step env s inp = (s, []) ∨
    ∃ pf s0 o0 z, StepInit env s inp pf s0 o0 ∧ Star Step (.blk, (s0, o0)) z ∧ (z.1 = .blk ∨ z.1 = .halt) ∧
      Outstation.step env s inp = z.2 :=
  (step_chain env s inp).imp_right (Or.imp_right fun ⟨pf, s0, o0, _, hi, hc, e⟩ =>
    let ⟨z, hz, hf, ez⟩ := hc.ends.acc
    ⟨pf, s0, o0, z, hi, hz, hf, e.trans ez⟩)

end Dnp3.Proofs.Skel
