import Dnp3.Model.Fields
/-! C09, fixed-size objects: the field codec of `Model/Fields` (`writeLE` / `readLE`, `writeFields` /
    `readFields`) writes `fieldsWidth` octets and reads back what it wrote, for every well-typed value list -/
namespace Dnp3.App
open Dnp3.Gen

theorem writeLE_length (w v : Nat) : (writeLE w v).length = w := by
  induction w generalizing v with
  | zero => rfl
  | succ w ih => simp [writeLE, ih]

theorem readLE_writeLE (w v : Nat) (rest : List Nat) (h : v < 256 ^ w) :
    readLE w (writeLE w v ++ rest) = some (v, rest) := by
  induction w generalizing v with
  | zero => simp [Nat.pow_zero] at h; subst h; rfl
  | succ w ih =>
    have h2 : v / 256 < 256 ^ w := by
      apply Nat.div_lt_of_lt_mul; rw [Nat.pow_succ] at h; omega
    simp only [writeLE, List.cons_append, readLE, ih _ h2]
    congr 2; omega

theorem writeFields_length (fs : List Field) (vs : List Nat) (h : wellTyped fs vs) :
    (writeFields fs vs).length = fieldsWidth fs := by
  induction fs generalizing vs with
  | nil => cases vs <;> simp [writeFields, fieldsWidth]
  | cons f fs ih =>
    cases vs with
    | nil => simp [wellTyped] at h
    | cons v vs =>
      simp only [wellTyped] at h
      simp only [writeFields, List.length_append, writeLE_length, ih vs h.2, fieldsWidth, List.map_cons, List.sum_cons]

theorem readFields_writeFields (fs : List Field) (vs rest : List Nat) (h : wellTyped fs vs) :
    readFields fs (writeFields fs vs ++ rest) = some (vs, rest) := by
  induction fs generalizing vs with
  | nil => cases vs <;> simp_all [wellTyped, writeFields, readFields]
  | cons f fs ih =>
    cases vs with
    | nil => simp [wellTyped] at h
    | cons v vs =>
      simp only [wellTyped] at h
      simp only [writeFields, List.append_assoc, readFields, readLE_writeLE _ _ _ h.1, ih vs h.2]

end Dnp3.App
