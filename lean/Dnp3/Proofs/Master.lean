import Dnp3.Proofs.MasterEff
/-! the master session model: confirms, deliveries and keep-alive deadlines along the effects of the session -/
namespace Dnp3.Master

/-- every application-layer CONFIRM among the outputs: (destination, control octet) -/
def confirmsOf (outs : List MOut) : List (Nat × Nat) :=
  outs.filterMap fun o => match o with
    | .tx d [c, 0] => some (d, c)
    | _ => none

def kaView (s : MState) : List (Nat × Option Nat) := s.assocs.map fun x => (x.addr, x.nextLinkStatus)


end Dnp3.Master

namespace Dnp3.Proofs.C02Master

/-- a `ReadHandler::handle_*` call carrying measurement data -/
def IsDelivery : Dnp3.Master.MOut → Prop
  | .deliverHdr .. => True
  | .deliverAbsTime .. => True
  | _ => False

end Dnp3.Proofs.C02Master

namespace Dnp3.Proofs.Master
open Dnp3 Dnp3.Master Dnp3.Proofs.C02Master

theorem confirmsOf_append (a b : List MOut) : confirmsOf (a ++ b) = confirmsOf a ++ confirmsOf b := by
  simp [confirmsOf, List.filterMap_append]

@[simp] theorem emit_outs (a : Acc) (o : MOut) : (emit a o).2 = a.2 ++ [o] := rfl
@[simp] theorem emit_state (a : Acc) (o : MOut) : (emit a o).1 = a.1 := rfl
@[simp] theorem modAssoc_outs (a : Acc) (addr : Nat) (f : Assoc → Assoc) : (modAssoc a addr f).2 = a.2 := rfl
@[simp] theorem setMode_outs (a : Acc) (m : Mode) : (setMode a m).2 = a.2 := rfl
@[simp] theorem notify_outs (a : Acc) (addr : Nat) : (notifyLinkActivity a addr).2 = a.2 := rfl

theorem splitItems_infix (sz : Nat) : ∀ (n : Nat) (d : List Nat), ∀ it ∈ splitItems sz n d, it <:+: d := by
  intro n
  induction n with
  | zero => intro d it h; cases h
  | succ n ih =>
    intro d it h
    rw [splitItems] at h
    rcases List.mem_cons.mp h with rfl | h
    · exact (List.take_prefix _ _).isInfix
    · exact (ih _ it h).trans (List.drop_suffix _ _).isInfix

/-- `extract_measurements` for one header -/
theorem deliverHeader_cases (who : Who) (h : ObjHdr) :
    ∃ l, (∀ a, deliverHeader a who h = (a.1, a.2 ++ l)) ∧
      (l = [] ∨ (∃ t, l = [.deliverAbsTime who t]) ∨
        ∃ items, l = [.deliverHdr who h.group h.var h.qual items] ∧ ∀ p ∈ items, p.2 <:+: h.data) := by
  unfold deliverHeader
  have nil : ∀ a : Acc, a = (a.1, a.2 ++ []) := fun a => by rw [List.append_nil]
  by_cases h1 : h.group = 50 ∧ h.var = 1
  · simp only [if_pos h1]
    by_cases h2 : h.a = 1
    · simp only [if_pos h2]
      exact ⟨_, fun a => rfl, .inr (.inl ⟨_, rfl⟩)⟩
    · simp only [if_neg h2]
      exact ⟨[], nil, .inl rfl⟩
  · simp only [if_neg h1]
    by_cases h2 : h.group = 1 ∨ h.group = 30
    · simp only [if_pos h2]
      refine ⟨_, fun a => rfl, .inr (.inr ⟨_, rfl, ?_⟩)⟩
      intro p hp
      obtain ⟨i, _, rfl⟩ := List.mem_map.mp hp
      exact (List.take_prefix _ _).isInfix.trans (List.drop_suffix _ _).isInfix
    · simp only [if_neg h2]
      by_cases h3 : h.group = 2 ∨ h.group = 32
      · simp only [if_pos h3]
        refine ⟨_, fun a => rfl, .inr (.inr ⟨_, rfl, ?_⟩)⟩
        intro p hp
        obtain ⟨it, hit, rfl⟩ := List.mem_map.mp hp
        exact (List.drop_suffix _ _).isInfix.trans (splitItems_infix _ _ _ it hit)
      · simp only [if_neg h3]
        exact ⟨[], nil, .inl rfl⟩

theorem deliverHeader_rule (I : Acc → Prop) (a : Acc) (who : Who) (h : ObjHdr) (h0 : I a)
    (ht : ∀ t, I (emit a (.deliverAbsTime who t))) (hh : ∀ g v q it, I (emit a (.deliverHdr who g v q it))) :
    I (deliverHeader a who h) := by
  obtain ⟨l, hl, hc⟩ := deliverHeader_cases who h
  rw [hl]
  rcases hc with rfl | ⟨t, rfl⟩ | ⟨it, rfl, _⟩
  · rwa [List.append_nil]
  · exact ht t
  · exact hh _ _ _ it

theorem deliver_rule (I : Acc → Prop) (a : Acc) (who : Who) (rt : ReadType) (r : Resp) (hs : List ObjHdr)
    (hb : I (emit a (.deliverBegin who rt r.ctrl.toNat r.iin1 r.iin2)))
    (he : ∀ b o, (∀ w t c i1 i2, o ≠ .deliverBegin w t c i1 i2) → (∀ d tt fc q, o ≠ .taskStart d tt fc q) → I b → I (emit b o)) :
    I (deliver a who rt r hs) := by
  unfold deliver
  exact he _ _ nofun nofun (foldl_keeps _ (fun b hd hb => deliverHeader_rule I b who hd hb
    (fun _ => he b _ nofun nofun hb) (fun _ _ _ _ => he b _ nofun nofun hb)) hs hb)

theorem confirmsOf_tx_request (d seq func : Nat) (objs : List Nat) (hf : func ≠ 0) :
    confirmsOf [MOut.tx d (requestBytes seq func objs)] = [] := by
  cases func with
  | zero => exact absurd rfl hf
  | succ n => cases objs <;> simp [confirmsOf, requestBytes]

example : confirmsOf [MOut.tx 10 (requestBytes 3 21 [0x3c, 0x02, 0x06])] = [] := confirmsOf_tx_request 10 3 21 _ (by decide)

theorem modAssoc_map {α : Type} (π : Assoc → α) (a : Acc) (addr : Nat) (f : Assoc → Assoc) (hf : ∀ y, π (f y) = π y) :
    (modAssoc a addr f).1.assocs.map π = a.1.assocs.map π := by
  unfold modAssoc
  simp only [List.map_map]
  apply List.map_congr_left
  intro y _
  simp only [Function.comp]
  split
  · exact hf y
  · rfl

theorem modAssoc_kaView (a : Acc) (addr : Nat) (f : Assoc → Assoc)
    (hf : ∀ y, (f y).addr = y.addr ∧ (f y).nextLinkStatus = y.nextLinkStatus) :
    kaView (modAssoc a addr f).1 = kaView a.1 :=
  modAssoc_map _ a addr f fun y => by rw [(hf y).1, (hf y).2]

example : kaView (modAssoc (({ assocs := [{ addr := 7, cfg := {}, nextLinkStatus := some 5 }] } : MState), []) 7
    (fun y => { y with seq := 3 })).1 = [(7, some 5)] := by decide

end Dnp3.Proofs.Master

namespace Dnp3.Proofs.C02MasterQuiet
open Dnp3 Dnp3.Master Dnp3.Proofs.Master Dnp3.Proofs.C02Master

def QuietOut (o : MOut) : Prop := confirmsOf [o] = [] ∧ ¬ IsDelivery o

def Quiet (a b : Acc) : Prop := ∃ l, b.2 = a.2 ++ l ∧ ∀ o ∈ l, QuietOut o

theorem Quiet.refl (a : Acc) : Quiet a a := ⟨[], (List.append_nil _).symm, fun _ h => nomatch h⟩

theorem Quiet.trans {a b c : Acc} (h1 : Quiet a b) (h2 : Quiet b c) : Quiet a c := by
  obtain ⟨l1, e1, q1⟩ := h1
  obtain ⟨l2, e2, q2⟩ := h2
  refine ⟨l1 ++ l2, by rw [e2, e1, List.append_assoc], ?_⟩
  intro o ho
  rcases List.mem_append.mp ho with h | h
  · exact q1 o h
  · exact q2 o h

theorem Quiet.of_outs {a b : Acc} (h : b.2 = a.2) : Quiet a b := ⟨[], h.trans (List.append_nil _).symm, fun _ h => nomatch h⟩

theorem Quiet.emit (a : Acc) (o : MOut) (h : QuietOut o) : Quiet a (emit a o) :=
  ⟨[o], rfl, by intro x hx; simp only [List.mem_singleton] at hx; subst hx; exact h⟩

theorem Quiet.modAssoc (a : Acc) (addr : Nat) (f : Assoc → Assoc) : Quiet a (modAssoc a addr f) := .of_outs rfl
theorem Quiet.setMode (a : Acc) (m : Mode) : Quiet a (setMode a m) := .of_outs rfl
theorem Quiet.rotate (a : Acc) (addr : Nat) : Quiet a (rotate a addr) := .of_outs rfl

theorem Quiet.complete (a : Acc) (uid : Nat) (o : Outcome) : Quiet a (complete a uid o) := .emit _ _ ⟨rfl, id⟩

theorem Quiet.taskOnError (a : Acc) (dest : Nat) (t : Task) (e : TaskErr) : Quiet a (taskOnError a dest t e) :=
  taskOnError_rule (Quiet a) a dest t e (.refl a) (fun _ => .complete ..) (fun _ => .of_outs rfl) (fun _ => .of_outs rfl)
    (fun _ _ _ _ _ _ => .of_outs rfl)

theorem Quiet.finishRead (a : Acc) (dest : Nat) (t : ReadTask) (res : Except TaskErr Nat) :
    Quiet a (finishRead a dest t res) := by
  unfold Master.finishRead
  split
  · split
    · cases t
      · exact .of_outs rfl
      · exact .of_outs rfl
      · exact .of_outs rfl
      · exact .complete ..
    · exact .taskOnError ..
  · exact .taskOnError ..

theorem Plain.quiet {o : MOut} (h : Plain o) : QuietOut o := by
  cases o <;> first | exact False.elim h | exact ⟨rfl, id⟩

theorem Quiet.of_eff {c : Cause} {a b : Acc} (h : Eff c a b) (hc : c.rx = none) : Quiet a b := by
  induction h with
  | refl => exact .refl a
  | out o _ ho ih => exact ih.trans (.emit _ o (Plain.quiet ho))
  | request d seq fc objs _ hf ih => exact ih.trans (.emit _ _ ⟨confirmsOf_tx_request _ _ _ _ hf, id⟩)
  | start d t tt fc seq _ _ _ _ _ ih => exact ih.trans (.emit _ _ ⟨rfl, id⟩)
  | confirm src r _ _ _ hr => rw [hc] at hr; cases hr
  | deliver src r _ _ _ hr => rw [hc] at hr; cases hr
  | done d _ f o _ _ ho ih =>
    refine ih.trans ((Quiet.modAssoc ..).trans (.emit _ o ?_))
    rcases ho with ⟨_, _, rfl⟩ | ⟨_, _, _, _, rfl⟩ <;> exact ⟨rfl, id⟩
  | session _ _ _ ih => exact ih.trans (.of_outs rfl)
  | book _ _ _ _ ih => exact ih.trans (.of_outs rfl)
  | pop _ _ _ _ _ _ ih => exact ih.trans (.of_outs rfl)
  | reset _ _ ih => exact ih.trans (.of_outs rfl)
  | heard _ _ _ ih => exact ih.trans (.of_outs rfl)
  | push _ _ _ _ ih => exact ih.trans (.of_outs rfl)
  | addAssoc _ _ _ _ ih => exact ih.trans (.of_outs rfl)
  | removeAssoc _ _ _ ih => exact ih.trans (.of_outs rfl)

theorem confirmsOf_quiet (l : List MOut) (q : ∀ o ∈ l, QuietOut o) : confirmsOf l = [] := by
  induction l with
  | nil => rfl
  | cons o l ih =>
    have h1 := (q o (List.mem_cons_self ..)).1
    have h2 := ih (fun x hx => q x (List.mem_cons_of_mem _ hx))
    have : confirmsOf (o :: l) = confirmsOf [o] ++ confirmsOf l := confirmsOf_append [o] l
    rw [this, h1, h2]; rfl

theorem Quiet.confirms {a b : Acc} (h : Quiet a b) : confirmsOf b.2 = confirmsOf a.2 := by
  obtain ⟨l, e, q⟩ := h
  rw [e, confirmsOf_append, confirmsOf_quiet l q, List.append_nil]

theorem Quiet.delivery {a b : Acc} (h : Quiet a b) (o : MOut) (ho : o ∈ b.2) (hd : IsDelivery o) : o ∈ a.2 := by
  obtain ⟨l, e, q⟩ := h
  rw [e] at ho
  rcases List.mem_append.mp ho with h | h
  · exact h
  · exact absurd hd (q o h).2

theorem reported_confirms (st : Step) : confirmsOf st.reported.2 = confirmsOf st.acc.2 := by
  obtain ⟨l, e, hl⟩ := st.reported_eq
  rw [e, confirmsOf_append, confirmsOf_quiet l fun o ho => Plain.quiet (hl o ho), List.append_nil]

end Dnp3.Proofs.C02MasterQuiet

namespace Dnp3.Proofs.C02Master
open Dnp3 Dnp3.Master Dnp3.Proofs.Master

/-- the handler calls `extract_measurements` makes for one parsed header -/
def headerCalls (who : Who) (h : ObjHdr) : List MOut := (deliverHeader (default, []) who h).2

theorem deliverHeader_eq (a : Acc) (who : Who) (h : ObjHdr) :
    deliverHeader a who h = (a.1, a.2 ++ headerCalls who h) := by
  obtain ⟨l, hl, _⟩ := deliverHeader_cases who h
  rw [headerCalls, hl, hl]
  rfl

theorem headerCalls_eq (s : MState) (who : Who) (h : ObjHdr) :
    (deliverHeader (s, []) who h).2 = headerCalls who h := by
  rw [deliverHeader_eq]; rfl

theorem foldl_deliverHeader_eq (who : Who) (hs : List ObjHdr) (a : Acc) :
    hs.foldl (fun a h => deliverHeader a who h) a = (a.1, a.2 ++ hs.flatMap (headerCalls who)) := by
  induction hs generalizing a with
  | nil => simp
  | cons h hs ih =>
    simp only [List.foldl_cons, List.flatMap_cons]
    rw [deliverHeader_eq, ih]
    simp

/-- `extract_measurements`: the delivery bracket around one group of handler calls per header -/
theorem deliver_eq (a : Acc) (who : Who) (rt : ReadType) (r : Resp) (hs : List ObjHdr) :
    deliver a who rt r hs = (a.1, a.2 ++ ([.deliverBegin who rt r.ctrl.toNat r.iin1 r.iin2] ++
      hs.flatMap (headerCalls who) ++ [.deliverEnd who rt])) := by
  unfold deliver
  simp only [foldl_deliverHeader_eq, emit, List.append_assoc]

theorem headerCalls_confirms (who : Who) (h : ObjHdr) : confirmsOf (headerCalls who h) = [] := by
  obtain ⟨l, hl, hc⟩ := deliverHeader_cases who h
  rw [headerCalls, hl]
  rcases hc with rfl | ⟨_, rfl⟩ | ⟨_, rfl, _⟩ <;> rfl

end Dnp3.Proofs.C02Master

namespace Dnp3.Proofs.Master
open Dnp3 Dnp3.Master Dnp3.Proofs.C02Master Dnp3.Proofs.C02MasterQuiet


theorem deliver_kaView (a : Acc) (who : Who) (rt : ReadType) (r : Resp) (hs : List ObjHdr) :
    kaView (deliver a who rt r hs).1 = kaView a.1 := by
  rw [deliver_eq]

theorem Eff.view {α : Type} (π : Assoc → α)
    (hπ : ∀ y y' : Assoc, y'.addr = y.addr → y'.cfg = y.cfg → y'.nextLinkStatus = y.nextLinkStatus → π y' = π y)
    {c : Cause} {a b : Acc} (h : Eff c a b) (hm : c.msg = none) (hh : c.heard = none) : b.1.assocs.map π = a.1.assocs.map π := by
  induction h with
  | refl => rfl
  | out _ _ _ ih => exact ih
  | request _ _ _ _ _ _ ih => exact ih
  | start _ _ _ _ _ _ _ _ _ _ ih => exact ih
  | confirm _ _ _ _ _ _ ih => exact ih
  | deliver _ r who rt _ _ _ ih => rw [deliver_eq]; exact ih
  | session s' _ hs ih => rw [← ih]; exact congrArg (List.map π) hs
  | book d f _ hf ih => exact (modAssoc_map π _ d f fun y => hπ y _ (hf y).1 (hf y).2.1 (hf y).2.2.1).trans ih
  | pop d _ _ _ _ _ ih => exact (modAssoc_map π _ d _ (by exact fun y => hπ y _ rfl rfl rfl)).trans ih
  | reset d _ ih => exact (modAssoc_map π _ d _ (by exact fun y => hπ y _ rfl rfl rfl)).trans ih
  | done d _ f _ _ hf _ ih =>
    exact (modAssoc_map π _ d f (by rcases hf with rfl | ⟨_, rfl⟩ <;> exact fun y => hπ y _ rfl rfl rfl)).trans ih
  | heard _ _ hs => rw [hh] at hs; cases hs
  | push _ _ _ hs => rw [hm] at hs; cases hs
  | addAssoc _ _ _ hs => rw [hm] at hs; cases hs
  | removeAssoc _ _ hs => rw [hm] at hs; cases hs

theorem Eff.kaView {c : Cause} {a b : Acc} (h : Eff c a b) (hm : c.msg = none) (hh : c.heard = none) :
    kaView b.1 = kaView a.1 :=
  h.view (fun x => (x.addr, x.nextLinkStatus)) (fun _ _ ha _ hn => by rw [ha, hn]) hm hh

theorem deliver_confirms (a : Acc) (who : Who) (rt : ReadType) (r : Resp) (hs : List ObjHdr) :
    confirmsOf (deliver a who rt r hs).2 = confirmsOf a.2 := by
  have hf : confirmsOf (hs.flatMap (headerCalls who)) = [] := by
    induction hs with
    | nil => rfl
    | cons h hs ih => rw [List.flatMap_cons, confirmsOf_append, headerCalls_confirms, ih]; rfl
  rw [deliver_eq]
  simp only [confirmsOf_append, hf]
  exact List.append_nil _

theorem taskOnError_confirms (a : Acc) (dest : Nat) (t : Task) (e : TaskErr) :
    confirmsOf (taskOnError a dest t e).2 = confirmsOf a.2 := (Quiet.taskOnError a dest t e).confirms

theorem finishRead_confirms (a : Acc) (dest : Nat) (t : ReadTask) (res : Except TaskErr Nat) :
    confirmsOf (finishRead a dest t res).2 = confirmsOf a.2 := (Quiet.finishRead a dest t res).confirms

/-- an `if` whose first branch differs from `v` has the value `v` only through its second branch: applied along a
    chain of `if`s it turns "the verdict is `v`" into the conjunction of the failed tests before the branch `v` -/
theorem ite_eq_iff_of_ne {α : Type} {c : Prop} [Decidable c] {a b v : α} (h : a ≠ v) :
    (if c then a else b) = v ↔ ¬c ∧ b = v := by
  split <;> simp [*]

theorem processReadResponse_unsolicited_iff (dest seq src : Nat) (isFirst ae : Bool) (r : Resp) :
    processReadResponse dest seq isFirst ae src r = .unsolicited ↔ r.unsol = true := by
  unfold processReadResponse
  by_cases hu : r.unsol = true
  · simp only [hu, if_true]
  · simp only [hu, if_false, ite_eq_iff_of_ne, ne_eq, reduceCtorEq, not_false_eq_true, and_false]

theorem validateNonRead_unsolicited_iff (dest seq src : Nat) (r : Resp) :
    validateNonRead dest seq src r = .unsolicited ↔ r.unsol = true := by
  unfold validateNonRead
  by_cases hu : r.unsol = true
  · simp only [hu, if_true]
  · simp only [hu, if_false, ite_eq_iff_of_ne, ne_eq, reduceCtorEq, not_false_eq_true, and_false]

theorem validateNonRead_accept_iff (dest seq src : Nat) (r : Resp) :
    validateNonRead dest seq src r = .accept ↔
      (r.unsol = false ∧ src = dest ∧ r.ctrl.seq = seq ∧ r.ctrl.fir = true ∧ r.ctrl.fin = true ∧ badIin2 r.iin2 = false) := by
  unfold validateNonRead
  simp only [ite_eq_iff_of_ne, ne_eq, reduceCtorEq, not_false_eq_true]
  simp [and_assoc]

theorem processReadResponse_accept_iff (dest seq src : Nat) (isFirst assocExists : Bool) (r : Resp) (c f : Bool) :
    processReadResponse dest seq isFirst assocExists src r = .accept c f ↔
      (r.unsol = false ∧ src = dest ∧ r.ctrl.seq = seq ∧ r.ctrl.fir = isFirst ∧ (r.ctrl.fin = true ∨ r.ctrl.con = true) ∧
       badIin2 r.iin2 = false ∧ assocExists = true ∧ r.objects.isSome = true ∧ c = r.ctrl.con ∧ f = r.ctrl.fin) := by
  unfold processReadResponse
  simp only [ite_eq_iff_of_ne, ne_eq, reduceCtorEq, not_false_eq_true, ReadVerdict.accept.injEq]
  have hfir : ∀ a b : Bool, (¬(a && !b) = true ∧ ¬(!a && b) = true) ↔ a = b := by decide
  have hfin : ∀ a b : Bool, ¬(!a && !b) = true ↔ (a = true ∨ b = true) := by decide
  rw [← and_assoc (a := ¬(r.ctrl.fir && !isFirst) = true), hfir, hfin]
  simp [Option.isSome_iff_ne_none, eq_comm (a := c), eq_comm (a := f)]

theorem find_map_addr (l : List Assoc) (g : Assoc → Assoc) (hg : ∀ y, (g y).addr = y.addr) (dest : Nat) :
    ((l.map g).find? (·.addr = dest)).isSome = (l.find? (·.addr = dest)).isSome := by
  have h : ((fun x : Assoc => decide (x.addr = dest)) ∘ g) = (fun x => decide (x.addr = dest)) := by
    funext y
    simp [Function.comp, hg]
  rw [List.find?_map, Option.isSome_map, h]

theorem notify_getAssoc (a : Acc) (src dest : Nat) :
    ((notifyLinkActivity a src).1.getAssoc dest).isSome = (a.1.getAssoc dest).isSome := by
  unfold notifyLinkActivity modAssoc MState.getAssoc
  exact find_map_addr a.1.assocs _ (by intro y; split <;> rfl) dest

theorem parseResponse_objects (frag : List Nat) (r : Resp) (hp : parseResponse frag = some r) :
    r.objects = parseRespObjects r.raw.length r.raw := by
  revert hp
  fun_cases parseResponse frag
  all_goals intro hp
  all_goals first | (cases hp; rfl) | cases hp

theorem parseResponse_null_objects (frag : List Nat) (r : Resp) (hp : parseResponse frag = some r) (h : r.raw = []) :
    r.objects = some [] := by
  rw [parseResponse_objects frag r hp, h]
  rfl

theorem complete_kaView (a : Acc) (uid : Nat) (o : Outcome) : kaView (complete a uid o).1 = kaView a.1 := rfl
theorem rotate_kaView (a : Acc) (addr : Nat) : kaView (rotate a addr).1 = kaView a.1 := rfl

/-- the situation of finding D25 (`Props/C19.lean`, `keepalive_credit`): a request to 1024 is outstanding, an unsolicited response arrives from 1025 — 1025's deadline is
    re-armed (now 100 + 3000), 1024's stays -/
def kaDemo : MState :=
  { now := 100, mode := .waitNonRead 1024 (.auto .disableUnsol 7) 0 21 5100, ring := [1024, 1025],
    assocs := [{ addr := 1024, cfg := { ka := some 2000 }, nextLinkStatus := some 1500 },
               { addr := 1025, cfg := { ka := some 3000 }, nextLinkStatus := some 1700 }] }

example : parseResponse [0xF0, 130, 0, 0] = some ⟨AppCtrl.ofNat 0xF0, true, 0, 0, [], some []⟩ ∧
    (match kaDemo.mode with | .offline | .exited => False | _ => True) ∧
    kaView (onFragment (kaDemo, []) 1025 [0xF0, 130, 0, 0]).acc.1 = [(1024, some 1500), (1025, some 3100)] :=
  ⟨rfl, trivial, by decide⟩

example : (match ({} : MState).mode with | .offline | .exited => True | _ => False) := trivial

example : parseResponse [0xC0, 1, 0x3C, 0x02, 0x06] = none ∧
    kaView (onFragment (kaDemo, []) 1025 [0xC0, 1, 0x3C, 0x02, 0x06]).acc.1 = [(1024, some 1500), (1025, some 1700)] :=
  ⟨rfl, by decide⟩

example : kaView (onLinkMsg (kaDemo, []) 1025).acc.1 = [(1024, some 1500), (1025, some 3100)] := by decide

theorem step_rx_not_dropped (s : MState) (src : Nat) (frag : List Nat)
    (hsrc : src < 0xFFF0) (hne : frag.isEmpty = false) (hlen : frag.length ≤ 2048) :
    Master.step s (.rx src masterAddr frag) = checkShutdown (resolve loopFuel (onFragment (s, []) src frag)) := by
  unfold Master.step
  have hg : ¬ (masterAddr ≠ masterAddr ∨ src ≥ 0xFFF0 ∨ frag.isEmpty = true ∨ frag.length > 2048) := by
    rw [hne]
    simp only [ne_eq, not_true_eq_false, false_or, Bool.false_eq_true, not_or]
    omega
  simp only [hg, if_false]

theorem step_rx_waiting (s : MState) (src : Nat) (frag : List Nat) (a : Acc)
    (hsrc : src < 0xFFF0) (hne : frag.isEmpty = false) (hlen : frag.length ≤ 2048)
    (hw : onFragment (s, []) src frag = .waiting a) (hlive : ¬ (a.1.shutdownReq = true ∧ a.1.live = 0)) :
    Master.step s (.rx src masterAddr frag) = a := by
  rw [step_rx_not_dropped s src frag hsrc hne hlen, hw]
  exact if_neg hlive

example : kaView (Master.step kaDemo (.rx 1025 masterAddr [0xF0, 130, 0, 0])).1 = [(1024, some 1500), (1025, some 3100)] := by
  decide

end Dnp3.Proofs.Master

namespace Dnp3.Proofs.C02MasterQuiet
open Dnp3 Dnp3.Master Dnp3.Proofs.Master Dnp3.Proofs.C02Master

theorem Quiet.nextTask (a : Acc) : Quiet a (nextTask a).1 := .of_eff (c := {}) Eff.refl.nextTask rfl

theorem Quiet.resolve (fuel : Nat) (st : Step) : Quiet st.acc (resolve fuel st) :=
  .of_eff (c := {}) (Eff.resolve_acc fuel st .refl) rfl

theorem Quiet.checkShutdown (a : Acc) : Quiet a (checkShutdown a) := .of_eff (c := {}) Eff.refl.checkShutdown rfl

theorem step_rx_quiet (s : MState) (src dst : Nat) (frag : List Nat) :
    Master.step s (.rx src dst frag) = (s, []) ∨
    Quiet (onFragment (s, []) src frag).acc (Master.step s (.rx src dst frag)) := by
  unfold Master.step
  simp only
  split
  · exact .inl rfl
  · exact .inr ((Quiet.resolve _ _).trans (Quiet.checkShutdown _))

end Dnp3.Proofs.C02MasterQuiet
