import Dnp3.Proofs.Database
import Dnp3.Proofs.C02Master
/-!
# C02 (ii) — static round trip: the master's response parser and `extract_measurements`
applied to what the outstation's range writer produced for g1v2 / g30v1 objects

`runs os`: the maximal runs of consecutive indices (same group / variation) of an object list.
`parse_encodeStatic`: `parseRespObjects (encodeStatic none os ++ tail)` = one range header
(qualifier 0x01) per run, then the headers of `tail`.
`foldl_deliver_runs`: `deliverHeader` over these headers = one `deliverHdr` per run whose items
are `(index, stObjBytes)` of the run's objects.

The outstation side: what `select_class_zero` queues (`czFold_spec`; `class0_queue` for a database of binary and analog
inputs only), the octets of the complete response (`class0_octets`) and the round trip through the master's parser and
handler (`class0_roundtrip`).  `PairDb`: the hypotheses these make about the configuration of the database; they hold of
every database the `pair` engine builds (`class0_hyps_reachable`).
-/
namespace Dnp3.Proofs.C02Static
open Dnp3 Dnp3.DbM Dnp3.DbProofs Dnp3.Master Dnp3.Proofs.C02Master

/-- the two static variations of a class-0 response of the modelled configuration -/
def Plain (o : SObj) : Prop := (o.g = 1 ∧ o.v = 2) ∨ (o.g = 30 ∧ o.v = 1)

/-- object size by group (what `deliverHeader` uses to cut the data) -/
def objSize (g : Nat) : Nat := if g = 1 then 1 else 5

theorem plain_not_bits {o : SObj} (h : Plain o) : isBits o.g o.v = false := by
  rcases h with ⟨h1, h2⟩ | ⟨h1, h2⟩ <;> simp [isBits, packWidth, h1, h2]

theorem plain_len {o : SObj} (h : Plain o) : (stObjBytes o).length = objSize o.g := by
  rcases h with ⟨h1, h2⟩ | ⟨h1, h2⟩ <;> simp [stObjBytes, encI32, objSize, h1, h2, DbM.le32]

theorem plain_info {o : SObj} (h : Plain o) : respVarInfo o.g o.v = some { ranged := some (objSize o.g) } := by
  rcases h with ⟨h1, h2⟩ | ⟨h1, h2⟩ <;> simp [respVarInfo, objSize, h1, h2]

theorem plain_group {o : SObj} (h : Plain o) : o.g = 1 ∨ o.g = 30 := by
  rcases h with ⟨h1, _⟩ | ⟨h1, _⟩
  · exact .inl h1
  · exact .inr h1

def runs : List SObj → List (List SObj)
  | [] => []
  | o :: os =>
    match runs os with
    | (p :: ps) :: rs =>
      if p.g = o.g ∧ p.v = o.v ∧ p.idx = o.idx + 1 then (o :: p :: ps) :: rs else [o] :: (p :: ps) :: rs
    | _ => [[o]]

def Consec (a : Nat) : List SObj → Prop
  | [] => True
  | x :: xs => x.idx = a ∧ Consec (a + 1) xs

theorem stContinues_iff (c : StCur) (o : SObj) :
    stContinues c o = true ↔ (o.g = c.g ∧ o.v = c.v ∧ o.idx = c.last + 1) := by
  simp only [stContinues, Bool.and_eq_true, beq_iff_eq]
  constructor
  · rintro ⟨⟨h1, h2⟩, h3⟩; exact ⟨h1.symm, h2.symm, h3⟩
  · rintro ⟨h1, h2, h3⟩; exact ⟨⟨h1.symm, h2.symm⟩, h3⟩

theorem stRunLen_pos {c : StCur} {o : SObj} (os : List SObj) (h : stContinues c o = true) :
    stRunLen c (o :: os) = stRunLen { c with last := o.idx, n := c.n + 1 } os + 1 := by
  rw [stRunLen]; simp only [h, if_true]; omega

theorem stRunLen_neg {c : StCur} {o : SObj} (os : List SObj) (h : stContinues c o = false) :
    stRunLen c (o :: os) = 0 := by
  rw [stRunLen]; simp [h]

theorem runs_def (o : SObj) (os : List SObj) :
    runs (o :: os) = match runs os with
    | (p :: ps) :: rs =>
      if p.g = o.g ∧ p.v = o.v ∧ p.idx = o.idx + 1 then (o :: p :: ps) :: rs else [o] :: (p :: ps) :: rs
    | _ => [[o]] := by
  rw [runs]

theorem stRunLen_congr (os : List SObj) : ∀ (c c' : StCur), c.g = c'.g → c.v = c'.v → c.last = c'.last →
    stRunLen c os = stRunLen c' os := by
  induction os with
  | nil => intro c c' _ _ _; rfl
  | cons o os ih =>
    intro c c' h1 h2 h3
    unfold stRunLen
    have : stContinues c o = stContinues c' o := by simp [stContinues, h1, h2, h3]
    rw [this]
    split
    · rw [ih { c with last := o.idx, n := c.n + 1 } { c' with last := o.idx, n := c'.n + 1 } h1 h2 rfl]
    · rfl

theorem stRunLen_le (os : List SObj) : ∀ c : StCur, stRunLen c os ≤ os.length := by
  induction os with
  | nil => intro c; simp [stRunLen]
  | cons o os ih =>
    intro c
    unfold stRunLen
    split
    · have := ih { c with last := o.idx, n := c.n + 1 }
      simp only [List.length_cons]; omega
    · omega

theorem take_stRunLen (os : List SObj) : ∀ c : StCur,
    Consec (c.last + 1) (os.take (stRunLen c os)) ∧ ∀ x ∈ os.take (stRunLen c os), x.g = c.g ∧ x.v = c.v := by
  induction os with
  | nil => intro c; simp [stRunLen, Consec]
  | cons o os ih =>
    intro c
    unfold stRunLen
    by_cases hc : stContinues c o = true
    · obtain ⟨h1, h2, h3⟩ := (stContinues_iff c o).mp hc
      obtain ⟨i1, i2⟩ := ih { c with last := o.idx, n := c.n + 1 }
      simp only [hc, if_true, Nat.add_comm 1, List.take_succ_cons]
      refine ⟨⟨h3, ?_⟩, ?_⟩
      · have : c.last + 1 + 1 = o.idx + 1 := by omega
        rw [this]; exact i1
      · intro x hx
        rcases List.mem_cons.mp hx with rfl | hx
        · exact ⟨h1, h2⟩
        · exact i2 x hx
    · simp [hc, Consec]

theorem runs_cons (os : List SObj) : ∀ o : SObj,
    runs (o :: os) = (o :: os.take (stRunLen { g := o.g, v := o.v, last := o.idx, n := 1 } os)) ::
      runs (os.drop (stRunLen { g := o.g, v := o.v, last := o.idx, n := 1 } os)) := by
  induction os with
  | nil => intro o; simp [runs, stRunLen]
  | cons p os ih =>
    intro o
    have hp := ih p
    rw [runs_def o (p :: os), hp]
    simp only []
    by_cases hc : p.g = o.g ∧ p.v = o.v ∧ p.idx = o.idx + 1
    · have hc' : stContinues { g := o.g, v := o.v, last := o.idx, n := 1 } p = true :=
        (stContinues_iff _ _).mpr hc
      rw [if_pos hc, stRunLen_pos os hc']
      have e := stRunLen_congr os { g := o.g, v := o.v, last := p.idx, n := 1 + 1 }
        { g := p.g, v := p.v, last := p.idx, n := 1 } hc.1.symm hc.2.1.symm rfl
      rw [e, List.take_succ_cons, List.drop_succ_cons]
    · have hc' : stContinues { g := o.g, v := o.v, last := o.idx, n := 1 } p = false :=
        Bool.eq_false_iff.mpr fun h => hc ((stContinues_iff _ _).mp h)
      rw [if_neg hc, stRunLen_neg os hc', List.take_zero, List.drop_zero, hp]

theorem runs_flatten (os : List SObj) : (runs os).flatten = os := by
  induction os with
  | nil => rfl
  | cons o os ih =>
    unfold runs
    split
    · rename_i p ps rs heq
      rw [heq] at ih
      split <;> simpa using ih
    · rename_i hno
      cases os with
      | nil => rfl
      | cons p os' =>
        exfalso
        have := runs_cons os' p
        exact hno _ _ _ this

def RunOK (r : List SObj) : Prop :=
  ∃ o t, r = o :: t ∧ Plain o ∧ (∀ x ∈ t, x.g = o.g ∧ x.v = o.v) ∧ Consec (o.idx + 1) t

theorem encodeStatic_some (os : List SObj) : ∀ (c : StCur), (∀ o ∈ os, Plain o) →
    encodeStatic (some c) os =
      (os.take (stRunLen c os)).flatMap stObjBytes ++ encodeStatic none (os.drop (stRunLen c os)) := by
  induction os with
  | nil => intro c _; simp [encodeStatic, stRunLen]
  | cons o os ih =>
    intro c hp
    have hb := plain_not_bits (hp o (List.mem_cons_self ..))
    have hp' : ∀ x ∈ os, Plain x := fun x hx => hp x (List.mem_cons_of_mem _ hx)
    by_cases hc : stContinues c o = true
    · rw [encodeStatic]
      simp only [hc, if_true, hb, Bool.false_eq_true, if_false]
      rw [ih _ hp', stRunLen_pos os hc]
      simp only [List.take_succ_cons, List.drop_succ_cons, List.flatMap_cons, List.append_assoc]
    · have hc' : stContinues c o = false := Bool.eq_false_iff.mpr hc
      have e : encodeStatic (some c) (o :: os) = encodeStatic none (o :: os) := by
        rw [encodeStatic, encodeStatic]
        simp only [hc]
        rfl
      rw [e, stRunLen_neg os hc']
      simp

theorem encodeStatic_none_cons (o : SObj) (os : List SObj) (hp : ∀ x ∈ o :: os, Plain x) :
    encodeStatic none (o :: os) =
      [o.g, o.v, 0x01] ++ DbM.le16 o.idx ++
        DbM.le16 (o.idx + stRunLen { g := o.g, v := o.v, last := o.idx, n := 1 } os) ++
        (o :: os.take (stRunLen { g := o.g, v := o.v, last := o.idx, n := 1 } os)).flatMap stObjBytes ++
        encodeStatic none (os.drop (stRunLen { g := o.g, v := o.v, last := o.idx, n := 1 } os)) := by
  have hb := plain_not_bits (hp o (List.mem_cons_self ..))
  have hp' : ∀ x ∈ os, Plain x := fun x hx => hp x (List.mem_cons_of_mem _ hx)
  rw [encodeStatic]
  simp only [hb, Bool.false_eq_true, if_false]
  rw [encodeStatic_some os _ hp']
  simp only [List.flatMap_cons, List.append_assoc]

theorem first_run (o : SObj) (os : List SObj) (hp : ∀ x ∈ o :: os, Plain x) :
    ∃ t rest, os = t ++ rest ∧ (∀ x ∈ t, x.g = o.g ∧ x.v = o.v) ∧ Consec (o.idx + 1) t ∧
      runs (o :: os) = (o :: t) :: runs rest ∧
      encodeStatic none (o :: os) = [o.g, o.v, 0x01] ++ DbM.le16 o.idx ++ DbM.le16 (o.idx + t.length) ++
        (o :: t).flatMap stObjBytes ++ encodeStatic none rest := by
  obtain ⟨hcon, hsame⟩ := take_stRunLen os { g := o.g, v := o.v, last := o.idx, n := 1 }
  refine ⟨_, _, (List.take_append_drop _ os).symm, hsame, hcon, runs_cons os o, ?_⟩
  rw [List.length_take, Nat.min_eq_left (stRunLen_le os _)]
  exact encodeStatic_none_cons o os hp

theorem runs_ok (n : Nat) : ∀ os : List SObj, os.length ≤ n → (∀ o ∈ os, Plain o) → ∀ r ∈ runs os, RunOK r := by
  induction n with
  | zero =>
    intro os hl _ r hr
    have : os = [] := List.eq_nil_of_length_eq_zero (by omega)
    subst this; cases hr
  | succ n ih =>
    intro os hl hp r hr
    cases os with
    | nil => cases hr
    | cons o os =>
      obtain ⟨t, rest, rfl, hsame, hcon, hruns, _⟩ := first_run o os hp
      rw [hruns] at hr
      rcases List.mem_cons.mp hr with rfl | hr
      · exact ⟨o, t, rfl, hp o (List.mem_cons_self ..), hsame, hcon⟩
      · refine ih rest ?_ (fun x hx => hp x (List.mem_cons_of_mem _ (List.mem_append_right _ hx))) r hr
        simp only [List.length_cons, List.length_append] at hl
        omega

theorem rdU16_le16 (n : Nat) (h : n < 65536) : rdU16 (n % 256) (n / 256 % 256) = n := by
  unfold rdU16; omega

theorem parse_ranged_hdr (f g v k start stop : Nat) (data tail : List Nat)
    (hi : respVarInfo g v = some { ranged := some k })
    (h1 : start ≤ stop) (h2 : stop < 65536) (hl : data.length = k * (stop - start + 1)) :
    parseRespObjects (f + 1) ([g, v, 1] ++ DbM.le16 start ++ DbM.le16 stop ++ data ++ tail) =
      match parseRespObjects f tail with
      | some hs => some (⟨g, v, 1, start, stop, data⟩ :: hs)
      | none => none := by
  have hs : start < 65536 := by omega
  -- what the parser asks of a 0x01 header: a variation with a ranged object size (`hi`), not `stop < start` (`h1`), and
  -- at least `k * (stop - start + 1)` octets of data (the `if` left for `omega`, by `hl`)
  simp only [DbM.le16, List.cons_append, List.nil_append, parseRespObjects, hi]
  simp [rdU16_le16 _ hs, rdU16_le16 _ h2, Nat.not_lt.mpr h1, ← hl]
  rw [if_neg (by omega)]
  cases parseRespObjects f tail <;> rfl

def runHdr (r : List SObj) : ObjHdr :=
  match r with
  | o :: t => ⟨o.g, o.v, 1, o.idx, o.idx + t.length, r.flatMap stObjBytes⟩
  | [] => default

theorem consec_bound (t : List SObj) : ∀ (a B : Nat), Consec a t → (∀ x ∈ t, x.idx < B) → a ≤ B →
    a + t.length ≤ B := by
  induction t with
  | nil => intro a B _ _ h; simpa using h
  | cons x xs ih =>
    intro a B hc hb ha
    have hx := hb x (List.mem_cons_self ..)
    have := ih (a + 1) B hc.2 (fun y hy => hb y (List.mem_cons_of_mem _ hy)) (by rw [hc.1] at hx; omega)
    simp only [List.length_cons]; omega

theorem flatMap_len (k : Nat) (t : List SObj) (h : ∀ x ∈ t, (stObjBytes x).length = k) :
    (t.flatMap stObjBytes).length = k * t.length := by
  induction t with
  | nil => simp
  | cons x xs ih =>
    simp only [List.flatMap_cons, List.length_append, List.length_cons]
    rw [h x (List.mem_cons_self ..), ih (fun y hy => h y (List.mem_cons_of_mem _ hy))]
    rw [Nat.mul_add, Nat.mul_one, Nat.add_comm]

theorem run_sizes {o : SObj} {t : List SObj} (ho : Plain o) (hsame : ∀ x ∈ t, x.g = o.g ∧ x.v = o.v) :
    ∀ x ∈ o :: t, (stObjBytes x).length = objSize o.g := by
  intro x hx
  rcases List.mem_cons.mp hx with rfl | hx
  · exact plain_len ho
  · have hpx : Plain x := by
      unfold Plain at ho ⊢; rw [(hsame x hx).1, (hsame x hx).2]; exact ho
    rw [plain_len hpx, (hsame x hx).1]

theorem parse_encodeStatic (n : Nat) : ∀ os : List SObj, os.length ≤ n →
    (∀ o ∈ os, Plain o ∧ o.idx < 65536) → ∀ (tail : List Nat) (hs : List ObjHdr),
    (∀ f, tail.length ≤ f → parseRespObjects f tail = some hs) →
    ∀ f, (encodeStatic none os ++ tail).length ≤ f →
      parseRespObjects f (encodeStatic none os ++ tail) = some ((runs os).map runHdr ++ hs) := by
  induction n with
  | zero =>
    intro os hl _ tail hs ht f hf
    have : os = [] := List.eq_nil_of_length_eq_zero (by omega)
    subst this
    simpa [encodeStatic, runs] using ht f (by simpa [encodeStatic] using hf)
  | succ n ih =>
    intro os hl hp tail hs ht f hf
    cases os with
    | nil => simpa [encodeStatic, runs] using ht f (by simpa [encodeStatic] using hf)
    | cons o os =>
      obtain ⟨t, rest, rfl, hsame, hcon, hruns, henc⟩ := first_run o os (fun x hx => (hp x hx).1)
      have ho := hp o (List.mem_cons_self ..)
      have hbound : o.idx + 1 + t.length ≤ 65536 :=
        consec_bound _ _ _ hcon (fun x hx => (hp x (List.mem_cons_of_mem _ (List.mem_append_left _ hx))).2) ho.2
      have hdl : ((o :: t).flatMap stObjBytes).length = objSize o.g * (o.idx + t.length - o.idx + 1) := by
        rw [flatMap_len _ _ (run_sizes ho.1 hsame), List.length_cons, Nat.add_sub_cancel_left]
      rw [henc] at hf ⊢
      rw [hruns]
      cases f with
      | zero => simp at hf
      | succ f =>
        have hrec := ih rest (by simp only [List.length_cons, List.length_append] at hl; omega)
          (fun x hx => hp x (List.mem_cons_of_mem _ (List.mem_append_right _ hx))) tail hs ht f (by
            simp only [List.length_append, List.length_cons] at hf ⊢
            omega)
        rw [List.append_assoc, parse_ranged_hdr f o.g o.v (objSize o.g) o.idx (o.idx + t.length) _ _
          (plain_info ho.1) (by omega) (by omega) hdl, hrec]
        rfl

def runCall (who : Who) (r : List SObj) : MOut :=
  match r with
  | o :: _ => .deliverHdr who o.g o.v 1 (r.map fun x => (x.idx, stObjBytes x))
  | [] => .deliverHdr who 0 0 0 []

def _root_.Dnp3.Props.C02.callItems : MOut → List (Nat × List Nat)
  | .deliverHdr _ _ _ _ items => items
  | _ => []

theorem runCalls_items (who : Who) (rs : List (List SObj)) :
    (rs.map (runCall who)).flatMap Dnp3.Props.C02.callItems = rs.flatten.map (fun o => (o.idx, stObjBytes o)) := by
  induction rs with
  | nil => rfl
  | cons r rs ih =>
    simp only [List.map_cons, List.flatMap_cons, List.flatten_cons, List.map_append, ih]
    congr 1
    cases r <;> rfl

theorem cut_items (k : Nat) (t : List SObj) : ∀ a : Nat, Consec a t → (∀ x ∈ t, (stObjBytes x).length = k) →
    (List.range t.length).map (fun i => (a + i, ((t.flatMap stObjBytes).drop (k * i)).take k)) =
      t.map (fun x => (x.idx, stObjBytes x)) := by
  induction t with
  | nil => intro a _ _; rfl
  | cons x xs ih =>
    intro a hc hl
    have hx := hl x (List.mem_cons_self ..)
    have := ih (a + 1) hc.2 (fun y hy => hl y (List.mem_cons_of_mem _ hy))
    simp only [List.length_cons, List.range_succ_eq_map, List.map_cons, List.map_map, List.flatMap_cons]
    rw [← this]
    congr 1
    · simp [hc.1, ← hx]
    · apply List.map_congr_left
      intro i _
      simp only [Function.comp]
      congr 1
      · omega
      · rw [Nat.mul_succ, Nat.add_comm (k * i) k, ← List.drop_drop]
        congr 1
        rw [← hx, List.drop_left]

theorem headerCalls_run (who : Who) (r : List SObj) (h : RunOK r) : headerCalls who (runHdr r) = [runCall who r] := by
  obtain ⟨o, t, rfl, ho, hsame, hcon⟩ := h
  have hg := plain_group ho
  have h50 : ¬ (o.g = 50 ∧ o.v = 1) := by rcases hg with h | h <;> simp [h]
  have hcut := cut_items (objSize o.g) (o :: t) o.idx ⟨rfl, hcon⟩ (run_sizes ho hsame)
  unfold headerCalls deliverHeader runHdr runCall
  simp only [h50, if_false, hg, if_true, emit, List.nil_append]
  have e : o.idx + t.length - o.idx + 1 = (o :: t).length := by simp only [List.length_cons]; omega
  rw [e]
  unfold objSize at hcut
  rw [hcut]

theorem foldl_deliver_runs (who : Who) (rs : List (List SObj)) : ∀ (a : Master.Acc), (∀ r ∈ rs, RunOK r) →
    (rs.map runHdr).foldl (fun a h => deliverHeader a who h) a = (a.1, a.2 ++ rs.map (runCall who)) := by
  induction rs with
  | nil => intro a _; simp
  | cons r rs ih =>
    intro a h
    simp only [List.map_cons, List.foldl_cons]
    rw [deliverHeader_eq, headerCalls_run who r (h r (List.mem_cons_self ..)),
      ih _ (fun x hx => h x (List.mem_cons_of_mem _ hx))]
    simp

theorem writeEvents_unselected (db : Db) (cap : Nat) (h : ∀ r ∈ db.events, r.st ≠ .selected) :
    db.writeEvents cap = (db, [], true) := by
  obtain ⟨n, hm, he⟩ := writeEvents_spec db cap
  have hsel : db.events.filter isSelected = [] :=
    List.filter_eq_nil_iff.mpr fun r hr => by simpa [isSelected] using h r hr
  rw [hsel] at hm he
  obtain rfl : n = 0 := Nat.le_zero.mp hm.1
  rw [he, markFirst_zero]; rfl

theorem sorted_le_getLast : ∀ (m : List (Nat × Point)) (hne : m ≠ []), KeysSorted m →
    ∀ p ∈ m, p.1 ≤ (m.getLast hne).1 := by
  intro m
  induction m with
  | nil => intro hne; exact absurd rfl hne
  | cons x xs ih =>
    intro hne hs p hp
    cases xs with
    | nil =>
      simp only [List.mem_singleton] at hp
      subst hp; simp
    | cons y ys =>
      rw [List.getLast_cons (by simp)]
      have hs' : KeysSorted (y :: ys) := (List.pairwise_cons.mp hs).2
      rcases List.mem_cons.mp hp with rfl | hp
      · have := (List.pairwise_cons.mp hs).1 _ (List.getLast_mem (l := y :: ys) (by simp))
        omega
      · exact ih (by simp) hs' p hp

theorem fullRange_none {m : List (Nat × Point)} (h : fullRange m = none) : m = [] := by
  cases m with
  | nil => rfl
  | cons x xs =>
    unfold fullRange at h
    rw [List.getLast?_eq_some_getLast (by simp)] at h
    simp at h

theorem fullRange_bounds {m : List (Nat × Point)} (hs : KeysSorted m) {a b : Nat}
    (h : fullRange m = some (a, b)) : ∀ p ∈ m, a ≤ p.1 ∧ p.1 ≤ b := by
  cases m with
  | nil => simp [fullRange] at h
  | cons x xs =>
    unfold fullRange at h
    rw [List.getLast?_eq_some_getLast (by simp)] at h
    simp only [List.head?_cons, Option.some.injEq, Prod.mk.injEq] at h
    obtain ⟨rfl, rfl⟩ := h
    intro p hp
    refine ⟨?_, sorted_le_getLast _ _ hs p hp⟩
    rcases List.mem_cons.mp hp with rfl | hp
    · exact Nat.le_refl _
    · exact Nat.le_of_lt ((List.pairwise_cons.mp hs).1 p hp)

/-- group and variation of the class-0 objects of a type whose points `Db.add` configured
    (g1v2 for binary inputs, g30v1 for analog inputs — the two types the statements below use) -/
def tyG (t : PtType) : Nat := staticGroup t
def tyV (t : PtType) : Nat := addStaticVar t

def objsOf (t : PtType) (m : List (Nat × Point)) : List SObj :=
  m.map fun p => { idx := p.1, g := tyG t, v := tyV t, m := p.2.current }

theorem selectStatic_none_room (db : Db) (t : PtType) (hroom : db.queue.length ≠ db.selCap) :
    db.selectStatic t none none =
      match fullRange (db.map t) with
      | none => (db, 0)
      | some (a, b) => ({ db.setMap t (snapshot a b (db.map t)) with
                          queue := db.queue ++ [{ kind := kindOf t none, start := a, stop := b }] }, 0) := by
  rw [selectStatic_none]
  cases fullRange (db.map t) with
  | none => rfl
  | some r => exact (selectStatic_some ..).trans (pushSel_room (db.setMap t _) _ hroom)

theorem selectStatic_none_frame (db : Db) (t : PtType) (hroom : db.queue.length ≠ db.selCap) :
    (db.selectStatic t none none).2 = 0 ∧
    (db.selectStatic t none none).1.queue.length ≤ db.queue.length + 1 ∧
    (∀ t', t' ≠ t → (db.selectStatic t none none).1.map t' = db.map t') := by
  rw [selectStatic_none_room db t hroom]
  cases fullRange (db.map t) with
  | none => exact ⟨rfl, Nat.le_succ _, fun _ _ => rfl⟩
  | some ab =>
    refine ⟨rfl, by simp, fun t' ht => ?_⟩
    show (db.setMap t (snapshot ab.1 ab.2 (db.map t))).map t' = db.map t'
    rw [Db.map_setMap', if_neg ht]

/-- the response of a database without `Selected` records carries no events: it is `StaticDatabase::write` -/
theorem writeResponse_unselected (db : Db) (cap : Nat) (h : ∀ r ∈ db.events, r.st ≠ .selected) :
    ∃ q u, QRun db cap db.queue 0 (writeStaticObjs db cap) q u ∧
      db.writeResponse cap = ({ db with queue := q, attrSel := if q.isEmpty then 0 else db.attrSel },
        (writeStaticObjs db cap).flatMap (encodeStatic none), false, q.isEmpty) := by
  have hc := writeResponse_cases db cap
  rw [writeEvents_unselected db cap h] at hc
  rcases hc with ⟨hc, _⟩ | ⟨_, q, u, hq, hr⟩
  · cases hc
  · exact ⟨q, u, hq, hr⟩

/-- `DatabaseHandle::select` for the header g60v1 / 0x06 is `select_class_zero` -/
theorem select_class0 (db : Db) : db.select ⟨60, 1, 6, 0, 0⟩ = db.selectClass0 := rfl

/-- one step of `select_class_zero`: the type's `select_by_type`, if `ClassZeroConfig` enables it -/
def czStep (p : Db × Nat) (t : PtType) : Db × Nat :=
  if p.1.czero.get t then ((p.1.selectStatic t none none).1, p.2 ||| (p.1.selectStatic t none none).2) else p

theorem selectClass0_foldl (db : Db) : db.selectClass0 = Gen.DbT.Ty.all.foldl czStep (db, 0) := by
  unfold Db.selectClass0
  rw [DbTables.classZeroOrder_all]
  congr 1
  funext p t
  unfold czStep
  rw [DbTables.updatable_own]

theorem selectStatic_empty (db : Db) (t : PtType) (h : db.map t = []) : db.selectStatic t none none = (db, 0) := by
  rw [selectStatic_none, h]; rfl

/-- the class-0 object of a point of type `t`: its CURRENT value, under the variation its configured static variation
    gives for that value -/
def c0Obj (t : PtType) (p : Nat × Point) : SObj :=
  { idx := p.1, g := staticGroup t, v := stVar t none { p.2 with selected := p.2.current }, m := p.2.current }

def czNeed (db : Db) (t : PtType) : Nat := if db.czero.get t = true ∧ db.map t ≠ [] then 1 else 0

/-- The last part speaks of any database `r'` that agrees with the result on the map of `t` (the later steps of the fold
    change the maps of other types only) and of any `g` with `g [] = []`, so that one induction gives the objects
    (`g := id`) and their octets (`g := encodeStatic none`): `class0_queue` takes both -/
theorem czStep_spec (p : Db × Nat) (t : PtType) (h0 : p.2 = 0) (hs : KeysSorted (p.1.map t))
    (hroom : czNeed p.1 t = 1 → p.1.queue.length ≠ p.1.selCap) :
    ∃ qT, (czStep p t).1.queue = p.1.queue ++ qT ∧ qT.length = czNeed p.1 t ∧ (czStep p t).2 = 0 ∧
      SelFrame (fun x => x.1) p.1 (czStep p t).1 ∧ (∀ u, u ≠ t → (czStep p t).1.map u = p.1.map u) ∧
      ∀ r' : Db, r'.map t = (czStep p t).1.map t → ∀ {β : Type} (g : List SObj → List β), g [] = [] →
        (qT.map (itemObjs r')).flatMap g = if p.1.czero.get t = true then g ((p.1.map t).map (c0Obj t)) else [] := by
  unfold czStep
  by_cases hc : p.1.czero.get t = true
  · rw [if_pos hc]
    by_cases hm : p.1.map t = []
    · rw [selectStatic_empty _ _ hm]
      refine ⟨[], (List.append_nil _).symm, by simp [czNeed, hm], by simp [h0], .refl _, fun _ _ => rfl, fun r' _ β g hg => ?_⟩
      rw [if_pos hc, hm]; exact hg.symm
    · have hr := hroom (by simp [czNeed, hc, hm])
      obtain ⟨i1, _, i3⟩ := selectStatic_none_frame p.1 t hr
      have e := selectStatic_none_room p.1 t hr
      cases hf : fullRange (p.1.map t) with
      | none => exact absurd (fullRange_none hf) hm
      | some ab =>
        obtain ⟨a, b⟩ := ab
        rw [hf] at e
        have hk : kindOf t none = .typed t none := by rw [kindOf_eq']; split <;> rfl
        refine ⟨[⟨kindOf t none, a, b⟩], by rw [e], by simp [czNeed, hc, hm], by simp [h0, i1],
          selectStatic_frame (fun _ _ _ => rfl) .., i3, fun r' hr' β g hg => ?_⟩
        have hm' : r'.map t = snapshot a b (p.1.map t) := by rw [hr', e]; exact Db.map_setMap_same' p.1 t _
        have hI : itemObjs r' ⟨kindOf t none, a, b⟩ = (p.1.map t).map (c0Obj t) := by
          rw [itemObjs_eq]
          unfold mapOf objOf
          simp only [hk]
          rw [hm', snapshot_filter _ ⟨.typed t none, a, b⟩ (p.1.map t), List.filter_eq_self.mpr fun x hx => by
            simpa [inRange] using fullRange_bounds hs hf x hx]
          rfl
        rw [if_pos hc, List.map_cons, List.map_nil, List.flatMap_cons, List.flatMap_nil, List.append_nil, hI]
  · rw [if_neg hc]
    exact ⟨[], (List.append_nil _).symm, by simp [czNeed, hc], h0, .refl _, fun _ _ => rfl, fun _ _ _ _ _ => by rw [if_neg hc]; rfl⟩

theorem czFold_spec : ∀ (ts : List PtType), ts.Nodup → ∀ (p : Db × Nat), p.2 = 0 → StaticSorted p.1 →
    p.1.queue.length + (ts.map (czNeed p.1)).sum ≤ p.1.selCap →
    ∃ Q, (ts.foldl czStep p).1.queue = p.1.queue ++ Q ∧ (ts.foldl czStep p).2 = 0 ∧
      SelFrame (fun x => x.1) p.1 (ts.foldl czStep p).1 ∧
      (∀ u, u ∉ ts → (ts.foldl czStep p).1.map u = p.1.map u) ∧
      ∀ r' : Db, (∀ u ∈ ts, r'.map u = (ts.foldl czStep p).1.map u) → ∀ {β : Type} (g : List SObj → List β), g [] = [] →
        (Q.map (itemObjs r')).flatMap g =
          ts.flatMap fun t => if p.1.czero.get t = true then g ((p.1.map t).map (c0Obj t)) else []
  | [], _, p, h0, _, _ => ⟨[], (List.append_nil _).symm, h0, .refl _, fun _ _ => rfl, fun _ _ _ _ _ => rfl⟩
  | t :: ts, hnd, p, h0, hs, hroom => by
    obtain ⟨htn, hnd'⟩ := List.nodup_cons.mp hnd
    simp only [List.map_cons, List.sum_cons] at hroom
    obtain ⟨qT, hq, hlen, h2, hfr, hoth, hobj⟩ := czStep_spec p t h0 (hs t) (fun h1 => by omega)
    have hne : ∀ u ∈ ts, u ≠ t := fun u hu e => htn (e ▸ hu)
    -- the remaining types have the same points, flags and capacity after the step
    have hneed : ts.map (czNeed (czStep p t).1) = ts.map (czNeed p.1) :=
      List.map_congr_left fun u hu => by simp only [czNeed, hfr.czero, hoth u (hne u hu)]
    obtain ⟨Q, hQ, hQ2, hQfr, hQoth, hQobj⟩ := czFold_spec ts hnd' (czStep p t) h2 (KeysSame.sorted hfr.maps hs) (by
      rw [hneed, hq, List.length_append, hlen, hfr.selCap]; omega)
    refine ⟨qT ++ Q, by rw [List.foldl_cons, hQ, hq, List.append_assoc], hQ2, hfr.trans hQfr, fun u hu => ?_,
      fun r' hr' β g hg => ?_⟩
    · rw [List.foldl_cons, hQoth u fun h => hu (List.mem_cons_of_mem _ h), hoth u fun e => hu (e ▸ List.mem_cons_self ..)]
    · rw [List.map_append, List.flatMap_append, List.flatMap_cons,
        hobj r' ((hr' t (List.mem_cons_self ..)).trans (hQoth t htn)) g hg,
        hQobj r' (fun u hu => hr' u (List.mem_cons_of_mem _ hu)) g hg]
      have hrest : (ts.map fun u => if (czStep p t).1.czero.get u = true then
            g (((czStep p t).1.map u).map (c0Obj u)) else []) =
          ts.map fun u => if p.1.czero.get u = true then g ((p.1.map u).map (c0Obj u)) else [] :=
        List.map_congr_left fun u hu => by rw [hfr.czero, hoth u (hne u hu)]
      rw [List.flatMap_def (l := ts), List.flatMap_def (l := ts), hrest]

theorem czNeed_pair (db : Db) (hq : db.queue = []) (hcap : 2 ≤ db.selCap)
    (hempty : ∀ t, t ≠ .binary → t ≠ .analog → db.map t = []) :
    db.queue.length + (Gen.DbT.Ty.all.map (czNeed db)).sum ≤ db.selCap := by
  have h0 : ∀ t, t ≠ .binary → t ≠ .analog → czNeed db t = 0 := fun t h1 h2 => by simp [czNeed, hempty t h1 h2]
  have h1 : ∀ t, czNeed db t ≤ 1 := fun t => by unfold czNeed; split <;> omega
  have hb := h1 .binary
  have ha := h1 .analog
  simp only [Gen.DbT.Ty.all, List.map_cons, List.map_nil, List.sum_cons, List.sum_nil, hq, List.length_nil,
    h0 .doubleBitBinary (by decide) (by decide), h0 .binaryOutputStatus (by decide) (by decide),
    h0 .counter (by decide) (by decide), h0 .frozenCounter (by decide) (by decide),
    h0 .analogOutputStatus (by decide) (by decide), h0 .octetString (by decide) (by decide)]
  omega

theorem class0_queue (db : Db) (hs : StaticSorted db) (hq : db.queue = []) (hcap : 2 ≤ db.selCap)
    (hsv : ∀ p ∈ db.bins, p.2.svar = 2) (hsa : ∀ p ∈ db.ans, p.2.svar = 1)
    (hempty : ∀ t, t ≠ .binary → t ≠ .analog → db.map t = [])
    (hczb : db.czero.binary = true) (hcza : db.czero.analog = true) :
    db.selectClass0.1.events = db.events ∧
    (db.selectClass0.1.queue.map (itemObjs db.selectClass0.1)).flatten =
      objsOf .binary db.bins ++ objsOf .analog db.ans ∧
    (db.selectClass0.1.queue.map (itemObjs db.selectClass0.1)).flatMap (encodeStatic none) =
      encodeStatic none (objsOf .binary db.bins) ++ encodeStatic none (objsOf .analog db.ans) := by
  obtain ⟨Q, hQ, _, hfr, _, hobj⟩ := czFold_spec Gen.DbT.Ty.all (by decide) (db, 0) rfl hs (czNeed_pair db hq hcap hempty)
  rw [← selectClass0_foldl] at hQ hfr hobj
  have hB : (db.map .binary).map (c0Obj .binary) = objsOf .binary db.bins := List.map_congr_left fun p hp => by
    simp [c0Obj, stVar, promote, hsv p hp, tyG, tyV, addStaticVar, staticGroup]
  have hA : (db.map .analog).map (c0Obj .analog) = objsOf .analog db.ans := List.map_congr_left fun p hp => by
    simp [c0Obj, stVar, promote, hsa p hp, tyG, tyV, addStaticVar, staticGroup]
  -- the two enabled types with points; of the other six `g [] = []`
  have two : ∀ {β : Type} (g : List SObj → List β), g [] = [] →
      (db.selectClass0.1.queue.map (itemObjs db.selectClass0.1)).flatMap g =
        g (objsOf .binary db.bins) ++ g (objsOf .analog db.ans) := fun g hg => by
    rw [hQ, hq, List.nil_append, hobj db.selectClass0.1 (fun _ _ => rfl) g hg]
    have e0 : ∀ t, t ≠ .binary → t ≠ .analog →
        (if db.czero.get t = true then g ((db.map t).map (c0Obj t)) else []) = [] := fun t h1 h2 => by
      rw [hempty t h1 h2]; split <;> first | exact hg | rfl
    simp only [Gen.DbT.Ty.all, List.flatMap_cons, List.flatMap_nil, e0 .doubleBitBinary (by decide) (by decide),
      e0 .binaryOutputStatus (by decide) (by decide), e0 .counter (by decide) (by decide),
      e0 .frozenCounter (by decide) (by decide), e0 .analogOutputStatus (by decide) (by decide),
      e0 .octetString (by decide) (by decide), List.append_nil, List.nil_append,
      if_pos (show db.czero.get .binary = true from hczb), if_pos (show db.czero.get .analog = true from hcza), hB, hA]
  exact ⟨hfr.eb.1, by simpa using two id rfl, two (encodeStatic none) rfl⟩

theorem class0_octets (db : Db) (hs : StaticSorted db) (hq : db.queue = []) (hcap : 2 ≤ db.selCap)
    (hev : ∀ r ∈ db.events, r.st ≠ .selected)
    (hsv : ∀ p ∈ db.bins, p.2.svar = 2) (hsa : ∀ p ∈ db.ans, p.2.svar = 1)
    (hempty : ∀ t, t ≠ .binary → t ≠ .analog → db.map t = [])
    (hczb : db.czero.binary = true) (hcza : db.czero.analog = true) (cap : Nat)
    (hc : (db.selectClass0.1.writeResponse cap).2.2.2 = true) :
    (db.selectClass0.1.writeResponse cap).2.1 =
      encodeStatic none (objsOf .binary db.bins) ++ encodeStatic none (objsOf .analog db.ans) ∧
    (db.selectClass0.1.writeResponse cap).2.2.1 = false := by
  obtain ⟨hev', _, hoct⟩ := class0_queue db hs hq hcap hsv hsa hempty hczb hcza
  obtain ⟨q, u, hq, hr⟩ := writeResponse_unselected db.selectClass0.1 cap (by rw [hev']; exact hev)
  rw [hr] at hc ⊢
  exact ⟨by rw [hq.complete (List.isEmpty_iff.mp hc), hoct], rfl⟩

theorem parse_nil (f : Nat) : parseRespObjects f [] = some [] := by
  cases f <;> simp [parseRespObjects]

theorem objsOf_plain (t : PtType) (ht : t = .binary ∨ t = .analog) (m : List (Nat × Point))
    (hi : ∀ p ∈ m, p.1 < 65536) :
    ∀ o ∈ objsOf t m, Plain o ∧ o.idx < 65536 := by
  intro o ho
  simp only [objsOf, List.mem_map] at ho
  obtain ⟨p, hp, rfl⟩ := ho
  refine ⟨?_, hi p hp⟩
  rcases ht with rfl | rfl
  · exact .inl ⟨rfl, rfl⟩
  · exact .inr ⟨rfl, rfl⟩

/-- each list written by its own `write_typed_range` (`encodeStatic none`) -/
theorem parse_lists (ws : List (List SObj)) (hp : ∀ os ∈ ws, ∀ o ∈ os, Plain o ∧ o.idx < 65536) :
    ∀ f, (ws.flatMap (encodeStatic none)).length ≤ f →
      parseRespObjects f (ws.flatMap (encodeStatic none)) = some ((ws.flatMap runs).map runHdr) := by
  induction ws with
  | nil => intro f _; exact parse_nil f
  | cons os ws ih =>
    intro f hf
    simp only [List.flatMap_cons, List.map_append] at hf ⊢
    exact parse_encodeStatic _ os (Nat.le_refl _) (hp os (List.mem_cons_self ..)) _ _
      (ih (fun x hx => hp x (List.mem_cons_of_mem _ hx))) f hf

theorem deliver_lists (who : Who) (ws : List (List SObj)) (hp : ∀ os ∈ ws, ∀ o ∈ os, Plain o ∧ o.idx < 65536)
    (a : Master.Acc) :
    ((ws.flatMap runs).map runHdr).foldl (fun a h => deliverHeader a who h) a =
      (a.1, a.2 ++ (ws.flatMap runs).map (runCall who)) := by
  apply foldl_deliver_runs
  intro r hr
  obtain ⟨os, hos, hr⟩ := List.mem_flatMap.mp hr
  exact runs_ok _ os (Nat.le_refl _) (fun o ho => (hp os hos o ho).1) r hr

theorem class0_roundtrip (db : Db) (hs : StaticSorted db) (hq : db.queue = []) (hcap : 2 ≤ db.selCap)
    (hev : ∀ r ∈ db.events, r.st ≠ .selected)
    (hib : ∀ p ∈ db.bins, p.1 < 65536) (hia : ∀ p ∈ db.ans, p.1 < 65536)
    (hsv : ∀ p ∈ db.bins, p.2.svar = 2) (hsa : ∀ p ∈ db.ans, p.2.svar = 1)
    (hempty : ∀ t, t ≠ .binary → t ≠ .analog → db.map t = [])
    (hczb : db.czero.binary = true) (hcza : db.czero.analog = true) (cap : Nat)
    (hc : (db.selectClass0.1.writeResponse cap).2.2.2 = true) (who : Who) (a : Master.Acc) :
    parseRespObjects (db.selectClass0.1.writeResponse cap).2.1.length (db.selectClass0.1.writeResponse cap).2.1 =
      some ((runs (objsOf .binary db.bins)).map runHdr ++ (runs (objsOf .analog db.ans)).map runHdr) ∧
    ((runs (objsOf .binary db.bins)).map runHdr ++ (runs (objsOf .analog db.ans)).map runHdr).foldl
        (fun a h => deliverHeader a who h) a =
      (a.1, a.2 ++ ((runs (objsOf .binary db.bins)).map (runCall who) ++
        (runs (objsOf .analog db.ans)).map (runCall who))) := by
  obtain ⟨hoct, _⟩ := class0_octets db hs hq hcap hev hsv hsa hempty hczb hcza cap hc
  have hp : ∀ os ∈ [objsOf .binary db.bins, objsOf .analog db.ans], ∀ o ∈ os, Plain o ∧ o.idx < 65536 := by
    intro os hos
    simp only [List.mem_cons, List.not_mem_nil, or_false] at hos
    rcases hos with rfl | rfl
    · exact objsOf_plain .binary (.inl rfl) db.bins hib
    · exact objsOf_plain .analog (.inr rfl) db.ans hia
  have h1 := parse_lists _ hp _ (Nat.le_refl _)
  have h2 := deliver_lists who _ hp a
  simp only [List.flatMap_cons, List.flatMap_nil, List.append_nil, List.map_append] at h1 h2
  exact ⟨hoct ▸ h1, h2⟩

/-- what the class-0 statements assume of the database beyond sortedness: binary inputs configured
    with static variation g1v2, analog inputs with g30v1 (`Db.add`'s `addStaticVar`), no point of
    another type, both types enabled in `ClassZeroConfig` -/
structure PairDb (db : Db) : Prop where
  sv : ∀ p ∈ db.bins, p.2.svar = 2
  sa : ∀ p ∈ db.ans, p.2.svar = 1
  empty : ∀ t, t ≠ .binary → t ≠ .analog → db.map t = []
  czb : db.czero.binary = true
  cza : db.czero.analog = true

theorem _root_.Dnp3.DbProofs.CfgSame.pairDb {db db' : Db} (h : CfgSame db db') (hp : PairDb db) : PairDb db' where
  sv := h.svar .binary 2 hp.sv
  sa := h.svar .analog 1 hp.sa
  empty := fun t h1 h2 => h.1.nil (hp.empty t h1 h2)
  czb := by rw [h.2.1]; exact hp.czb
  cza := by rw [h.2.1]; exact hp.cza

theorem add_pairDb (db : Db) (hs : StaticSorted db) (t : PtType) (ht : t = .binary ∨ t = .analog) (idx cls : Nat)
    (hp : PairDb db) : PairDb (db.add t idx cls).1 := by
  obtain ⟨_, hz, hm⟩ := addCfg_frame db hs t (idx % 65536) cls (addStaticVar t) (addEventVar t) (idx / 65536)
  -- a point of the result was there before, or is the new one, of type `t`, with the static variation `addStaticVar t`
  refine ⟨fun p h => ?_, fun p h => ?_, fun u h1 h2 => List.eq_nil_iff_forall_not_mem.mpr fun p h => ?_,
    (congrArg (·.binary) hz).trans hp.czb, (congrArg (·.analog) hz).trans hp.cza⟩
  · rcases hm .binary p h with h | ⟨rfl, _, h⟩
    · exact hp.sv p h
    · exact h
  · rcases hm .analog p h with h | ⟨rfl, _, h⟩
    · exact hp.sa p h
    · exact h
  · rcases hm u p h with h | ⟨rfl, _⟩
    · rw [hp.empty u h1 h2] at h; cases h
    · rcases ht with rfl | rfl <;> contradiction

theorem pairDb_step (db : Db) (op : DbOp) (hop : ∀ t idx cls, op = .add t idx cls → t = .binary ∨ t = .analog)
    (hs : StaticSorted db) (hp : PairDb db) : PairDb (step db op) := by
  cases op with
  | add t idx cls => exact add_pairDb db hs t (hop t idx cls rfl) idx cls hp
  | _ => exact (step_cfg db _ (by intro _ _ _ h; cases h)).pairDb hp

theorem pairDb_newCfg (ev : TyVec Nat) (cz : TyVec Bool) (sel : Option Nat)
    (hb : cz.binary = true) (ha : cz.analog = true) : PairDb (Db.newCfg ev cz sel) where
  sv := fun p hp => by cases hp
  sa := fun p hp => by cases hp
  empty := fun t _ _ => by cases t <;> rfl
  czb := hb
  cza := ha

/-- the configuration of the engines (`Db.new (legacyEv n)`) has the default `ClassZeroConfig` -/
theorem czOfNat_legacyEv (n : Nat) : czOfNat (legacyEv n) = TyVec.ofFn Gen.DbT.classZeroDefault := by
  have h : legacyEv n / 65536 ^ 8 = 0 := by
    unfold legacyEv
    apply Nat.div_eq_of_lt
    have := Nat.mod_lt n (show 65536 > 0 by decide)
    simp only [Nat.reducePow]
    omega
  unfold czOfNat
  rw [h]
  congr 1
  funext t
  simp

theorem pairDb_new (n : Nat) (sel : Option Nat) : PairDb (Db.new (legacyEv n) sel) := by
  unfold Db.new
  rw [czOfNat_legacyEv]
  exact pairDb_newCfg _ _ sel rfl rfl

/-- `PairDb` holds in every state of a `pair` engine's database: created by `Db.new (legacyEv n)`, points added as
    binary / analog inputs only -/
theorem class0_hyps_reachable (n : Nat) (sel : Option Nat) (ops : List DbOp)
    (hops : ∀ op ∈ ops, ∀ t idx cls, op = .add t idx cls → t = .binary ∨ t = .analog) :
    PairDb (run (Db.new (legacyEv n) sel) ops) :=
  (List.foldlRecOn ops step (motive := fun db => StaticSorted db ∧ PairDb db) ⟨new_sorted _ sel, pairDb_new n sel⟩
    fun db h op hop => ⟨sorted_step db op h.1, pairDb_step db op (hops op hop) h.1 h.2⟩).2

example : ∀ op ∈ [DbOp.add .binary 0 1, .add .analog 2 2, .update .analog 2 (-5) 1 8, .select ⟨60, 1, 6, 0, 0⟩, .write 100],
    ∀ t idx cls, op = .add t idx cls → t = .binary ∨ t = .analog := by
  intro op h t idx cls e
  subst e
  simp only [List.mem_cons, List.not_mem_nil, or_false, DbOp.add.injEq, reduceCtorEq] at h
  rcases h with ⟨rfl, _, _⟩ | ⟨rfl, _, _⟩
  · exact .inl rfl
  · exact .inr rfl

end Dnp3.Proofs.C02Static
