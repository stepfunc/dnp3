import Lean.Elab.ElabRules
import Dnp3.Proofs.Pair
import Dnp3.Proofs.C18Link
/-!
# C18 — the op steps of the LAN and non-LAN scenarios over the PAIR model, by symbolic evaluation

Endpoint steps whose control flow does not depend on the symbolic times are closed by
`kernel_rfl` (the proof term is `Eq.refl lhs`; the kernel performs the definitional unfolding,
no axiom is involved).  The steps with time-dependent decisions (relay, response time-outs,
the 48-bit check of WRITE g50v3) are unfolded with generic lemmas.
-/
namespace Dnp3.Proofs.C18Pair
open Dnp3 Dnp3.Pair Dnp3.Proofs.Pair

open Lean Elab Tactic Meta in
/-- close `a = b` by `Eq.refl a`, leaving the definitional-equality check to the kernel -/
elab "kernel_rfl" : tactic => do
  let g ← getMainGoal
  let t ← whnfR (← g.getType)
  let some (_, lhs, _) := t.eq? | throwError "kernel_rfl: not an equality"
  g.assign (← mkEqRefl lhs)

theorem user_step {M M' : Master.MState} {O : OState} {env : OEnv} {n base dm db : Nat} {t : Master.Task}
    {outs : List Master.MOut} {dst' : Nat} {bytes : List Nat} (hdm : 0 < dm)
    (hM : Master.step { M with clock := masterClock (some base) n } (.user outstationAddr t) = (M', outs))
    (henq : ∀ s', enqM s' outs =
      { s' with m2o := s'.m2o.push s'.now (.frag masterAddr dst' bytes) (fragWire bytes.length) }) :
    Pair.step ⟨M, O, env, n, some base, ⟨dm, false, 0, []⟩, ⟨db, false, 0, []⟩⟩ (.user t) =
      (⟨M', O, env, n, some base,
        ⟨dm, false, 0, [⟨some (n + dm), fragWire bytes.length, .frag masterAddr dst' bytes⟩]⟩, ⟨db, false, 0, []⟩⟩,
       [.m outs]) := by
  have h1 : ¬ (n + dm ≤ n) := by omega
  simp only [Pair.step, mstep, hM, henq, pumpFuel]
  rw [pump_idle] <;> simp [dueCount, Dir.push, h1]

theorem tick_arrive (M M' : Master.MState) (O O' : OState) (env : OEnv) (n d base : Nat) (m2o o2m : Dir)
    (hdue : nextDue ⟨M, O, env, n, some base, m2o, o2m⟩ = some (n + d))
    (hM : Master.step { M with clock := masterClock (some base) (n + d) } (.tick d) = (M', []))
    (hO : Outstation.step env O (.tick d) = (O', [])) :
    Pair.step ⟨M, O, env, n, some base, m2o, o2m⟩ (.tick d) =
      tickLoop 199 (pump 400 ⟨M', O', env, n + d, some base, m2o, o2m⟩ [.time (n + d), .m [], .o []]).1 (n + d)
        (pump 400 ⟨M', O', env, n + d, some base, m2o, o2m⟩ [.time (n + d), .m [], .o []]).2 := by
  have e1 : n + d - n = d := by omega
  simp only [Pair.step, tickFuel]
  rw [tick_stop 199 _ _ (n + d) _ hdue (Nat.le_refl _)]
  simp [advance, mstep, ostep, e1, hM, hO, enqM, enqO, pumpFuel]

theorem tick_toO {M M' : Master.MState} {O O' O'' : OState} {env : OEnv} {n d base dm db len src dst : Nat}
    {data : List Nat} {outs : List OOut} {dst' : Nat} {bytes : List Nat} (hdb : 0 < db)
    (hM : Master.step { M with clock := masterClock (some base) (n + d) } (.tick d) = (M', []))
    (hO : Outstation.step env O (.tick d) = (O', []))
    (hrx : Outstation.step env O' (.rx src dst data) = (O'', outs))
    (henq : ∀ s', enqO s' outs =
      { s' with o2m := s'.o2m.push s'.now (.frag outstationAddr dst' bytes) (fragWire bytes.length) }) :
    Pair.step ⟨M, O, env, n, some base, ⟨dm, false, 0, [⟨some (n + d), len, .frag src dst data⟩]⟩, ⟨db, false, 0, []⟩⟩
        (.tick d) =
      (⟨M', O'', env, n + d, some base, ⟨dm, false, 0, []⟩,
        ⟨db, false, 0, [⟨some (n + d + db), fragWire bytes.length, .frag outstationAddr dst' bytes⟩]⟩⟩,
       [.time (n + d), .m [], .o [], .delivered true [⟨some (n + d), len, .frag src dst data⟩], .o outs]) := by
  have h1 : ¬ (n + d + db ≤ n + d) := by omega
  rw [tick_arrive M M' O O' env n d base _ _ (by simp [nextDue]) hM hO]
  rw [pump_toO 399 _ _ 1 (by simp [dueCount]) (by decide)]
  have hdel : deliverItems ⟨M', O', env, n + d, some base, ⟨dm, false, 0, []⟩, ⟨db, false, 0, []⟩⟩ true
        [⟨some (n + d), len, .frag src dst data⟩] =
      (⟨M', O'', env, n + d, some base, ⟨dm, false, 0, []⟩,
        ⟨db, false, 0, [⟨some (n + d + db), fragWire bytes.length, .frag outstationAddr dst' bytes⟩]⟩⟩,
       [.delivered true [⟨some (n + d), len, .frag src dst data⟩], .o outs]) := by
    simp [deliverItems, ostep, hrx, henq, Dir.push]
  simp only [List.take, List.drop]
  rw [hdel]
  rw [pump_idle 398 _ _ (by simp [dueCount]) (by simp [dueCount, h1])]
  rw [tick_done 198 _ _ (n + d + db) _ (by simp [nextDue]) h1 (by simp)]
  simp

theorem runPass_request (fuel : Nat) (a a2 : Dnp3.Acc) (s' : OState) (f : Frag) (ctrl : AppCtrl) (func : Nat)
    (objects : Except Nat (List ObjHdr)) (raw : List Nat)
    (hpop : popRequest { a.1 with notified := false } = (s', .request f ctrl func objects raw))
    (hreq : handleRequestFromIdle (onLinkActivity { s' with pending := none }, a.2) f ctrl func objects raw =
      some (a2, none)) :
    runPass (fuel + 1) a = afterRequest (runPass fuel) a2 := by
  rw [runPass]
  simp only [hpop, hreq]

theorem handleRequestFromIdle_newNonRead (a a1 a2 : Dnp3.Acc) (f : Frag) (ctrl : AppCtrl) (func : Nat)
    (objects : Except Nat (List ObjHdr)) (raw : List Nat) (hs : List ObjHdr) (r r2 : Dnp3.Resp)
    (hc : classify a.1 f ctrl func objects = .newNonRead hs)
    (hn : handleNonRead a func ctrl.seq f.id hs raw = some (a1, some r))
    (hw : writeSolicited a1 f.src r = some (a2, r2)) (hcon : r2.ctrl.con = false) :
    handleRequestFromIdle a f ctrl func objects raw =
      some (({ a2.1 with lastReq := some ⟨ctrl.seq, f.data, some r2, none⟩ }, a2.2), none) := by
  unfold handleRequestFromIdle
  simp only [hc, hn, hw, hcon]
  simp

/-- WRITE of g50v3 (count 1) when a time was recorded and the sum fits 48 bits -/
theorem handleNonRead_write_last (a : Dnp3.Acc) (seq fid t0 : Nat) (data raw : List Nat)
    (hr : a.1.lastRecorded = some t0) (hfit : ¬ Dnp3.u48le data + (a.1.now - t0) > 281474976710655) :
    handleNonRead a 2 seq fid [⟨50, 3, 7, 1, 0, data⟩] raw =
      some (emitCb ({ a.1 with lastRecorded := none }, a.2) (.writeTime (Dnp3.u48le data + (a.1.now - t0))),
            some { emptySolicited seq (timeResultIin a.1) with iin2 := timeResultIin a.1 ||| 0 }) := by
  simp [handleNonRead, handleWrite, C18Link.handleWriteHeader_lastRecorded a ⟨50, 3, 7, 1, 0, data⟩ t0 rfl rfl rfl rfl hr, hfit,
    objectsAllowed, emptySolicited]

def acfg : Master.ACfg := { dis := 0, int := 0, en := 0 }

/-- the master of the start configuration, up to the fields that change during the run -/
def Mlit (clk : Option Nat) (now seq live : Nat) (cr : Master.AutoState) (mode : Master.Mode) : Master.MState :=
  { txSize := 2048, now := now, clock := clk,
    assocs := [{ addr := 1024, cfg := acfg, seq := seq, auto := { clearRestart := cr } }],
    ring := [1024], mode := mode, live := live }

/-- the outstation of the start configuration, up to the fields that change during the run (`r` is the
    processing delay its application reports) -/
def Olit (r n : Nat) (rec : Option Nat) (lr : Option LastReq) (fid : Nat) (sb : List Nat) : OState :=
  { cfg := {}, script := { delayMs := r }, now := n, mode := .idle .untilEvent, restart := true, lastReq := lr,
    lastRecorded := rec, solBuf := sb, unsolBuf := List.replicate 2048 0, db := Db.new 10 none, frameId := fid }

def mclk (base n : Nat) : Nat := min (base + n) Pair.maxTs

theorem masterClock_some (base n : Nat) : masterClock (some base) n = some (mclk base n) := rfl

theorem mclk_le (base n : Nat) : mclk base n ≤ 281474976710655 := Nat.min_le_right _ _

theorem mclk_le_self (base n : Nat) : mclk base n ≤ base + n := Nat.min_le_left _ _

theorem mclk_eq (base n : Nat) (h : base + n ≤ 281474976710655) : mclk base n = base + n := Nat.min_eq_left h

def S0 (base a b : Nat) : PState :=
  { m := Mlit (some (mclk base 0)) 0 0 0 .idle (.idle none), o := Olit 0 0 none none 0 (List.replicate 2048 0), env := {}, now := 0,
    base := some base, m2o := { delay := a }, o2m := { delay := b } }

theorem start_eq (base a b : Nat) :
    (Pair.start {} 10 {} 2048 { dis := 0, int := 0, en := 0 } (some base) a b).1 = S0 base a b := by kernel_rfl

theorem m_user (clk : Nat) :
    Master.step (Mlit (some clk) 0 0 0 .idle (.idle none)) (.user 1024 (.nonRead (.timeSync (some 7) (.recordCurrent none)))) =
      (Mlit (some clk) 0 1 1 .idle (.waitNonRead 1024 (.timeSync (some 7) (.recordCurrent (some clk))) 0 24 (0 + 5000)),
       [.taskStart 1024 .timeSync 24 0, .tx 1024 [192, 24]]) := by kernel_rfl

theorem m_rx1 (clk : Option Nat) (n t dl : Nat) :
    Master.step (Mlit clk n 1 1 .idle (.waitNonRead 1024 (.timeSync (some 7) (.recordCurrent (some t))) 0 24 dl))
        (.rx 1024 1 [192, 129, 128, 0]) =
      (Mlit clk n 2 1 .pending (.waitNonRead 1024 (.timeSync (some 7) (.writeLast t)) 1 24 (n + 5000)),
       [.tx 1024 ([193, 2, 50, 3, 7, 1] ++ Master.le48 t)]) := by kernel_rfl

/-- the empty reply to either WRITE completes the promise; the pending clear-restart task starts -/
theorem m_rx2 {clk : Option Nat} {n fc dl : Nat} {st : Master.TsState}
    (hst : (∃ x, st = .writeAbs x) ∨ (∃ t, st = .writeLast t)) :
    Master.step (Mlit clk n 2 1 .pending (.waitNonRead 1024 (.timeSync (some 7) st) 1 fc dl))
        (.rx 1024 1 [193, 129, 128, 0]) =
      (Mlit clk n 3 0 .pending (.waitNonRead 1024 (.auto .clearRestart 0) 2 2 (n + 5000)),
       [.complete 7 .ok, .taskSuccess 1024 .timeSync fc 1, .taskStart 1024 .clearRestartBit 2 2,
        .tx 1024 [194, 2, 80, 1, 0, 7, 7, 0]]) := by
  rcases hst with ⟨x, rfl⟩ | ⟨t, rfl⟩ <;> kernel_rfl

theorem o_rx1 (r n : Nat) (sb : List Nat) :
    Outstation.step {} (Olit r n none none 0 sb) (.rx 1 1024 [192, 24]) =
      (Olit r n (some n) (some ⟨0, [192, 24], some ⟨⟨true, true, false, false, 0⟩, 129, 128, 0, 0⟩, none⟩) 1
        (writeAt sb 0 [192, 129, 128, 0]),
       [.tx 1 [192, 129, 128, 0]]) := by kernel_rfl

def lr1 : LastReq := ⟨0, [192, 24], some ⟨⟨true, true, false, false, 0⟩, 129, 128, 0, 0⟩, none⟩

def wfrag (v : Nat) : List Nat := [193, 2, 50, 3, 7, 1] ++ Master.le48 v
def wreq (v : Nat) : Frag := ⟨1, 1, none, wfrag v⟩
def wresp : Dnp3.Resp := ⟨⟨true, true, false, false, 1⟩, 129, 128, 0, 0⟩

theorem o_write_pass (r n t0 v : Nat) (sb : List Nat) (hv : v ≤ 281474976710655) (hfit : v + (n - t0) ≤ 281474976710655) :
    runPass 64 ({ Olit r n (some t0) (some lr1) 2 sb with pending := some (wreq v) }, []) =
    .blocked (Olit r n none (some ⟨1, wfrag v, some wresp, none⟩) 2 (writeAt sb 0 [193, 129, 128, 0]),
     [.cb (.writeTime (v + (n - t0))), .tx 1 [193, 129, 128, 0]]) := by
  have hu : Dnp3.u48le (Master.le48 v) = v := Dnp3.Proofs.C18Link.u48_wire_round_trip v hv
  have hno : ¬ (Dnp3.u48le (Master.le48 v) + (n - t0) > 281474976710655) := by rw [hu]; omega
  have hpop : popRequest { ({ Olit r n (some t0) (some lr1) 2 sb with pending := some (wreq v) } : OState) with notified := false } =
      ({ Olit r n (some t0) (some lr1) 2 sb with pending := some (wreq v) },
       .request (wreq v) ⟨true, true, false, false, 1⟩ 2 (.ok [⟨50, 3, 7, 1, 0, Master.le48 v⟩]) ([50, 3, 7, 1] ++ Master.le48 v)) := by
    kernel_rfl
  have hc : classify (onLinkActivity { ({ Olit r n (some t0) (some lr1) 2 sb with pending := some (wreq v) } : OState) with pending := none })
      (wreq v) ⟨true, true, false, false, 1⟩ 2 (.ok [⟨50, 3, 7, 1, 0, Master.le48 v⟩]) =
      .newNonRead [⟨50, 3, 7, 1, 0, Master.le48 v⟩] := by kernel_rfl
  have hn := handleNonRead_write_last (Olit r n (some t0) (some lr1) 2 sb, []) 1 1 t0 (Master.le48 v)
    ([50, 3, 7, 1] ++ Master.le48 v) rfl hno
  have hw : writeSolicited (emitCb ({ (Olit r n (some t0) (some lr1) 2 sb) with lastRecorded := none }, [])
        (.writeTime (Dnp3.u48le (Master.le48 v) + (n - t0)))) 1
        { emptySolicited 1 (timeResultIin (Olit r n (some t0) (some lr1) 2 sb)) with
          iin2 := timeResultIin (Olit r n (some t0) (some lr1) 2 sb) ||| 0 } =
      some ((Olit r n none (some lr1) 2 (writeAt sb 0 [193, 129, 128, 0]),
             [.cb (.writeTime (Dnp3.u48le (Master.le48 v) + (n - t0))), .tx 1 [193, 129, 128, 0]]), wresp) := by
    kernel_rfl
  have hreq := handleRequestFromIdle_newNonRead
    (onLinkActivity { ({ Olit r n (some t0) (some lr1) 2 sb with pending := some (wreq v) } : OState) with pending := none }, [])
    _ _ (wreq v) ⟨true, true, false, false, 1⟩ 2 (.ok [⟨50, 3, 7, 1, 0, Master.le48 v⟩]) ([50, 3, 7, 1] ++ Master.le48 v)
    _ _ _ hc hn hw rfl
  rw [runPass_request 63 _ _ _ _ _ _ _ _ hpop hreq, hu]
  kernel_rfl


/-- the whole step: WRITE g50v3 carrying `v` reaches the idle outstation at `n`, `t0` was recorded -/
theorem o_write (r n t0 v : Nat) (sb : List Nat) (hv : v ≤ 281474976710655) (hfit : v + (n - t0) ≤ 281474976710655) :
    Outstation.step {} (Olit r n (some t0) (some lr1) 1 sb) (.rx 1 1024 (wfrag v)) =
      (Olit r n none (some ⟨1, wfrag v, some wresp, none⟩) 2 (writeAt sb 0 [193, 129, 128, 0]),
       [.cb (.writeTime (v + (n - t0))), .tx 1 [193, 129, 128, 0]]) := by
  have h1 : Outstation.step {} (Olit r n (some t0) (some lr1) 1 sb) (.rx 1 1024 (wfrag v)) =
      finishStep (settle 8 (runPass 64 ({ Olit r n (some t0) (some lr1) 2 sb with pending := some (wreq v) }, []))) := by
    kernel_rfl
  rw [h1, o_write_pass r n t0 v sb hv hfit]
  kernel_rfl

theorem o_tick {r n d : Nat} {rec : Option Nat} {lr : Option LastReq} {fid : Nat} {sb : List Nat} :
    Outstation.step {} (Olit r n rec lr fid sb) (.tick d) = (Olit r (n + d) rec lr fid sb, []) := by kernel_rfl

theorem m_tick {clk : Option Nat} {n d seq live : Nat} {cr : Master.AutoState} {dest : Nat} {t : Master.NonReadTask}
    {sq fc dl : Nat} (h : n + d < dl) :
    Master.step (Mlit clk n seq live cr (.waitNonRead dest t sq fc dl)) (.tick d) =
      (Mlit clk (n + d) seq live cr (.waitNonRead dest t sq fc dl), []) := by
  have h' : ¬ dl ≤ n + d := by omega
  simp [Master.step, Mlit, Master.onTime, Master.resolve, Master.loopFuel, Master.checkShutdown, h']

theorem tick_toM {M M' M'' : Master.MState} {O O' : OState} {env : OEnv} {n d base dm db len src dst : Nat}
    {data : List Nat} {outs : List Master.MOut} {dst' : Nat} {bytes : List Nat} (hdm : 0 < dm)
    (hM : Master.step { M with clock := masterClock (some base) (n + d) } (.tick d) = (M', []))
    (hO : Outstation.step env O (.tick d) = (O', []))
    (hrx : Master.step { M' with clock := masterClock (some base) (n + d) } (.rx src dst data) = (M'', outs))
    (henq : ∀ s', enqM s' outs =
      { s' with m2o := s'.m2o.push s'.now (.frag masterAddr dst' bytes) (fragWire bytes.length) }) :
    Pair.step ⟨M, O, env, n, some base, ⟨dm, false, 0, []⟩, ⟨db, false, 0, [⟨some (n + d), len, .frag src dst data⟩]⟩⟩
        (.tick d) =
      (⟨M'', O', env, n + d, some base,
        ⟨dm, false, 0, [⟨some (n + d + dm), fragWire bytes.length, .frag masterAddr dst' bytes⟩]⟩, ⟨db, false, 0, []⟩⟩,
       [.time (n + d), .m [], .o [], .delivered false [⟨some (n + d), len, .frag src dst data⟩], .m outs]) := by
  have h1 : ¬ (n + d + dm ≤ n + d) := by omega
  rw [tick_arrive M M' O O' env n d base _ _ (by simp [nextDue]) hM hO]
  rw [pump_toM 399 _ _ 1 (by simp [dueCount]) (by simp [dueCount]) (by decide)]
  have hdel : deliverItems ⟨M', O', env, n + d, some base, ⟨dm, false, 0, []⟩, ⟨db, false, 0, []⟩⟩ false
        [⟨some (n + d), len, .frag src dst data⟩] =
      (⟨M'', O', env, n + d, some base,
        ⟨dm, false, 0, [⟨some (n + d + dm), fragWire bytes.length, .frag masterAddr dst' bytes⟩]⟩, ⟨db, false, 0, []⟩⟩,
       [.delivered false [⟨some (n + d), len, .frag src dst data⟩], .m outs]) := by
    simp [deliverItems, mstep, hrx, henq, Dir.push]
  simp only [List.take, List.drop]
  rw [hdel]
  rw [pump_idle 398 _ _ (by simp [dueCount, h1]) (by simp [dueCount])]
  rw [tick_done 198 _ _ (n + d + dm) _ (by simp [nextDue]) h1 (by simp)]
  simp

theorem round_trip {clk : Option Nat} {n d base dm db len sq lv : Nat} {cr : Master.AutoState} {dest : Nat}
    {t : Master.NonReadTask} {seq fc dl r : Nat} {rec rec' : Option Nat} {lr lr' : Option LastReq} {fid fid' : Nat}
    {sb sb' : List Nat} {src dst : Nat} {req : List Nat} {oouts : List OOut} {dst' : Nat} {rsp : List Nat}
    {M' : Master.MState} {mouts : List Master.MOut} {dst'' : Nat} {next : List Nat}
    {is : List PInput} {S : PState} {gs : List (List Group)}
    (hdm : 0 < dm) (hdb : 0 < db) (hdl : n + d + db < dl)
    (hO : Outstation.step {} (Olit r (n + d) rec lr fid sb) (.rx src dst req) = (Olit r (n + d) rec' lr' fid' sb', oouts))
    (henqO : ∀ s', enqO s' oouts =
      { s' with o2m := s'.o2m.push s'.now (.frag outstationAddr dst' rsp) (fragWire rsp.length) })
    (hM : Master.step (Mlit (some (mclk base (n + d + db))) (n + d + db) sq lv cr (.waitNonRead dest t seq fc dl))
      (.rx outstationAddr dst' rsp) = (M', mouts))
    (henqM : ∀ s', enqM s' mouts =
      { s' with m2o := s'.m2o.push s'.now (.frag masterAddr dst'' next) (fragWire next.length) })
    (h : Pair.run ⟨M', Olit r (n + d + db) rec' lr' fid' sb', {}, n + d + db, some base,
        ⟨dm, false, 0, [⟨some (n + d + db + dm), fragWire next.length, .frag masterAddr dst'' next⟩]⟩,
        ⟨db, false, 0, []⟩⟩ is = (S, gs)) :
    Pair.run ⟨Mlit clk n sq lv cr (.waitNonRead dest t seq fc dl), Olit r n rec lr fid sb, {}, n, some base,
        ⟨dm, false, 0, [⟨some (n + d), len, .frag src dst req⟩]⟩, ⟨db, false, 0, []⟩⟩ (.tick d :: .tick db :: is) =
      (S, [.time (n + d), .m [], .o [], .delivered true [⟨some (n + d), len, .frag src dst req⟩], .o oouts] ::
          [.time (n + d + db), .m [], .o [],
           .delivered false [⟨some (n + d + db), fragWire rsp.length, .frag outstationAddr dst' rsp⟩], .m mouts] :: gs) :=
  run_cons (tick_toO hdb (m_tick (show n + d < dl by omega)) o_tick hO henqO)
    (run_cons (tick_toM hdm (m_tick hdl) o_tick hM henqM) h)

theorem script_step {M : Master.MState} {env : OEnv} {r0 n r : Nat} {rec : Option Nat} {lr : Option LastReq}
    {fid : Nat} {sb : List Nat} {b : Option Nat} {m2o o2m : Dir} :
    Pair.step ⟨M, Olit r0 n rec lr fid sb, env, n, b, m2o, o2m⟩ (.script fun s => { s with delayMs := r }) =
      (⟨M, Olit r n rec lr fid sb, env, n, b, m2o, o2m⟩, [.o []]) := by kernel_rfl

theorem setDelay_step {M : Master.MState} {O : OState} {env : OEnv} {n : Nat} {b : Option Nat} {dm : Nat} {hold : Bool}
    {k : Nat} {q : List Item} {o2m : Dir} {ms : Nat} :
    Pair.step ⟨M, O, env, n, b, ⟨dm, hold, k, q⟩, o2m⟩ (.setDelay true ms) =
      (⟨M, O, env, n, b, ⟨ms, hold, k, q⟩, o2m⟩, []) := rfl

theorem m_userD (clk : Nat) :
    Master.step (Mlit (some clk) 0 0 0 .idle (.idle none)) (.user 1024 (.nonRead (.timeSync (some 7) (.measureDelay none)))) =
      (Mlit (some clk) 0 1 1 .idle (.waitNonRead 1024 (.timeSync (some 7) (.measureDelay (some 0))) 0 23 (0 + 5000)),
       [.taskStart 1024 .timeSync 23 0, .tx 1024 [192, 23]]) := by kernel_rfl

def dfrag (r : Nat) : List Nat := [192, 129, 128, 0, 52, 2, 7, 1, r % 256, r / 256 % 256]
def lrD : LastReq := ⟨0, [192, 23], some ⟨⟨true, true, false, false, 0⟩, 129, 128, 0, 10⟩, none⟩
def sbD (r : Nat) : List Nat :=
  writeAt (writeAt (List.replicate 2048 0) 4 [52, 2, 7, 1, r % 256, r / 256 % 256]) 0 [192, 129, 128, 0]

theorem o_rxD (r n : Nat) :
    Outstation.step {} (Olit r n none none 0 (List.replicate 2048 0)) (.rx 1 1024 [192, 23]) =
      (Olit r n none (some lrD) 1 (sbD r), [.tx 1 (dfrag r)]) := by kernel_rfl

def dresp (r : Nat) : Master.Resp :=
  ⟨⟨true, true, false, false, 0⟩, false, 128, 0, [52, 2, 7, 1, r % 256, r / 256 % 256],
   some [⟨52, 2, 7, 1, 0, [r % 256, r / 256 % 256]⟩]⟩

def wfragA (v : Nat) : List Nat := [193, 2, 50, 1, 7, 1] ++ Master.le48 v

open Dnp3.Master (handleResponse runSingle) in
theorem m_rxD (c n t0 r dl : Nat) :
    Master.step (Mlit (some c) n 1 1 .idle (.waitNonRead 1024 (.timeSync (some 7) (.measureDelay (some t0))) 0 23 dl))
        (.rx 1024 1 (dfrag r)) =
      Master.checkShutdown (Master.resolve Master.loopFuel
        (match handleResponse
            (Mlit (some c) n 1 1 .pending (.waitNonRead 1024 (.timeSync (some 7) (.measureDelay (some t0))) 0 23 dl), [])
            1024 (.timeSync (some 7) (.measureDelay (some t0))) (dresp r) with
         | (a2, .error e) => .appDone a2 1024 .timeSync 23 (.error e)
         | (a2, .ok none) => .appDone a2 1024 .timeSync 23 (.ok 0)
         | (a2, .ok (some next)) => runSingle a2 1024 next .timeSync 23)) := by
  have h1 : Master.step (Mlit (some c) n 1 1 .idle (.waitNonRead 1024 (.timeSync (some 7) (.measureDelay (some t0))) 0 23 dl))
        (.rx 1024 1 (dfrag r)) =
      Master.checkShutdown (Master.resolve Master.loopFuel (Master.onFragment
        (Mlit (some c) n 1 1 .idle (.waitNonRead 1024 (.timeSync (some 7) (.measureDelay (some t0))) 0 23 dl), []) 1024 (dfrag r))) := by
    kernel_rfl
  have hp : Master.parseResponse (dfrag r) = some (dresp r) := by kernel_rfl
  have hof := C18Link.onFragment_accept
    (Mlit (some c) n 1 1 .idle (.waitNonRead 1024 (.timeSync (some 7) (.measureDelay (some t0))) 0 23 dl), []) 1024 1024
    (dfrag r) _ 0 23 dl (dresp r) rfl hp (by kernel_rfl) rfl
  have ha1 : Master.modAssoc (if (dresp r).ctrl.con = true then
        Master.emit (Master.notifyLinkActivity
          (Mlit (some c) n 1 1 .idle (.waitNonRead 1024 (.timeSync (some 7) (.measureDelay (some t0))) 0 23 dl), []) 1024)
          (.tx 1024 [0xC0 + 0, 0])
      else Master.notifyLinkActivity
        (Mlit (some c) n 1 1 .idle (.waitNonRead 1024 (.timeSync (some 7) (.measureDelay (some t0))) 0 23 dl), []) 1024) 1024
      (·.processIin (dresp r).iin1 (dresp r).iin2) =
      (Mlit (some c) n 1 1 .pending (.waitNonRead 1024 (.timeSync (some 7) (.measureDelay (some t0))) 0 23 dl), []) := by
    kernel_rfl
  rw [ha1] at hof
  rw [h1, hof]
  rfl

/-- the reply to DELAY_MEASURE is accepted: WRITE g50v1 follows -/
theorem m_rxD_ok (c n t0 r dl : Nat) (hr : r < 65536) (hle : r ≤ n - t0)
    (hfit : c + (n - t0 - r) / 2 ≤ 281474976710655) :
    Master.step (Mlit (some c) n 1 1 .idle (.waitNonRead 1024 (.timeSync (some 7) (.measureDelay (some t0))) 0 23 dl))
        (.rx 1024 1 (dfrag r)) =
      (Mlit (some c) n 2 1 .pending
        (.waitNonRead 1024 (.timeSync (some 7) (.writeAbs (some (c + (n - t0 - r) / 2)))) 1 23 (n + 5000)),
       [.tx 1024 (wfragA (c + (n - t0 - r) / 2))]) := by
  rw [m_rxD, C18Link.hr_measure_ok _ 1024 (some 7) t0 r c (dresp r) rfl hr rfl hle hfit]
  kernel_rfl

/-- the reply to DELAY_MEASURE reports more than the round trip: failure, no WRITE -/
theorem m_rxD_bad (c n t0 r dl : Nat) (hr : r < 65536) (hlt : n - t0 < r) :
    Master.step (Mlit (some c) n 1 1 .idle (.waitNonRead 1024 (.timeSync (some 7) (.measureDelay (some t0))) 0 23 dl))
        (.rx 1024 1 (dfrag r)) =
      (Mlit (some c) n 2 0 .pending (.waitNonRead 1024 (.auto .clearRestart 0) 1 2 (n + 5000)),
       [.complete 7 (.tsBadDelay r), .taskFail 1024 .timeSync .unexpectedHeaders,
        .taskStart 1024 .clearRestartBit 2 1, .tx 1024 [193, 2, 80, 1, 0, 7, 7, 0]]) := by
  rw [m_rxD, C18Link.hr_measure_bad _ 1024 (some 7) t0 r (dresp r) rfl hr hlt]
  kernel_rfl

theorem o_writeA (r n v : Nat) (sb : List Nat) :
    Outstation.step {} (Olit r n none (some lrD) 1 sb) (.rx 1 1024 (wfragA v)) =
      (Olit r n none (some ⟨1, wfragA v, some wresp, none⟩) 2 (writeAt sb 0 [193, 129, 128, 0]),
       [.cb (.writeTime (Dnp3.u48le (Master.le48 v))), .tx 1 [193, 129, 128, 0]]) := by kernel_rfl

/-- the times handed to the outstation application (`write_absolute_time` callbacks) over a whole run -/
def writeTimes (gs : List (List Group)) : List Nat :=
  gs.flatten.flatMap fun g => match g with
    | .o outs => outs.filterMap fun o => match o with | .cb (.writeTime t) => some t | _ => none
    | _ => []

def completionsOf (gs : List (List Group)) : List (Nat × Master.Outcome) :=
  gs.flatten.flatMap fun g => match g with
    | .m outs => outs.filterMap fun o => match o with | .complete u oc => some (u, oc) | _ => none
    | _ => []

/-- the virtual times at which the outstation was handed a time: (virtual time of the op's last
    clock jump, time written) -/
def writeInstants (gs : List (List Group)) : List (Nat × Nat) :=
  gs.flatMap fun op =>
    let t := op.foldl (fun acc g => match g with | .time t => some t | _ => acc) none
    match t with
    | none => []
    | some t => (writeTimes [op]).map fun w => (t, w)

end Dnp3.Proofs.C18Pair
