import Dnp3.Proofs.C09AttrWriter
/-!
# C09 — what a READ of g0v254 / g0v255 denotes, in terms of the database's entries

`Selected::all(set)` visits the variations 0..=253 with `SetMap::get`; over a well-formed database
this enumerates exactly the set's entries, once each, in ascending order of variation.
-/
namespace Dnp3.Proofs.C09AttrOrder
open Dnp3.Attr Dnp3.Gen.Attrs Dnp3.Proofs.C09AttrWriter

theorem selObjects_step (m : SetMap) (set lo : Nat) (hlo : lo ≤ 253) :
    selObjects m ⟨set, lo, 253⟩ =
      (match m.get set lo with
        | none => []
        | some e => (e.value.image.map (objHeader set lo ++ ·)).toList) ++
      (if lo + 1 = 254 then [] else selObjects m ⟨set, lo + 1, 253⟩) := by
  have hobj : (objectFor m set lo).toList =
      (match m.get set lo with
        | none => []
        | some e => (e.value.image.map (objHeader set lo ++ ·)).toList) := by
    unfold objectFor
    have : lo ≠ listVariation := by simp only [listVariation]; omega
    simp only [this, if_false]
    cases m.get set lo <;> rfl
  rw [selObjects]
  simp only [hobj]
  by_cases h : lo = 253
  · simp [h]
  · have h255 : lo < 255 := by omega
    simp [h, h255]

/-- by induction on the length of the range `lo..=253` (empty for `lo = 254`): either the head entry is the
    current variation, or the current variation is not defined -/
theorem selObjects_range (m : SetMap) (set lo : Nat) (es : List Entry) (hlo : lo ≤ 254)
    (hp : List.Pairwise (· < ·) (es.map (·.var))) (hr : ∀ e ∈ es, lo ≤ e.var ∧ e.var ≤ 253)
    (hg : ∀ k, lo ≤ k → k ≤ 253 → m.get set k = es.find? (·.var == k)) :
    (if lo = 254 then [] else selObjects m ⟨set, lo, 253⟩) =
      es.filterMap fun e => e.value.image.map (objHeader set e.var ++ ·) := by
  induction hn : 254 - lo generalizing lo es with
  | zero =>
    obtain rfl : lo = 254 := by omega
    match es, hr with
    | [], _ => rfl
    | e :: _, hr => have := hr e (List.mem_cons_self ..); omega
  | succ n ih =>
    rw [if_neg (by omega), selObjects_step m set lo (by omega), hg lo (Nat.le_refl _) (by omega)]
    have hnext : ∀ k, lo + 1 ≤ k → k ≤ 253 → m.get set k = es.find? (·.var == k) :=
      fun k hk1 hk2 => hg k (by omega) hk2
    match es, hp, hr, hnext with
    | [], hp, _, hnext =>
      rw [ih (lo + 1) [] (by omega) hp (fun _ h => nomatch h) hnext (by omega)]
      rfl
    | e :: r, hp, hr, hnext =>
      have he := hr e (List.mem_cons_self ..)
      have hlt : ∀ x ∈ r, e.var < x.var := fun x hx =>
        List.rel_of_pairwise_cons hp (List.mem_map_of_mem hx)
      by_cases hv : e.var = lo
      · rw [ih (lo + 1) r (by omega) hp.of_cons
          (fun x hx => ⟨by have := hlt x hx; omega, (hr x (List.mem_cons_of_mem _ hx)).2⟩)
          (fun k hk1 hk2 => by
            rw [hnext k hk1 hk2, List.find?_cons_of_neg]
            simp only [beq_iff_eq]; omega) (by omega)]
        simp only [List.find?_cons, hv, beq_self_eq_true, List.filterMap_cons]
        cases e.value.image <;> rfl
      · have hlo' : ∀ x ∈ e :: r, lo + 1 ≤ x.var := fun x hx => by
          rcases List.mem_cons.1 hx with rfl | hx'
          · omega
          · have := hlt x hx'; omega
        rw [List.find?_eq_none.2 (fun x hx => by have := hlo' x hx; simp only [beq_iff_eq]; omega),
          ih (lo + 1) (e :: r) (by omega) hp (fun x hx => ⟨hlo' x hx, (hr x hx).2⟩) hnext (by omega)]
        rfl

theorem reserved_iff (k : Nat) : reservedVars.contains k = true ↔ (k = 0 ∨ k = 254 ∨ k = 255) := by
  simp [reservedVars]

/-- non-vacuity: a well-formed database with two attributes in set 1, one of them not encodable
    (a 256-octet octet string), and the instance of the statement -/
example : SetMap.WF [(1, [⟨5, false, .uint 42⟩, ⟨9, true, .ostr (List.replicate 256 0)⟩, ⟨253, false, .uint 7⟩])] := by
  refine ⟨?_, by decide⟩
  intro p hp
  rw [List.mem_singleton] at hp
  subst hp
  refine ⟨by decide, ?_, by decide⟩
  intro e he
  simp only [List.mem_cons, List.not_mem_nil, or_false] at he
  rcases he with rfl | rfl | rfl
  · exact ⟨by decide, by decide, by simp [Value.WellFormed]⟩
  · refine ⟨by decide, by decide, ?_⟩
    intro b hb
    rw [List.mem_replicate] at hb
    omega
  · exact ⟨by decide, by decide, by simp [Value.WellFormed]⟩

example : selObjects [(1, [⟨5, false, .uint 42⟩, ⟨9, true, .ostr (List.replicate 256 0)⟩, ⟨253, false, .uint 7⟩])]
    (Selected.all 1) = [[0, 5, 0, 1, 1, 2, 1, 42], [0, 253, 0, 1, 1, 2, 1, 7]] := by decide +kernel

example : SetMap.entries exMap 1 = some [⟨5, false, .uint 42⟩] := by decide

end Dnp3.Proofs.C09AttrOrder
