import Dnp3.Proofs.OutstationC03B
import Dnp3.Proofs.Database
/-!
# C03 (b), closed over the database model — outside a response series no event record is `Written`

`noWritten_contract`: the predicate "no record of the event buffer is `Written`" satisfies the contract
(`CleanContract`) the session-level invariant `reachable_sessClean` is parametric in.  The database is
NOT opaque here.  Only the `events` field of the result of each operation is looked at.
-/
namespace Dnp3.Proofs.C03
open Dnp3 Dnp3.DbM Dnp3.DbProofs

def NoWritten (db : Db) : Prop := ∀ r ∈ db.events, r.st ≠ .written

theorem noWritten_of_events {db db' : Db} (he : db'.events = db.events) (h : NoWritten db) : NoWritten db' := by
  unfold NoWritten; rw [he]; exact h

theorem pointwise_sel_noWritten {l l' : List EvRec} (p : Pointwise SelStep l l')
    (h : ∀ r ∈ l, r.st ≠ .written) : ∀ r ∈ l', r.st ≠ .written := by
  intro r hr
  obtain ⟨a, ha, rfl | ⟨_, v, rfl⟩⟩ := p.mem_right r hr
  · exact h _ ha
  · simp

theorem writeEvents_none_events (db : Db) (cap : Nat) (h : (db.writeEvents cap).2.1.length = 0) :
    (db.writeEvents cap).1.events = db.events := by
  obtain ⟨n, hm, he⟩ := writeEvents_spec db cap
  rw [he] at h ⊢
  have hn : n = 0 := by rw [List.length_take] at h; have := hm.1; omega
  rw [hn]; exact markFirst_zero _

theorem writeResponse_hasEvents (db : Db) (cap : Nat) :
    (db.writeResponse cap).2.2.1 = !(db.writeEvents cap).2.1.isEmpty := by
  unfold Db.writeResponse
  simp only []
  split <;> rfl

theorem reset_noWritten (db : Db) : NoWritten db.reset := by
  intro r hr
  rw [(reset_spec db).2.2.1 r hr]
  simp

theorem noWritten_contract : CleanContract NoWritten where
  new := by
    intro evMax sel r hr
    cases hr
  reset := reset_noWritten
  clear := by
    intro db r hr
    rw [(clear_spec db).1] at hr
    have := (List.mem_filter.mp hr).2
    simpa [isWritten] using this
  select := fun db h hc => pointwise_sel_noWritten (select_sel db h).1 hc
  update := by
    intro db t idx v f tm hc
    obtain ⟨db0, he, h1 | h1 | ⟨t', idx', cls, m, dv, h1⟩⟩ := update_spec_enc db t idx v f tm <;> rw [h1]
    · exact noWritten_of_events he.1 hc
    · exact noWritten_of_events he.1 hc
    · show NoWritten (db0.insert idx' cls t' m dv).1
      have hc0 : NoWritten db0 := noWritten_of_events he.1 hc
      rcases insert_events db0 idx' cls t' m dv with hi | ⟨l, hl, hi, _⟩
      · rw [hi]; exact hc0
      · intro r hr
        rw [hi] at hr
        rcases List.mem_append.mp hr with hm | hm
        · exact hc0 r (hl.subset hm)
        · rw [List.mem_singleton.mp hm]; simp [mkRec]
  add := fun db t idx cls hc => noWritten_of_events (add_eb db t idx cls).1 hc
  writeNoEvents := by
    intro db cap hc hf
    rw [writeResponse_hasEvents] at hf
    have hlen : (db.writeEvents cap).2.1.length = 0 :=
      List.length_eq_zero_iff.mpr (List.isEmpty_iff.mp (by simpa using hf))
    exact noWritten_of_events ((writeResponse_eb db cap).1.trans (writeEvents_none_events db cap hlen)) hc
  unsolNone := by
    intro db c1 c2 c3 cap h
    obtain ⟨evs, hp, hc⟩ := writeUnsolicited_cases db c1 c2 c3 cap
    have hs : NoWritten { db.reset with events := evs } := pointwise_sel_noWritten hp (reset_noWritten db)
    rcases hc _ rfl with he | he <;> rw [he] at h ⊢
    · exact hs
    · exact noWritten_of_events (writeEvents_none_events _ cap h) hs

/-- closed form of (b) over the whole model: in every reachable state outside a response series no
    event record is `Written` -/
theorem reachable_no_written {cfg : OCfg} {evMax : Nat} {env : OEnv} {s : OState}
    (hr : Outstation.Reachable cfg evMax env s) (ho : OutsideSeries s.mode) : NoWritten s.db :=
  reachable_sessClean noWritten_contract hr ho

/-! ## the hypotheses are satisfiable: concrete instances -/

/-- a configuration with small buffers, so that the examples evaluate quickly -/
def exCfg : OCfg := { sol := 32, unsol := 32 }

/-- `reachable_no_written`: the start state is reachable and outside a series (idle) -/
example : Outstation.Reachable exCfg 4 {} (Outstation.start exCfg 4).1 ∧
    OutsideSeries (Outstation.start exCfg 4).1.mode := ⟨.start, Or.inl ⟨_, rfl⟩⟩

/-- ... and so is the state after an empty READ was answered (one step further) -/
example : OutsideSeries (Outstation.step {} (Outstation.start exCfg 4).1 (.rx 1 1024 [0xC0, 1])).1.mode :=
  Or.inl ⟨_, rfl⟩

/-- `idle_request_clean`: a READ without object headers on a fresh (clean) database is answered without
    opening a series -/
example : NoWritten (OState.init exCfg 4).db ∧
    ∃ a', handleRequestFromIdle (OState.init exCfg 4, []) ⟨0, 1, none, [0xC0, 1]⟩ ⟨true, true, false, false, 0⟩ 1
      (.ok []) [] = some (a', none) :=
  ⟨noWritten_contract.new _ _, _, rfl⟩

/-- `checkUnsolicited_clean`: unsolicited responses not configured -/
example : ∃ a' n, checkUnsolicited (OState.init exCfg 4, []) = some (.inr (a', n)) := ⟨_, _, rfl⟩

/-- `handleDeferredRead_clean`: no READ is deferred -/
example : ∃ a', handleDeferredRead (OState.init exCfg 4, []) .noSleep = some (.inr a') := ⟨_, rfl⟩

/-- `NoWritten` is not trivial: a database holding a `Written` record does not satisfy it -/
example : ¬ NoWritten { events := [(⟨0, 0, 1, .binary, {}, 1, 1, .written⟩ : EvRec)] } := by
  intro h
  exact h _ (List.mem_cons_self ..) rfl

end Dnp3.Proofs.C03
