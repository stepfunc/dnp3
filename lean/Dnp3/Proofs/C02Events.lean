import Dnp3.Proofs.OutstationC03A
import Dnp3.Proofs.Database
import Dnp3.Model.Pair
import Dnp3.Proofs.Pair
/-!
# C02 — events: released only upon the awaited confirm; the stale-confirm counterexample (D32)

`Ev.cleared`, `Reach.cleared`: where an `event_cleared` callback can be emitted (`Props.C02.release_needs_awaited_confirm`).
`d32Start`, `d32Ops`: a run of the pair model (no `inject`, no `cut`, no overflow; evaluated in
`Props.C02.events_at_least_once_counterexample`) in which an event record is
released although no fragment carrying it was ever delivered to the master's handler: after sixteen READs
whose answers are stalled on the wire the 4-bit sequence number wraps, the master accepts the OLD answer with
sequence number 0 and its CONFIRM releases the events of the NEW answer with sequence number 0.
`noLateResponse` is false on that run and true on the same run without the stall.
-/
namespace Dnp3.Proofs.C02Events
open Dnp3 Dnp3.Proofs.Frame Dnp3.Proofs.Skel Dnp3.Proofs.C03

theorem noConfirmCb_cleared {a a' : Acc} (h : NoConfirmCb a a') (id : Nat)
    (hm : OOut.cb (.eventCleared id) ∈ a'.2) : OOut.cb (.eventCleared id) ∈ a.2 := by
  obtain ⟨l, e, hl⟩ := h
  rw [e] at hm
  rcases List.mem_append.mp hm with h | h
  · exact h
  · exact absurd (by simp [OOut.kind, Cb.kind]) (hl _ h)

theorem clearWrittenEvents_cleared {a b : Acc} (hb : NoConfirmCb a b) (id : Nat)
    (hm : OOut.cb (.eventCleared id) ∈ (clearWrittenEvents b).2) :
    OOut.cb (.eventCleared id) ∈ a.2 ∨ id ∈ b.1.db.clearWritten.2.1 := by
  rw [clearWrittenEvents_eq] at hm
  rcases List.mem_append.mp hm with h | h
  · exact .inl (noConfirmCb_cleared hb id h)
  · rcases List.mem_append.mp h with h | h
    · rcases List.mem_append.mp h with h | h
      · simp at h
      · obtain ⟨x, hx, e⟩ := List.mem_map.mp h
        cases e
        exact .inr hx
    · simp at h

theorem Ev.cleared {pf : Option Frag} {a a' : Acc} (h : Ev pf a a') (id : Nat)
    (hm : OOut.cb (.eventCleared id) ∈ a'.2) :
    OOut.cb (.eventCleared id) ∈ a.2 ∨ (ConfirmPoint pf a ∧ id ∈ a.1.db.clearWritten.2.1) := by
  rcases Ev.nrel_or_clear h with h | ⟨hc, b, hb, hdb, -, e⟩
  · exact .inl (noConfirmCb_cleared h.2 id hm)
  · rw [e] at hm
    rcases clearWrittenEvents_cleared hb id hm with h | h
    · exact .inl h
    · exact .inr ⟨hc, hdb ▸ h⟩

theorem Reach.cleared {pf : Option Frag} {a0 a : Acc} (h : Reach pf a0 a) (id : Nat)
    (hm : OOut.cb (.eventCleared id) ∈ a.2) :
    OOut.cb (.eventCleared id) ∈ a0.2 ∨
      ∃ b, Reach pf a0 b ∧ ConfirmPoint pf b ∧ id ∈ b.1.db.clearWritten.2.1 := by
  induction h with
  | refl => exact .inl hm
  | tail hab hbc ih =>
    rename_i b c
    rcases Ev.cleared hbc id hm with h1 | ⟨hcp, hid⟩
    · exact ih h1
    · exact .inr ⟨b, hab, hcp, hid⟩

/-- a CONFIRM of a solicited fragment with sequence number 3 received while the session awaits exactly it -/
example : ConfirmPoint (some ⟨7, 1, none, [0xC3, 0]⟩)
    (({ OState.init {} 10 with mode := .solWait ⟨3, false⟩ 5000 .fromRequest } : OState), []) :=
  ⟨⟨7, 1, none, [0xC3, 0]⟩, ⟨true, true, false, false, 3⟩, parseObjects false 0 [], [], ⟨rfl, rfl⟩,
    Or.inl ⟨⟨3, false⟩, 5000, .fromRequest, rfl, rfl, rfl⟩⟩

section D32
open Dnp3.Pair Dnp3.DbM

/-- the start state of the D32 run: default outstation, ten events per type, the master's automatic tasks
    switched off (`dis = int = en = 0`), no wire delay -/
def d32Start : PState × List Group := Pair.start {} (legacyEv 10) {} 2048 { dis := 0, int := 0, en := 0 } none 0 0

def d32Polls : List PInput :=
  (List.range 16).flatMap fun k => [PInput.user (.read (.single k 1 false)), .tick 6000]

def d32Ops : List PInput :=
  [.add .binary 0 1, .txn [.bin 0 true 1 100], .setHold false true] ++ d32Polls ++
  [.txn [.bin 0 false 1 200], .user (.read (.single 16 1 false)), .setHold false false]

def deliveriesOf (gs : List Group) : List Master.MOut :=
  gs.flatMap fun g => match g with
    | .m outs => outs.filter fun o => match o with | .deliverHdr .. => true | .deliverAbsTime .. => true | _ => false
    | _ => []

def clearedOf (gs : List Group) : List Nat :=
  gs.flatMap fun g => match g with
    | .o outs => outs.filterMap fun o => match o with | .cb (.eventCleared id) => some id | _ => none
    | _ => []

def isInjectOrCut : PInput → Bool
  | .inject .. => true
  | .cut => true
  | _ => false

end D32

section Fresh
open Dnp3.Pair Dnp3.Proofs.Pair

def sentPosO (gs : List Group) : List Nat :=
  gs.zipIdx.flatMap fun gi => match gi.1 with
    | .o outs => (oPayloads outs).map fun _ => gi.2
    | _ => []

def isSolResponse : Payload → Bool
  | .frag _ _ (_ :: 0x81 :: _) => true
  | _ => false

/-- does the master transmit a request (a fragment whose function code is not CONFIRM)? -/
def hasRequest (outs : List Master.MOut) : Bool :=
  outs.any fun o => match o with
    | .tx _ (_ :: f :: _) => f != 0
    | _ => false

/-- walk the history: `j` = payloads handed to the master so far, `lastReq` = index of the last group in which the
    master transmitted a request -/
def noLateGo (pos : List Nat) : List (Group × Nat) → Nat → Option Nat → Bool
  | [], _, _ => true
  | (g, i) :: rest, j, lastReq =>
    match g with
    | .m outs => noLateGo pos rest j (if hasRequest outs then some i else lastReq)
    | .delivered false items =>
      let ok := (items.zipIdx).all fun itk =>
        !isSolResponse itk.1.p ||
          (match lastReq with
           | none => true
           | some q => decide (q < pos.getD (j + itk.2) 0))
      ok && noLateGo pos rest (j + items.length) lastReq
    | _ => noLateGo pos rest j lastReq

/-- **"every solicited response handed to the master was transmitted after the request the master sent last"**,
    as a decidable predicate on the group history of a run WITHOUT `cut` and WITHOUT `inject` (there the `k`-th
    payload handed to the master is the `k`-th payload the outstation transmitted: the relay is FIFO and loses
    nothing).  It excludes the stale responses of D32; it is NOT proved here to imply (L1) -/
def noLateResponse (gs : List Group) : Bool := noLateGo (sentPosO gs) gs.zipIdx 0 none

theorem noLateResponse_d32 : noLateResponse (d32Start.2 ++ (Pair.run d32Start.1 d32Ops).2.flatten) = false := by
  decide +kernel

example : noLateResponse (d32Start.2 ++ (Pair.run d32Start.1 d32Ops).2.flatten) = false := noLateResponse_d32

theorem noLateResponse_d32_unstalled : noLateResponse (d32Start.2 ++ (Pair.run d32Start.1
    (d32Ops.filter fun op => match op with | .setHold .. => false | _ => true)).2.flatten) = true := by decide +kernel

example : noLateResponse (d32Start.2 ++ (Pair.run d32Start.1
    (d32Ops.filter fun op => match op with | .setHold .. => false | _ => true)).2.flatten) = true :=
  noLateResponse_d32_unstalled

end Fresh

end Dnp3.Proofs.C02Events
