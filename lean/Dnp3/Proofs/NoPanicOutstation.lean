import Dnp3.Model.OutstationTrace
import Dnp3.Proofs.OutstationC03A
/-!
# The outstation session model panics only by a counter underflow of the database, and its idle loop never spins

* `outstation_step_panic_cause`: a step of `Outstation.step` emits `OOut.panic` only if
  (`CounterUnderflow`, the former D3) `Db.unwrittenClasses` fails on a database reachable from the
  current one by database operations.  That cause is discharged for every database with exact
  counters — in particular every database reachable from a fresh one — in
  `Proofs/NoPanicOutstationDb.lean` (which opens the database model), where the unconditional
  `outstation_reachable_no_panic` is proved.  The former second cause, D1 (an OPERATE of control headers
  whose echo overflows the solicited buffer made `handle_operate` `unwrap` a `WriteError`), is repaired:
  `Frame.handleControls_cases`, `Frame.handleNonRead_ne_none`; the former witness is answered: `Props/C01.lean`, `outstation_former_d1_witness_answered`.
* `pass_pass_indep` / `outstation_never_spins` / `runPass_passFuel`: with a non-zero keep-alive period the
  idle loop makes at most two consecutive passes, so the fuel of `runPass` is never used up.

Every `Db.*` function is treated as opaque in the universally quantified proofs (only the concrete
`decide`d examples evaluate the database); `parseRequest` is never unfolded either.
-/
namespace Dnp3.Proofs.NoPanicOutstation
open Dnp3

/-- closure of a database under every operation the session model applies to it -/
inductive DbReach (db0 : Db) : Db → Prop
  | refl : DbReach db0 db0
  | select (db) (h : ReadHdr) : DbReach db0 db → DbReach db0 (db.select h).1
  | writeResponse (db) (cap : Nat) : DbReach db0 db → DbReach db0 (db.writeResponse cap).1
  | writeUnsolicited (db) (c1 c2 c3 : Bool) (cap : Nat) : DbReach db0 db → DbReach db0 (db.writeUnsolicited c1 c2 c3 cap).1
  | clearWritten (db) : DbReach db0 db → DbReach db0 db.clearWritten.1
  | reset (db) : DbReach db0 db → DbReach db0 db.reset
  | update (db) (t : PtType) (idx : Nat) (v : Int) (f time : Nat) : DbReach db0 db → DbReach db0 (db.update t idx v f time).1
  | add (db) (t : PtType) (idx cls : Nat) : DbReach db0 db → DbReach db0 (db.add t idx cls).1

theorem DbReach.trans {a b c : Db} (h1 : DbReach a b) (h2 : DbReach b c) : DbReach a c := by
  induction h2 with
  | refl => exact h1
  | select db h _ ih => exact .select db h ih
  | writeResponse db cap _ ih => exact .writeResponse db cap ih
  | writeUnsolicited db c1 c2 c3 cap _ ih => exact .writeUnsolicited db c1 c2 c3 cap ih
  | clearWritten db _ ih => exact .clearWritten db ih
  | reset db _ ih => exact .reset db ih
  | update db t idx v f time _ ih => exact .update db t idx v f time ih
  | add db t idx cls _ ih => exact .add db t idx cls ih

structure LeS (s t : OState) : Prop where
  cfg : t.cfg = s.cfg
  db : DbReach s.db t.db
  pend : ∀ f, t.pending = some f → s.pending = some f
  alive : t.mode = .dead → s.mode = .dead

structure Le (a b : Acc) : Prop where
  st : LeS a.1 b.1
  np : OOut.panic ∈ b.2 → OOut.panic ∈ a.2

theorem LeS.refl (s : OState) : LeS s s := ⟨rfl, .refl, fun _ h => h, fun h => h⟩
theorem LeS.trans {s t u : OState} (h1 : LeS s t) (h2 : LeS t u) : LeS s u :=
  ⟨h2.cfg.trans h1.cfg, h1.db.trans h2.db, fun f h => h1.pend f (h2.pend f h), fun h => h1.alive (h2.alive h)⟩
theorem Le.refl (a : Acc) : Le a a := ⟨.refl _, fun h => h⟩
theorem Le.trans {a b c : Acc} (h1 : Le a b) (h2 : Le b c) : Le a c :=
  ⟨h1.st.trans h2.st, fun h => h1.np (h2.np h)⟩

theorem LeS.of_eq {s t : OState} (h1 : t.cfg = s.cfg) (h2 : t.db = s.db) (h3 : t.pending = s.pending)
    (h4 : t.mode = s.mode) : LeS s t :=
  ⟨h1, h2 ▸ .refl, fun _ h => h3 ▸ h, fun h => h4 ▸ h⟩

theorem Le.of_st {s t : OState} {o : List OOut} (h : LeS s t) : Le (s, o) (t, o) := ⟨h, fun h => h⟩

theorem le_emitCb (a : Acc) (c : Cb) : Le a (emitCb a c) := by
  refine ⟨.refl _, ?_⟩
  simp only [emitCb, emit, List.mem_append, List.mem_singleton]
  rintro (h' | h')
  · exact h'
  · cases h'

section
open Dnp3.Proofs.Frame

theorem _root_.Dnp3.Proofs.Frame.DbPath.reach {D : List DbStep} {a b : Db} (h : DbPath D a b) : DbReach a b := by
  induction h with
  | refl => exact .refl
  | select db h _ _ ih => exact .select db h ih
  | writeResponse db cap _ _ ih => exact .writeResponse db cap ih
  | writeUnsolicited db c1 c2 c3 cap _ _ ih => exact .writeUnsolicited db c1 c2 c3 cap ih
  | clearWritten db _ _ ih => exact .clearWritten db ih
  | reset db _ _ ih => exact .reset db ih

theorem Le.of_eff {F : List Fld} {D : List DbStep} {ks : List OKind} {a b : Acc} (h : Eff F D (KP ks) a b)
    (hF : Apart [.cfg, .pend, .alive] F := by decide) (hks : OKind.panic ∉ ks := by decide) : Le a b := by
  have k := h.on hF
  obtain ⟨l, e, hl⟩ := h.2.2
  refine ⟨⟨k.get .cfg, h.2.1.reach, fun f hp => ?_, k.get .alive⟩, fun hp => ?_⟩
  · rcases k.get .pend with e | e <;> rw [e] at hp
    · exact hp
    · cases hp
  · rw [e] at hp
    exact (List.mem_append.1 hp).elim id fun hp => absurd (hl _ hp) hks

end

theorem les_dropPending (s : OState) : LeS s { s with pending := none } :=
  ⟨rfl, .refl, fun _ h => (nomatch h), fun h => h⟩

theorem classify_newNonRead {s : OState} {f : Frag} {ctrl : AppCtrl} {func : Nat} {objects : Except Nat (List ObjHdr)}
    {hs : List ObjHdr} (h : classify s f ctrl func objects = .newNonRead hs) : objects = .ok hs := by
  have hf := Frame.classify_facts s f ctrl func objects
  rw [h] at hf
  exact hf.2.2.2

/-- the checked subtraction of `unwritten_classes` fails on a database reachable from `db0` (the
    shape of the former D3; impossible when `db0` has exact counters: `Proofs/NoPanicOutstationDb.lean`) -/
def CounterUnderflow (db0 : Db) : Prop := ∃ db, DbReach db0 db ∧ db.unwrittenClasses = none

theorem CounterUnderflow.of_le {a b : Acc} (h : Le a b) (hu : b.1.db.unwrittenClasses = none) :
    CounterUnderflow a.1.db := ⟨_, h.st.db, hu⟩

theorem CounterUnderflow.mono {a b : Acc} (h : Le a b) (hu : CounterUnderflow b.1.db) :
    CounterUnderflow a.1.db := by
  obtain ⟨db, h1, h2⟩ := hu
  exact ⟨db, h.st.db.trans h1, h2⟩

def OSpec {β : Type} (a : Acc) (C : Prop) (res : Option (Acc × β)) : Prop :=
  match res with
  | none => C
  | some (b, _) => Le a b

theorem OSpec.none {β : Type} {a : Acc} {C : Prop} {res : Option (Acc × β)} (h : OSpec a C res) (hn : res = none) : C := by
  subst hn; exact h

theorem OSpec.some {β : Type} {a b : Acc} {x : β} {C : Prop} {res : Option (Acc × β)} (h : OSpec a C res)
    (hn : res = some (b, x)) : Le a b := by
  subst hn; exact h

/-- no request handler fails (`Frame.handleNonRead_ne_none`, `Frame.processBroadcast_ne_none`): only the writing
    of the response does -/
theorem handleRequestFromIdle_none {a : Acc} {f : Frag} {ctrl : AppCtrl} {func : Nat}
    {objs : Except Nat (List ObjHdr)} {raw : List Nat} (h : handleRequestFromIdle a f ctrl func objs raw = none) :
    CounterUnderflow a.1.db := by
  rw [Skel.handleRequestFromIdle_eq] at h
  cases h1 : Skel.idleStage1 a f ctrl func objs raw with
  | none =>
    unfold Skel.idleStage1 at h1
    split at h1 <;> first | cases h1 | dsimp only at h1
    · split at h1
      · exact absurd ‹_› (Frame.handleNonRead_ne_none _ _ _ _ _ _)
      · cases h1
    · split at h1
      · exact absurd ‹_› (Frame.processBroadcast_ne_none _ _ _ _ _ _ _)
      · cases h1
  | some p =>
    obtain ⟨a1, _ | ⟨lr, echo⟩⟩ := p <;> rw [h1] at h
    · cases h
    · unfold Skel.idleStage2 at h
      dsimp only at h
      split at h
      · cases h
      · split at h
        · cases h
        · split at h
          · exact .of_le (.of_eff (Skel.idleStage1_cases h1).eff) (Frame.writeSolicited_eq_none.1 ‹_›)
          · cases h

theorem handleRequestFromIdle_spec (a : Acc) (f : Frag) (ctrl : AppCtrl) (func : Nat)
    (objects : Except Nat (List ObjHdr)) (raw : List Nat) :
    OSpec a (CounterUnderflow a.1.db) (handleRequestFromIdle a f ctrl func objects raw) := by
  cases h : handleRequestFromIdle a f ctrl func objects raw with
  | none => exact handleRequestFromIdle_none h
  | some p => exact .of_eff (Skel.handleRequestFromIdle_eff h)

/-! No case type has the failures of the two handlers of the pass after the request. -/
section
open Dnp3.Proofs.Frame

theorem checkUnsolicited_none {a : Acc} (h : checkUnsolicited a = none) : CounterUnderflow a.1.db := by
  obtain ⟨s, _, _, hs, e | e⟩ := Frame.checkUnsolicited_eq_none h
  · exact ⟨_, by rw [e]; exact .refl, startUnsolSeries_eq_none.1 hs⟩
  · exact ⟨_, by rw [e]; exact .writeUnsolicited _ _ _ _ _ .refl, startUnsolSeries_eq_none.1 hs⟩

theorem handleDeferredRead_none {a : Acc} {next : NextIdle} (h : handleDeferredRead a next = none) :
    CounterUnderflow a.1.db := by
  obtain ⟨d, -, hw⟩ := Frame.handleDeferredRead_eq_none h
  exact ⟨_, (Frame.deferredFormat_eff a d).2.1.reach, Frame.writeSolicited_eq_none.1 hw⟩

end

/-- one pass of the idle loop with `k` in place of the recursive call -/
def pass (k : Acc → StepRes) (a : Acc) : StepRes :=
  let a : Acc := ({ a.1 with notified := false }, a.2)
  let (s, p) := popRequest a.1
  let a : Acc := (s, a.2)
  match p with
  | .nothing => afterRequest k ({ a.1 with pending := none }, a.2)
  | .error src bc seq =>
    let a : Acc := (onLinkActivity { a.1 with pending := none }, a.2)
    match writeErrorResponse a src bc seq with
    | none => die a
    | some a => afterRequest k a
  | .request f ctrl func objects raw =>
    let a : Acc := (onLinkActivity { a.1 with pending := none }, a.2)
    match handleRequestFromIdle a f ctrl func objects raw with
    | none => die a
    | some (a, some series) => .blocked (enterSolWait a series .fromRequest)
    | some (a, none) => afterRequest k a

theorem runPass_succ (n : Nat) (a : Acc) : runPass (n + 1) a = pass (runPass n) a := rfl

section
variable (cfg0 : OCfg) (db0 : Db) (A : Prop)

/-- the invariant threaded through one step.  `A` is the condition under which the task is claimed alive: the step's
    own `s.mode ≠ .dead` in `step_good` (so that the invariant also holds at the start of the trivial step of a dead
    task), `True` in `start_good` -/
structure Inv (a : Acc) : Prop where
  cfg : a.1.cfg = cfg0
  db : DbReach db0 a.1.db
  np : OOut.panic ∉ a.2
  alive : A → a.1.mode ≠ .dead

def Cause : Prop := CounterUnderflow db0

def Good (r : StepRes) : Prop :=
  match r with
  | .blocked b => Inv cfg0 db0 A b
  | .panicked b => Cause db0 ∧ OOut.panic ∈ b.2 ∧ b.1.mode = .dead

variable {cfg0 db0 A}

theorem Inv.le {a b : Acc} (h : Inv cfg0 db0 A a) (hle : Le a b) : Inv cfg0 db0 A b :=
  ⟨hle.st.cfg.trans h.cfg, h.db.trans hle.st.db, fun hp => h.np (hle.np hp),
   fun hA hd => h.alive hA (hle.st.alive hd)⟩

theorem Inv.eff {F : List Frame.Fld} {D : List Frame.DbStep} {ks : List Frame.OKind} {a b : Acc} (h : Inv cfg0 db0 A a)
    (he : Frame.Eff F D (Frame.KP ks) a b) (hF : Frame.Apart [.cfg, .pend, .alive] F := by decide)
    (hks : Frame.OKind.panic ∉ ks := by decide) : Inv cfg0 db0 A b := h.le (.of_eff he hF hks)

theorem Inv.under {a : Acc} (h : Inv cfg0 db0 A a) (hu : CounterUnderflow a.1.db) : Cause db0 := by
  obtain ⟨db, h1, h2⟩ := hu
  exact ⟨db, h.db.trans h1, h2⟩

end

section
open Dnp3.Proofs.Skel Dnp3.Proofs.Frame
variable {cfg0 : OCfg} {db0 : Db} {A : Prop}

theorem les_setMode (s : OState) (m : Mode) (hm : m ≠ .dead) : LeS s { s with mode := m } :=
  ⟨rfl, .refl, fun _ h => h, fun h => absurd h hm⟩

theorem inv_upd {a b : Acc} (h : Inv cfg0 db0 A a) (hm : b.1.mode = a.1.mode ∨ b.1.mode ≠ .dead)
    (hc : b.1.cfg = a.1.cfg := by rfl) (hd : b.1.db = a.1.db := by rfl) (ho : b.2 = a.2 := by rfl) :
    Inv cfg0 db0 A b :=
  ⟨hc.trans h.cfg, hd ▸ h.db, ho ▸ h.np,
   fun hA hd => by
    rcases hm with hm | hm
    · exact h.alive hA (hm ▸ hd)
    · exact hm hd⟩

theorem inv_emitCb {a : Acc} {c : Cb} (h : Inv cfg0 db0 A a) : Inv cfg0 db0 A (emitCb a c) := h.le (le_emitCb _ _)
theorem inv_repeatSolicited {a : Acc} {dst : Nat} {r : Resp} (h : Inv cfg0 db0 A a) :
    Inv cfg0 db0 A (repeatSolicited a dst r) := h.eff (repeatSolicited_eff ..)

theorem Inv.pop {a : Acc} {s : OState} {p : Popped} (h : Inv cfg0 db0 A a) (hp : popRequest a.1 = (s, p)) :
    Inv cfg0 db0 A (s, a.2) :=
  h.eff (.set (D := []) (KP []) (popRequest_upd hp))

def GoodAt (cfg0 : OCfg) (db0 : Db) (A : Prop) : Pt × Acc → Prop
  | (.halt, b) => Good cfg0 db0 A (.panicked b)
  | (_, b) => Inv cfg0 db0 A b

theorem good_diePt {a : Acc} (hc : Cause db0) : GoodAt cfg0 db0 A (diePt a) := ⟨hc, by simp [emit], rfl⟩

theorem good_resumePt {a : Acc} (h : Inv cfg0 db0 A a) (c : SolCont) : GoodAt cfg0 db0 A (resumePt a c) := by
  cases c with
  | fromRequest => exact h
  | fromDeferred n => exact inv_upd h (.inl rfl)

theorem good_abortPt {a : Acc} (h : Inv cfg0 db0 A a) (c : SolCont) : GoodAt cfg0 db0 A (abortPt a c) :=
  good_resumePt (a := ({ a.1 with db := a.1.db.reset }, a.2))
    (h.le (.of_st ⟨rfl, .reset a.1.db .refl, fun _ h => h, fun h => h⟩)) c

theorem good_finishUnsolPt {a : Acc} (h : Inv cfg0 db0 A a) (isNull confirmed : Bool) :
    GoodAt cfg0 db0 A (finishUnsolPt a isNull confirmed) := h.eff (afterUnsolSeries_eff ..)

theorem good_passCase {a : Acc} {fuel : Nat} {y : Pt × Acc} (h : Inv cfg0 db0 A a) (hy : PassCase a fuel y) :
    GoodAt cfg0 db0 A y := by
  obtain ⟨s, p, hp, hy⟩ := hy
  have hs := Inv.pop (a := ({ a.1 with notified := false }, a.2)) (inv_upd h (.inl rfl)) hp
  have p1 : Inv cfg0 db0 A (onLinkActivity { s with pending := none }, a.2) :=
    hs.le (.of_st (LeS.trans (les_dropPending _) (.of_eq rfl rfl rfl rfl)))
  cases hy with
  | nothing => exact hs.le (.of_st (les_dropPending _))
  | errorDie hw => exact good_diePt (p1.under ⟨_, .refl, (Frame.writeErrorResponse_eq_none.1 hw).2.2⟩)
  | error a' hw => exact p1.eff (writeErrorResponse_eff hw)
  | requestDie hq => exact good_diePt (p1.under ((handleRequestFromIdle_spec ..).none hq))
  | requestWait a' sr hq => exact (p1.le ((handleRequestFromIdle_spec ..).some hq)).eff (enterSolWait_eff ..)
  | request a' hq => exact p1.le ((handleRequestFromIdle_spec ..).some hq)

theorem good_solConfCase {a5 : Acc} {sr : Series} {cont : SolCont} {dst : Nat} {y : Pt × Acc}
    (h5 : Inv cfg0 db0 A a5) (hc : SolConfCase a5 sr cont dst y) : GoodAt cfg0 db0 A y := by
  have fmt : ∀ {s6 r6 next}, formatReadResponse a5.1 false (seq4Next sr.ecsn) 0 = (s6, r6, next) →
      Inv cfg0 db0 A (s6, a5.2) := fun hf => by
    have : LeS a5.1 (formatReadResponse a5.1 false (seq4Next sr.ecsn) 0).1 :=
      ⟨rfl, .writeResponse a5.1.db (a5.1.cfg.sol - 4) .refl, fun _ h => h, fun h => h⟩
    rw [hf] at this
    exact h5.le (.of_st this)
  cases hc with
  | done _ => exact good_resumePt h5 cont
  | die s6 r6 next _ hf hw => exact good_diePt ((fmt hf).under ⟨_, .refl, Frame.writeSolicited_eq_none.1 hw⟩)
  | last s6 r6 a7 r7 _ hf hw =>
    exact good_resumePt (a := ({ a7.1 with lastReq := a7.1.lastReq.map (fun lr => { lr with response := some r7 }) }, a7.2))
      (inv_upd ((fmt hf).eff (writeSolicited_eff hw)) (.inl rfl)) cont
  | next s6 r6 sr' a7 r7 _ hf hw =>
    show Inv _ _ _ _
    exact inv_upd ((fmt hf).eff (writeSolicited_eff hw)) (.inr (fun h => nomatch h))

theorem good_swfCase {a : Acc} {sr : Series} {cont : SolCont} {y : Pt × Acc} (h : Inv cfg0 db0 A a)
    (hc : SWFCase a sr cont y) : GoodAt cfg0 db0 A y := by
  obtain ⟨s, p, hp, hc⟩ := hc
  have p1 : Inv cfg0 db0 A (onLinkActivity s, a.2) := inv_upd (h.pop hp) (.inl rfl)
  have p2 : Inv cfg0 db0 A ({ onLinkActivity s with pending := none }, a.2) := inv_upd (h.pop hp) (.inl rfl)
  cases hc with
  | nothing => show Inv _ _ _ _; exact inv_upd (h.pop hp) (.inl rfl)
  | error | newRequest => exact good_abortPt (inv_emitCb p1) cont
  | @echo f _ _ _ resp =>
    show Inv _ _ _ _
    cases resp with
    | none => exact inv_upd p2 (.inr (fun h => nomatch h))
    | some r => exact inv_upd (inv_repeatSolicited (dst := f.src) (r := r) p2) (.inr (fun h => nomatch h))
  | unsolConfirm | wrongSeq => exact inv_emitCb p2
  | confirmed _ _ hsc =>
    exact good_solConfCase (hc := hsc) ((inv_emitCb
      (a := ({ onLinkActivity s with pending := none, lastBroadcast := none }, a.2)) (c := .solConfirmed sr.ecsn)
      (inv_upd (h.pop hp) (.inl rfl))).eff (clearWrittenEvents_eff _))

theorem good_uwfCase {a : Acc} {resp : Resp} {isNull : Bool} {y : Pt × Acc} (h : Inv cfg0 db0 A a)
    (hc : UWFCase a resp isNull y) : GoodAt cfg0 db0 A y := by
  obtain ⟨s, p, hp, hc⟩ := hc
  have hs := h.pop hp
  clear hp
  have p1 : Inv cfg0 db0 A ({ s with pending := none, deferred := none }, a.2) := inv_upd hs (.inl rfl)
  have p2 : Inv cfg0 db0 A (onLinkActivity { s with pending := none }, a.2) := inv_upd hs (.inl rfl)
  have p3 : Inv cfg0 db0 A ({ onLinkActivity { s with pending := none } with deferred := none }, a.2) :=
    inv_upd hs (.inl rfl)
  cases hc with
  | nothing => show Inv _ _ _ _; exact inv_upd hs (.inl rfl)
  | errorDie hw => exact good_diePt (p1.under ⟨_, .refl, (Frame.writeErrorResponse_eq_none.1 hw).2.2⟩)
  | error a' hw => exact p1.eff (writeErrorResponse_eff hw)
  | unsolConfirm =>
    refine good_finishUnsolPt (inv_emitCb ?_) _ _
    exact inv_upd hs (.inl rfl)
  | otherConfirm => exact p2
  | solConfirm =>
    show Inv _ _ _ _
    split
    · exact inv_upd hs (.inl rfl)
    · exact p2
  | bcast m a' _ _ hpb =>
    show Inv _ _ _ _
    exact inv_upd (p3.eff (processBroadcast_eff hpb)) (.inl rfl)
  | malformedDie _ _ hw => exact good_diePt (p3.under ⟨_, .refl, Frame.writeSolicited_eq_none.1 hw⟩)
  | malformed a' r' _ _ hw => exact p3.eff (writeSolicited_eff hw)
  | nonReadWriteDie a4 r _ _ _ hn hw =>
    exact good_diePt ((p3.eff (handleNonRead_eff hn)).under ⟨_, .refl, Frame.writeSolicited_eq_none.1 hw⟩)
  | nonRead a4 r4 a5 r5 _ _ _ hn hnw =>
    show Inv _ _ _ _
    exact inv_upd ((p3.eff (handleNonRead_eff hn)).le (.of_eff hnw.eff)) (.inl rfl)
  | disable a4 r4 a5 r5 _ hn hnw =>
    refine good_finishUnsolPt ?_ _ _
    exact inv_upd ((p3.eff (handleNonRead_eff hn)).le (.of_eff hnw.eff)) (.inl rfl)
  | read => exact p2.le (.of_st (.of_eq rfl rfl rfl rfl))
  | @echo f _ _ _ _ last =>
    show Inv _ _ _ _
    cases last with
    | none => exact inv_upd p2 (.inl rfl)
    | some r => exact inv_upd (inv_repeatSolicited (dst := f.src) (r := r) p2) (.inl rfl)

theorem good_step {x y : Pt × Acc} (hs : Step x y) (h : GoodAt cfg0 db0 A x) : GoodAt cfg0 db0 A y := by
  cases hs with
  | pass a n y _ _ hy => exact good_passCase h hy
  | chkDie a _ hc => exact good_diePt (Inv.under h (checkUnsolicited_none hc))
  | chkStart a _ a' hc => exact Inv.eff h (checkUnsolicited_cases _ _ hc).eff
  | chkIdle a _ a' n hc => exact Inv.eff h (checkUnsolicited_cases _ _ hc).eff
  | defDie a _ n hd => exact good_diePt (Inv.under h (handleDeferredRead_none hd))
  | defWait a _ n a' hd => exact Inv.eff h (handleDeferredRead_cases _ _ _ hd).eff
  | defDone a _ n a' hd => exact Inv.eff h (handleDeferredRead_cases _ _ _ hd).eff
  | finishPass a _ n _ => exact Inv.eff h (finishPass_eff ..)
  | again a _ n y _ hy => exact good_passCase (Inv.eff h (finishPass_eff ..)) hy
  | fuel a n _ => exact (Inv.eff h (finishPass_eff ..)).le (le_emitCb _ _)
  | solFragment a sr dl c y _ _ hc => exact good_swfCase h hc
  | solTimeout a sr dl c _ _ _ => exact good_abortPt (inv_emitCb h) c
  | unsolFragment a resp isNull rt dl y _ _ hc => exact good_uwfCase h hc
  | unsolTimeout a resp isNull rt dl y _ _ _ hc =>
    cases hc with
    | finish _ => exact good_finishUnsolPt (inv_emitCb h) _ _
    | retry rt' _ _ => show Inv _ _ _ _; exact inv_upd ((inv_emitCb h).eff (repeatUnsolicited_eff ..)) (.inr (fun h => nomatch h))

theorem Good.no_panic {r : StepRes} (h : Good cfg0 db0 A r) (hp : OOut.panic ∈ (finishStep r).2) :
    Cause db0 := by
  cases r with
  | blocked a => exact absurd hp h.np
  | panicked a => exact h.1

def GoodEnd (cfg0 : OCfg) (db0 : Db) (A : Prop) (b : Acc) : Prop :=
  Inv cfg0 db0 A b ∨ (Cause db0 ∧ OOut.panic ∈ b.2 ∧ b.1.mode = .dead)

theorem GoodAt.ends {x z : Pt × Acc} (h : GoodAt cfg0 db0 A x) (hz : Star Step x z) (hf : z.1 = .blk ∨ z.1 = .halt) :
    GoodEnd cfg0 db0 A z.2 := by
  have := Star.inv (fun _ _ hs => good_step hs) hz h
  obtain ⟨p, b⟩ := z
  rcases hf with rfl | rfl
  · exact .inl this
  · exact .inr this

end

theorem inv_stepInit {env : OEnv} {s : OState} {i : OInput} {pf : Option Frag} {s0 : OState} {o0 : List OOut}
    (h : Skel.StepInit env s i pf s0 o0) : Inv s.cfg s.db (s.mode ≠ .dead) (s0, o0) := by
  cases h with
  | rx => exact ⟨rfl, .refl, by simp, fun hA => hA⟩
  | tick => exact ⟨rfl, .refl, by simp, fun hA => hA⟩
  | txn items =>
    have k := Skel.txnFold_upd s items
    exact ⟨k.get .cfg, C03.txnFold_db (I := DbReach s.db) (fun db t idx v f tm h => .update db t idx v f tm h) s items .refl,
      fun hp => absurd (Skel.txnFold_outs s items _ hp) (by decide), fun hA hd => hA ((k.get .mode).symm.trans hd)⟩
  | add t idx cls => exact ⟨rfl, .add s.db t idx cls .refl, by simp, fun hA => hA⟩
  | cut => exact ⟨rfl, .reset _ .refl, by simp, fun _ => by simp [Skel.cutState]⟩

theorem step_good (env : OEnv) (s : OState) (i : OInput) :
    GoodEnd s.cfg s.db (s.mode ≠ .dead) (Outstation.step env s i) := by
  have hs : GoodEnd s.cfg s.db (s.mode ≠ .dead) (s, []) := .inl ⟨rfl, .refl, by simp, fun hA => hA⟩
  rcases Skel.step_steps env s i with ⟨f, _, e⟩ | e | ⟨pf, s0, o0, z, hi, hz, hf, e⟩
  · rw [e]; exact .inl ⟨rfl, .refl, by simp, fun hA => hA⟩
  · rw [e]; exact hs
  · rw [e]; exact GoodAt.ends (x := (.blk, (s0, o0))) (inv_stepInit hi) hz hf

/-- **No panic except a counter underflow of the database.**  If a step of the outstation model
    panics, then some database reachable from `s.db` by database operations makes `unwrittenClasses` fail
    (the former D3: impossible when `s.db` has exact counters, see `Proofs/NoPanicOutstationDb.lean`).
    Nothing else: the `unwrap`s of `handle_operate` on an echo that does not fit (D1) are gone. -/
theorem outstation_step_panic_cause (env : OEnv) (s : OState) (i : OInput)
    (hp : OOut.panic ∈ (Outstation.step env s i).2) : CounterUnderflow s.db :=
  (step_good env s i).elim (fun h => absurd hp h.np) (·.1)

theorem dead_only_by_panic (env : OEnv) (s : OState) (i : OInput) (hs : s.mode ≠ .dead)
    (hd : (Outstation.step env s i).1.mode = .dead) : OOut.panic ∈ (Outstation.step env s i).2 :=
  (step_good env s i).elim (fun h => absurd hd (h.alive hs)) (·.2.1)

theorem step_dead_or_reach (env : OEnv) (s : OState) (i : OInput) :
    (Outstation.step env s i).1.mode = .dead ∨ DbReach s.db (Outstation.step env s i).1.db :=
  (step_good env s i).elim (fun h => .inr h.db) (fun h => .inl h.2.2)

theorem start_good (cfg : OCfg) (evMax : Nat) : GoodEnd cfg (Db.new evMax none) True (Outstation.start cfg evMax) := by
  obtain ⟨z, hz, hf, e⟩ := Skel.start_steps cfg evMax
  rw [e]
  exact GoodAt.ends (x := (.blk, _)) ⟨rfl, .refl, by simp, fun _ => (by simp [OState.init])⟩ hz hf

theorem start_dead_or_reach (cfg : OCfg) (evMax : Nat) :
    (Outstation.start cfg evMax).1.mode = .dead ∨
      DbReach (Db.new evMax none) (Outstation.start cfg evMax).1.db :=
  (start_good cfg evMax).elim (fun h => .inr h.db) (fun h => .inl h.2.2)

theorem start_panic_cause (cfg : OCfg) (evMax : Nat)
    (hp : OOut.panic ∈ (Outstation.start cfg evMax).2) : CounterUnderflow (Db.new evMax none) :=
  (start_good cfg evMax).elim (fun h => absurd hp h.np) (·.1)

theorem start_dead_only_by_panic (cfg : OCfg) (evMax : Nat)
    (hd : (Outstation.start cfg evMax).1.mode = .dead) : OOut.panic ∈ (Outstation.start cfg evMax).2 :=
  (start_good cfg evMax).elim (fun h => absurd hd (h.alive trivial)) (·.2.1)

theorem step_of_dead (env : OEnv) (s : OState) (i : OInput) (h : s.mode = .dead) :
    (Outstation.step env s i).1.mode = .dead ∧ (Outstation.step env s i).2 = [] := by
  rw [Skel.step_dead env s i h]
  cases i <;> exact ⟨h, rfl⟩

theorem outstation_no_panic_of_db (env : OEnv) (s : OState) (i : OInput)
    (hdb : ∀ db, DbReach s.db db → db.unwrittenClasses ≠ none) :
    OOut.panic ∉ (Outstation.step env s i).2 ∧ (s.mode ≠ .dead → (Outstation.step env s i).1.mode ≠ .dead) := by
  have hnp : OOut.panic ∉ (Outstation.step env s i).2 := by
    intro hp
    obtain ⟨db, hr, hu⟩ := outstation_step_panic_cause env s i hp
    exact hdb db hr hu
  exact ⟨hnp, fun hs hd => hnp (dead_only_by_panic env s i hs hd)⟩

/-! ### the former D1 witness

tx buffer 249, OPERATE of 62 × g41v2 with 16-bit indices (no SELECT before it): the NO_SELECT echo does not fit
the 245 octets behind the response header.  Before the repair `respond_with_status(..).unwrap()` panicked; now
the request is answered with the echo of the 48 objects that fit. -/

def d1Payload : List Nat := (List.replicate 62 [1, 0, 5, 0, 0]).flatten
def d1Raw : List Nat := 41 :: 2 :: 0x28 :: 62 :: 0 :: d1Payload
def d1Data : List Nat := 0xC0 :: 4 :: d1Raw
def d1Hdrs : List ObjHdr := [⟨41, 2, 0x28, 62, 0, d1Payload⟩]

/-- `ReqParse` projected onto a type with decidable equality -/
def reqKey : ReqParse → Option (AppCtrl × Nat × Option (List ObjHdr) × List Nat)
  | .request c f (.ok hs) raw => some (c, f, some hs, raw)
  | .request c f (.error _) raw => some (c, f, none, raw)
  | _ => none

theorem reqKey_ok {p : ReqParse} {c : AppCtrl} {f : Nat} {hs : List ObjHdr} {raw : List Nat}
    (h : reqKey p = some (c, f, some hs, raw)) : p = .request c f (.ok hs) raw := by
  unfold reqKey at h
  split at h
  · simp only [Option.some.injEq, Prod.mk.injEq] at h
    obtain ⟨rfl, rfl, rfl, rfl⟩ := h; rfl
  · simp at h
  · simp at h

theorem d1_parse : parseRequest d1Data = .request ⟨true, true, false, false, 0⟩ 4 (.ok d1Hdrs) d1Raw :=
  reqKey_ok (by decide +kernel)

/-- the echo of the former D1 witness still overflows the solicited buffer (that is D13's subject); the request is
    answered all the same: `Props.C01.outstation_former_d1_witness_answered` -/
theorem d1_overflow : (ctlAll none 2 none d1Hdrs { acc := (OState.init { sol := 249 } 10, []), cap := 249 - 4 }).overflow = true := by
  decide +kernel

theorem d1_all : d1Hdrs.all isControlHdr = true := by decide +kernel

def isPanic : OOut → Bool
  | .panic => true
  | _ => false

theorem mem_of_any_isPanic {l : List OOut} (h : l.any isPanic = true) : OOut.panic ∈ l := by
  rw [List.any_eq_true] at h
  obtain ⟨o, ho, hp⟩ := h
  cases o <;> first | exact ho | cases hp

theorem not_mem_of_any_isPanic {l : List OOut} (h : l.any isPanic = false) : OOut.panic ∉ l := by
  intro hm
  have : l.any isPanic = true := List.any_eq_true.mpr ⟨_, hm, rfl⟩
  rw [h] at this; cases this

def isDead : Mode → Bool
  | .dead => true
  | _ => false

theorem eq_dead_of_isDead {m : Mode} (h : isDead m = true) : m = .dead := by
  cases m <;> first | rfl | cases h

theorem ne_dead_of_isDead {m : Mode} (h : isDead m = false) : m ≠ .dead := by
  intro hd; rw [hd] at h; cases h

def d1State : OState := (Outstation.start { sol := 249 } 10).1

/-- the response to the former D1 fragment: FIR FIN, sequence 0, IIN1 = DEVICE_RESTART, IIN2 clean, one g41v2
    header (16-bit count and indices) of the 48 objects that fit, each with status 2 = NO_SELECT: 249 octets -/
def d1Response : List Nat :=
  [0xC0, 0x81, 0x80, 0x00, 41, 2, 0x28, 48, 0] ++ (List.replicate 48 [1, 0, 5, 0, 2]).flatten

/-- `outstation_no_panic_of_db`: the database hypothesis is kept as an assumption here because `Db` is opaque
    to this file (discharged for every reachable state in `Proofs/NoPanicOutstationDb.lean`) -/
example (s : OState) (hdb : ∀ db, DbReach s.db db → db.unwrittenClasses ≠ none) :
    OOut.panic ∉ (Outstation.step {} s (.tick 5)).2 :=
  (outstation_no_panic_of_db {} s (.tick 5) hdb).1

/-! ### the former D3 witness (real database model)

event buffer of one binary event; point 0 in class 1, point 1 in class 2; the event of point 0 is written
by an unsolicited response, then the event of point 1 overflows it out of the buffer.  Before the
repair `written` was not decremented and `unwrittenClasses` failed; now it does not. -/

def d3Db : Db :=
  ((((((Db.new 1 none).add .binary 0 1).1.add .binary 1 2).1.update .binary 0 1 1 0).1.writeUnsolicited
    true true true 2044).1.update .binary 1 1 1 0).1

theorem d3_reach : DbReach (Db.new 1 none) d3Db :=
  .update _ .binary 1 1 1 0 (.writeUnsolicited _ true true true 2044 (.update _ .binary 0 1 1 0
    (.add _ .binary 1 2 (.add _ .binary 0 1 .refl))))

/-- no underflow any more: only the class-2 event is left, unwritten -/
theorem d3_no_underflow : d3Db.unwrittenClasses = some (false, true, false) := by decide +kernel

/-- the same through the session model: null unsolicited confirmed, all classes enabled, two points
    added, event on point 0 (sent unsolicited, awaiting confirm), event on point 1 (overflow) -/
def d3Inputs : List OInput :=
  [.rx 1 1024 [0xD0, 0x00], .rx 1 1024 [0xC0, 20, 60, 2, 6, 60, 3, 6, 60, 4, 6],
   .add .binary 0 1, .add .binary 1 2, .txn [.bin 0 true 1 0], .txn [.bin 1 true 1 0]]

def d3State : OState := (Outstation.run {} (Outstation.start { unsolicited := true } 1).1 d3Inputs).1

theorem Le.pend_none {a b : Acc} (h : Le a b) (hp : a.1.pending = none) : b.1.pending = none := by
  cases hb : b.1.pending with
  | none => rfl
  | some f => rw [h.st.pend f hb] at hp; cases hp

def LinkArmed (s : OState) : Prop := ∀ t, s.nextLinkStatus = some t → s.now < t

/-- the states on which a pass calls its continuation -/
structure Quiet (b : Acc) : Prop where
  pend : b.1.pending = none
  defd : b.1.deferred = none
  ka : b.1.cfg.keepalive ≠ some 0
  ls : LinkArmed b.1

theorem finishPass_armed (a : Acc) (next : NextIdle) (hka : a.1.cfg.keepalive ≠ some 0) :
    LinkArmed (finishPass a next).1 := by
  rcases Frame.finishPass_cases a next with ⟨h, e⟩ | ⟨-, e⟩ <;> rw [e]
  · exact h
  · -- the timer was set anew, a non-zero period ahead
    intro t ht
    obtain ⟨k, hk, rfl⟩ := Option.map_eq_some_iff.1 (show a.1.cfg.keepalive.map (· + a.1.now) = some t from ht)
    have : k ≠ 0 := fun h0 => hka (by rw [hk, h0])
    show a.1.now < k + a.1.now
    omega

theorem finishPass_of_armed (a : Acc) (next : NextIdle) (h : LinkArmed a.1) :
    finishPass a next = ({ a.1 with mode := .idle (next.earliest a.1.nextLinkStatus) }, a.2) := by
  rcases Frame.finishPass_cases a next with ⟨-, e⟩ | ⟨⟨t, ht, hle⟩, -⟩
  · exact e
  · exact absurd (h t ht) (by omega)

theorem afterDeferred_congr {k₁ k₂ : Acc → StepRes} (hk : ∀ b, Quiet b → k₁ b = k₂ b) {a : Acc} (next : NextIdle)
    (hp : a.1.pending = none) (hd : a.1.deferred = none) (hka : a.1.cfg.keepalive ≠ some 0) :
    afterDeferred k₁ a next = afterDeferred k₂ a next := by
  unfold afterDeferred
  dsimp only
  have k := (Frame.finishPass_eff a next).1
  rw [hk (finishPass a next)
    ⟨(k.get .pending).trans hp, (k.get .deferred).trans hd, k.get .cfg ▸ hka, finishPass_armed a next hka⟩]

theorem afterUnsol_congr {k₁ k₂ : Acc → StepRes} (hk : ∀ b, Quiet b → k₁ b = k₂ b) {a : Acc} (next : NextIdle)
    (hp : a.1.pending = none) (hka : a.1.cfg.keepalive ≠ some 0) :
    afterUnsol k₁ a next = afterUnsol k₂ a next := by
  unfold afterUnsol
  cases hr : handleDeferredRead a next with
  | none => rfl
  | some x =>
    cases x with
    | inl b => rfl
    | inr b =>
      have hle : Le a b := .of_eff (Frame.handleDeferredRead_cases a next _ hr).eff
      exact afterDeferred_congr hk next (hle.pend_none hp) (Frame.handleDeferredRead_cases _ _ _ hr).deferred (hle.st.cfg ▸ hka)

theorem afterRequest_congr {k₁ k₂ : Acc → StepRes} (hk : ∀ b, Quiet b → k₁ b = k₂ b) {a : Acc}
    (hp : a.1.pending = none) (hka : a.1.cfg.keepalive ≠ some 0) :
    afterRequest k₁ a = afterRequest k₂ a := by
  unfold afterRequest
  cases hr : checkUnsolicited a with
  | none => rfl
  | some x =>
    cases x with
    | inl b => rfl
    | inr p =>
      have hle : Le a p.1 := .of_eff (Frame.checkUnsolicited_cases a _ hr).eff
      exact afterUnsol_congr hk p.2 (hle.pend_none hp) (hle.st.cfg ▸ hka)

theorem pass_congr {k₁ k₂ : Acc → StepRes} (hk : ∀ b, Quiet b → k₁ b = k₂ b) {a : Acc}
    (hka : a.1.cfg.keepalive ≠ some 0) : pass k₁ a = pass k₂ a := by
  unfold pass
  generalize ha0 : (({ a.1 with notified := false }, a.2) : Acc) = a0
  have hka0 : a0.1.cfg.keepalive ≠ some 0 := by rw [← ha0]; exact hka
  clear ha0
  dsimp only
  generalize hpop : popRequest a0.1 = pr
  obtain ⟨s, p⟩ := pr
  have hka' : s.cfg.keepalive ≠ some 0 := (Skel.popRequest_upd hpop).get .cfg ▸ hka0
  -- the fragment is consumed: what is framed from there hands the rest of the pass a state with nothing retained
  have rest : ∀ {b : Acc}, Le (onLinkActivity { s with pending := none }, a0.2) b →
      afterRequest k₁ b = afterRequest k₂ b := fun hle =>
    afterRequest_congr hk (hle.pend_none rfl) (hle.st.cfg ▸ hka')
  dsimp -zeta only
  cases p with
  | nothing => exact afterRequest_congr hk rfl hka'
  | error src bc seq =>
    dsimp only
    cases hw : writeErrorResponse (onLinkActivity { s with pending := none }, a0.2) src bc seq with
    | none => rfl
    | some b => exact rest (.of_eff (Frame.writeErrorResponse_eff hw))
  | request f ctrl func objects raw =>
    dsimp only
    cases hw : handleRequestFromIdle (onLinkActivity { s with pending := none }, a0.2) f ctrl func objects raw with
    | none => rfl
    | some q =>
      obtain ⟨b, _ | series⟩ := q
      · exact rest ((handleRequestFromIdle_spec _ f ctrl func objects raw).some hw)
      · rfl

theorem checkUnsolicited_next {a c : Acc} {next : NextIdle} (h : checkUnsolicited a = some (.inr (c, next))) :
    next = .untilEvent ∨ ∃ d, next = .until d ∧ a.1.now < d := by
  cases Frame.checkUnsolicited_cases a _ h with
  | tooEarly d _ _ hlt => exact .inr ⟨d, rfl, hlt⟩
  | _ => exact .inl rfl

theorem idleWakes_false {s : OState} {next : NextIdle} (hp : s.pending = none) (hn : s.notified = false)
    (hls : LinkArmed s) (hnext : next = .untilEvent ∨ ∃ d, next = .until d ∧ s.now < d) :
    idleWakes { s with mode := .idle (next.earliest s.nextLinkStatus) } = false := by
  unfold idleWakes
  dsimp only
  rw [hp, hn]
  simp only [Option.isSome_none, Bool.false_or]
  cases hl : s.nextLinkStatus with
  | none =>
    rcases hnext with rfl | ⟨d, rfl, hd⟩
    · rfl
    · simp only [NextIdle.earliest, decide_eq_false_iff_not]; omega
  | some t =>
    have := hls t hl
    rcases hnext with rfl | ⟨d, rfl, hd⟩
    · simp only [NextIdle.earliest, decide_eq_false_iff_not]; omega
    · simp only [NextIdle.earliest, decide_eq_false_iff_not]; omega

theorem afterUnsol_quiet (k : Acc → StepRes) {c : Acc} {next : NextIdle} (hp : c.1.pending = none)
    (hn : c.1.notified = false) (hd : c.1.deferred = none) (hls : LinkArmed c.1)
    (hnext : next = .untilEvent ∨ ∃ d, next = .until d ∧ c.1.now < d) :
    afterUnsol k c next = .blocked (finishPass c next) := by
  unfold afterUnsol
  rw [Frame.handleDeferredRead_idle c next hd]
  dsimp only
  unfold afterDeferred
  dsimp only
  rw [finishPass_of_armed c next hls]
  dsimp only
  rw [idleWakes_false hp hn hls hnext]
  rfl

/-- the pass with the continuation erased -/
def passQuiet (a : Acc) : StepRes :=
  let a' : Acc := ({ a.1 with notified := false, pending := none }, a.2)
  match checkUnsolicited a' with
  | none => die a'
  | some (.inl b) => .blocked b
  | some (.inr (c, next)) => .blocked (finishPass c next)

theorem pass_quiet (k : Acc → StepRes) {a : Acc} (h : Quiet a) : pass k a = passQuiet a := by
  unfold pass passQuiet
  dsimp only
  rw [Skel.popRequest_iff.2 (.empty (s := { a.1 with notified := false }) h.pend)]
  dsimp only
  unfold afterRequest
  cases hr : checkUnsolicited ({ a.1 with notified := false, pending := none }, a.2) with
  | none => rfl
  | some x =>
    cases x with
    | inl b => rfl
    | inr p =>
      obtain ⟨c, next⟩ := p
      have hc : Frame.Kept [.pending, .notified, .deferred, .nextLinkStatus, .now]
          ({ a.1 with notified := false, pending := none } : OState) c.1 :=
        (Frame.checkUnsolicited_cases _ _ hr).eff.on (by decide)
      dsimp only
      have hls : LinkArmed c.1 := fun t ht => by
        rw [hc.get .now]; exact h.ls t (by rw [← ht, hc.get .nextLinkStatus])
      refine afterUnsol_quiet k (hc.get .pending) (hc.get .notified) ((hc.get .deferred).trans h.defd) hls ?_
      rw [hc.get .now]; exact checkUnsolicited_next (a := ({ a.1 with notified := false, pending := none }, a.2)) hr

/-- **The idle loop never spins** (sharp form): the continuation of a second consecutive pass is never
    called, i.e. a third consecutive pass never happens, unless the keep-alive period is configured as 0. -/
theorem pass_pass_indep (k₁ k₂ : Acc → StepRes) {a : Acc} (hka : a.1.cfg.keepalive ≠ some 0) :
    pass (pass k₁) a = pass (pass k₂) a :=
  pass_congr (fun _ hb => (pass_quiet k₁ hb).trans (pass_quiet k₂ hb).symm) hka

/-- the weaker form (a fourth consecutive pass never happens): the instance `pass k₁`, `pass k₂` of
    `pass_pass_indep` -/
theorem outstation_never_spins (k₁ k₂ : Acc → StepRes) {a : Acc} (hka : a.1.cfg.keepalive ≠ some 0) :
    pass (pass (pass k₁)) a = pass (pass (pass k₂)) a :=
  pass_pass_indep (pass k₁) (pass k₂) hka

theorem runPass_add_two (n : Nat) {a : Acc} (hka : a.1.cfg.keepalive ≠ some 0) :
    runPass (n + 2) a = runPass 2 a :=
  pass_pass_indep (runPass n) (runPass 0) hka

/-- the fuel of `runPass` is never used up: whatever would run at fuel exhaustion (in the model, the
    `modelFuelExhausted` callback of `runPass 0`) is irrelevant -/
theorem runPass_passFuel (k : Acc → StepRes) {a : Acc} (hka : a.1.cfg.keepalive ≠ some 0) :
    runPass passFuel a = pass (pass k) a :=
  pass_pass_indep (runPass 62) k hka

theorem runPass_passFuel_eq_two {a : Acc} (hka : a.1.cfg.keepalive ≠ some 0) : runPass passFuel a = runPass 2 a :=
  runPass_add_two 62 hka

theorem runPass_passFuel_eq_three {a : Acc} (hka : a.1.cfg.keepalive ≠ some 0) : runPass passFuel a = runPass 3 a :=
  (runPass_add_two 62 hka).trans (runPass_add_two 1 hka).symm

/-- the hypothesis is satisfiable: the default configuration has no keep-alive timer -/
example : ((OState.init {} 10, []) : Acc).1.cfg.keepalive ≠ some 0 := by decide

example : runPass passFuel (OState.init {} 10, []) = runPass 2 (OState.init {} 10, []) :=
  runPass_passFuel_eq_two (by decide)

/-- two passes do happen (so 2 is the right constant): with a deferred read pending, the first pass
    answers it and is woken at once (`notified`), so `runPass 1` runs out of fuel while `runPass 2` does not.
    (Evaluates the database on a concrete empty database.) -/
def spinWitness : Acc :=
  ({ OState.init {} 10 with deferred := some ⟨[], 0, 1, 0, []⟩ }, [])

example : (cbs (finishStep (runPass 1 spinWitness)).2).contains .modelFuelExhausted = true := by decide +kernel
example : (cbs (finishStep (runPass 2 spinWitness)).2).contains .modelFuelExhausted = false := by decide +kernel

/-- the keep-alive hypothesis is needed: a zero period re-arms a timer that is already due, and the loop
    spins until the fuel is gone -/
example : (cbs (finishStep (runPass passFuel (OState.init { keepalive := some 0 } 10, []))).2).contains
    .modelFuelExhausted = true := by decide +kernel

end Dnp3.Proofs.NoPanicOutstation
