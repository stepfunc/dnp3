import Dnp3.Model.Attr
/-!
# C09 — device-attribute values (`Dnp3.Attr`): encode / parse round trip, the list of variations,
exact acceptance of `AttrValue::parse`, agreement with the value-less object walk.
-/

namespace Dnp3.Proofs.C09AttrValue
open Dnp3.Attr Dnp3.App Dnp3.Gen.Attrs

theorem leBytes_length (k n : Nat) : (leBytes k n).length = k := by
  induction k generalizing n with
  | zero => rfl
  | succ k ih => simp [leBytes, ih]

theorem ofLe_leBytes (k n : Nat) : ofLe (leBytes k n) = n % 256 ^ k := by
  induction k generalizing n with
  | zero => simp [leBytes, ofLe, Nat.mod_one]
  | succ k ih =>
    simp only [leBytes, ofLe, ih]
    rw [Nat.pow_succ, Nat.mul_comm (256 ^ k) 256, Nat.mod_mul]

theorem typeOfCode_code (dt : DataType) : typeOfCode dt.code = some dt := by
  cases dt <;> rfl

/-- `(i as uN) as iN = i` for `i` in the range of `iN`, whatever the width -/
theorem signExt_wrap (bits : Nat) (hb : 0 < bits) (i : Int) (h1 : -((2 ^ (bits - 1) : Nat) : Int) ≤ i)
    (h2 : i < ((2 ^ (bits - 1) : Nat) : Int)) : signExt bits (wrap bits i % 2 ^ bits) = i := by
  obtain ⟨k, rfl⟩ : ∃ k, bits = k + 1 := ⟨bits - 1, by omega⟩
  simp only [Nat.add_sub_cancel] at h1 h2
  unfold signExt wrap
  simp only [Nat.add_sub_cancel, Nat.pow_succ]
  generalize 2 ^ k = P at *
  by_cases hi : 0 ≤ i
  · have : i % ((P * 2 : Nat) : Int) = i := Int.emod_eq_of_lt hi (by omega)
    rw [this, Nat.mod_eq_of_lt (by omega)]; split <;> omega
  · have : i % ((P * 2 : Nat) : Int) = i + (P * 2 : Nat) := by
      rw [← Int.add_mul_emod_self_left i ((P * 2 : Nat) : Int) 1, Int.mul_one]
      exact Int.emod_eq_of_lt (by omega) (by omega)
    rw [this, Nat.mod_eq_of_lt (by omega)]; split <;> omega

theorem take_guard_iff {n : Nat} {r rest : List Nat} {v : Value} (f : List Nat → Value) (g : List Nat → Bool)
    (e0 : AttrErr) {x : Except AttrErr (Value × List Nat)}
    (hx : x = match attrTake n r with
      | .error e => .error e
      | .ok (d, rest) => if g d then .ok (f d, rest) else .error e0) :
    x = .ok (v, rest) ↔ ∃ d, r = d ++ rest ∧ n = d.length ∧ g d = true ∧ v = f d := by
  subst hx
  constructor
  · intro h
    split at h
    · cases h
    · split at h
      · cases h; exact ⟨_, (attrTake_iff.1 ‹_›).1, (attrTake_iff.1 ‹_›).2.symm, ‹_›, rfl⟩
      · cases h
  · rintro ⟨d, rfl, rfl, hg, rfl⟩
    simp only [attrTake_iff.2 ⟨rfl, rfl⟩, hg, if_true]

theorem take_then_iff {n : Nat} {r rest : List Nat} {v : Value} (f : List Nat → Value)
    {x : Except AttrErr (Value × List Nat)}
    (hx : x = match attrTake n r with | .error e => .error e | .ok (d, rest) => .ok (f d, rest)) :
    x = .ok (v, rest) ↔ ∃ d, r = d ++ rest ∧ n = d.length ∧ v = f d :=
  (take_guard_iff f (fun _ => true) .read (hx.trans (by cases attrTake n r <;> rfl))).trans
    (by simp only [true_and])

/-- `Props.C09.attr_parse_accepts_only_exact`: one arm of `parseValue` per data type, each a take with a guard -/
theorem attr_parse_accepts_only_exact (bs rest : List Nat) (v : Value) :
    parseValue bs = .ok (v, rest) ↔
      ∃ t len dt d, bs = t :: len :: (d ++ rest) ∧ typeOfCode t = some dt ∧ impliedLen dt len = some d.length ∧
        (dt = .visibleString → validUtf8 d = true) ∧ v = decodePayload dt len d := by
  match bs with
  | [] => simp [parseValue]
  | [t] => 
    simp only [parseValue]
    cases typeOfCode t <;> simp
  | t :: len :: r =>
    -- the two head octets come off the existential; what is left speaks of `r`, and each arm of
    -- `parseValue` meets it by `take_guard_iff` / `take_then_iff`
    have rhs_iff : (∃ t' len' dt d, t :: len :: r = t' :: len' :: (d ++ rest) ∧ typeOfCode t' = some dt ∧
          impliedLen dt len' = some d.length ∧ (dt = .visibleString → validUtf8 d = true) ∧
          v = decodePayload dt len' d) ↔
        ∃ dt, typeOfCode t = some dt ∧ ∃ d, r = d ++ rest ∧ impliedLen dt len = some d.length ∧
          (dt = .visibleString → validUtf8 d = true) ∧ v = decodePayload dt len d := by
      constructor
      · rintro ⟨t', len', dt, d, h, h1, h2, h3, h4⟩
        simp only [List.cons.injEq] at h
        obtain ⟨rfl, rfl, rfl⟩ := h
        exact ⟨dt, h1, d, rfl, h2, h3, h4⟩
      · rintro ⟨dt, h1, d, rfl, h2, h3, h4⟩
        exact ⟨t, len, dt, d, rfl, h1, h2, h3, h4⟩
    rw [rhs_iff]
    cases htc : typeOfCode t with
    | none => simp [parseValue, htc]
    | some dt =>
      simp only [Option.some.injEq, exists_eq_left']
      cases dt <;> simp only [parseValue, htc]
      case visibleString =>
        refine (take_guard_iff (fun d => .vstr d) validUtf8 .badVisibleString rfl).trans ?_
        simp [impliedLen, decodePayload]
      case unsignedInt =>
        by_cases hl : len = 1 ∨ len = 2 ∨ len = 4
        · simp only [hl, if_true]
          refine (take_then_iff (fun d => .uint (ofLe d)) rfl).trans ?_
          simp [impliedLen, hl, decodePayload]
        · simp [impliedLen, hl]
      case signedInt =>
        by_cases hl : len = 1 ∨ len = 2 ∨ len = 4
        · simp only [hl, if_true]
          refine (take_then_iff (fun d => .int (signExt (8 * len) (ofLe d))) rfl).trans ?_
          simp [impliedLen, hl, decodePayload]
        · simp [impliedLen, hl]
      case floatingPoint =>
        by_cases h4 : len = 4
        · subst h4
          simp only [if_true]
          refine (take_then_iff (fun d => .f32 (ofLe d)) rfl).trans ?_
          simp [impliedLen, decodePayload]
        · by_cases h8 : len = 8
          · subst h8
            simp only [if_true, show ¬ (8 = 4) by decide, if_false]
            refine (take_then_iff (fun d => .f64 (ofLe d)) rfl).trans ?_
            simp [impliedLen, decodePayload]
          · simp [impliedLen, h4, h8]
      case octetString =>
        refine (take_then_iff (fun d => .ostr d) rfl).trans ?_
        simp [impliedLen, decodePayload]
      case bitString =>
        refine (take_then_iff (fun d => .bstr d) rfl).trans ?_
        simp [impliedLen, decodePayload]
      case dnp3Time =>
        by_cases h6 : len = 6
        · subst h6
          simp only [ne_eq, not_true_eq_false, if_false]
          refine (take_then_iff (fun d => .time (ofLe d)) rfl).trans ?_
          simp [impliedLen, decodePayload]
        · simp [impliedLen, h6]
      case attrList =>
        simp only [parseList, parseListModulus]
        by_cases h2 : len % 2 = 0
        · simp only [h2, ne_eq, not_true_eq_false, if_false]
          refine (take_then_iff (fun d => .list (pairs d)) rfl).trans ?_
          simp [impliedLen, h2, decodePayload]
        · simp [impliedLen, h2]
      case extAttrList =>
        simp only [parseList, parseListModulus, parseExtListBias]
        by_cases h2 : (len + 256) % 2 = 0
        · simp only [h2, ne_eq, not_true_eq_false, if_false]
          refine (take_then_iff (fun d => .list (pairs d)) rfl).trans ?_
          simp [impliedLen, h2, decodePayload]
        · simp [impliedLen, h2]

-- both sides of `attr_parse_accepts_only_exact` occur: an accepted string and its witnesses
example : parseValue [4, 4, 0, 0, 128, 63, 7] = .ok (.f32 0x3F800000, [7]) := by rfl
example : typeOfCode 4 = some .floatingPoint ∧ impliedLen .floatingPoint 4 = some [0, 0, 128, 63].length ∧
    decodePayload .floatingPoint 4 [0, 0, 128, 63] = .f32 0x3F800000 := by decide
-- a refused one: a length octet that the type does not allow, a short payload, bad UTF-8
example : parseValue [2, 3, 1, 2, 3] = .error (.badIntegerLength 3) := by rfl
example : parseValue [5, 3, 1, 2] = .error .read := by rfl
example : parseValue [1, 1, 0xFF] = .error .badVisibleString := by rfl

theorem attr_parse_consumes (bs rest : List Nat) (v : Value) (h : parseValue bs = .ok (v, rest)) :
    ∃ img, bs = img ++ rest ∧ 2 ≤ img.length := by
  obtain ⟨t, len, dt, d, rfl, _⟩ := (attr_parse_accepts_only_exact bs rest v).1 h
  exact ⟨t :: len :: d, by simp, by simp⟩

example : parseValue [7, 6, 1, 2, 3, 4, 5, 6, 42] = .ok (.time 0x060504030201, [42]) := by rfl

theorem ofLe_leBytes_of_lt {k n : Nat} (h : n < 256 ^ k) : ofLe (leBytes k n) = n := by
  rw [ofLe_leBytes, Nat.mod_eq_of_lt h]

theorem uintLen_cases (n : Nat) : uintLen n = 1 ∨ uintLen n = 2 ∨ uintLen n = 4 := by
  unfold uintLen; split <;> (try split) <;> simp

theorem intLen_cases (i : Int) : intLen i = 1 ∨ intLen i = 2 ∨ intLen i = 4 := by
  unfold intLen; split <;> (try split) <;> simp

/-- `UInt::new` picks a width that holds the value -/
theorem uint_fits {n : Nat} (h : n < 2 ^ 32) : n < 256 ^ uintLen n := by
  unfold uintLen
  split
  · omega
  · split <;> omega

/-- `Int::new` picks a width whose two's complement holds the value -/
theorem int_fits {i : Int} (h : -(2 ^ 31 : Int) ≤ i ∧ i < 2 ^ 31) :
    signExt (8 * intLen i) (wrap (8 * intLen i) i % 256 ^ intLen i) = i := by
  unfold intLen
  split
  · exact signExt_wrap 8 (by omega) i (by omega) (by omega)
  · split
    · exact signExt_wrap 16 (by omega) i (by omega) (by omega)
    · exact signExt_wrap 32 (by omega) i (by omega) (by omega)

/-- what `OwnedAttrValue::write` emits is the type code, a length octet and a payload of the length the two imply
    that decodes to the value -/
theorem image_payload {v : Value} {img : List Nat} (hv : v.WellFormed) (h : v.image = some img) :
    ∃ len d, img = v.dataType.code :: len :: d ∧ impliedLen v.dataType len = some d.length ∧
      (v.dataType = .visibleString → validUtf8 d = true) ∧ v = decodePayload v.dataType len d := by
  cases v with
  | vstr bs =>
    simp only [Value.image] at h
    split at h
    · cases h; exact ⟨_, _, rfl, rfl, fun _ => hv.2, rfl⟩
    · cases h
  | ostr bs | bstr bs =>
    simp only [Value.image] at h
    split at h
    · cases h; exact ⟨_, _, rfl, rfl, nofun, rfl⟩
    · cases h
  | uint n =>
    cases h
    exact ⟨_, _, rfl, by simp only [Value.dataType, impliedLen, uintLen_cases n, if_true, leBytes_length], nofun,
      by simp only [Value.dataType, decodePayload, ofLe_leBytes_of_lt (uint_fits hv)]⟩
  | int i =>
    cases h
    exact ⟨_, _, rfl, by simp only [Value.dataType, impliedLen, intLen_cases i, if_true, leBytes_length], nofun,
      by simp only [Value.dataType, decodePayload, ofLe_leBytes, int_fits hv]⟩
  | f32 b =>
    cases h
    exact ⟨_, _, rfl, by simp [Value.dataType, impliedLen, leBytes_length], nofun,
      by simp [Value.dataType, decodePayload, ofLe_leBytes_of_lt (k := 4) hv]⟩
  | f64 b =>
    cases h
    exact ⟨_, _, rfl, by simp [Value.dataType, impliedLen, leBytes_length], nofun,
      by simp [Value.dataType, decodePayload, ofLe_leBytes_of_lt (k := 8) hv]⟩
  | time t =>
    cases h
    exact ⟨_, _, rfl, by simp [Value.dataType, impliedLen, leBytes_length], nofun,
      by simp [Value.dataType, decodePayload, ofLe_leBytes_of_lt (k := 6) hv]⟩
  | list _ => cases h

/-- `Props.C09.attr_roundtrip`: the image of a well-formed value meets the right side of
    `attr_parse_accepts_only_exact` (`image_payload`) -/
theorem attr_roundtrip (v : Value) (img rest : List Nat) (hv : v.WellFormed) (h : v.image = some img) :
    parseValue (img ++ rest) = .ok (v, rest) := by
  obtain ⟨len, d, rfl, h1, h2, h3⟩ := image_payload hv h
  exact (attr_parse_accepts_only_exact _ _ _).2 ⟨_, len, _, d, rfl, typeOfCode_code _, h1, h2, h3⟩

-- non-vacuity of `attr_roundtrip`
example : (Value.int (-1)).WellFormed ∧ (Value.int (-1)).image = some [3, 1, 255] :=
  ⟨by unfold Value.WellFormed; omega, by decide⟩
example : (Value.int 127).WellFormed ∧ (Value.int 127).image = some [3, 2, 127, 0] :=
  ⟨by unfold Value.WellFormed; omega, by decide⟩
example : (Value.vstr [0x41, 0xC3, 0xA9]).WellFormed ∧ (Value.vstr [0x41, 0xC3, 0xA9]).image = some [1, 3, 0x41, 0xC3, 0xA9] := by
  refine ⟨⟨?_, by decide⟩, by decide⟩
  intro b hb; simp only [List.mem_cons, List.not_mem_nil, or_false] at hb; omega
example : parseValue ([3, 1, 255] ++ [9, 9]) = .ok (.int (-1), [9, 9]) :=
  attr_roundtrip (.int (-1)) [3, 1, 255] [9, 9] (by unfold Value.WellFormed; omega) (by decide)

example : (Value.int (-1)).image = some [3, 1, 255] := by decide
example : parseValue [3, 1, 255] = .ok (.int (-1), []) := by rfl
example : parseValue [255, 1, 0] = .error (.badAttrListLength 257) := by rfl

-- non-vacuity of `Props.C09.attr_image_none_iff`: both sides occur
example : (Value.ostr (List.replicate 256 0)).WellFormed := by
  intro b hb; rw [List.eq_of_mem_replicate hb]; omega
example : (Value.ostr (List.replicate 256 0)).image = none := by
  simp only [Value.image, List.length_replicate, show ¬ (256 ≤ 255) by omega, if_false]
example : (Value.uint 70000).WellFormed ∧ (Value.uint 70000).image = some [2, 4, 112, 17, 1, 0] :=
  ⟨by unfold Value.WellFormed; omega, by decide⟩

/-- the encoded length: 2 octets of type and length plus the payload (at most 257 octets in all) -/
theorem attr_image_length (v : Value) (img : List Nat) (h : v.image = some img) : 2 ≤ img.length ∧ img.length ≤ 257 := by
  cases v with
  | vstr bs | ostr bs | bstr bs =>
    simp only [Value.image] at h
    split at h
    · cases h; simp only [List.length_cons]; omega
    · cases h
  | uint n =>
    cases h
    have := uintLen_cases n
    simp only [List.length_cons, leBytes_length]; omega
  | int i =>
    cases h
    have := intLen_cases i
    simp only [List.length_cons, leBytes_length]; omega
  | f32 b | f64 b | time b => cases h; simp only [List.length_cons, leBytes_length]; omega
  | list _ => cases h

example : (Value.f64 0).image = some [4, 8, 0, 0, 0, 0, 0, 0, 0, 0] := by decide
example : ((Value.ostr (List.replicate 255 7)).image.map List.length) = some 257 := by
  simp only [Value.image, List.length_replicate, Nat.le_refl, if_true, Option.map_some, List.length_cons]

theorem flat_length (items : List (Nat × Bool)) :
    (items.flatMap fun (v, w) => [v, if w then 1 else 0]).length = 2 * items.length := by
  induction items with
  | nil => rfl
  | cons x r ih => obtain ⟨v, w⟩ := x; simp only [List.flatMap_cons, List.length_append, ih, List.length_cons, List.length_nil]; omega

theorem iter_pairs_flat (items : List (Nat × Bool)) :
    iterList (pairs (items.flatMap fun (v, w) => [v, if w then 1 else 0])) = items := by
  induction items with
  | nil => rfl
  | cons x r ih =>
    obtain ⟨v, w⟩ := x
    simp only [List.flatMap_cons, List.cons_append, List.nil_append, pairs]
    simp only [iterList, List.map_cons] at ih ⊢
    rw [ih]
    cases w <;> simp [propWritableBit]

theorem parseList_ok {len : Nat} {d rest : List Nat} (h2 : len % 2 = 0) (hd : d.length = len) :
    parseList len (d ++ rest) = .ok (.list (pairs d), rest) := by
  simp [parseList, parseListModulus, h2, attrTake_iff.2 ⟨rfl, hd⟩]

theorem listEncoding_small {n : Nat} (h : n ≤ 127) : listEncoding n = some (2 * n, .attrList) := by
  have h1 : n * listEntryOctets ≤ 255 := by simp only [listEntryOctets]; omega
  simp only [listEncoding, if_pos h1]
  simp only [listEntryOctets, Nat.mul_comm]

theorem listEncoding_ext {n : Nat} (h : 127 < n) (h' : n ≤ 255) :
    listEncoding n = some (2 * n - 256, .extAttrList) := by
  have h1 : ¬ n * listEntryOctets ≤ 255 := by simp only [listEntryOctets]; omega
  have h2 : extListBias ≤ n * listEntryOctets ∧ n * listEntryOctets - extListBias ≤ 255 := by
    simp only [listEntryOctets, extListBias]; omega
  simp only [listEncoding, if_neg h1, if_pos h2]
  simp only [listEntryOctets, extListBias, Nat.mul_comm]

theorem listEncoding_none {n : Nat} (h : 255 < n) : listEncoding n = none := by
  have h1 : ¬ n * listEntryOctets ≤ 255 := by simp only [listEntryOctets]; omega
  have h2 : ¬ (extListBias ≤ n * listEntryOctets ∧ n * listEntryOctets - extListBias ≤ 255) := by
    simp only [listEntryOctets, extListBias]; omega
  simp only [listEncoding, if_neg h1, if_neg h2]

/-- `Props.C09.attr_list_roundtrip`; the two cases are the plain list (up to 127 entries) and the extended one -/
theorem attr_list_roundtrip (items : List (Nat × Bool)) (hn : items.length ≤ 255) :
    ∃ img raw, listImage items = some img ∧ img.length = 2 + 2 * items.length ∧
      (∀ rest : List Nat, parseValue (img ++ rest) = .ok (.list raw, rest)) ∧ iterList raw = items := by
  have hlen := flat_length items
  by_cases hs : items.length ≤ 127
  · have henc := listEncoding_small hs
    refine ⟨_, _, by simp only [listImage, henc]; rfl, ?_, ?_, iter_pairs_flat items⟩
    · simp only [List.length_cons, hlen]; omega
    · intro rest
      simp only [parseValue, List.cons_append, typeOfCode_code]
      exact parseList_ok (by omega) hlen
  · have henc := listEncoding_ext (by omega) hn
    refine ⟨_, _, by simp only [listImage, henc]; rfl, ?_, ?_, iter_pairs_flat items⟩
    · simp only [List.length_cons, hlen]; omega
    · intro rest
      simp only [parseValue, List.cons_append, typeOfCode_code, parseExtListBias]
      exact parseList_ok (by omega) (by rw [hlen]; omega)

-- non-vacuity / concrete instance of `attr_list_roundtrip`
example : listImage [(196, false), (247, true)] = some [254, 4, 196, 0, 247, 1] := by decide
example : parseValue [254, 4, 196, 0, 247, 1, 9] = .ok (.list [(196, 0), (247, 1)], [9]) := by rfl
example : iterList [(196, 0), (247, 1)] = [(196, false), (247, true)] := by decide

theorem attr_list_roundtrip_rest (items : List (Nat × Bool)) (rest : List Nat) (hn : items.length ≤ 255) :
    ∃ img raw, listImage items = some img ∧ img.length = 2 + 2 * items.length ∧
      parseValue (img ++ rest) = .ok (.list raw, rest) ∧ iterList raw = items := by
  obtain ⟨img, raw, h1, h2, h3, h4⟩ := attr_list_roundtrip items hn
  exact ⟨img, raw, h1, h2, h3 rest, h4⟩

theorem attr_list_unencodable (items : List (Nat × Bool)) (h : 255 < items.length) : listImage items = none := by
  simp only [listImage, listEncoding_none h]

example : 255 < (List.replicate 256 (1, true)).length := by simp only [List.length_replicate]; omega

example : listEncoding 200 = some (144, .extAttrList) := by decide

theorem typeOfCode_none {t : Nat} (h1 : t ≠ 1) (h2 : t ≠ 2) (h3 : t ≠ 3) (h4 : t ≠ 4) (h5 : t ≠ 5) (h6 : t ≠ 6)
    (h7 : t ≠ 7) (h254 : t ≠ 254) (h255 : t ≠ 255) : typeOfCode t = none := by
  have e : ∀ k : Nat, t ≠ k → (k == t) = false := fun k h => by
    simp only [beq_eq_false_iff_ne, ne_eq]; exact fun h' => h h'.symm
  simp only [typeOfCode, codeTable, List.find?, e _ h1, e _ h2, e _ h3, e _ h4, e _ h5, e _ h6, e _ h7, e _ h254,
    e _ h255, Option.map_none]

theorem map_take (n : Nat) (r : List Nat) (f : List Nat → Value) :
    Except.map (fun p => p.2) (match attrTake n r with
      | .error e => (.error e : Except AttrErr (Value × List Nat))
      | .ok (d, rest) => .ok (f d, rest)) = Except.map (fun p => p.2) (attrTake n r) := by
  cases attrTake n r with
  | error e => rfl
  | ok p => rfl

theorem code_cases (t : Nat) : (∃ dt : DataType, t = dt.code) ∨
    (typeOfCode t = none ∧ t ≠ 1 ∧ t ≠ 2 ∧ t ≠ 3 ∧ t ≠ 4 ∧ t ≠ 5 ∧ t ≠ 6 ∧ t ≠ 7 ∧ t ≠ 254 ∧ t ≠ 255) := by
  by_cases h1 : t = 1; · exact .inl ⟨.visibleString, h1⟩
  by_cases h2 : t = 2; · exact .inl ⟨.unsignedInt, h2⟩
  by_cases h3 : t = 3; · exact .inl ⟨.signedInt, h3⟩
  by_cases h4 : t = 4; · exact .inl ⟨.floatingPoint, h4⟩
  by_cases h5 : t = 5; · exact .inl ⟨.octetString, h5⟩
  by_cases h6 : t = 6; · exact .inl ⟨.bitString, h6⟩
  by_cases h7 : t = 7; · exact .inl ⟨.dnp3Time, h7⟩
  by_cases h8 : t = 254; · exact .inl ⟨.attrList, h8⟩
  by_cases h9 : t = 255; · exact .inl ⟨.extAttrList, h9⟩
  exact .inr ⟨typeOfCode_none h1 h2 h3 h4 h5 h6 h7 h8 h9, h1, h2, h3, h4, h5, h6, h7, h8, h9⟩

open Dnp3.Gen.App in
/-- `Props.C09.parseValue_agrees_with_walk`: a type code outside the table fails both alike (`code_cases`), and
    under each of the nine codes both sides are the same take with the same guard (`map_take`) -/
theorem parseValue_agrees_with_walk (bs : List Nat) : (parseValue bs).map (·.2) = attrValue bs := by
  match bs with
  | [] => rfl
  | [t] =>
    rcases code_cases t with ⟨dt, rfl⟩ | ⟨hn, h1, h2, h3, h4, h5, h6, h7, h8, h9⟩
    · cases dt <;> rfl
    · simp [parseValue, attrValue, hn, attrVisibleString, attrUnsignedInt, attrSignedInt, attrFloatingPoint,
        attrOctetString, attrBitString, attrDnp3Time, attrAttrList, attrExtAttrList, h1, h2, h3, h4, h5, h6, h7, h8, h9,
        Except.map]
  | t :: len :: r =>
    rcases code_cases t with ⟨dt, rfl⟩ | ⟨hn, h1, h2, h3, h4, h5, h6, h7, h8, h9⟩
    · simp only [parseValue, typeOfCode_code]
      cases dt <;> simp [attrValue, DataType.code, attrVisibleString, attrUnsignedInt, attrSignedInt,
        attrFloatingPoint, attrOctetString, attrBitString, attrDnp3Time, attrAttrList, attrExtAttrList, parseList,
        parseListModulus, parseExtListBias]
      case visibleString =>
        cases attrTake len r with
        | error e => rfl
        | ok p => obtain ⟨d, rest⟩ := p; simp only []; split <;> rfl
      case unsignedInt =>
        split
        · exact map_take _ _ _
        · rfl
      case signedInt =>
        split
        · exact map_take _ _ _
        · rfl
      case floatingPoint =>
        by_cases h4 : len = 4
        · subst h4; exact map_take _ _ _
        · by_cases h8 : len = 8
          · subst h8; exact map_take _ _ _
          · simp only [h4, h8, if_false, or_self]; rfl
      case octetString => exact map_take _ _ _
      case bitString => exact map_take _ _ _
      case dnp3Time =>
        split
        · exact map_take _ _ _
        · rfl
      case attrList =>
        split
        · rfl
        · exact map_take _ _ _
      case extAttrList =>
        split
        · rfl
        · exact map_take _ _ _
    · simp [parseValue, attrValue, hn, attrVisibleString, attrUnsignedInt, attrSignedInt, attrFloatingPoint,
        attrOctetString, attrBitString, attrDnp3Time, attrAttrList, attrExtAttrList, h1, h2, h3, h4, h5, h6, h7, h8, h9,
        Except.map]
end Dnp3.Proofs.C09AttrValue
