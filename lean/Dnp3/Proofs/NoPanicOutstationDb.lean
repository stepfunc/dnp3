import Dnp3.Proofs.NoPanicOutstation
import Dnp3.Proofs.Database
/-!
# The outstation session model never panics (D1 and D3 repaired)

`Proofs/NoPanicOutstation.lean` treats the database as opaque and names the one cause of a panic the
session model has left: `CounterUnderflow s.db` (`Db.unwrittenClasses = none` on a database reachable from
`s.db` by the operations the session applies).  Here the database model is opened: `DbReach` is exactly the
closure under the seven database operations `DbOp` — the reachability of the component theorems
(`DbProofs.run`) — which preserves `CountersExact`, and exact counters exclude the underflow.
-/
namespace Dnp3.Proofs.NoPanicOutstation
open Dnp3 Dnp3.DbProofs

theorem DbReach.step {db0 db : Db} (h : DbReach db0 db) (op : DbOp) : DbReach db0 (DbProofs.step db op) := by
  cases op with
  | add t idx cls => exact .add db t idx cls h
  | update t idx v f tm => exact .update db t idx v f tm h
  | select hd => exact .select db hd h
  | write cap => exact .writeResponse db cap h
  | unsol c1 c2 c3 cap => exact .writeUnsolicited db c1 c2 c3 cap h
  | clear => exact .clearWritten db h
  | reset => exact .reset db h

theorem DbReach.run {db0 db : Db} (h : DbReach db0 db) (ops : List DbOp) : DbReach db0 (DbProofs.run db ops) := by
  induction ops generalizing db with
  | nil => exact h
  | cons op ops ih => exact ih (h.step op)

theorem dbReach_iff_run (db0 db : Db) : DbReach db0 db ↔ ∃ ops : List DbOp, db = DbProofs.run db0 ops := by
  constructor
  · intro h
    have snoc : ∀ {db : Db} (op : DbOp), (∃ ops, db = DbProofs.run db0 ops) →
        ∃ ops, DbProofs.step db op = DbProofs.run db0 ops :=
      fun op ⟨ops, e⟩ => ⟨ops ++ [op], by rw [run_append, ← e]; rfl⟩
    induction h with
    | refl => exact ⟨[], rfl⟩
    | select db hd _ ih => exact snoc (.select hd) ih
    | writeResponse db cap _ ih => exact snoc (.write cap) ih
    | writeUnsolicited db c1 c2 c3 cap _ ih => exact snoc (.unsol c1 c2 c3 cap) ih
    | clearWritten db _ ih => exact snoc .clear ih
    | reset db _ ih => exact snoc .reset ih
    | update db t idx v f tm _ ih => exact snoc (.update t idx v f tm) ih
    | add db t idx cls _ ih => exact snoc (.add t idx cls) ih
  · rintro ⟨ops, rfl⟩
    exact DbReach.refl.run ops

theorem dbReach_counters {db0 db : Db} (h0 : CountersExact db0) (h : DbReach db0 db) : CountersExact db := by
  obtain ⟨ops, rfl⟩ := (dbReach_iff_run db0 db).mp h
  exact counters_run db0 ops h0

theorem unwrittenClasses_ne_none {db : Db} (h : CountersExact db) : db.unwrittenClasses ≠ none := by
  obtain ⟨b1, b2, b3, hb, _⟩ := class_bits_exact_of_counters db h
  rw [hb]; simp

theorem no_counterUnderflow {db0 : Db} (h0 : CountersExact db0) : ¬ CounterUnderflow db0 := by
  rintro ⟨db, hr, hu⟩
  exact unwrittenClasses_ne_none (dbReach_counters h0 hr) hu

theorem outstation_step_no_panic_of_counters (env : OEnv) (s : OState) (i : OInput)
    (hdb : CountersExact s.db) :
    OOut.panic ∉ (Outstation.step env s i).2 ∧ (s.mode ≠ .dead → (Outstation.step env s i).1.mode ≠ .dead) :=
  outstation_no_panic_of_db env s i (fun _ hr hu => no_counterUnderflow hdb ⟨_, hr, hu⟩)

theorem start_alive_counters (cfg : OCfg) (evMax : Nat) :
    OOut.panic ∉ (Outstation.start cfg evMax).2 ∧ (Outstation.start cfg evMax).1.mode ≠ .dead ∧
      CountersExact (Outstation.start cfg evMax).1.db := by
  have hnp : OOut.panic ∉ (Outstation.start cfg evMax).2 := fun hp =>
    no_counterUnderflow (new_counters evMax none) (start_panic_cause cfg evMax hp)
  have hal : (Outstation.start cfg evMax).1.mode ≠ .dead := fun hd => hnp (start_dead_only_by_panic cfg evMax hd)
  refine ⟨hnp, hal, ?_⟩
  rcases start_dead_or_reach cfg evMax with h | h
  · exact absurd h hal
  · exact dbReach_counters (new_counters evMax none) h

theorem step_alive_counters (env : OEnv) (s : OState) (i : OInput) (h : s.mode ≠ .dead ∧ CountersExact s.db) :
    (Outstation.step env s i).1.mode ≠ .dead ∧ CountersExact (Outstation.step env s i).1.db := by
  have hal := (outstation_step_no_panic_of_counters env s i h.2).2 h.1
  refine ⟨hal, ?_⟩
  rcases step_dead_or_reach env s i with h' | h'
  · exact absurd h' hal
  · exact dbReach_counters h.2 h'

theorem reachable_alive_counters {cfg : OCfg} {evMax : Nat} {env : OEnv} {s : OState}
    (h : Outstation.Reachable cfg evMax env s) : s.mode ≠ .dead ∧ CountersExact s.db := by
  induction h with
  | start => exact (start_alive_counters cfg evMax).2
  | step s i _ ih => exact step_alive_counters env s i ih

/-- **No panic, unconditionally**, on every trace from construction: a step from a reachable state — any
    configuration, any event-buffer size, any history, any input — neither emits `panic` nor leaves the task dead -/
theorem outstation_reachable_no_panic {cfg : OCfg} {evMax : Nat} {env : OEnv} {s : OState}
    (hr : Outstation.Reachable cfg evMax env s) (i : OInput) :
    OOut.panic ∉ (Outstation.step env s i).2 ∧ (Outstation.step env s i).1.mode ≠ .dead := by
  obtain ⟨hal, hdb⟩ := reachable_alive_counters hr
  have := outstation_step_no_panic_of_counters env s i hdb
  exact ⟨this.1, this.2 hal⟩

theorem reachable_run {cfg : OCfg} {evMax : Nat} {env : OEnv} (is : List OInput) :
    ∀ {s : OState}, Outstation.Reachable cfg evMax env s → Outstation.Reachable cfg evMax env (Outstation.run env s is).1 := by
  induction is with
  | nil => intro s h; exact h
  | cons i is ih => intro s h; exact ih (.step s i h)

theorem d3State_reachable : Outstation.Reachable { unsolicited := true } 1 {} d3State :=
  reachable_run d3Inputs .start

theorem d1State_reachable : Outstation.Reachable { sol := 249 } 10 {} d1State := .start

end Dnp3.Proofs.NoPanicOutstation
