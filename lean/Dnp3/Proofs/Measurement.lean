import Dnp3.Model.Measurement
/-!
Helper lemmas for C10 (`Dnp3.Props.C10`): exact comparison / truncation of dyadic values,
the closed form `toInt` of the generated integer-conversion rows and its saturation law, the
common-time round trip.
-/
namespace Dnp3.Meas
open Dnp3.Gen.Conv

/-! ### `magGt` / `magTrunc` are exact: they are the integer statements of `m·2^e > K` and `⌊m·2^e⌋` -/

theorem magGt_nonneg (m : Nat) (e : Int) (K : Nat) (he : 0 ≤ e) :
    magGt m e K = true ↔ K < m * 2 ^ e.toNat := by
  simp [magGt, he]

theorem magGt_neg (m : Nat) (e : Int) (K : Nat) (he : ¬ 0 ≤ e) :
    magGt m e K = true ↔ K * 2 ^ (-e).toNat < m := by
  simp [magGt, he]

theorem magTrunc_floor (m : Nat) (e : Int) (he : ¬ 0 ≤ e) :
    magTrunc m e * 2 ^ (-e).toNat ≤ m ∧ m < (magTrunc m e + 1) * 2 ^ (-e).toNat := by
  have hd : 0 < 2 ^ (-e).toNat := Nat.two_pow_pos _
  simp only [magTrunc, he, if_false]
  constructor
  · exact Nat.div_mul_le_self m _
  · have := Nat.lt_succ_iff.mpr (Nat.le_refl (m / 2 ^ (-e).toNat))
    exact (Nat.div_lt_iff_lt_mul hd).mp this

theorem magTrunc_cmp (m : Nat) (e : Int) (K : Nat) :
    magGt m e K = true ∧ K ≤ magTrunc m e ∨ magGt m e K = false ∧ magTrunc m e ≤ K := by
  have hd : 0 < 2 ^ (-e).toNat := Nat.two_pow_pos _
  unfold magGt magTrunc
  by_cases he : 0 ≤ e <;> simp only [he, if_true, if_false, decide_eq_true_eq, decide_eq_false_iff_not]
  · omega
  · by_cases h : K * 2 ^ (-e).toNat < m
    · exact .inl ⟨h, (Nat.le_div_iff_mul_le hd).2 (Nat.le_of_lt h)⟩
    · exact .inr ⟨h, Nat.div_le_of_le_mul (by rw [Nat.mul_comm]; omega)⟩

def truncInt (neg : Bool) (m : Nat) (e : Int) : Int :=
  if neg then -((magTrunc m e : Nat) : Int) else ((magTrunc m e : Nat) : Int)

def outOfRange (N P : Nat) : AVal → Bool
  | .nan => true
  | .inf _ => true
  | .fin neg m e => (neg && magGt m e N) || (!neg && magGt m e P)

def clampTrunc (N P : Nat) : AVal → Int
  | .nan => 0
  | .inf true => -(N : Int)
  | .inf false => (P : Int)
  | .fin neg m e => max (-(N : Int)) (min (P : Int) (truncInt neg m e))

theorem clampTrunc_mem (N P : Nat) (v : AVal) : -(N : Int) ≤ clampTrunc N P v ∧ clampTrunc N P v ≤ (P : Int) := by
  cases v with
  | nan => simp only [clampTrunc]; omega
  | inf neg => cases neg <;> simp only [clampTrunc] <;> omega
  | fin neg m e => simp only [clampTrunc]; omega

/-- closed form of `AnalogConversions::to_i16 / to_i32` with `MIN = -N`, `MAX = P`:
`if v.is_nan() {(flags|OVER_RANGE, 0)} else if v < MIN {(flags|OVER_RANGE, MIN)}
 else if v > MAX {(flags|OVER_RANGE, MAX)} else {(flags, v as iN)}`.
`toI16_eq_toInt` / `toI32_eq_toInt` prove that this is what the GENERATED rows compute. -/
def toInt (N P : Nat) (v : AVal) (flags : Nat) : Nat × Int :=
  match v with
  | .nan => (setOverRange flags, 0)
  | .inf true => (setOverRange flags, -(N : Int))
  | .inf false => (setOverRange flags, (P : Int))
  | .fin neg m e =>
    if neg && magGt m e N then (setOverRange flags, -(N : Int))
    else if !neg && magGt m e P then (setOverRange flags, (P : Int))
    else (flags, truncInt neg m e)

/-- the row shape of an integer conversion in the source with the repair of D11: NaN first, then the two bounds -/
def intRow (c : Conv) (t : WTy) : AConv :=
  ⟨c, t, [⟨.isNan, true, .zero⟩, ⟨.ltMin, true, .min⟩, ⟨.gtMax, true, .max⟩], false, .cast⟩

/-- Rust's saturating cast agrees with plain truncation once both bound guards have failed -/
theorem castInt_in_range (N P : Nat) (neg : Bool) (m : Nat) (e : Int)
    (h : (if neg then magGt m e N else magGt m e P) = false) :
    castInt N P (.fin neg m e) = truncInt neg m e := by
  cases neg
  · have : ¬ (magTrunc m e > P) := by rcases magTrunc_cmp m e P with h' | h' <;> simp_all <;> omega
    simp [castInt, truncInt, this]
  · have : ¬ (magTrunc m e > N) := by rcases magTrunc_cmp m e N with h' | h' <;> simp_all <;> omega
    simp [castInt, truncInt, this]

theorem runConv_intRow (N P : Nat) (c : Conv) (t : WTy) (v : AVal) (flags : Nat) :
    runConv (intRow c t) (fun g => guardHolds N P g v) (retInt N P v) flags = toInt N P v flags := by
  cases v with
  | nan => rfl
  | inf neg => cases neg <;> rfl
  | fin neg m e =>
    cases neg
    · by_cases h : magGt m e P = true
      · simp [runConv, intRow, evalConv, guardHolds, retInt, toInt, h]
      · have h' : magGt m e P = false := by simpa using h
        have hc := castInt_in_range N P false m e (by simpa using h')
        simp [runConv, intRow, evalConv, guardHolds, retInt, toInt, h', hc]
    · by_cases h : magGt m e N = true
      · simp [runConv, intRow, evalConv, guardHolds, retInt, toInt, h]
      · have h' : magGt m e N = false := by simpa using h
        have hc := castInt_in_range N P true m e (by simpa using h')
        simp [runConv, intRow, evalConv, guardHolds, retInt, toInt, h', hc]

/-- the row shape of the float conversion: the two bounds, no NaN branch (NaN is representable) -/
def f32Row : AConv := ⟨.toF32, .f32, [⟨.ltMin, true, .min⟩, ⟨.gtMax, true, .max⟩], false, .cast⟩

/-- the rows regenerated from `trait AnalogConversions` are these three (fails to compile when the source of a method
changes shape, e.g. `to_i16` loses its NaN branch): the one place where the branch lists are looked at -/
theorem analogConvs_eq : analogConvs = [intRow .toI16 .i16, intRow .toI32 .i32, f32Row] := by decide

theorem convRow_int :
    convRow .toI16 = some (intRow .toI16 .i16) ∧ convRow .toI32 = some (intRow .toI32 .i32) := by
  simp only [convRow, analogConvs_eq]; exact ⟨rfl, rfl⟩

theorem convRow_f32 : convRow .toF32 = some f32Row := by
  simp only [convRow, analogConvs_eq]; rfl

theorem toI16_eq_toInt (v : AVal) (flags : Nat) : toI16 v flags = toInt 32768 32767 v flags := by
  simp only [toI16, convInt, convRow_int.1]
  exact runConv_intRow 32768 32767 .toI16 .i16 v flags

theorem toI32_eq_toInt (v : AVal) (flags : Nat) :
    toI32 v flags = toInt 2147483648 2147483647 v flags := by
  simp only [toI32, convInt, convRow_int.2]
  exact runConv_intRow 2147483648 2147483647 .toI32 .i32 v flags

theorem toInt_spec (N P : Nat) (v : AVal) (flags : Nat) :
    toInt N P v flags =
      (if outOfRange N P v then setOverRange flags else flags, clampTrunc N P v) := by
  cases v with
  | nan => rfl
  | inf neg => cases neg <;> rfl
  | fin neg m e =>
    -- the bound that was tested settles the clamp; the other bound is on the far side of 0
    cases neg
    · rcases magTrunc_cmp m e P with ⟨h, _⟩ | ⟨h, _⟩ <;>
        simp only [toInt, outOfRange, clampTrunc, truncInt, h, Bool.false_and, Bool.true_and, Bool.not_false,
          Bool.false_or, Bool.false_eq_true, if_true, if_false] <;> congr 1 <;> omega
    · rcases magTrunc_cmp m e N with ⟨h, _⟩ | ⟨h, _⟩ <;>
        simp only [toInt, outOfRange, clampTrunc, truncInt, h, Bool.false_and, Bool.true_and, Bool.not_true,
          Bool.or_false, Bool.false_eq_true, if_true, if_false] <;> congr 1 <;> omega

/-- the exact value of `.fin _ m e` is the integer of magnitude `k` -/
def isInteger (m : Nat) (e : Int) (k : Nat) : Prop :=
  if 0 ≤ e then k = m * 2 ^ e.toNat else m = k * 2 ^ (-e).toNat

theorem magTrunc_of_isInteger (m : Nat) (e : Int) (k : Nat) (h : isInteger m e k) :
    magTrunc m e = k := by
  unfold isInteger at h
  by_cases he : 0 ≤ e
  · simp only [he, if_true] at h; simp [magTrunc, he, h]
  · simp only [he, if_false] at h
    have hd : 0 < 2 ^ (-e).toNat := Nat.two_pow_pos _
    simp only [magTrunc, he, if_false, h]
    exact Nat.mul_div_cancel k hd

theorem magGt_of_isInteger (m : Nat) (e : Int) (k K : Nat) (h : isInteger m e k) (hk : k ≤ K) :
    magGt m e K = false := by
  refine Bool.eq_false_iff.2 fun hg => ?_
  unfold isInteger at h
  by_cases he : 0 ≤ e
  · rw [magGt_nonneg _ _ _ he] at hg; rw [if_pos he] at h; omega
  · rw [if_neg he] at h
    rw [magGt_neg _ _ _ he, h] at hg
    exact absurd (Nat.lt_of_mul_lt_mul_right hg) (by omega)

theorem toInt_integer (N P : Nat) (neg : Bool) (m : Nat) (e : Int) (k : Nat) (flags : Nat)
    (hk : isInteger m e k) (hin : if neg then k ≤ N else k ≤ P) :
    toInt N P (.fin neg m e) flags = (flags, if neg then -((k : Nat) : Int) else ((k : Nat) : Int)) := by
  have ht := magTrunc_of_isInteger m e k hk
  cases neg
  · have hg := magGt_of_isInteger m e k P hk (by simpa using hin)
    simp [toInt, truncInt, hg, ht]
  · have hg := magGt_of_isInteger m e k N hk (by simpa using hin)
    simp [toInt, truncInt, hg, ht]

theorem checkedAdd_zero (t : Time) : t.checkedAdd 0 = some t := by
  unfold Time.checkedAdd
  have : ¬ (0 > TS_MAX - t.ms) := by omega
  simp [this]

theorem checkedAdd_of_fits (c t : Time) (ht : t.ms ≤ TS_MAX) (h : ctoFits c t = true) :
    c.checkedAdd (t.ms - c.ms) = some t := by
  unfold ctoFits at h
  simp only [Bool.and_eq_true, beq_iff_eq, decide_eq_true_eq] at h
  obtain ⟨⟨hs, hle⟩, _⟩ := h
  unfold Time.checkedAdd
  have : ¬ (t.ms - c.ms > TS_MAX - c.ms) := by omega
  simp only [this, if_false]
  cases t; cases c; simp_all

theorem writeCtoEvents_cons (st : Option (Time × Nat)) (brk : Bool) (e : TEv) (es : List (Bool × TEv)) :
    (∃ c count, st = some (c, count) ∧ ctoFits c e.time = true ∧
      writeCtoEvents st ((brk, e) :: es) =
        .ev e.idx e.flags (e.time.ms - c.ms) :: writeCtoEvents (some (c, count + 1)) es) ∨
    writeCtoEvents st ((brk, e) :: es) = .cto e.time :: .ev e.idx e.flags 0 :: writeCtoEvents (some (e.time, 1)) es := by
  rw [writeCtoEvents]
  cases brk
  · rcases st with _ | ⟨c, count⟩
    · exact .inr rfl
    · by_cases hf : (decide (count < 65535) && ctoFits c e.time) = true
      · exact .inl ⟨c, count, rfl, (Bool.and_eq_true _ _ ▸ hf).2, by simp [hf]⟩
      · exact .inr (by simp [hf])
  · exact .inr rfl

theorem masterFold_write (evs : List (Bool × TEv)) :
    (∀ p ∈ evs, p.2.time.ms ≤ TS_MAX) →
    ∀ (st : Option (Time × Nat)) (c : Option Time),
      (∀ t n, st = some (t, n) → c = some t) →
      masterFold c (writeCtoEvents st evs) =
        evs.map fun p => (p.2.idx, p.2.flags, some p.2.time) := by
  induction evs with
  | nil => intros; rfl
  | cons p es ih =>
    intro hms st c hst
    obtain ⟨brk, e⟩ := p
    have he : e.time.ms ≤ TS_MAX := hms (brk, e) (List.mem_cons_self ..)
    have hes : ∀ p ∈ es, p.2.time.ms ≤ TS_MAX := fun p hp => hms p (List.mem_cons_of_mem _ hp)
    rcases writeCtoEvents_cons st brk e es with ⟨c', count, rfl, hfit, h⟩ | h <;> rw [h]
    · obtain rfl := hst c' count rfl
      simp only [masterFold, Option.bind_some, checkedAdd_of_fits c' e.time he hfit, List.map_cons]
      rw [ih hes _ _ (by intro t n h; cases h; rfl)]
    · simp only [masterFold, Option.bind_some, checkedAdd_zero e.time, List.map_cons]
      rw [ih hes _ _ (by intro t n h; cases h; rfl)]

end Dnp3.Meas
