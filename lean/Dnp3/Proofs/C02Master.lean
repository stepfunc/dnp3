import Dnp3.Proofs.Master
/-!
# C02 (i.a) — the master session model delivers only what a response carried

(i.a): "nothing fabricated" on the master's side, in the division of the property in the header of `Props/C02.lean`.

`AllG G a`: every output accumulated in `a : Acc` satisfies `G`, a predicate that holds of every output that is
not a handler delivery (`IsDelivery`).  `AllG G` survives every effect of the session but `Eff.deliver` (`allG_eff`),
so only `deliver` is looked at here, with the headers of the parsed response.
-/
namespace Dnp3.Proofs.C02Master
open Dnp3 Dnp3.Master Dnp3.Proofs.Master Dnp3.Proofs.C02MasterQuiet

def AllG (G : MOut → Prop) (a : Acc) : Prop := ∀ o ∈ a.2, G o

section
variable {G : MOut → Prop}

theorem allG_nil (s : MState) : AllG G (s, []) := by intro o ho; cases ho

theorem allG_snd {a b : Acc} (h : AllG G a) (e : b.2 = a.2) : AllG G b := by
  intro o ho; rw [e] at ho; exact h o ho

theorem allG_emit {a : Acc} {o : MOut} (h : AllG G a) (ho : G o) : AllG G (emit a o) := by
  intro x hx
  rcases List.mem_append.mp hx with hx | hx
  · exact h x hx
  · exact List.mem_singleton.mp hx ▸ ho

variable (hG : ∀ o, ¬ IsDelivery o → G o)
include hG

theorem allG_deliver {a : Acc} (h : AllG G a) (who : Who) (rt : ReadType) (r : Resp) (hs : List ObjHdr)
    (hh : ∀ hd ∈ hs, ∀ o ∈ headerCalls who hd, G o) : AllG G (deliver a who rt r hs) := by
  rw [deliver_eq]
  intro o ho
  simp only [List.mem_append, List.mem_singleton, List.mem_flatMap] at ho
  rcases ho with ho | (rfl | ⟨hd, hm, ho⟩) | rfl
  · exact h o ho
  · exact hG _ id
  · exact hh hd hm o ho
  · exact hG _ id

def HdrsOK (G : MOut → Prop) (r : Resp) : Prop :=
  ∀ hs, r.objects = some hs → ∀ hd ∈ hs, ∀ who, ∀ o ∈ headerCalls who hd, G o

abbrev StepG (G : MOut → Prop) (st : Step) : Prop := AllG G st.acc

omit hG in
theorem stepG_waiting {a : Acc} (h : AllG G a) : StepG G (.waiting a) := h
omit hG in
theorem stepG_linkDone {a : Acc} {uid : Option Nat} {res : Option TaskErr} (h : AllG G a) :
    StepG G (.linkDone a uid res) := h
omit hG in
theorem stepG_stop {a : Acc} {why : StopWhy} (h : AllG G a) : StepG G (.stop a why) := h

theorem allG_eff {c : Cause} {a b : Acc} (h : Eff c a b) (hr : ∀ src r, c.rx = some (src, r) → HdrsOK G r) (h0 : AllG G a) :
    AllG G b := by
  induction h with
  | refl => exact h0
  | out o _ ho ih => exact allG_emit ih (hG o (Plain.quiet ho).2)
  | request _ _ _ _ _ _ ih => exact allG_emit ih (hG _ id)
  | start _ _ _ _ _ _ _ _ _ _ ih => exact allG_emit ih (hG _ id)
  | confirm _ _ _ _ _ _ ih => exact allG_emit ih (hG _ id)
  | deliver src r who rt _ hc _ ih =>
    refine allG_deliver hG ih who rt r _ fun hd hm o ho => ?_
    cases hobj : r.objects with
    | none => rw [hobj] at hm; cases hm
    | some hs => rw [hobj] at hm; exact hr src r hc hs hobj hd hm _ o ho
  | done _ _ _ o _ _ ho ih =>
    exact allG_emit (allG_snd ih rfl) (hG o (by rcases ho with ⟨_, _, rfl⟩ | ⟨_, _, _, _, rfl⟩ <;> exact id))
  | session _ _ _ ih => exact allG_snd ih rfl
  | book _ _ _ _ ih => exact allG_snd ih rfl
  | pop _ _ _ _ _ _ ih => exact allG_snd ih rfl
  | reset _ _ ih => exact allG_snd ih rfl
  | heard _ _ _ ih => exact allG_snd ih rfl
  | push _ _ _ _ ih => exact allG_snd ih rfl
  | addAssoc _ _ _ _ ih => exact allG_snd ih rfl
  | removeAssoc _ _ _ ih => exact allG_snd ih rfl

theorem allG_step (s : MState) (inp : MInput)
    (hr : ∀ src dst data r, inp = .rx src dst data → parseResponse data = some r → HdrsOK G r) :
    AllG G (Master.step s inp) :=
  allG_eff hG (step_eff s inp) (fun _ r hc => by
    obtain ⟨dst, data, rfl, hp⟩ := causeOf_rx hc
    exact hr _ dst data r rfl hp) (allG_nil s)

end

def DataIn (d : List Nat) (o : Option (List ObjHdr)) : Prop := ∀ hs, o = some hs → ∀ h ∈ hs, h.data <:+: d

theorem DataIn.of_none {d : List Nat} : DataIn d none := nofun

theorem DataIn.of_ite {d : List Nat} {c : Prop} [Decidable c] {x y : Option (List ObjHdr)} (hx : DataIn d x) (hy : DataIn d y) :
    DataIn d (if c then x else y) := by
  split
  · exact hx
  · exact hy

/-- the continuation of the parser after one header whose data is `r.take len`, `r` a suffix of the input -/
theorem DataIn.of_cont {d r : List Nat} {fuel len : Nat} (ih : ∀ d, DataIn d (parseRespObjects fuel d)) (hr : r <:+ d)
    (g v q a b : Nat) :
    DataIn d (if r.length < len then none else
      match parseRespObjects fuel (r.drop len) with
      | some hs => some (⟨g, v, q, a, b, r.take len⟩ :: hs)
      | none => none) := by
  refine .of_ite .of_none ?_
  intro hs h x hx
  split at h
  · cases h
    rename_i hs' hp
    rcases List.mem_cons.mp hx with rfl | hx
    · exact (List.take_prefix _ _).isInfix.trans hr.isInfix
    · exact (ih _ _ hp x hx).trans ((List.drop_suffix _ _).isInfix.trans hr.isInfix)
  · cases h

theorem parse_data_infix (fuel : Nat) : ∀ d, DataIn d (parseRespObjects fuel d) := by
  induction fuel with
  | zero => intro d hs h; rw [parseRespObjects] at h; cases h; nofun
  | succ n ih =>
    intro d
    unfold parseRespObjects
    split
    · rename_i hf; cases hf
    · intro hs h; cases h; nofun
    · rename_i g v q rest hf
      cases Nat.succ.inj hf
      split
      · exact .of_none
      · dsimp only
        -- the qualifier codes 0x00, 0x01 (ranges), 0x07, 0x08 (counts), 0x17, 0x28 (counts of prefixed objects), each
        -- with the match on its range / count field: the data starts 4, 5 or 7 octets into the input
        refine .of_ite ?_ (.of_ite ?_ (.of_ite ?_ (.of_ite ?_ (.of_ite ?_ (.of_ite ?_ .of_none)))))
        all_goals split
        · refine .of_ite .of_none ?_
          split
          · exact .of_none
          · exact .of_cont ih (List.drop_suffix 5 _) _ _ _ _ _
        · exact .of_none
        · refine .of_ite .of_none ?_
          split
          · exact .of_none
          · exact .of_cont ih (List.drop_suffix 7 _) _ _ _ _ _
        · exact .of_none
        · split
          · exact .of_none
          · exact .of_cont ih (List.drop_suffix 4 _) _ _ _ _ _
        · exact .of_none
        · split
          · exact .of_none
          · exact .of_cont ih (List.drop_suffix 5 _) _ _ _ _ _
        · exact .of_none
        · split
          · exact .of_none
          · exact .of_cont ih (List.drop_suffix 4 _) _ _ _ _ _
        · exact .of_none
        · split
          · exact .of_none
          · exact .of_cont ih (List.drop_suffix 5 _) _ _ _ _ _
        · exact .of_none
    · exact .of_none

theorem headerCalls_items_infix (who : Who) (h : ObjHdr) (w : Who) (g v q : Nat) (items : List (Nat × List Nat))
    (ho : MOut.deliverHdr w g v q items ∈ headerCalls who h) : ∀ p ∈ items, p.2 <:+: h.data := by
  obtain ⟨l, hl, hc⟩ := deliverHeader_cases who h
  rw [headerCalls, hl] at ho
  rcases hc with rfl | ⟨t, rfl⟩ | ⟨items', rfl, hi⟩
  · cases ho
  · cases List.mem_singleton.mp ho
  · cases List.mem_singleton.mp ho
    exact hi

theorem parseResponse_raw (data : List Nat) (r : Resp) (h : parseResponse data = some r) :
    r.raw <:+ data ∧ r.objects = parseRespObjects r.raw.length r.raw := by
  refine ⟨?_, parseResponse_objects data r h⟩
  unfold parseResponse at h
  split at h
  · dsimp only at h
    repeat' split at h
    all_goals cases h
    all_goals exact ⟨[_, _, _, _], rfl⟩
  · cases h

end Dnp3.Proofs.C02Master
