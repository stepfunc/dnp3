import Dnp3.Proofs.Measurement
/-!
Specification side of C10's per-variation theorem: the object-library table written down from the
standard (`specTable`), "what a variation can carry" (`carry`), the table rows that realise a
specification row (`expectedTo` / `expectedFrom`) and the generic field-level round trip.
-/
namespace Dnp3.Meas
open Dnp3.Gen.Conv

theorem toF32_nan (flags r32 : Nat) : toF32 .nan flags r32 = (flags, r32) := by
  simp only [toF32, convRow_f32]; rfl

theorem toF32_inf (neg : Bool) (flags r32 : Nat) :
    toF32 (.inf neg) flags r32 = (setOverRange flags, if neg then F32_MIN_BITS else F32_MAX_BITS) := by
  simp only [toF32, convRow_f32]; cases neg <;> rfl

theorem toF32_fin (neg : Bool) (m : Nat) (e : Int) (flags r32 : Nat) :
    toF32 (.fin neg m e) flags r32 =
      if magGt m e F32_MAX then
        (setOverRange flags, if neg then F32_MIN_BITS else F32_MAX_BITS)
      else (flags, r32) := by
  simp only [toF32, convRow_f32]
  cases neg <;> by_cases h : magGt m e F32_MAX = true <;>
    simp [runConv, f32Row, evalConv, guardHolds, retF32, h]

/-- what a variation's value field is (IEEE 1815 object library) -/
inductive VKind | flagsOnly | u32 | u16 | i32 | i16 | f32 | f64
  deriving DecidableEq, Repr

structure VSpec where
  ty : MTy
  group : Nat
  var : Nat
  kind : VKind
  hasFlags : Bool
  hasTime : Bool
  deriving DecidableEq, Repr

/-- the 69 variations of the eight measurement types that have generated conversions, written
down from the standard's object library (NOT derived from conversion.rs) -/
def specTable : List VSpec := [
  ⟨.bi, 2, 2, .flagsOnly, true, true⟩, ⟨.bi, 2, 1, .flagsOnly, true, false⟩, ⟨.bi, 1, 2, .flagsOnly, true, false⟩,
  ⟨.bo, 11, 2, .flagsOnly, true, true⟩, ⟨.bo, 11, 1, .flagsOnly, true, false⟩, ⟨.bo, 10, 2, .flagsOnly, true, false⟩,
  ⟨.db, 4, 2, .flagsOnly, true, true⟩, ⟨.db, 4, 1, .flagsOnly, true, false⟩, ⟨.db, 3, 2, .flagsOnly, true, false⟩,
  ⟨.ct, 22, 6, .u16, true, true⟩, ⟨.ct, 22, 5, .u32, true, true⟩, ⟨.ct, 22, 2, .u16, true, false⟩, ⟨.ct, 22, 1, .u32, true, false⟩,
  ⟨.ct, 20, 6, .u16, false, false⟩, ⟨.ct, 20, 5, .u32, false, false⟩, ⟨.ct, 20, 2, .u16, true, false⟩, ⟨.ct, 20, 1, .u32, true, false⟩,
  ⟨.fc, 23, 6, .u16, true, true⟩, ⟨.fc, 23, 5, .u32, true, true⟩, ⟨.fc, 23, 2, .u16, true, false⟩, ⟨.fc, 23, 1, .u32, true, false⟩,
  ⟨.fc, 21, 10, .u16, false, false⟩, ⟨.fc, 21, 9, .u32, false, false⟩, ⟨.fc, 21, 6, .u16, true, true⟩, ⟨.fc, 21, 5, .u32, true, true⟩,
  ⟨.fc, 21, 2, .u16, true, false⟩, ⟨.fc, 21, 1, .u32, true, false⟩,
  ⟨.ai, 32, 8, .f64, true, true⟩, ⟨.ai, 32, 7, .f32, true, true⟩, ⟨.ai, 32, 6, .f64, true, false⟩, ⟨.ai, 32, 5, .f32, true, false⟩,
  ⟨.ai, 32, 4, .i16, true, true⟩, ⟨.ai, 32, 3, .i32, true, true⟩, ⟨.ai, 32, 2, .i16, true, false⟩, ⟨.ai, 32, 1, .i32, true, false⟩,
  ⟨.ai, 30, 6, .f64, true, false⟩, ⟨.ai, 30, 5, .f32, true, false⟩, ⟨.ai, 30, 4, .i16, false, false⟩, ⟨.ai, 30, 3, .i32, false, false⟩,
  ⟨.ai, 30, 2, .i16, true, false⟩, ⟨.ai, 30, 1, .i32, true, false⟩,
  ⟨.fa, 33, 8, .f64, true, true⟩, ⟨.fa, 33, 7, .f32, true, true⟩, ⟨.fa, 33, 6, .f64, true, false⟩, ⟨.fa, 33, 5, .f32, true, false⟩,
  ⟨.fa, 33, 4, .i16, true, true⟩, ⟨.fa, 33, 3, .i32, true, true⟩, ⟨.fa, 33, 2, .i16, true, false⟩, ⟨.fa, 33, 1, .i32, true, false⟩,
  ⟨.fa, 31, 8, .f64, true, false⟩, ⟨.fa, 31, 7, .f32, true, false⟩, ⟨.fa, 31, 6, .i16, false, false⟩, ⟨.fa, 31, 5, .i32, false, false⟩,
  ⟨.fa, 31, 4, .i16, true, true⟩, ⟨.fa, 31, 3, .i32, true, true⟩, ⟨.fa, 31, 2, .i16, true, false⟩, ⟨.fa, 31, 1, .i32, true, false⟩,
  ⟨.ao, 42, 8, .f64, true, true⟩, ⟨.ao, 42, 7, .f32, true, true⟩, ⟨.ao, 42, 6, .f64, true, false⟩, ⟨.ao, 42, 5, .f32, true, false⟩,
  ⟨.ao, 42, 4, .i16, true, true⟩, ⟨.ao, 42, 3, .i32, true, true⟩, ⟨.ao, 42, 2, .i16, true, false⟩, ⟨.ao, 42, 1, .i32, true, false⟩,
  ⟨.ao, 40, 4, .f64, true, false⟩, ⟨.ao, 40, 3, .f32, true, false⟩, ⟨.ao, 40, 2, .i16, true, false⟩, ⟨.ao, 40, 1, .i32, true, false⟩
]

/-- what the master must receive for measurement `m` sent through variation `s` ("what this
variation can carry"): the value exactly if representable, clamped truncation (+ OVER_RANGE) for
narrower integers (NaN, which no integer represents: 0 + OVER_RANGE), saturation to ±f32::MAX (+ OVER_RANGE) or the rounding for single floats, the
low 16 bits for 16-bit counters; the flag octet (value folded into the state bit(s)) or plain
ONLINE if the variation has none; the absolute time (reported as synchronised) or none. -/
def carry (s : VSpec) (m : Meas) (r32 : Nat) : Meas :=
  let v := AVal.ofBits m.val
  let f32sat : Bool := match v with
    | .nan => false
    | .inf _ => true
    | .fin _ mm e => magGt mm e F32_MAX
  let f32bits : Nat := match v with
    | .nan => r32
    | .inf neg => if neg then F32_MIN_BITS else F32_MAX_BITS
    | .fin neg mm e => if magGt mm e F32_MAX then (if neg then F32_MIN_BITS else F32_MAX_BITS) else r32
  { val := match s.kind with
      | .flagsOnly => if s.ty = .db then m.val % 4 else m.val % 2
      | .u32 => m.val
      | .u16 => m.val % 65536
      | .i16 => intToF64Bits (clampTrunc 32768 32767 v)
      | .i32 => intToF64Bits (clampTrunc 2147483648 2147483647 v)
      | .f32 => f32ToF64Bits f32bits
      | .f64 => m.val
    flags := if s.hasFlags then
        (match s.kind with
          | .flagsOnly => wireFlags s.ty m
          | .i16 => if outOfRange 32768 32767 v then setOverRange m.flags else m.flags
          | .i32 => if outOfRange 2147483648 2147483647 v then setOverRange m.flags else m.flags
          | .f32 => if f32sat then setOverRange m.flags else m.flags
          | _ => m.flags)
      else 1
    time := if s.hasTime then some ⟨true, (timeOrDefault m.time).ms⟩ else none }

def expectedTo (s : VSpec) : ToVar :=
  { ty := s.ty, group := s.group, var := s.var
    conv := match s.kind with
      | .i16 => some .toI16 | .i32 => some .toI32 | .f32 => some .toF32 | _ => none
    flags := if s.hasFlags then
        (match s.kind with
          | .flagsOnly => .getWireFlags
          | .i16 | .i32 | .f32 => .wireFlags
          | _ => .selfFlags)
      else .absent
    value := match s.kind with
      | .flagsOnly => .absent
      | .u32 | .f64 => .selfValue
      | .u16 => .selfValueAsU16
      | .i16 | .i32 | .f32 => .wireValue
    time := if s.hasTime then .selfTimeInto else .absent
    vty := match s.kind with
      | .flagsOnly => .none | .u32 => .u32 | .u16 => .u16 | .i32 => .i32 | .i16 => .i16 | .f32 => .f32 | .f64 => .f64
    tty := if s.hasTime then .ts48 else .none }

/-- `let flags = Flags::new(v.flags); … flags` and `Flags::new(v.flags)` are the same expression -/
def normFrom (f : FromVar) : FromVar :=
  { f with flags := match f.flags with | .letFlags => .newVFlags | x => x }

def expectedFrom (s : VSpec) : FromVar :=
  { ty := s.ty, group := s.group, var := s.var
    value := match s.kind with
      | .flagsOnly => if s.ty = .db then .flagsDoubleBit else .flagsState
      | .u32 | .f64 => .vValue
      | .u16 => .vValueAsU32
      | .i16 | .i32 | .f32 => .vValueAsF64
    flags := if s.hasFlags then .newVFlags else .online
    time := if s.hasTime then .someSynchronized else .none
    vty := match s.kind with
      | .flagsOnly => .none | .u32 => .u32 | .u16 => .u16 | .i32 => .i32 | .i16 => .i16 | .f32 => .f32 | .f64 => .f64
    tty := if s.hasTime then .ts48 else .none }

theorem fromVariation_norm (f : FromVar) (w : WObj) : fromVariation (normFrom f) w = fromVariation f w := by
  cases f with
  | mk ty g v val fl ti vty tty => cases fl <;> rfl

/-- a specification row is usable: a value carried in the state bit(s) needs the flag octet and
exists only for the binary types -/
def specOk (s : VSpec) : Bool :=
  s.kind != .flagsOnly || (s.hasFlags && (s.ty == .bi || s.ty == .bo || s.ty == .db))

theorem wireFlags_state {ty : MTy} (h : ty = .bi ∨ ty = .bo) (m : Meas) :
    wireFlags ty m % 128 = m.flags % 128 ∧ wireFlags ty m / 128 = m.val % 2 := by
  have hw : wireFlags ty m = m.flags % 128 + (if m.val % 2 == 1 then 128 else 0) := by
    rcases h with h | h <;> simp [wireFlags, h]
  rw [hw]
  by_cases hv : m.val % 2 = 1 <;> simp [hv] <;> omega

theorem wireFlags_doubleBit (m : Meas) :
    wireFlags .db m % 64 = m.flags % 64 ∧ wireFlags .db m / 64 = m.val % 4 := by
  simp only [wireFlags]
  rw [Nat.add_mul_mod_self_left, Nat.mod_mod, Nat.add_mul_div_left _ _ (by decide),
    Nat.div_eq_of_lt (Nat.mod_lt _ (by decide)), Nat.zero_add]
  exact ⟨rfl, rfl⟩

theorem roundtrip_expected (s : VSpec) (hs : specOk s = true) (m : Meas) (r32 : Nat) :
    fromVariation (expectedFrom s) (toVariation (expectedTo s) m r32) = carry s m r32 := by
  obtain ⟨ty, g, v, kind, hf, ht⟩ := s
  cases kind
  case flagsOnly =>
    have hf' : hf = true := by
      cases hf <;> simp_all [specOk]
    subst hf'
    cases ty <;> (try (simp [specOk] at hs; done)) <;> cases ht <;>
      simp [fromVariation, toVariation, expectedTo, expectedFrom, carry,
        wireFlags_state (ty := .bi) (.inl rfl) m, wireFlags_state (ty := .bo) (.inr rfl) m, wireFlags_doubleBit m]
  case u32 => cases hf <;> cases ht <;> simp [fromVariation, toVariation, expectedTo, expectedFrom, carry]
  case u16 => cases hf <;> cases ht <;> simp [fromVariation, toVariation, expectedTo, expectedFrom, carry]
  case f64 => cases hf <;> cases ht <;> simp [fromVariation, toVariation, expectedTo, expectedFrom, carry]
  case i16 =>
    have h := (toI16_eq_toInt (AVal.ofBits m.val) m.flags).trans
      (toInt_spec 32768 32767 (AVal.ofBits m.val) m.flags)
    cases hf <;> cases ht <;>
      simp [fromVariation, toVariation, expectedTo, expectedFrom, carry, convResult, h]
  case i32 =>
    have h := (toI32_eq_toInt (AVal.ofBits m.val) m.flags).trans
      (toInt_spec 2147483648 2147483647 (AVal.ofBits m.val) m.flags)
    cases hf <;> cases ht <;>
      simp [fromVariation, toVariation, expectedTo, expectedFrom, carry, convResult, h]
  case f32 =>
    have h : toF32 (AVal.ofBits m.val) m.flags r32 =
        ((if (match AVal.ofBits m.val with | .nan => false | .inf _ => true | .fin _ mm e => magGt mm e F32_MAX)
            then setOverRange m.flags else m.flags),
         (match AVal.ofBits m.val with
          | .nan => r32
          | .inf neg => if neg then F32_MIN_BITS else F32_MAX_BITS
          | .fin neg mm e => if magGt mm e F32_MAX then (if neg then F32_MIN_BITS else F32_MAX_BITS) else r32)) := by
      cases AVal.ofBits m.val with
      | nan => exact toF32_nan m.flags r32
      | inf neg => rw [toF32_inf]; rfl
      | fin neg mm e => rw [toF32_fin]; cases neg <;> by_cases hh : magGt mm e F32_MAX = true <;> simp [hh]
    cases hf <;> cases ht <;>
      simp [fromVariation, toVariation, expectedTo, expectedFrom, carry, convResult, h]

/-! ### the generated tables against the specification

A generated row is the realisation of a specification row (`toTable_perm`, `fromTable_perm`), and a specification row
is determined by its group and variation (`spec_lookup`).  So what holds of a generated row is proved of
`expectedTo s` / `expectedFrom s` / `carry s` for a specification row `s`, with no further look at the tables. -/

theorem toTable_perm : toTable.Perm (specTable.map expectedTo) := by decide +kernel

theorem fromTable_perm : (fromTable.map normFrom).Perm (specTable.map expectedFrom) := by decide +kernel

theorem spec_of_to {e : ToVar} (he : e ∈ toTable) : ∃ s ∈ specTable, expectedTo s = e :=
  List.mem_map.1 (toTable_perm.mem_iff.1 he)

theorem spec_of_from {f : FromVar} (hf : f ∈ fromTable) : ∃ s ∈ specTable, expectedFrom s = normFrom f :=
  List.mem_map.1 (fromTable_perm.mem_iff.1 (List.mem_map_of_mem hf))

theorem from_of_spec {s : VSpec} (hs : s ∈ specTable) : ∃ f ∈ fromTable, expectedFrom s = normFrom f :=
  let ⟨f, hf, e⟩ := List.mem_map.1 (fromTable_perm.mem_iff.2 (List.mem_map_of_mem hs))
  ⟨f, hf, e.symm⟩

theorem spec_lookup : ∀ s ∈ specTable, specTable.find? (fun t => t.group == s.group && t.var == s.var) = some s := by
  decide +kernel

theorem spec_key_inj {s s' : VSpec} (hs : s ∈ specTable) (hs' : s' ∈ specTable) (hg : s.group = s'.group)
    (hv : s.var = s'.var) : s = s' :=
  Option.some.inj ((spec_lookup s hs).symm.trans (hg ▸ hv ▸ spec_lookup s' hs'))

theorem kind_of_vty_u16 {s : VSpec} (h : (expectedTo s).vty = .u16) : s.kind = .u16 := by
  cases hk : s.kind <;> simp [expectedTo, hk] at h
  rfl

theorem specOk_all : ∀ s ∈ specTable, specOk s = true := by decide

/-- the binary types have flag-octet variations only (the value travels in the state bits) -/
theorem spec_binary : ∀ s ∈ specTable, s.ty = .bi ∨ s.ty = .bo ∨ s.ty = .db → s.kind = .flagsOnly ∧ s.hasFlags = true := by
  decide

theorem pair_roundtrip {s : VSpec} {f : FromVar} (hs : s ∈ specTable) (hf : f ∈ fromTable)
    (h2 : f.group = s.group) (h3 : f.var = s.var) (m : Meas) (r32 : Nat) :
    fromVariation f (toVariation (expectedTo s) m r32) = carry s m r32 := by
  obtain ⟨s', hs', hsf⟩ := spec_of_from hf
  have hk : s'.group = s.group ∧ s'.var = s.var := by
    have := congrArg (fun x : FromVar => (x.group, x.var)) hsf
    simpa [expectedFrom, normFrom, h2, h3] using this
  rw [← fromVariation_norm f, ← hsf, spec_key_inj hs' hs hk.1 hk.2]
  exact roundtrip_expected s (specOk_all s hs) m r32

end Dnp3.Meas
