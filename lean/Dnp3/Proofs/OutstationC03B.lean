import Dnp3.Proofs.OutstationC03A
/-!
# C03 (b), session level — outside a response series the database is clean

For every predicate `Clean` on databases satisfying `CleanContract` (established by `reset` /
`clearWritten` / `new`, preserved by selection, updates, point creation and by responses that carried
no event) the invariant `SessClean Clean` — "if the session is idle or awaits the confirm of a NULL
unsolicited response then the database is clean" — holds of the start state and is preserved by
every step from ANY state satisfying it, for ANY input.  The database stays OPAQUE in this file.
The instance "no record is `Written`" is `noWritten_contract` (`Dnp3.Proofs.OutstationC03Db`).
-/
namespace Dnp3.Proofs.C03
open Dnp3 Dnp3.Proofs.Frame Dnp3.Proofs.Skel Dnp3.Proofs.Iin

attribute [local irreducible] Db.new Db.add Db.update Db.readSupported Db.select Db.writeResponse
  Db.writeUnsolicited Db.clearWritten Db.reset Db.unwrittenClasses Db.isOverflown

theorem not_outside_dead : ¬ OutsideSeries .dead := by
  rintro (⟨n, h⟩ | ⟨r, rt, dl, h⟩) <;> cases h

theorem not_outside_solWait (sr : Series) (dl : Nat) (c : SolCont) : ¬ OutsideSeries (.solWait sr dl c) := by
  rintro (⟨n, h⟩ | ⟨r, rt, dl, h⟩) <;> cases h

theorem not_outside_data (r : Resp) (rt : Option Nat) (dl : Nat) : ¬ OutsideSeries (.unsolWait r false rt dl) := by
  rintro (⟨n, h⟩ | ⟨r, rt, dl, h⟩) <;> cases h

theorem outside_unsol_null {r : Resp} {b : Bool} {rt : Option Nat} {dl : Nat}
    (h : OutsideSeries (.unsolWait r b rt dl)) : b = true := by
  rcases h with ⟨n, h⟩ | ⟨r', rt', dl', h⟩
  · cases h
  · cases h; rfl

def Post (Clean : Db → Prop) (a : Acc) : Prop := SessClean Clean a.1

theorem Post.ofClean {Clean : Db → Prop} {a : Acc} (h : Clean a.1.db) : Post Clean a := fun _ => h

theorem Post.ofNot {Clean : Db → Prop} {a : Acc} (h : ¬ OutsideSeries a.1.mode) : Post Clean a :=
  fun ho => absurd ho h

theorem Post.same {Clean : Db → Prop} {a a' : Acc} (h : Post Clean a) (hs : Same a a') : Post Clean a' := by
  intro ho
  rw [hs.2]
  exact h (by rw [← hs.1]; exact ho)

theorem House.db {s s' : OState} (h : House s s') : s'.db = s.db := by
  obtain ⟨_, _, _, _, _, e⟩ := h; subst e; rfl

section
variable {Clean : Db → Prop}

theorem formatReadResponse_clean (K : CleanContract Clean) (s : OState) (fir : Bool) (seq iin2 : Nat)
    (hc : Clean s.db) (hn : (formatReadResponse s fir seq iin2).2.2 = none) :
    Clean (formatReadResponse s fir seq iin2).1.db := by
  refine K.writeNoEvents s.db (s.cfg.sol - 4) hc ?_
  rw [formatReadResponse_eq] at hn
  cases he : (s.db.writeResponse (s.cfg.sol - 4)).2.2.1 with
  | false => rfl
  | true => simp [he] at hn

theorem dbSelectAll_clean (K : CleanContract Clean) (db : Db) (hs : List ObjHdr) (hc : Clean db) :
    Clean (dbSelectAll db hs).1 := by
  induction hs generalizing db with
  | nil => exact hc
  | cons h hs ih => exact ih _ (K.select db (toReadHdr h) hc)

theorem deferredSelect_clean (K : CleanContract Clean) (db : Db) (hdrs : List ReadHdr) :
    Clean (deferredSelect db hdrs).1 := by
  unfold deferredSelect
  refine foldl_inv (fun p : Db × Nat => Clean p.1) _ (fun p h hp => ?_) hdrs _ (K.reset db)
  exact K.select p.1 h hp

theorem readPrep_clean (K : CleanContract Clean) (s : OState) (hs : List ObjHdr) (seq : Nat) (hc : Clean s.db) :
    Clean (formatReadResponse { s with db := (dbSelectAll s.db hs).1 } true seq (dbSelectAll s.db hs).2).1.db ∨
    (formatReadResponse { s with db := (dbSelectAll s.db hs).1 } true seq (dbSelectAll s.db hs).2).2.2 ≠ none := by
  cases hser : (formatReadResponse { s with db := (dbSelectAll s.db hs).1 } true seq (dbSelectAll s.db hs).2).2.2 with
  | none =>
    left
    exact formatReadResponse_clean K _ _ _ _ (dbSelectAll_clean K _ _ hc) hser
  | some sr => right; simp

theorem idleStage1_clean (K : CleanContract Clean) {a a1 : Acc} {f : Frag} {ctrl : AppCtrl} {func : Nat}
    {objs : Except Nat (List ObjHdr)} {raw : List Nat} {lr : Option (LastReq × Bool)} (hc : Clean a.1.db)
    (h : IdleStage1 a f ctrl func objs raw a1 lr) : Clean a1.1.db ∨ ∃ l e, lr = some (l, e) ∧ l.series ≠ none := by
  cases h with
  | confirm => exact .inl hc
  | bcast m a1 _ _ hp => exact .inl ((processBroadcast_eff hp).get .db ▸ hc)
  | nonRead hs a1 r _ _ _ _ hn => exact .inl ((handleNonRead_eff hn).get .db ▸ hc)
  | prep s1 lr _ _ _ _ _ _ _ hp =>
    cases hp with
    | malformed => exact .inl hc
    | read hs => exact (readPrep_clean K a.1 hs ctrl.seq hc).imp_right fun h1 => ⟨_, _, rfl, h1⟩
  | echo s1 last _ _ _ _ hs1 => rcases hs1 with rfl | ⟨sel, _, _, _, _, _, rfl⟩ <;> exact .inl hc

theorem idleStage2_none {f : Frag} {a1 a' : Acc} {lr : Option (LastReq × Bool)} {ser : Option Series}
    (h : IdleStage2 a1 f lr a' ser) (hs : ser = none) :
    a'.1.db = a1.1.db ∧ ∀ l e, lr = some (l, e) → l.series = none := by
  cases h with
  | nothing => exact ⟨rfl, nofun⟩
  | silent lr e _ => exact ⟨rfl, fun l e' hl => by cases hl; exact hs⟩
  | echo lr r _ => exact ⟨rfl, fun l e' hl => by cases hl; exact hs⟩
  | fresh lr r a2 r2 _ hw =>
    refine ⟨(writeSolicited_eff hw).get .db, fun l e' hl => ?_⟩
    cases hl
    split at hs
    · cases hs
    · exact hs

theorem idle_request_clean {Clean : Db → Prop} (K : CleanContract Clean) {a a' : Acc} {f : Frag} {ctrl : AppCtrl}
    {func : Nat} {objs : Except Nat (List ObjHdr)} {raw : List Nat} (hc : Clean a.1.db)
    (hh : handleRequestFromIdle a f ctrl func objs raw = some (a', none)) : Clean a'.1.db := by
  obtain ⟨a1, lr, s1, s2⟩ := handleRequestFromIdle_cases hh
  obtain ⟨hdb, hser⟩ := idleStage2_none s2 rfl
  rw [hdb]
  exact (idleStage1_clean K hc s1).elim id fun ⟨l, e, hl, hne⟩ => absurd (hser l e hl) hne

theorem checkUnsolicited_clean {Clean : Db → Prop} (K : CleanContract Clean) {a a' : Acc} {n : NextIdle}
    (hc : Clean a.1.db) (hh : checkUnsolicited a = some (.inr (a', n))) : Clean a'.1.db := by
  cases checkUnsolicited_cases a _ hh with
  | unsupported => exact hc
  | tooEarly => exact hc
  | disabled => exact hc
  | noEvents dl _ _ _ _ hz => exact K.unsolNone _ _ _ _ _ hz

/-- the unsolicited check that starts a series: a NULL series leaves the database as it was, a DATA series
    is inside a series -/
theorem checkUnsolicited_start_post {a a' : Acc}
    (hc : Clean a.1.db) (hh : checkUnsolicited a = some (.inl a')) : Post Clean a' := by
  cases checkUnsolicited_cases a _ hh with
  | null a1 _ _ hs =>
    obtain ⟨c1, c2, c3, r', _, _, e⟩ := startUnsolSeries_eq _ _ _ _ hs
    subst e
    refine Post.ofClean ?_
    show Clean (afterIin _).db
    rw [afterIin_eq]
    exact hc
  | data dl a1 _ _ _ _ _ hs =>
    obtain ⟨c1, c2, c3, r', _, _, e⟩ := startUnsolSeries_eq _ _ _ _ hs
    subst e
    exact Post.ofNot (not_outside_data _ _ _)

theorem handleDeferredRead_clean {Clean : Db → Prop} (K : CleanContract Clean) {a a' : Acc} {n : NextIdle}
    (hc : Clean a.1.db) (hh : handleDeferredRead a n = some (.inr a')) : Clean a'.1.db := by
  cases handleDeferredRead_cases a n _ hh with
  | none => exact hc
  | answered d a2 r2 hd hw hcon hser =>
    show Clean a2.1.db
    rw [(writeSolicited_eff hw).get .db]
    exact formatReadResponse_clean K _ _ _ _ (deferredSelect_clean K _ _) hser

theorem handleDeferredRead_wait_post {a a' : Acc} {n : NextIdle}
    (hh : handleDeferredRead a n = some (.inl a')) : Post Clean a' := by
  cases handleDeferredRead_cases a n _ hh with
  | awaiting d a2 r2 sr hd hw => exact Post.ofNot (not_outside_solWait _ _ _)

/-- the invariant at a point of the session: where the task blocks, outside a series the database is clean
    (a dead task is not outside a series); inside the idle pass it is clean -/
def CleanAt (Clean : Db → Prop) : Pt × Acc → Prop
  | (.blk, a) | (.halt, a) => Post Clean a
  | (_, a) => Clean a.1.db

theorem clean_diePt (a : Acc) : CleanAt Clean (diePt a) := Post.ofNot not_outside_dead

theorem clean_resumePt {a : Acc} (hc : Clean a.1.db) (c : SolCont) : CleanAt Clean (resumePt a c) := by
  cases c <;> exact hc

theorem clean_abortPt (K : CleanContract Clean) (a : Acc) (c : SolCont) : CleanAt Clean (abortPt a c) :=
  clean_resumePt (a := ({ a.1 with db := a.1.db.reset }, a.2)) (K.reset _) c

theorem clearWrittenEvents_clean (K : CleanContract Clean) (a : Acc) : Clean (clearWrittenEvents a).1.db := by
  rw [clearWrittenEvents_eq]
  exact K.clear _

theorem clean_finishUnsolPt (K : CleanContract Clean) (a : Acc) (isNull confirmed : Bool)
    (hn : isNull = true → Clean a.1.db) : CleanAt Clean (finishUnsolPt a isNull confirmed) := by
  show Clean (afterUnsolSeries a isNull confirmed).1.1.db
  cases isNull with
  | true => exact hn rfl
  | false =>
    cases confirmed with
    | true => rw [afterUnsolSeries_confirmed]; exact clearWrittenEvents_clean K a
    | false => rw [afterUnsolSeries_failed]; exact K.reset _

theorem clean_passCase (K : CleanContract Clean) {a : Acc} {fuel : Nat} {y : Pt × Acc} (hc : Clean a.1.db)
    (hy : PassCase a fuel y) :
    CleanAt Clean y := by
  obtain ⟨s, p, hpop, hy⟩ := hy
  have pop : Clean s.db := by rw [House.db (.of_pop hpop)]; exact hc
  cases hy with
  | nothing => exact pop
  | errorDie | requestDie => exact clean_diePt _
  | error a' hw =>
    show Clean a'.1.db
    rw [(writeErrorResponse_eff hw).get .db]; exact pop
  | requestWait => exact Post.ofNot (not_outside_solWait _ _ _)
  | request a' hq => exact idle_request_clean K (a := (onLinkActivity { s with pending := none }, a.2)) pop hq

theorem clean_solConfCase (K : CleanContract Clean) {a5 : Acc} {sr : Series} {cont : SolCont} {dst : Nat}
    {y : Pt × Acc} (h5 : Clean a5.1.db) (hc : SolConfCase a5 sr cont dst y) : CleanAt Clean y := by
  cases hc with
  | done => exact clean_resumePt h5 cont
  | die => exact clean_diePt _
  | last s6 r6 a7 r7 hfin hfr hw =>
    refine clean_resumePt (a := ({ a7.1 with lastReq := a7.1.lastReq.map (fun lr => { lr with response := some r7 }) }, a7.2))
      ?_ cont
    show Clean a7.1.db
    rw [(writeSolicited_eff hw).get .db]
    have := formatReadResponse_clean K _ false (seq4Next sr.ecsn) 0 h5 (by rw [hfr])
    rw [hfr] at this
    exact this
  | next => exact Post.ofNot (not_outside_solWait _ _ _)

theorem clean_swfCase (K : CleanContract Clean) {a : Acc} {sr : Series} {dl : Nat} {cont : SolCont} {y : Pt × Acc}
    (hm : a.1.mode = .solWait sr dl cont) (hc : SWFCase a sr cont y) : CleanAt Clean y := by
  obtain ⟨s, p, hpop, hc⟩ := hc
  have hsm : ¬ OutsideSeries s.mode := by
    rw [(House.of_pop hpop).mode, hm]; exact not_outside_solWait _ _ _
  cases hc with
  | nothing | unsolConfirm | wrongSeq => exact Post.ofNot hsm
  | error | newRequest => exact clean_abortPt K _ _
  | echo resp => cases resp <;> exact Post.ofNot (not_outside_solWait _ _ _)
  | confirmed hu hseq ht => exact clean_solConfCase K (clearWrittenEvents_clean K _) ht

theorem unsolWait_stays {a a' : Acc} {resp : Resp} {isNull : Bool} {rt : Option Nat} {dl : Nat}
    (hm : a.1.mode = .unsolWait resp isNull rt dl) (hn : isNull = true → Clean a.1.db) (hs : Same a a') :
    Post Clean a' := by
  intro ho
  rw [hs.1, hm] at ho
  rw [hs.2]
  exact hn (outside_unsol_null ho)

theorem clean_uwfCase (K : CleanContract Clean) {a : Acc} {resp : Resp} {isNull : Bool} {rt : Option Nat} {dl : Nat}
    {y : Pt × Acc} (hm : a.1.mode = .unsolWait resp isNull rt dl) (hn : isNull = true → Clean a.1.db)
    (hc : UWFCase a resp isNull y) : CleanAt Clean y := by
  have stays : ∀ a' : Acc, Same a a' → CleanAt Clean (.blk, a') := fun a' hs => unsolWait_stays hm hn hs
  have fin : ∀ a' : Acc, Same a a' → ∀ c, CleanAt Clean (finishUnsolPt a' isNull c) := fun a' hs c =>
    clean_finishUnsolPt K _ _ _ (fun hnull => by rw [hs.2]; exact hn hnull)
  obtain ⟨s, p, hpop, hc⟩ := hc
  have hh : House a.1 s := .of_pop hpop
  -- `popRequest`, consuming the fragment, noting link activity and dropping the deferred READ touch neither
  -- `mode` nor `db`: what a sub-handler keeps from there on is kept from `a`
  have thru : ∀ (b a' : Acc), b.1.mode = s.mode ∧ b.1.db = s.db → Same b a' → Same a a' := fun b a' hb hs =>
    ⟨hs.1.trans (hb.1.trans hh.mode), hs.2.trans (hb.2.trans (House.db hh))⟩
  have written : ∀ {a4 a5 : Acc} {dst r4 r5}, Same a a4 → Skel2.NRWritten a4 dst r4 a5 r5 → Same a a5 := by
    intro a4 a5 dst r4 r5 h4 hw
    rcases hw with ⟨_, e, _⟩ | ⟨r, r', _, hws, _⟩
    · rw [e]; exact h4
    · exact Same.trans h4 (.of_eff (writeSolicited_eff hws))
  cases hc with
  | nothing | otherConfirm | read => exact stays _ (thru _ _ ⟨rfl, rfl⟩ (Same.refl _))
  | errorDie | malformedDie | nonReadWriteDie => exact clean_diePt _
  | error a' hw => exact stays _ (thru _ _ ⟨rfl, rfl⟩ (.of_eff (writeErrorResponse_eff hw)))
  | unsolConfirm => exact fin _ (thru _ _ ⟨rfl, rfl⟩ (Same.refl _)) _
  | solConfirm => split <;> exact stays _ (thru _ _ ⟨rfl, rfl⟩ (Same.refl _))
  | bcast m a' _ _ hp =>
    exact stays _ (Same.trans (b := a') (thru _ _ ⟨rfl, rfl⟩ (.of_eff (processBroadcast_eff hp))) ⟨rfl, rfl⟩)
  | malformed a' r' _ _ hw => exact stays _ (thru _ _ ⟨rfl, rfl⟩ (.of_eff (writeSolicited_eff hw)))
  | nonRead a4 r4 a5 r5 _ _ _ hnr hw =>
    exact stays _ (Same.trans (b := a5) (written (thru _ _ ⟨rfl, rfl⟩ (.of_eff (handleNonRead_eff hnr))) hw) ⟨rfl, rfl⟩)
  | disable a4 r4 a5 r5 _ hnr hw =>
    refine fin _ ?_ _
    exact Same.trans (b := a5) (written (thru _ _ ⟨rfl, rfl⟩ (.of_eff (handleNonRead_eff hnr))) hw) ⟨rfl, rfl⟩
  | @echo f _ _ _ _ last =>
    cases last with
    | none => exact stays _ (thru _ _ ⟨rfl, rfl⟩ (Same.refl _))
    | some r =>
      exact stays _ (thru ({ (repeatSolicited _ f.src r).1 with deferred := none }, _) _ ⟨rfl, rfl⟩ (Same.refl _))

theorem clean_step (K : CleanContract Clean) {x y : Pt × Acc} (hs : Step x y) (h : CleanAt Clean x) :
    CleanAt Clean y := by
  have null : ∀ {a : Acc} {resp isNull rt dl}, Post Clean a → a.1.mode = .unsolWait resp isNull rt dl →
      isNull = true → Clean a.1.db := by
    intro a resp isNull rt dl h hm hnull
    subst hnull
    exact h (by rw [hm]; exact Or.inr ⟨_, _, _, rfl⟩)
  have pass : ∀ (a : Acc) n, Clean a.1.db → Clean (finishPass a n).1.db := fun a n hc =>
    (show (finishPass a n).1.db = a.1.db from (finishPass_eff a n).get .db) ▸ hc
  cases hs with
  | pass a n y hm _ hy => exact clean_passCase K (h (by rw [hm]; exact Or.inl ⟨n, rfl⟩)) hy
  | chkDie a => exact clean_diePt a
  | chkStart a _ a' hc => exact checkUnsolicited_start_post h hc
  | chkIdle a _ a' n hc => exact checkUnsolicited_clean K h hc
  | defDie a _ n => exact clean_diePt a
  | defWait a _ n a' hd => exact handleDeferredRead_wait_post hd
  | defDone a _ n a' hd => exact handleDeferredRead_clean K h hd
  | finishPass a _ n => exact Post.ofClean (pass a n h)
  | again a _ n y _ hy => exact clean_passCase K (pass a n h) hy
  | fuel a n => exact Post.ofClean (a := emitCb (finishPass a n) .modelFuelExhausted) (pass a n h)
  | solFragment a sr dl c y hm _ hc => exact clean_swfCase K hm hc
  | solTimeout a sr dl c => exact clean_abortPt K _ c
  | unsolFragment a resp isNull rt dl y hm _ hc => exact clean_uwfCase K hm (null h hm) hc
  | unsolTimeout a resp isNull rt dl y hm _ _ hc =>
    cases hc with
    | finish => exact clean_finishUnsolPt K _ _ _ (null h hm)
    | retry => exact fun ho => null (a := a) h hm (outside_unsol_null ho)

theorem CleanAt.ends (K : CleanContract Clean) {x z : Pt × Acc} (h : CleanAt Clean x) (hz : Star Step x z)
    (hf : z.1 = .blk ∨ z.1 = .halt) : Post Clean z.2 := by
  have := Star.inv (fun _ _ hs => clean_step K hs) hz h
  obtain ⟨p, b⟩ := z
  rcases hf with rfl | rfl <;> exact this

theorem stepInit_post (K : CleanContract Clean) {env : OEnv} {s : OState} {inp : OInput} {pf : Option Frag}
    {s0 : OState} {o0 : List OOut} (hi : StepInit env s inp pf s0 o0) (h : SessClean Clean s) :
    Post Clean (s0, o0) := by
  cases hi with
  | rx src dst data b hb => exact h
  | tick ms => exact h
  | txn items =>
    intro ho
    have hm : (txnFold s items).1.mode = s.mode := (txnFold_upd s items).get .mode
    exact txnFold_db K.update s items (h (by rw [← hm]; exact ho))
  | add t idx cls =>
    intro ho
    exact K.add _ _ _ _ (h ho)
  | cut => exact Post.ofClean (K.reset _)

end

theorem step_sessClean {Clean : Db → Prop} (K : CleanContract Clean) (env : OEnv) (s : OState) (inp : OInput)
    (h : SessClean Clean s) : SessClean Clean (Outstation.step env s inp).1 := by
  rcases step_steps env s inp with ⟨f, _, e⟩ | e | ⟨pf, s0, o0, z, hi, hz, hf, e⟩
  · rw [e]; exact h
  · rw [e]; exact h
  · rw [e]; exact CleanAt.ends K (x := (.blk, (s0, o0))) (stepInit_post K hi h) hz hf

theorem start_sessClean {Clean : Db → Prop} (K : CleanContract Clean) (cfg : OCfg) (evMax : Nat) :
    SessClean Clean (Outstation.start cfg evMax).1 := by
  obtain ⟨z, hz, hf, e⟩ := start_steps cfg evMax
  rw [e]
  exact CleanAt.ends K (x := (.blk, _)) (Post.ofClean (K.new _ _)) hz hf

theorem reachable_sessClean {Clean : Db → Prop} (K : CleanContract Clean) {cfg : OCfg} {evMax : Nat} {env : OEnv}
    {s : OState} (hr : Outstation.Reachable cfg evMax env s) : SessClean Clean s := by
  induction hr with
  | start => exact start_sessClean K cfg evMax
  | step s i _ ih => exact step_sessClean K env s i ih

/-! ## the hypotheses are satisfiable

The database is opaque in this file, so the only instance of the contract available here is the trivial
one; the intended instance ("no record is `Written`", `noWritten_contract`) and concrete instances of the
hypotheses of `idle_request_clean`, `checkUnsolicited_clean`, `handleDeferredRead_clean` are in
`Dnp3.Proofs.OutstationC03Db`. -/

example : CleanContract (fun _ : Db => True) :=
  ⟨fun _ _ => trivial, fun _ => trivial, fun _ => trivial, fun _ _ _ => trivial, fun _ _ _ _ _ _ _ => trivial,
   fun _ _ _ _ _ => trivial, fun _ _ _ _ => trivial, fun _ _ _ _ _ _ => trivial⟩

example {Clean : Db → Prop} (K : CleanContract Clean) (cfg : OCfg) (evMax : Nat) (env : OEnv) (i j : OInput) :
    SessClean Clean (Outstation.step env (Outstation.step env (Outstation.start cfg evMax).1 i).1 j).1 :=
  step_sessClean K env _ j (step_sessClean K env _ i (start_sessClean K cfg evMax))

end Dnp3.Proofs.C03
