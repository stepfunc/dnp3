import Dnp3.Props.C07Base
/-!
# Link layer: secondary-station state over a history of headers (C07, confirmed user data)

"Confirmed user data is delivered at most once per frame-count-bit toggle after a link reset."
-/
namespace Dnp3.Proofs.LinkLayerHist
open Dnp3 Dnp3.Props.C07

theorem processHeader_trichotomy (cfg : LinkCfg) (sec : SecState) (h : LHeader) :
    ((processHeader cfg sec h).1 = sec ∧
      ¬ ((Control.ofNat h.ctrl).func = .priConfirmedUserData ∧ (processHeader cfg sec h).2.1.isSome) ∧
      ¬ ((Control.ofNat h.ctrl).func = .priResetLinkStates ∧ (processHeader cfg sec h).2.2.isSome)) ∨
    ((Control.ofNat h.ctrl).func = .priResetLinkStates ∧ (Control.ofNat h.ctrl).fcv = false ∧
      ∃ s, processHeader cfg sec h = (.reset true, none, some ⟨s, .secAck⟩)) ∨
    ((Control.ofNat h.ctrl).func = .priConfirmedUserData ∧ (Control.ofNat h.ctrl).fcv = true ∧
      ∃ s b, sec = .reset (Control.ofNat h.ctrl).fcb ∧
        (processHeader cfg sec h).1 = .reset (!(Control.ofNat h.ctrl).fcb) ∧
        (processHeader cfg sec h).2.1 = some ⟨s, b, .data⟩) := by
  by_cases hi : processHeader cfg sec h = (sec, none, none)
  · rw [hi]; simp
  · have hA := acts_only_if_addressed cfg sec h hi
    obtain ⟨s, hsrc⟩ := hA.2.1
    rw [processHeader_accepted cfg sec h s hA hsrc]
    generalize bcastOf h.dst = b
    generalize Control.ofNat h.ctrl = c
    by_cases hr : c.func = .priResetLinkStates
    · cases hv : c.fcv
      · exact Or.inr (Or.inl ⟨hr, rfl, s, by simp [respond, hr, hv]⟩)
      · exact Or.inl (by simp [respond, hr, hv])
    · by_cases hc : c.func = .priConfirmedUserData
      · cases hv : c.fcv
        · exact Or.inl (by simp [respond, hc, hv])
        · cases sec with
          | notReset => exact Or.inl (by simp [respond, hc, hv])
          | reset e =>
            by_cases hb : c.fcb = e
            · exact Or.inr (Or.inr ⟨hc, rfl, s, b, by simp [respond, hc, hv, hb]⟩)
            · exact Or.inl (by simp [respond, hc, hv, hb])
      · refine Or.inl ⟨?_, fun h => hc h.1, fun h => hr h.1⟩
        unfold respond
        split
        · split <;> rfl
        · exact absurd ‹_› hr
        · exact absurd ‹_› hc
        · split <;> rfl
        · rfl
        · rfl

theorem confirmed_expected_delivered (cfg : LinkCfg) (h : LHeader) (hA : Addressed cfg h)
    (hf : (Control.ofNat h.ctrl).func = .priConfirmedUserData)
    (hfcv : (Control.ofNat h.ctrl).fcv = true) :
    ∃ s b, processHeader cfg (.reset (Control.ofNat h.ctrl).fcb) h =
      (.reset (!(Control.ofNat h.ctrl).fcb), some ⟨s, b, .data⟩,
        if b.isNone then some ⟨s, .secAck⟩ else none) := by
  obtain ⟨s, hsrc⟩ := hA.2.1
  exact ⟨s, bcastOf h.dst, by simp [processHeader_accepted cfg _ h s hA hsrc, respond, hf, hfcv]⟩

theorem confirmed_delivered_iff_expected (cfg : LinkCfg) (sec : SecState) (h : LHeader)
    (hf : (Control.ofNat h.ctrl).func = .priConfirmedUserData) :
    (processHeader cfg sec h).2.1.isSome = true ↔
      (Addressed cfg h ∧ (Control.ofNat h.ctrl).fcv = true ∧ sec = .reset (Control.ofNat h.ctrl).fcb) := by
  constructor
  · intro hd
    have hA : Addressed cfg h := acts_only_if_addressed cfg sec h (by
      intro he; rw [he] at hd; simp at hd)
    rcases processHeader_trichotomy cfg sec h with h1 | h2 | h3
    · exact absurd ⟨hf, hd⟩ h1.2.1
    · rw [hf] at h2; exact absurd h2.1 (by decide)
    · obtain ⟨_, hv, _, _, hs, _, _⟩ := h3
      exact ⟨hA, hv, hs⟩
  · rintro ⟨hA, hv, hs⟩
    obtain ⟨s, b, he⟩ := confirmed_expected_delivered cfg h hA hf hv
    rw [hs, he]; rfl

example : Addressed ⟨false, false, 1024⟩ ⟨0xF3, 1024, 1⟩ ∧
    (Control.ofNat 0xF3).func = .priConfirmedUserData ∧ (Control.ofNat 0xF3).fcv = true ∧
    (Control.ofNat 0xF3).fcb = true := by
  refine ⟨?_, by decide, by decide, by decide⟩
  unfold Addressed; exact ⟨by decide, ⟨1, by decide⟩, Or.inl (by decide)⟩

def alt : Bool → Nat → List Bool
  | _, 0 => []
  | b, n+1 => b :: alt (!b) n

def flipN (b : Bool) (n : Nat) : Bool := if n % 2 = 0 then b else !b

theorem alt_length (b : Bool) (n : Nat) : (alt b n).length = n := by
  induction n generalizing b with
  | zero => rfl
  | succ n ih => simp [alt, ih]

theorem flipN_succ (b : Bool) (n : Nat) : flipN b (n + 1) = !flipN b n := by
  unfold flipN; cases b <;> split <;> split <;> simp <;> omega

theorem flipN_not (b : Bool) (n : Nat) : flipN (!b) n = !flipN b n := by
  unfold flipN; split <;> simp

theorem alt_snoc (b : Bool) (n : Nat) : alt b n ++ [flipN b n] = alt b (n + 1) := by
  induction n generalizing b with
  | zero => simp [alt, flipN]
  | succ n ih =>
    rw [flipN_succ, ← flipN_not]
    show b :: (alt (!b) n ++ [flipN (!b) n]) = b :: alt (!b) (n + 1)
    rw [ih]

/-- what the history fold remembers: the secondary state, whether a link reset has been accepted
    so far, and the FCBs of the confirmed-user-data frames delivered since the last accepted link
    reset (or since the start of the history when there has been none) -/
structure Track where
  sec : SecState
  resetSeen : Bool
  fcbs : List Bool
deriving DecidableEq, Repr

def isResetAccepted (cfg : LinkCfg) (sec : SecState) (h : LHeader) : Bool :=
  decide ((Control.ofNat h.ctrl).func = .priResetLinkStates) && (processHeader cfg sec h).2.2.isSome

def isConfirmedDelivered (cfg : LinkCfg) (sec : SecState) (h : LHeader) : Bool :=
  decide ((Control.ofNat h.ctrl).func = .priConfirmedUserData) && (processHeader cfg sec h).2.1.isSome

def Track.step (cfg : LinkCfg) (t : Track) (h : LHeader) : Track :=
  let sec' := (processHeader cfg t.sec h).1
  if isResetAccepted cfg t.sec h then ⟨sec', true, []⟩
  else if isConfirmedDelivered cfg t.sec h then ⟨sec', t.resetSeen, t.fcbs ++ [(Control.ofNat h.ctrl).fcb]⟩
  else ⟨sec', t.resetSeen, t.fcbs⟩

def track (cfg : LinkCfg) (t : Track) (hs : List LHeader) : Track := hs.foldl (Track.step cfg) t

def Inv (sec0 : SecState) (t : Track) : Prop :=
  match t.resetSeen, sec0 with
  | true, _ => t.fcbs = alt true t.fcbs.length ∧ t.sec = .reset (flipN true t.fcbs.length)
  | false, .reset e0 => t.fcbs = alt e0 t.fcbs.length ∧ t.sec = .reset (flipN e0 t.fcbs.length)
  | false, .notReset => t.fcbs = [] ∧ t.sec = .notReset

theorem inv_step (cfg : LinkCfg) (sec0 : SecState) (t : Track) (h : LHeader) (hi : Inv sec0 t) :
    Inv sec0 (t.step cfg h) := by
  rcases processHeader_trichotomy cfg t.sec h with ⟨h1, h2, h3⟩ | ⟨hf, _, s, hr⟩ | ⟨hf, _, s, b, hs, hr, hd⟩
  · have e1 : isResetAccepted cfg t.sec h = false := by
      unfold isResetAccepted; simpa using h3
    have e2 : isConfirmedDelivered cfg t.sec h = false := by
      unfold isConfirmedDelivered; simpa using h2
    unfold Track.step
    simp only [e1, e2, h1]
    exact hi
  · have e1 : isResetAccepted cfg t.sec h = true := by
      unfold isResetAccepted; simp [hf, hr]
    unfold Track.step
    simp only [e1, hr]
    simp [Inv, alt, flipN]
  · have e1 : isResetAccepted cfg t.sec h = false := by
      unfold isResetAccepted; simp [hf]
    have e2 : isConfirmedDelivered cfg t.sec h = true := by
      unfold isConfirmedDelivered; simp [hf, hd]
    unfold Track.step
    simp only [e1, e2, hr]
    have key : ∀ b0, t.fcbs = alt b0 t.fcbs.length ∧ t.sec = .reset (flipN b0 t.fcbs.length) →
        t.fcbs ++ [(Control.ofNat h.ctrl).fcb] = alt b0 (t.fcbs ++ [(Control.ofNat h.ctrl).fcb]).length ∧
        SecState.reset (!(Control.ofNat h.ctrl).fcb) =
          .reset (flipN b0 (t.fcbs ++ [(Control.ofNat h.ctrl).fcb]).length) := by
      rintro b0 ⟨ha, hsec⟩
      rw [hs] at hsec
      injection hsec with hfcb
      rw [hfcb]
      simp only [List.length_append, List.length_cons, List.length_nil, Nat.zero_add]
      rw [← alt_snoc, ← ha, flipN_succ]
      exact ⟨rfl, rfl⟩
    unfold Inv at hi ⊢
    rcases t with ⟨tsec, seen, fcbs⟩
    cases seen
    · cases sec0 with
      | notReset => simp only at hi hs; rw [hi.2] at hs; cases hs
      | reset e0 => exact key e0 hi
    · exact key true hi

/-- **History**.  Over any list of received headers, starting in any secondary state `sec0`:
    * once a link reset has been accepted, the FCBs of the confirmed-user-data frames delivered
      since the last accepted reset are exactly `true, false, true, …`, and the state is
      `reset e` with `e` the next bit of that sequence;
    * if no reset has been accepted yet and `sec0 = reset e0`, the same holds starting from `e0`;
    * if no reset has been accepted yet and `sec0 = notReset`, no confirmed user data has been
      delivered at all. -/
theorem delivered_fcbs_alternate (cfg : LinkCfg) (sec0 : SecState) (hs : List LHeader) :
    Inv sec0 (track cfg ⟨sec0, false, []⟩ hs) := by
  have gen : ∀ (hs : List LHeader) (t : Track), Inv sec0 t → Inv sec0 (track cfg t hs) := by
    intro hs
    induction hs with
    | nil => intro t ht; exact ht
    | cons h hs ih => intro t ht; exact ih _ (inv_step cfg sec0 t h ht)
  apply gen
  cases sec0 <;> simp [Inv, alt, flipN]

theorem delivered_fcbs_since_reset (cfg : LinkCfg) (sec0 : SecState) (hs : List LHeader)
    (hr : (track cfg ⟨sec0, false, []⟩ hs).resetSeen = true) :
    (track cfg ⟨sec0, false, []⟩ hs).fcbs = alt true (track cfg ⟨sec0, false, []⟩ hs).fcbs.length ∧
    (track cfg ⟨sec0, false, []⟩ hs).sec =
      .reset (flipN true (track cfg ⟨sec0, false, []⟩ hs).fcbs.length) := by
  have h := delivered_fcbs_alternate cfg sec0 hs
  unfold Inv at h
  rw [hr] at h
  exact h

-- FCB=1 before any reset (dropped), a reset, then FCB=1 (delivered), FCB=1 again (retransmission:
-- dropped), FCB=0 (delivered)
example : track ⟨false, false, 1024⟩ ⟨.notReset, false, []⟩
    [⟨0xF3, 1024, 1⟩, ⟨0xC0, 1024, 1⟩, ⟨0xF3, 1024, 1⟩, ⟨0xF3, 1024, 1⟩, ⟨0xD3, 1024, 1⟩] =
    ⟨.reset true, true, [true, false]⟩ := by decide

theorem track_confirmed (cfg : LinkCfg) (hs : List LHeader)
    (hc : ∀ h ∈ hs, (Control.ofNat h.ctrl).func = .priConfirmedUserData) (t : Track) :
    (track cfg t hs).resetSeen = t.resetSeen ∧
    (track cfg t hs).fcbs = t.fcbs ++ deliveredFcbs cfg t.sec hs := by
  induction hs generalizing t with
  | nil => simp [track, deliveredFcbs]
  | cons h hs ih =>
    have hf := hc h List.mem_cons_self
    obtain ⟨i1, i2⟩ := ih (fun x hx => hc x (List.mem_cons_of_mem _ hx)) (t.step cfg h)
    show (track cfg (t.step cfg h) hs).resetSeen = _ ∧ (track cfg (t.step cfg h) hs).fcbs = _
    rw [i1, i2]
    rcases hp : processHeader cfg t.sec h with ⟨sec', _ | i, r⟩ <;>
      simp [Track.step, isResetAccepted, isConfirmedDelivered, deliveredFcbs, hf, hp]

example : ∀ h ∈ [(⟨0xF3, 1024, 1⟩ : LHeader), ⟨0xD3, 1024, 1⟩],
    (Control.ofNat h.ctrl).func = .priConfirmedUserData := by decide

end Dnp3.Proofs.LinkLayerHist
