import Dnp3.Proofs.OutstationC12
import Dnp3.Proofs.Database
/-!
# C12, closed over the database model

`dbContract`: the database model meets the contract (`DbContract`) the theorems of `Dnp3.Proofs.OutstationC12`
are parametric in.  The database is NOT opaque here.
-/
namespace Dnp3.Proofs.C12
open Dnp3

theorem dbContract : DbContract :=
  ⟨Dnp3.DbProofs.response_within_capacity, Dnp3.DbProofs.unsolicited_within_capacity⟩

-- `Inv` (hypothesis of `step_preserves_inv`, `step_tx_shape`, `run_tx_shape`): the state after construction,
-- here with unsolicited responses enabled (so the state is inside a NULL-unsolicited confirm wait)
example : Inv cfgU (Outstation.start cfgU 0).1 := start_inv dbContract 0 (by decide) (by decide)

-- … and a state reached by a READ from the master while that wait is pending (deferred read stored)
example : Inv cfgU (Outstation.step {} (Outstation.start cfgU 0).1 (.rx 1 1024 [0xC1, 1, 60, 1, 6])).1 :=
  step_preserves_inv dbContract {} (start_inv dbContract 0 (by decide) (by decide)) _

end Dnp3.Proofs.C12
