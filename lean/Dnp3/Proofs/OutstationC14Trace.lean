import Dnp3.Proofs.OutstationSkel2
import Dnp3.Proofs.OutstationC14
/-!
# C14 — whole-trace theorems about unsolicited reporting

Over ALL runs `Outstation.run env (Outstation.start cfg evMax).1 ins` (outputs `traceOuts`): the executable monitor
`uMon` accepts every trace (`unsol_trace_monitored`, by `Skel2.mon_trace` with the relation `J` between session state
and monitor state, kept by every event `Ev2`); then its verdict in plain terms, and the solicited confirm wait's
counterpart of `one_outstanding`.  `Props/C14.lean` lists the theorems.

`Db.*` is opaque throughout.
-/
namespace Dnp3.Proofs.C14Trace
open Dnp3 Dnp3.Proofs.Frame Dnp3.Proofs.Iin Dnp3.Proofs.Skel Dnp3.Proofs.Skel2 Dnp3.Proofs.C14

attribute [local irreducible] Db.new Db.add Db.update Db.readSupported Db.select Db.writeResponse
  Db.writeUnsolicited Db.clearWritten Db.reset Db.unwrittenClasses Db.isOverflown

/-- the octets a response record is transmitted as -/
def fragBytes (buf : List Nat) (r : Resp) : List Nat := (writeAt buf 0 (respHeader r)).take (max 4 r.size)

theorem fragBytes_func (buf : List Nat) (r : Resp) : (fragBytes buf r).getD 1 0 = r.func :=
  hdr_func buf r r.size

theorem fragBytes_idem (buf : List Nat) (r : Resp) :
    fragBytes (writeAt buf 0 (respHeader r)) r = fragBytes buf r := by
  unfold fragBytes
  rw [writeAt_zero_idem]

theorem fragBytes_null_length (buf : List Nat) (r : Resp) (h : r.size = 0) : (fragBytes buf r).length = 4 := by
  unfold fragBytes
  rw [hdr_take, h]
  rfl

theorem unsolBytes_eq (s : OState) (r : Resp) : unsolBytes s r = fragBytes s.unsolBuf r := rfl

theorem formatReadResponse_func (s : OState) (fir : Bool) (seq iin2 : Nat) :
    (formatReadResponse s fir seq iin2).2.1.func = 0x81 := rfl

/-- an unsolicited series as the monitor sees it: destination and octets of its first transmission, the
    sequence number its `unsolWait` callback announced, the number of retries seen so far -/
structure USer where
  dst : Nat
  bytes : List Nat
  seq : Nat
  used : Nat
deriving DecidableEq, Repr

inductive Expect where
  | nothing
  /-- an unsolicited fragment that is not a retry was transmitted: its `unsolWait` callback must follow -/
  | startCb (dst : Nat) (bytes : List Nat)
  /-- `unsolTimeout q true` was reported: the retransmission must follow -/
  | retryTx (q : Nat)
deriving DecidableEq, Repr

structure UMon where
  /-- an `unsolConfirmed` callback was seen -/
  confirmed : Bool := false
  ser : Option USer := none
  expect : Expect := .nothing
deriving DecidableEq, Repr

/-- the fragment is an unsolicited response: function octet 0x82 -/
def isUnsolFrag (b : List Nat) : Bool := b.getD 1 0 == 0x82

/-- `retries = none`: unlimited -/
def retryAllowed (retries : Option Nat) (used : Nat) : Bool :=
  match retries with
  | none => true
  | some n => decide (used < n)

/-- **the unsolicited-reporting monitor** over the outputs of a run (`none` = the trace is rejected):
    * a fragment with function 0x82 that is not a retry must be followed at once by its `unsolWait seq`
      callback (and an `unsolWait` callback never comes without it): that is the start of a series;
    * as long as no `unsolConfirmed` was seen every unsolicited fragment has exactly 4 octets (a NULL response);
    * `unsolTimeout q true` must be followed at once by a transmission to the same destination of exactly the
      octets the series `q` started with, and at most `retries` times per series;
    * `unsolConfirmed q` / `unsolTimeout q false` refer to the series outstanding. -/
def uMon (retries : Option Nat) (m : UMon) (o : OOut) : Option UMon :=
  match m.expect with
  | .startCb d b =>
    match o with
    | .cb (.unsolWait seq) => some { m with ser := some ⟨d, b, seq, 0⟩, expect := .nothing }
    | _ => none
  | .retryTx q =>
    match o, m.ser with
    | .tx d b, some sr =>
      if d = sr.dst ∧ b = sr.bytes ∧ q = sr.seq ∧ retryAllowed retries sr.used = true ∧
          (m.confirmed = true ∨ b.length = 4) then
        some { m with ser := some { sr with used := sr.used + 1 }, expect := .nothing }
      else none
    | _, _ => none
  | .nothing =>
    match o with
    | .tx d b =>
      if isUnsolFrag b then
        (if m.confirmed = true ∨ b.length = 4 then some { m with expect := .startCb d b } else none)
      else some m
    | .cb (.unsolWait _) => none
    | .cb (.unsolTimeout q true) => some { m with expect := .retryTx q }
    | .cb (.unsolTimeout q false) =>
      (match m.ser with
       | some sr => if sr.seq = q then some { m with ser := none } else none
       | none => none)
    | .cb (.unsolConfirmed q) =>
      (match m.ser with
       | some sr => if sr.seq = q then some { m with ser := none, confirmed := true } else none
       | none => none)
    | _ => some m

/-- outputs the monitor ignores (in its resting state) -/
def plainOut : OOut → Bool
  | .tx _ b => !isUnsolFrag b
  | .cb (.unsolWait _) | .cb (.unsolTimeout ..) | .cb (.unsolConfirmed _) => false
  | _ => true

theorem uMon_plain (retries : Option Nat) (m : UMon) (o : OOut) (he : m.expect = .nothing) (hp : plainOut o = true) :
    uMon retries m o = some m := by
  unfold uMon
  rw [he]
  cases o with
  | tx d b =>
    have : isUnsolFrag b = false := by simpa [plainOut] using hp
    simp [this]
  | cb c => cases c <;> simp_all [plainOut]
  | txLink => rfl
  | line => rfl
  | panic => rfl

theorem runMon_plain (retries : Option Nat) (m : UMon) (l : List OOut) (he : m.expect = .nothing)
    (hp : ∀ o ∈ l, plainOut o = true) : runMon (uMon retries) m l = some m := by
  induction l with
  | nil => rfl
  | cons o l ih =>
    simp only [runMon]
    rw [uMon_plain retries m o he (hp o (by simp))]
    exact ih (fun o' ho' => hp o' (by simp [ho']))

theorem plain_of_kind {o : OOut} {ks : List OKind} (h : OOut.kind o ∈ ks)
    (hk : ∀ k ∈ ks, k ≠ .tx ∧ k ≠ .unsolWait ∧ k ≠ .unsolTimeout ∧ k ≠ .unsolConfirmed) : plainOut o = true := by
  have := hk _ h
  cases o with
  | tx d b => exact absurd rfl this.1
  | cb c =>
    cases c <;> first | rfl | exact absurd rfl this.2.1 | exact absurd rfl this.2.2.1 | exact absurd rfl this.2.2.2
  | txLink => rfl
  | line => rfl
  | panic => rfl

theorem plain_tx {d : Nat} {b : List Nat} (h : b.getD 1 0 = 0x81) : plainOut (.tx d b) = true := by
  show (!(b.getD 1 0 == 0x82)) = true
  rw [h]
  rfl

/-- every stored response is a solicited response -/
def SolInv (s : OState) : Prop := ∀ lr r, s.lastReq = some lr → lr.response = some r → r.func = 0x81

def RetOk (retries : Option Nat) (rt : Option Nat) (k : Nat) : Prop :=
  ∀ n, retries = some n → ∃ r, rt = some r ∧ k + r ≤ n

def SerMatch (retries : Option Nat) (s : OState) (m : UMon) : Prop :=
  ∀ resp isNull rt dl, s.mode = .unsolWait resp isNull rt dl →
    resp.func = 0x82 ∧
    (∃ k, m.ser = some ⟨s.cfg.master, fragBytes s.unsolBuf resp, resp.ctrl.seq, k⟩ ∧ RetOk retries rt k) ∧
    s.unsolBuf = writeAt s.unsolBuf 0 (respHeader resp) ∧
    (isNull = true → rt = some 0 ∧ resp.size = 0) ∧ (s.unsol = .nullRequired → isNull = true)

def Common (retries : Option Nat) (s : OState) (m : UMon) : Prop :=
  s.cfg.retries = retries ∧ SolInv s ∧ (m.confirmed = false → s.unsol = .nullRequired) ∧ m.expect = .nothing

/-- the invariant: in phase `.blk` the mode is genuine and the monitor's series matches it -/
def J (retries : Option Nat) : Ph → OState → UMon → Prop
  | .blk, s, m => Common retries s m ∧ SerMatch retries s m
  | .tl, s, m => Common retries s m

theorem J.common {retries : Option Nat} {ph : Ph} {s : OState} {m : UMon} (h : J retries ph s m) :
    Common retries s m := by
  cases ph with
  | blk => exact h.1
  | tl => exact h

section
variable {retries : Option Nat}

/-- the fields the invariant reads -/
def kJ (s : OState) := (s.cfg, s.lastReq, s.unsol, s.mode, s.unsolBuf)

/-- what `Common` reads besides the stored response -/
def kC (s : OState) := (s.cfg, s.unsol)

theorem kC_of_kJ (s s' : OState) (h : kJ s' = kJ s) : kC s' = kC s := by
  simp only [kJ, kC, Prod.mk.injEq] at h ⊢
  exact ⟨h.1, h.2.2.1⟩

theorem kJ_of_upd {F} {s s' : OState} (h : Upd F s s')
    (hF : Apart [.cfg, .lastReq, .unsol, .mode, .unsolBuf] F := by decide) : kJ s' = kJ s := by
  have k := h.on hF
  rw [kJ, kJ, k.get .cfg, k.get .lastReq, k.get .unsol, k.get .mode, k.get .unsolBuf]

theorem SolInv.of_lastReq {s s' : OState} (hl : s'.lastReq = s.lastReq) (h : SolInv s) : SolInv s' :=
  fun lr r hl' => h lr r (hl ▸ hl')

theorem SolInv.of_keep {s s' : OState} (hk : kJ s' = kJ s) (h : SolInv s) : SolInv s' :=
  h.of_lastReq (congrArg (·.2.1) hk)

theorem solInv_some {s : OState} {lr : LastReq} (hl : s.lastReq = some lr)
    (h : ∀ r, lr.response = some r → r.func = 0x81) : SolInv s := by
  intro lr' r hl' hr
  rw [hl] at hl'
  cases hl'
  exact h r hr

theorem solInv_of_none {s : OState} (h : s.lastReq = none) : SolInv s := by
  intro lr r hl
  rw [h] at hl
  cases hl

theorem Common.of_sol {s s' : OState} {m : UMon} (hk : kC s' = kC s) (hs : SolInv s')
    (h : Common retries s m) : Common retries s' m := by
  simp only [kC, Prod.mk.injEq] at hk
  exact ⟨by rw [hk.1]; exact h.1, hs, by rw [hk.2]; exact h.2.2.1, h.2.2.2⟩

theorem Common.of_mon {s : OState} {m m' : UMon} (h1 : m'.confirmed = m.confirmed) (h2 : m'.expect = m.expect)
    (h : Common retries s m) : Common retries s m' :=
  ⟨h.1, h.2.1, fun hc => h.2.2.1 (by rw [← h1]; exact hc), by rw [h2]; exact h.2.2.2⟩

theorem SerMatch.of_keep {s s' : OState} {m : UMon} (hk : kJ s' = kJ s)
    (h : SerMatch retries s m) : SerMatch retries s' m := by
  simp only [kJ, Prod.mk.injEq] at hk
  intro resp isNull rt dl hm
  rw [hk.2.2.2.1] at hm
  have := h resp isNull rt dl hm
  rw [hk.1, hk.2.2.2.2, hk.2.2.1]
  exact this

theorem SerMatch.of_notUW {s : OState} {m : UMon}
    (h : ∀ resp isNull rt dl, s.mode ≠ .unsolWait resp isNull rt dl) : SerMatch retries s m :=
  fun resp isNull rt dl hm => absurd hm (h resp isNull rt dl)

theorem J.of_keep {ph : Ph} {s s' : OState} {m : UMon} (hk : kJ s' = kJ s)
    (h : J retries ph s m) : J retries ph s' m := by
  have hc := h.common.of_sol (kC_of_kJ _ _ hk) (h.common.2.1.of_keep hk)
  cases ph with
  | blk => exact ⟨hc, h.2.of_keep hk⟩
  | tl => exact hc

theorem jblk_of_common {s : OState} {m : UMon} (hc : Common retries s m)
    (hm : ∀ resp isNull rt dl, s.mode ≠ .unsolWait resp isNull rt dl) : J retries .blk s m :=
  ⟨hc, SerMatch.of_notUW hm⟩

theorem ser_of_blk {a : Acc} {m : UMon} {resp : Resp} {isNull : Bool} {rt : Option Nat} {dl : Nat}
    (hj : J retries .blk a.1 m) (hm : a.1.mode = .unsolWait resp isNull rt dl) :
    ∃ k, m.ser = some ⟨a.1.cfg.master, fragBytes a.1.unsolBuf resp, resp.ctrl.seq, k⟩ ∧ RetOk retries rt k :=
  (hj.2 resp isNull rt dl hm).2.1

abbrev PlainP : OOut → Prop := fun o => plainOut o = true

theorem MR.plainA {ph ph' : Ph} {a a' : Acc} (l : List OOut) (hl : a'.2 = a.2 ++ l)
    (hp : ∀ o ∈ l, plainOut o = true) (hj : ∀ m, J retries ph a.1 m → J retries ph' a'.1 m) :
    MR (uMon retries) (J retries) (ph, a) (ph', a') :=
  ⟨l, hl, fun m h => ⟨m, runMon_plain retries m l h.common.2.2.2 hp, hj m h⟩⟩

theorem MR.ofFrame {P : OOut → Prop} {ph ph' : Ph} {a a' : Acc} (hf : Frame kC P a a')
    (hp : SolInv a.1 → ∀ o, P o → plainOut o = true) (hs : SolInv a.1 → SolInv a'.1)
    (hm : ∀ m, J retries ph a.1 m → ph' = .blk → SerMatch retries a'.1 m) :
    MR (uMon retries) (J retries) (ph, a) (ph', a') := by
  obtain ⟨hk, l, el, hl⟩ := hf
  refine ⟨l, el, fun m hj => ⟨m, ?_, ?_⟩⟩
  · exact runMon_plain retries m l hj.common.2.2.2 (fun o ho => hp hj.common.2.1 o (hl o ho))
  · have hc : Common retries a'.1 m := hj.common.of_sol hk (hs hj.common.2.1)
    cases ph' with
    | blk => exact ⟨hc, hm m hj rfl⟩
    | tl => exact hc

theorem MR.tl {ph : Ph} {a a' : Acc} (hf : Frame kC PlainP a a') (hs : SolInv a.1 → SolInv a'.1) :
    MR (uMon retries) (J retries) (ph, a) (.tl, a') :=
  MR.ofFrame hf (fun _ _ h => h) hs (fun _ _ h => nomatch h)

theorem MR.blk {ph : Ph} {a a' : Acc} (hf : Frame kC PlainP a a') (hs : SolInv a.1 → SolInv a'.1)
    (hm : ∀ resp isNull rt dl, a'.1.mode ≠ .unsolWait resp isNull rt dl) :
    MR (uMon retries) (J retries) (ph, a) (.blk, a') :=
  MR.ofFrame hf (fun _ _ h => h) hs (fun _ _ _ => .of_notUW hm)

/-- the outputs are ignored by the monitor, granted `SolInv` (an echo) -/
theorem MR.keepS {ph : Ph} {a a' : Acc} (hf : Frame kJ (fun o => SolInv a.1 → plainOut o = true) a a') :
    MR (uMon retries) (J retries) (ph, a) (ph, a') := by
  obtain ⟨hk, l, el, hl⟩ := hf
  exact ⟨l, el, fun m h =>
    ⟨m, runMon_plain retries m l h.common.2.2.2 (fun o ho => hl o ho h.common.2.1), J.of_keep hk h⟩⟩

theorem MR.keepF {ph : Ph} {a a' : Acc} (hf : Frame kJ PlainP a a') :
    MR (uMon retries) (J retries) (ph, a) (ph, a') :=
  MR.keepS (hf.mono fun _ h _ => h)

theorem MR.keep {ph : Ph} {a : Acc} {s' : OState} (hk : kJ s' = kJ a.1) :
    MR (uMon retries) (J retries) (ph, a) (ph, (s', a.2)) :=
  MR.keepF (Frame.state _ _ a s' hk)

theorem keepJ_of_eff {F D ks} {a a' : Acc} (h : Frame.Eff F D (KP ks) a a')
    (hF : Apart [.cfg, .lastReq, .unsol, .mode, .unsolBuf] F := by decide)
    (hk : ∀ k ∈ ks, k ≠ .tx ∧ k ≠ .unsolWait ∧ k ≠ .unsolTimeout ∧ k ≠ .unsolConfirmed := by decide) :
    Frame kJ PlainP a a' :=
  ⟨kJ_of_upd h.1 hF, (h.outs.mono fun _ ho => plain_of_kind ho hk).2⟩

theorem wsol_frame {a : Acc} {dst : Nat} {r : Resp} {a' : Acc} {r' : Resp}
    (h : writeSolicited a dst r = some (a', r')) :
    r'.func = r.func ∧ Frame kJ (fun o => r.func = 0x81 → plainOut o = true) a a' := by
  obtain ⟨_, _, _, _, rfl, e⟩ := writeSolicited_eq h
  refine ⟨rfl, kJ_of_upd (writeSolicited_eff h).1, _, by rw [e, repeatSolicited_eq], ?_⟩
  exact List.forall_mem_singleton.2 (fun h81 => plain_tx ((fragBytes_func _ _).trans h81))

theorem wsol_plain {a : Acc} {dst : Nat} {r : Resp} {a' : Acc} {r' : Resp} (hf : r.func = 0x81)
    (h : writeSolicited a dst r = some (a', r')) : r'.func = 0x81 ∧ Frame kJ PlainP a a' :=
  ⟨(wsol_frame h).1.trans hf, (wsol_frame h).2.mono (fun _ hp => hp hf)⟩

theorem wsol_from {a a2 : Acc} {s0 : OState} {dst : Nat} {r r2 : Resp}
    (hw : writeSolicited (s0, a.2) dst r = some (a2, r2)) (hf : r.func = 0x81) (h0 : kC s0 = kC a.1) :
    r2.func = 0x81 ∧ Frame kC PlainP a a2 :=
  ⟨(wsol_plain hf hw).1, (Frame.state kC PlainP a s0 h0).trans ((wsol_plain hf hw).2.weaken kC_of_kJ)⟩

theorem echo_frame {a : Acc} {s' : OState} (hk : kC s' = kC a.1) (dst : Nat) (buf : List Nat) (r : Resp) :
    Frame kC (fun o => r.func = 0x81 → plainOut o = true) a (s', a.2 ++ [.tx dst (fragBytes buf r)]) :=
  ⟨hk, _, rfl, List.forall_mem_singleton.2 (fun h => plain_tx ((fragBytes_func buf r).trans h))⟩

theorem idleStage1_sol {a : Acc} {f : Frag} {ctrl : AppCtrl} {func : Nat} {objs : Except Nat (List ObjHdr)}
    {raw : List Nat} {a1 : Acc} {lr : Option (LastReq × Bool)}
    (h : IdleStage1 a f ctrl func objs raw a1 lr) (hs : SolInv a.1) :
    ∀ rec e r, lr = some (rec, e) → rec.response = some r → r.func = 0x81 := by
  intro rec e r hl hr
  cases h with
  | confirm | bcast => cases hl
  | nonRead hs' a1 r2 _ _ _ _ hn =>
    cases hl
    have hr' : r2 = some r := hr
    subst hr'
    exact handleNonRead_func hn
  | prep s1 lr _ _ _ _ _ hf =>
    cases hl
    exact hf r hr
  | echo s1 last _ _ _ _ _ hc =>
    obtain ⟨lq, hlq, _, _, hresp⟩ := classify_repeat (.inr hc)
    cases hl
    exact hs lq r hlq (by rw [← hresp]; exact hr)

/-- the `SolInv a.1` hypothesis: a repeated request is answered with the stored response -/
theorem reqIdle_sol {a : Acc} {f : Frag} {ctrl : AppCtrl} {func : Nat} {objs : Except Nat (List ObjHdr)}
    {raw : List Nat} {a' : Acc} {ser : Option Series}
    (h : handleRequestFromIdle a f ctrl func objs raw = some (a', ser)) :
    Frame kC (fun o => SolInv a.1 → plainOut o = true) a a' ∧ (SolInv a.1 → SolInv a'.1) := by
  obtain ⟨a1, lr, s1, s2⟩ := handleRequestFromIdle_cases h
  have f1 := keepJ_of_eff s1.eff
  have hr1 := idleStage1_sol s1
  have f1' : Frame kC (fun o => SolInv a.1 → plainOut o = true) a a1 :=
    (f1.weaken kC_of_kJ).mono (fun _ ho _ => ho)
  have noResp : ∀ {rec : LastReq}, rec.response = none → SolInv ({ a1.1 with lastReq := some rec } : OState) :=
    fun hresp => solInv_some rfl (fun r hr => by rw [hresp] at hr; cases hr)
  cases s2 with
  | nothing => exact ⟨f1', SolInv.of_keep f1.1⟩
  | silent rec e hresp => exact ⟨f1'.trans (Frame.state _ _ a1 _ rfl), fun _ => noResp hresp⟩
  | echo rec r hresp =>
    have hf : SolInv a.1 → r.func = 0x81 := fun hs => hr1 hs rec true r rfl hresp
    exact ⟨f1'.trans ((echo_frame rfl f.src a1.1.solBuf r).mono (fun _ ho hs => ho (hf hs))),
      fun hs => solInv_some rfl (fun r' hr => by rw [hresp] at hr; cases hr; exact hf hs)⟩
  | fresh rec r a2 r2 hresp hw =>
    have hf : SolInv a.1 → r.func = 0x81 := fun hs => hr1 hs rec false r rfl hresp
    obtain ⟨hf2, fw⟩ := wsol_frame hw
    exact ⟨f1'.trans (((fw.weaken kC_of_kJ).mono (fun _ ho hs => ho (hf hs))).trans
        (Frame.state _ _ a2 _ rfl)),
      fun hs => solInv_some rfl (fun r' hr => by cases hr; exact hf2.trans (hf hs))⟩

theorem finishPass_plain (a : Acc) (n : NextIdle) :
    Frame kC PlainP a (finishPass a n) ∧ (SolInv a.1 → SolInv (finishPass a n).1) := by
  obtain ⟨ls, l, e, hl⟩ := finishPass_eq a n
  rw [e]
  refine ⟨⟨rfl, l, rfl, ?_⟩, id⟩
  rcases hl with rfl | rfl
  · exact fun _ => nofun
  · exact List.forall_mem_singleton.2 rfl

theorem afterUnsolSeries_out (a : Acc) (isNull c : Bool) :
    ∃ l, (afterUnsolSeries a isNull c).1.2 = a.2 ++ l ∧ (∀ o ∈ l, plainOut o = true) ∧
      (afterUnsolSeries a isNull c).1.1.cfg = a.1.cfg ∧ (afterUnsolSeries a isNull c).1.1.lastReq = a.1.lastReq :=
  have h := afterUnsolSeries_eff a isNull c
  have ⟨l, e, hl⟩ := h.2.2
  ⟨l, e, fun o ho => plain_of_kind (hl o ho) (by decide), h.get .cfg, h.get .lastReq⟩

theorem common_after_failed {a : Acc} {m : UMon} {resp : Resp} {isNull : Bool} {rt : Option Nat} {dl : Nat}
    (hm : a.1.mode = .unsolWait resp isNull rt dl) (hj : J retries .blk a.1 m) :
    Common retries (afterUnsolSeries a isNull false).1.1 m := by
  obtain ⟨hc, hsm⟩ := hj
  obtain ⟨_, _, _, hcfg, hlr⟩ := afterUnsolSeries_out a isNull false
  obtain ⟨h1, h2, h3, h4⟩ := hc
  refine ⟨by rw [hcfg]; exact h1, ?_, ?_, h4⟩
  · intro lr r hl
    rw [hlr] at hl
    exact h2 lr r hl
  · intro hcf
    rw [(hsm resp isNull rt dl hm).2.2.2.2 (h3 hcf), afterUnsolSeries_null]
    rfl

theorem startSeries_mr {a0 : Acc} {r : Resp} {isNull : Bool} {a' : Acc}
    (hs : startUnsolSeries a0 r isNull = some a') (hf : r.func = 0x82) (hsz : isNull = true → r.size = 0) :
    ∃ l, a'.2 = a0.2 ++ l ∧ ∀ m, Common retries a0.1 m → (m.confirmed = false → isNull = true) →
      (a0.1.unsol = .nullRequired → isNull = true) →
      ∃ m', runMon (uMon retries) m l = some m' ∧ J retries .blk a'.1 m' := by
  obtain ⟨c1, c2, c3, r', _, hr, e⟩ := startUnsolSeries_eq _ _ _ _ hs
  have hf' : r'.func = 0x82 := by rw [hr]; exact hf
  have hsz' : r'.size = r.size := by rw [hr]
  have hseq' : r'.ctrl = r.ctrl := by rw [hr]
  have hk : kJ (afterIin a0.1) = kJ a0.1 := by rw [afterIin_eq]; rfl
  refine ⟨_, by rw [e], fun m hc hconf hnull => ?_⟩
  have hB : isUnsolFrag (fragBytes (afterIin a0.1).unsolBuf r') = true := by
    unfold isUnsolFrag
    rw [fragBytes_func, hf']
    rfl
  have hlen : m.confirmed = true ∨ (fragBytes (afterIin a0.1).unsolBuf r').length = 4 := by
    cases hcf : m.confirmed with
    | true => exact Or.inl rfl
    | false => exact Or.inr (fragBytes_null_length _ _ (by rw [hsz']; exact hsz (hconf hcf)))
  refine ⟨{ m with ser := some ⟨a0.1.cfg.master, fragBytes (afterIin a0.1).unsolBuf r', r.ctrl.seq, 0⟩ }, ?_, ?_⟩
  · show runMon (uMon retries) m [OOut.tx a0.1.cfg.master (fragBytes (afterIin a0.1).unsolBuf r'),
      OOut.cb (.unsolWait r.ctrl.seq)] = _
    simp only [runMon, uMon, hc.2.2.2, hB, if_true, hlen]
  · rw [e]
    refine ⟨Common.of_mon rfl rfl (hc.of_sol (kC_of_kJ _ _ hk :) (hc.2.1.of_keep hk :)), ?_⟩
    simp only [kJ, Prod.mk.injEq] at hk
    intro resp isNull' rt dl hmode
    cases hmode
    refine ⟨hf', ⟨0, ?_, ?_⟩, ?_, ?_, ?_⟩
    · show some _ = some (USer.mk (afterIin a0.1).cfg.master
        (fragBytes (writeAt (afterIin a0.1).unsolBuf 0 (respHeader r')) r') r'.ctrl.seq 0)
      rw [fragBytes_idem, hk.1, hseq']
    · intro n hn
      cases isNull with
      | true => exact ⟨0, rfl, by omega⟩
      | false => exact ⟨n, hc.1.trans hn, by omega⟩
    · exact (writeAt_zero_idem _ _).symm
    · intro hn
      subst hn
      exact ⟨rfl, by rw [hsz']; exact hsz rfl⟩
    · intro hn
      exact hnull (hk.2.2.1.symm.trans hn)

theorem deferredFormat_func (s : OState) (d : Deferred) : (deferredFormat s d).2.1.func = 0x81 := rfl

theorem Ev2.mr {pf : Option Frag} {ph ph' : Ph} {a a' : Acc} (h : Ev2 pf ph a ph' a') :
    MR (uMon retries) (J retries) (ph, a) (ph', a') := by
  cases h with
  | house _ _ s' hh =>
    obtain ⟨n, l, p, hp, e⟩ := hh
    subst e
    exact MR.keep rfl
  | noteCb _ _ c hc => exact MR.keepF (Frame.emitCb _ _ a c (by cases c <;> first | rfl | cases hc))
  | die _ _ =>
    exact MR.blk ⟨rfl, [.panic], rfl, List.forall_mem_singleton.2 rfl⟩ id (fun _ _ _ _ hm => by cases hm)
  | clrDeferred _ _ => exact MR.keep rfl
  | dbReset _ _ => exact MR.keep rfl
  | errResp _ _ src bc seq _ _ hw =>
    rcases writeErrorResponse_cases hw with rfl | ⟨q, r2, _, hws⟩
    · exact MR.refl _ _ _
    · exact MR.keepF (wsol_plain rfl hws).2
  | enter _ n hm => exact MR.tl (Frame.refl _ _ _) id
  | reqIdle _ f ctrl func objs raw _ hq hh =>
    exact MR.ofFrame (reqIdle_sol hh).1 (fun hs _ ho => ho hs) (reqIdle_sol hh).2 (fun _ _ h => nomatch h)
  | reqIdleWait _ f ctrl func objs raw a1 sr hq hh =>
    exact MR.trans
      (MR.ofFrame (ph' := .tl) (reqIdle_sol hh).1 (fun hs _ ho => ho hs) (reqIdle_sol hh).2 (fun _ _ h => nomatch h))
      (MR.blk ⟨rfl, [.cb (.solWait sr.ecsn)], rfl, List.forall_mem_singleton.2 rfl⟩ id (fun _ _ _ _ hm => by cases hm))
  | chkStart _ _ hc =>
    cases checkUnsolicited_cases _ _ hc with
    | null a1 hu hn hs =>
      obtain ⟨l, el, c⟩ := startSeries_mr (retries := retries) hs rfl (fun _ => rfl)
      exact ⟨l, el, fun m hj => c m hj (fun _ => rfl) (fun _ => rfl)⟩
    | data dl a1 hu hr hd hen hz hs =>
      obtain ⟨l, el, c⟩ := startSeries_mr (retries := retries) hs rfl (fun h => by cases h)
      exact ⟨l, el, fun m hj => c m hj (fun hcf => nomatch hr.symm.trans (hj.2.2.1 hcf))
        (fun hnull => nomatch hr.symm.trans hnull)⟩
  | chkIdle _ _ n hc =>
    cases checkUnsolicited_cases _ _ hc with
    | unsupported => exact MR.refl _ _ _
    | tooEarly => exact MR.refl _ _ _
    | disabled => exact MR.refl _ _ _
    | noEvents => exact MR.tl (Frame.state _ _ a _ rfl) id
  | defWait _ n _ hd =>
    cases handleDeferredRead_cases _ _ _ hd with
    | awaiting d a2 r2 sr hdd hw =>
      obtain ⟨hf2, fw⟩ := wsol_from hw (deferredFormat_func a.1 d) rfl
      exact MR.blk (fw.trans ⟨rfl, [.cb (.solWait sr.ecsn)], rfl, List.forall_mem_singleton.2 rfl⟩)
        (fun _ => solInv_some rfl (fun _ hr => by cases hr; exact hf2)) (fun _ _ _ _ hm => by cases hm)
  | defDone _ n _ hd =>
    cases handleDeferredRead_cases _ _ _ hd with
    | none => exact MR.refl _ _ _
    | answered d a2 r2 hdd hw hcon hser =>
      obtain ⟨hf2, fw⟩ := wsol_from hw (deferredFormat_func a.1 d) rfl
      exact MR.tl (fw.trans (Frame.state _ _ a2 _ rfl))
        (fun _ => solInv_some rfl (fun _ hr => by cases hr; exact hf2))
  | finishPass _ n =>
    obtain ⟨x, hx⟩ := finishPass_idle a n
    exact MR.blk (finishPass_plain a n).1 (finishPass_plain a n).2 (fun _ _ _ _ hm => by rw [hx] at hm; cases hm)
  | solEcho _ sr dl c f ctrl func objs raw resp hs hm hq hc =>
    obtain ⟨last, hl, _, _, hresp⟩ := classify_repeat (.inl ⟨_, hc⟩)
    unfold solEchoAcc
    cases resp with
    | none => exact MR.blk (Frame.state _ _ a _ rfl) id (fun _ _ _ _ hm => by cases hm)
    | some r =>
      exact MR.ofFrame (echo_frame rfl f.src a.1.solBuf r) (fun hs _ ho => ho (hs last r hl hresp.symm)) id
        (fun _ _ _ => .of_notUW (fun _ _ _ _ hm => by cases hm))
  | solAbortNew _ sr dl c hm _ => exact MR.tl (Frame.emitCb _ _ a _ rfl) id
  | solAbortTimeout _ sr dl c hm _ => exact MR.tl (Frame.emitCb _ _ a _ rfl) id
  | solConf _ sr dl c f ctrl objs raw hm hq hu hs =>
    have fc := keepJ_of_eff
      (clearWrittenEvents_eff ({ a.1 with lastBroadcast := none }, a.2 ++ [.cb (.solConfirmed sr.ecsn)]))
    have f0 : Frame kC PlainP a ({ a.1 with lastBroadcast := none }, a.2 ++ [.cb (.solConfirmed sr.ecsn)]) :=
      ⟨rfl, [_], rfl, List.forall_mem_singleton.2 rfl⟩
    exact MR.tl (f0.trans (fc.weaken kC_of_kJ)) (SolInv.of_keep fc.1)
  | solCont _ sr dl c f a7 r7 hm hfin hq hw =>
    obtain ⟨hf7, fw⟩ := wsol_from hw (formatReadResponse_func a.1 false (seq4Next sr.ecsn) 0) rfl
    refine MR.tl (fw.trans (Frame.state _ _ a7 _ rfl)) (fun _ lr r hl hr => ?_)
    have hl' : a7.1.lastReq.map (fun lr => { lr with response := some r7 }) = some lr := hl
    cases hl7 : a7.1.lastReq with
    | none => rw [hl7] at hl'; cases hl'
    | some lr0 =>
      rw [hl7] at hl'
      cases hl'
      cases hr
      exact hf7
  | solNext _ sr dl c sr' hm => exact MR.blk (Frame.state _ _ a _ rfl) id (fun _ _ _ _ hm => by cases hm)
  | unsolConf _ resp isNull rt dl f ctrl objs raw hm hq hu hs =>
    obtain ⟨l2, el2, hp2, hcfg, hlr⟩ := afterUnsolSeries_out
      (emitCb ({ a.1 with lastBroadcast := if a.1.unsolReported then none else a.1.lastBroadcast }, a.2)
        (.unsolConfirmed resp.ctrl.seq)) isNull true
    refine ⟨[.cb (.unsolConfirmed resp.ctrl.seq)] ++ l2, by rw [el2]; simp [emitCb, emit], fun m hj => ?_⟩
    obtain ⟨k, hser, _⟩ := ser_of_blk hj hm
    refine ⟨{ m with ser := none, confirmed := true }, ?_, ?_⟩
    · rw [runMon_append_some (m1 := { m with ser := none, confirmed := true })]
      · exact runMon_plain retries _ l2 hj.1.2.2.2 hp2
      · simp only [runMon, uMon, hj.1.2.2.2, hser, if_true]
    · refine ⟨by rw [hcfg]; exact hj.1.1, ?_, fun hcf => by simp at hcf, hj.1.2.2.2⟩
      intro lr r hl
      rw [hlr] at hl
      exact hj.1.2.1 lr r hl
  | uwSolConfirm _ resp isNull rt dl f ctrl objs raw hm hq hu =>
    split
    · exact MR.keep rfl
    · exact MR.refl _ _ _
  | uwBcast _ resp isNull rt dl f mm ctrl func objs raw a1 hm hq hf hb hp =>
    exact MR.keepF ((keepJ_of_eff (processBroadcast_eff hp)).trans (Frame.state _ _ a1 _ rfl))
  | uwMalformed _ resp isNull rt dl f ctrl func e raw _ r' hm hq hf hb hw => exact MR.keepF (wsol_plain rfl hw).2
  | uwNonRead _ resp isNull rt dl f ctrl func hs raw a4 r4 a5 r5 hm hq hf0 hf1 hb hn hw =>
    have h5 : Frame kJ PlainP a4 a5 ∧ ∀ r, r5 = some r → r.func = 0x81 := by
      rcases hw with ⟨_, e, e5⟩ | ⟨r, r', e4, hws, e5⟩
      · subst e; subst e5
        exact ⟨Frame.refl _ _ _, fun _ h => nomatch h⟩
      · subst e4; subst e5
        obtain ⟨hf2, fw⟩ := wsol_plain (handleNonRead_func hn) hws
        exact ⟨fw, fun _ h => by cases h; exact hf2⟩
    have h45 := (keepJ_of_eff (handleNonRead_eff hn)).trans h5.1
    exact MR.ofFrame ((h45.weaken kC_of_kJ).trans (Frame.state _ _ a5 _ rfl)) (fun _ _ h => h)
      (fun _ => solInv_some rfl h5.2) (fun m hj _ => (hj.2.of_keep h45.1 :))
  | uwNonReadDie _ resp isNull rt dl f ctrl func hs raw a4 r hm hq hf0 hf1 hb hn hw =>
    have f4 := keepJ_of_eff (handleNonRead_eff hn)
    exact MR.blk ((f4.weaken kC_of_kJ).trans ⟨rfl, [.panic], rfl, List.forall_mem_singleton.2 rfl⟩)
      (fun hs => (hs.of_keep f4.1 :)) (fun _ _ _ _ hm => by cases hm)
  | uwDisable _ resp isNull rt dl f ctrl hs raw hm hq =>
    obtain ⟨l, el, hp, _, _⟩ := afterUnsolSeries_out a isNull false
    exact MR.plainA l el hp (fun m hj => common_after_failed hm hj)
  | deferSet _ resp isNull rt dl f ctrl hs raw hm hq hb => exact MR.keep rfl
  | uwEcho _ resp isNull rt dl f ctrl func objs raw last hm hq hc =>
    obtain ⟨lq, hl, _, _, hresp⟩ := classify_repeat (.inr hc)
    unfold uwEchoAcc
    cases last with
    | none => exact MR.keep rfl
    | some r =>
      exact MR.keepS ⟨rfl, [_], rfl, List.forall_mem_singleton.2 fun hs =>
        plain_tx ((fragBytes_func a.1.solBuf r).trans (hs lq r hl hresp.symm))⟩
  | uwTimeoutEnd _ resp isNull rt dl hm hpn hd =>
    obtain ⟨l2, el2, hp2, _, _⟩ := afterUnsolSeries_out (emitCb a (.unsolTimeout resp.ctrl.seq false)) isNull false
    refine ⟨[.cb (.unsolTimeout resp.ctrl.seq false)] ++ l2, by rw [el2]; simp [emitCb, emit], fun m hj => ?_⟩
    obtain ⟨k, hser, _⟩ := ser_of_blk hj hm
    refine ⟨{ m with ser := none }, ?_, ?_⟩
    · rw [runMon_append_some (m1 := { m with ser := none })]
      · exact runMon_plain retries _ l2 hj.1.2.2.2 hp2
      · simp only [runMon, uMon, hj.1.2.2.2, hser, if_true]
    · exact Common.of_mon (m := m) rfl rfl
        (common_after_failed (a := emitCb a (.unsolTimeout resp.ctrl.seq false)) (m := m) hm hj)
  | uwRetry _ resp isNull rt rt' dl hm hpn hd hrt =>
    rw [unsolRetry_eq]
    refine ⟨[.cb (.unsolTimeout resp.ctrl.seq true), .tx a.1.cfg.master (fragBytes a.1.unsolBuf resp)], rfl,
      fun m hj => ?_⟩
    obtain ⟨hfunc, ⟨k, hser, hret⟩, hhdr, hnull, hun⟩ := hj.2 resp isNull rt dl hm
    -- a null response is never retried, so a confirmation was seen
    have hnn : isNull = false := by
      cases hin : isNull with
      | false => rfl
      | true =>
        have := (hnull hin).1
        rcases hrt with ⟨h1, _⟩ | ⟨n, h1, _⟩ <;> rw [h1] at this <;> cases this
    have hconf : m.confirmed = true := by
      cases hcf : m.confirmed with
      | true => rfl
      | false =>
        have := hun (hj.1.2.2.1 hcf)
        rw [hnn] at this; cases this
    -- the budget after this retry; that it is still met is what allows the retry
    have hret' : RetOk retries rt' (k + 1) := by
      intro n hn
      obtain ⟨r, hr1, hr2⟩ := hret n hn
      rcases hrt with ⟨h1, _⟩ | ⟨n', h1, h2⟩
      · rw [h1] at hr1; cases hr1
      · rw [h1] at hr1; cases hr1
        exact ⟨n', h2, by omega⟩
    have hallow : retryAllowed retries k = true := by
      unfold retryAllowed
      cases hr : retries with
      | none => rfl
      | some n =>
        obtain ⟨_, _, h⟩ := hret' n hr
        simp only [decide_eq_true_eq]; omega
    refine ⟨{ m with ser := some ⟨a.1.cfg.master, fragBytes a.1.unsolBuf resp, resp.ctrl.seq, k + 1⟩ }, ?_, ?_⟩
    · simp only [runMon, uMon, hj.1.2.2.2, hser, hallow, hconf, and_self, true_or, if_true]
    · refine ⟨Common.of_mon rfl rfl (Common.of_sol (s := a.1) rfl hj.1.2.1 hj.1), ?_⟩
      intro resp' isNull' rt'' dl' hmode
      cases hmode
      refine ⟨hfunc, ⟨k + 1, ?_, hret'⟩, (writeAt_zero_idem _ _).symm, ?_, hun⟩
      · show some _ = some (USer.mk a.1.cfg.master (fragBytes (writeAt a.1.unsolBuf 0 (respHeader resp)) resp) _ _)
        rw [fragBytes_idem]
      · intro hin
        rw [hnn] at hin; cases hin
end

section
variable {retries : Option Nat}

theorem init_mr {env : OEnv} {s : OState} {inp : OInput} {pf : Option Frag} {s0 : OState} {o0 : List OOut}
    (h : StepInit env s inp pf s0 o0) (m : UMon) (hj : J retries .blk s m) :
    ∃ m0, runMon (uMon retries) m o0 = some m0 ∧ J retries .blk s0 m0 := by
  have hplain : ∀ o ∈ o0, plainOut o = true := fun o ho =>
    plain_of_kind (ks := [.line]) (by rw [h.keep o ho]; simp) (by simp)
  refine ⟨m, runMon_plain retries m o0 hj.1.2.2.2 hplain, ?_⟩
  cases h with
  | rx => exact J.of_keep (s := s) rfl hj
  | tick => exact J.of_keep (s := s) rfl hj
  | txn items =>
    exact J.of_keep (s' := { (txnFold s items).1 with notified := true })
      (kJ_of_upd (s' := (txnFold s items).1) (txnFold_upd s items)) hj
  | add => exact J.of_keep (s := s) rfl hj
  | cut =>
    exact jblk_of_common (Common.of_sol (s := s) rfl (solInv_of_none rfl) hj.1) (fun _ _ _ _ hm => by cases hm)

theorem script_mr (s : OState) (f : Script → Script) (m : UMon) (hj : J retries .blk s m) :
    J retries .blk { s with script := f s.script } m := J.of_keep (s := s) rfl hj

end

theorem init_J (cfg : OCfg) (evMax : Nat) : J cfg.retries .blk (OState.init cfg evMax) {} :=
  jblk_of_common ⟨rfl, solInv_of_none rfl, fun _ => rfl, rfl⟩ (fun _ _ _ _ hm => by cases hm)

theorem unsol_trace_accepted (cfg : OCfg) (evMax : Nat) (env : OEnv) (ins : List OInput) :
    ∃ m', runMon (uMon cfg.retries) {} (traceOuts cfg evMax env ins) = some m' ∧
      J cfg.retries .blk (Outstation.run env (Outstation.start cfg evMax).1 ins).1 m' :=
  mon_trace (uMon cfg.retries) (J cfg.retries) (fun _ _ _ h => Ev2.mr h) (fun _ _ _ _ _ _ h m hj => init_mr h m hj)
    script_mr cfg evMax {} (init_J cfg evMax) env ins

/-- **the unsolicited-reporting monitor `uMon` accepts every trace**: stated for the property, and described, as `Props.C14.unsol_trace_monitored` -/
theorem unsol_trace_monitored (cfg : OCfg) (evMax : Nat) (env : OEnv) (ins : List OInput) :
    ∃ m', runMon (uMon cfg.retries) {} (traceOuts cfg evMax env ins) = some m' ∧ m'.expect = .nothing := by
  obtain ⟨m', h, hj⟩ := unsol_trace_accepted cfg evMax env ins
  exact ⟨m', h, hj.1.2.2.2⟩

theorem solInv_run (cfg : OCfg) (evMax : Nat) (env : OEnv) (ins : List OInput) :
    SolInv (Outstation.run env (Outstation.start cfg evMax).1 ins).1 := by
  obtain ⟨m', _, hj⟩ := unsol_trace_accepted cfg evMax env ins
  exact hj.1.2.1

section
variable {retries : Option Nat}

/-- every way the monitor accepts an output -/
inductive UStep (retries : Option Nat) (m : UMon) : OOut → UMon → Prop
  | startCb (d : Nat) (b : List Nat) (seq : Nat) : m.expect = .startCb d b →
      UStep retries m (.cb (.unsolWait seq)) { m with ser := some ⟨d, b, seq, 0⟩, expect := .nothing }
  | retryTx (q : Nat) (sr : USer) : m.expect = .retryTx q → m.ser = some sr → q = sr.seq →
      retryAllowed retries sr.used = true → (m.confirmed = true ∨ sr.bytes.length = 4) →
      UStep retries m (.tx sr.dst sr.bytes) { m with ser := some { sr with used := sr.used + 1 }, expect := .nothing }
  | unsolTx (d : Nat) (b : List Nat) : m.expect = .nothing → isUnsolFrag b = true →
      (m.confirmed = true ∨ b.length = 4) → UStep retries m (.tx d b) { m with expect := .startCb d b }
  | retryCb (q : Nat) : m.expect = .nothing →
      UStep retries m (.cb (.unsolTimeout q true)) { m with expect := .retryTx q }
  | failed (sr : USer) : m.expect = .nothing → m.ser = some sr →
      UStep retries m (.cb (.unsolTimeout sr.seq false)) { m with ser := none }
  | confirmed (sr : USer) : m.expect = .nothing → m.ser = some sr →
      UStep retries m (.cb (.unsolConfirmed sr.seq)) { m with ser := none, confirmed := true }
  | plain (o : OOut) : m.expect = .nothing → plainOut o = true → UStep retries m o m

theorem uMon_cases {m m' : UMon} {o : OOut} (h : uMon retries m o = some m') : UStep retries m o m' := by
  -- one `split` per `match` / `if` of `uMon`
  unfold uMon at h
  split at h
  · rename_i d b he
    split at h
    · cases h; exact .startCb d b _ he
    · cases h
  · rename_i q he
    split at h
    · rename_i d b sr hs
      split at h
      · rename_i hc
        cases h
        obtain ⟨rfl, rfl, hq, ha, hl⟩ := hc
        exact .retryTx q sr he hs hq ha hl
      · cases h
    · cases h
  · rename_i he
    split at h
    · rename_i d b
      split at h
      · rename_i hb
        split at h
        · rename_i hc; cases h; exact .unsolTx d b he hb hc
        · cases h
      · rename_i hb
        cases h
        exact .plain _ he (by simpa [plainOut] using hb)
    · cases h
    · cases h; exact .retryCb _ he
    · split at h
      · rename_i sr hs
        split at h
        · rename_i hq; cases h; subst hq; exact .failed sr he hs
        · cases h
      · cases h
    · split at h
      · rename_i sr hs
        split at h
        · rename_i hq; cases h; subst hq; exact .confirmed sr he hs
        · cases h
      · cases h
    · rename_i h1 h2 h3 h4 h5
      cases h
      refine .plain _ he ?_
      cases o with
      | tx d b => exact absurd rfl (h1 d b)
      | cb c =>
        cases c with
        | unsolWait q => exact absurd rfl (h2 q)
        | unsolTimeout q r =>
          cases r with
          | true => exact absurd rfl (h3 q)
          | false => exact absurd rfl (h4 q)
        | unsolConfirmed q => exact absurd rfl (h5 q)
        | _ => rfl
      | _ => rfl

theorem uMon_unsolTx {m m' : UMon} {d : Nat} {b : List Nat} (h : uMon retries m (.tx d b) = some m')
    (hb : b.getD 1 0 = 0x82) :
    (m.confirmed = true ∨ b.length = 4) ∧ (m'.expect = .startCb d b ∨ ∃ q, m.expect = .retryTx q) := by
  cases uMon_cases h with
  | retryTx q sr he _ _ _ hl => exact ⟨hl, .inr ⟨q, he⟩⟩
  | unsolTx _ _ _ _ hc => exact ⟨hc, .inl rfl⟩
  | plain _ _ hp =>
    have hp' : (!(b.getD 1 0 == 0x82)) = true := hp
    rw [hb] at hp'
    cases hp'

theorem uMon_confirmed {m m' : UMon} {o : OOut} (h : uMon retries m o = some m') :
    m'.confirmed = m.confirmed ∨ ∃ q, o = .cb (.unsolConfirmed q) := by
  cases uMon_cases h with
  | confirmed sr => exact .inr ⟨_, rfl⟩
  | _ => exact .inl rfl

theorem runMon_not_confirmed {m m' : UMon} {l : List OOut} (h : runMon (uMon retries) m l = some m')
    (hc : m.confirmed = false) (hl : ∀ q, OOut.cb (.unsolConfirmed q) ∉ l) : m'.confirmed = false := by
  induction l generalizing m with
  | nil => cases h; exact hc
  | cons o l ih =>
    obtain ⟨m1, h1, h2⟩ := runMon_cons h
    refine ih h2 ?_ (fun q hq => hl q (by simp [hq]))
    rcases uMon_confirmed h1 with e | ⟨q, e⟩
    · rw [e]; exact hc
    · exact absurd (by simp [e]) (hl q)

theorem uMon_expect_retry {m m' : UMon} {o : OOut} {q : Nat} (h : uMon retries m o = some m')
    (he : m'.expect = .retryTx q) : o = .cb (.unsolTimeout q true) := by
  cases uMon_cases h with
  | retryCb q' => cases he; rfl
  | startCb | retryTx | unsolTx => cases he
  | failed _ hn | confirmed _ hn | plain _ hn => exact nomatch hn.symm.trans he

theorem uMon_expect_start {m m' : UMon} {o : OOut} {d : Nat} {b : List Nat} (h : uMon retries m o = some m')
    (he : m'.expect = .startCb d b) : o = .tx d b := by
  cases uMon_cases h with
  | unsolTx d' b' => cases he; rfl
  | startCb | retryTx | retryCb => cases he
  | failed _ hn | confirmed _ hn | plain _ hn => exact nomatch hn.symm.trans he

theorem uMon_owed_start {m m' : UMon} {o : OOut} {d : Nat} {b : List Nat} (h : uMon retries m o = some m')
    (he : m.expect = .startCb d b) :
    ∃ seq, o = .cb (.unsolWait seq) ∧ m'.ser = some ⟨d, b, seq, 0⟩ ∧ m'.expect = .nothing := by
  cases uMon_cases h with
  | startCb d' b' seq he' => cases he'.symm.trans he; exact ⟨seq, rfl, rfl, rfl⟩
  | retryTx _ _ hn | unsolTx _ _ hn | retryCb _ hn | failed _ hn | confirmed _ hn | plain _ hn =>
    exact nomatch hn.symm.trans he

theorem uMon_owed_retry {m m' : UMon} {o : OOut} {q : Nat} (h : uMon retries m o = some m')
    (he : m.expect = .retryTx q) :
    ∃ sr, m.ser = some sr ∧ o = .tx sr.dst sr.bytes ∧ q = sr.seq ∧ retryAllowed retries sr.used = true := by
  cases uMon_cases h with
  | retryTx q' sr he' hs hq ha => cases he'.symm.trans he; exact ⟨sr, hs, rfl, hq, ha⟩
  | startCb _ _ _ hn | unsolTx _ _ hn | retryCb _ hn | failed _ hn | confirmed _ hn | plain _ hn =>
    exact nomatch hn.symm.trans he

theorem runMon_expect_retry {m m' : UMon} {l : List OOut} {q : Nat} (h : runMon (uMon retries) m l = some m')
    (hm : m.expect = .nothing) (he : m'.expect = .retryTx q) : ∃ l', l = l' ++ [.cb (.unsolTimeout q true)] := by
  rcases List.eq_nil_or_concat l with e | ⟨l', o, e⟩
  · subst e; cases h; rw [hm] at he; cases he
  · rw [List.concat_eq_append] at e
    subst e
    obtain ⟨m1, _, h2⟩ := runMon_last h
    exact ⟨l', by rw [uMon_expect_retry h2 he]⟩

end

/-- callbacks that delimit an unsolicited series in the outputs: its start (`unsolWait`), its confirmation, its
    abandonment after the last timeout -/
def isSeriesMark : OOut → Bool
  | .cb (.unsolWait _) | .cb (.unsolConfirmed _) | .cb (.unsolTimeout _ false) => true
  | _ => false

/-- "timeout, retrying" -/
def isRetryCb : OOut → Bool
  | .cb (.unsolTimeout _ true) => true
  | _ => false

def pend (m : UMon) : Nat :=
  match m.expect with
  | .retryTx _ => 1
  | _ => 0

section
variable {retries : Option Nat}

theorem isRetryCb_of_plain {o : OOut} (hp : plainOut o = true) : isRetryCb o = false := by
  cases o with
  | cb c => cases c <;> first | rfl | cases hp
  | _ => rfl

theorem uMon_ser_step {m m' : UMon} {o : OOut} {sr : USer} (h : uMon retries m o = some m')
    (ho : isSeriesMark o = false) (hs : m.ser = some sr) :
    ∃ k', m'.ser = some { sr with used := k' } ∧
      sr.used + pend m + (if isRetryCb o = true then 1 else 0) = k' + pend m' ∧
      (∀ n, retries = some n → sr.used ≤ n → k' ≤ n) := by
  cases uMon_cases h with
  | startCb | failed | confirmed => cases ho
  | retryTx q sr' he hs' _ ha =>
    cases hs'.symm.trans hs
    refine ⟨sr.used + 1, rfl, by simp [pend, he, isRetryCb], fun n hn _ => ?_⟩
    simp only [retryAllowed, hn, decide_eq_true_eq] at ha
    omega
  | unsolTx _ _ he => exact ⟨sr.used, hs, by simp [pend, he, isRetryCb], fun _ _ h => h⟩
  | retryCb _ he => exact ⟨sr.used, hs, by simp [pend, he, isRetryCb], fun _ _ h => h⟩
  | plain _ he hp => exact ⟨sr.used, hs, by simp [isRetryCb_of_plain hp], fun _ _ h => h⟩

theorem runMon_ser {m m' : UMon} {l : List OOut} {sr : USer} (h : runMon (uMon retries) m l = some m')
    (hl : ∀ o ∈ l, isSeriesMark o = false) (hs : m.ser = some sr) :
    ∃ k', m'.ser = some { sr with used := k' } ∧
      sr.used + pend m + (l.filter isRetryCb).length = k' + pend m' ∧
      (∀ n, retries = some n → sr.used ≤ n → k' ≤ n) := by
  induction l generalizing m sr with
  | nil => cases h; exact ⟨sr.used, by rw [hs], by simp, fun _ _ h => h⟩
  | cons o l ih =>
    obtain ⟨m1, h1, h2⟩ := runMon_cons h
    obtain ⟨k1, hs1, hc1, hb1⟩ := uMon_ser_step h1 (hl o (by simp)) hs
    obtain ⟨k2, hs2, hc2, hb2⟩ := ih h2 (fun o' ho' => hl o' (by simp [ho'])) hs1
    refine ⟨k2, hs2, ?_, fun n hn hle => hb2 n hn (hb1 n hn hle)⟩
    simp only [List.filter_cons]
    cases hr : isRetryCb o with
    | true =>
      simp only [hr, if_true, List.length_cons] at hc1 ⊢
      simp only at hc2
      omega
    | false =>
      simp only [hr, Bool.false_eq_true, if_false] at hc1 ⊢
      simp only at hc2
      omega

end

/-- **C14.1 as a trace theorem**: stated for the property, and described, as `Props.C14.null_until_confirmed_trace` -/
theorem null_until_confirmed_trace (cfg : OCfg) (evMax : Nat) (env : OEnv) (ins : List OInput)
    (pre post : List OOut) (d : Nat) (b : List Nat)
    (hsplit : traceOuts cfg evMax env ins = pre ++ .tx d b :: post)
    (hpre : ∀ q, OOut.cb (.unsolConfirmed q) ∉ pre) (hf : b.getD 1 0 = 0x82) : b.length = 4 := by
  obtain ⟨m', h, _⟩ := unsol_trace_monitored cfg evMax env ins
  rw [hsplit] at h
  obtain ⟨m1, h1, h2⟩ := runMon_split h
  obtain ⟨m2, h3, _⟩ := runMon_cons h2
  have hc : m1.confirmed = false := runMon_not_confirmed h1 rfl hpre
  rcases (uMon_unsolTx h3 hf).1 with hcc | hl
  · rw [hc] at hcc; cases hcc
  · exact hl

/-- **every unsolicited transmission is accounted for**: stated for the property, and described, as `Props.C14.unsol_tx_accounted` -/
theorem unsol_tx_accounted (cfg : OCfg) (evMax : Nat) (env : OEnv) (ins : List OInput)
    (pre post : List OOut) (d : Nat) (b : List Nat)
    (hsplit : traceOuts cfg evMax env ins = pre ++ .tx d b :: post) (hf : b.getD 1 0 = 0x82) :
    (∃ seq post', post = .cb (.unsolWait seq) :: post') ∨
    (∃ q pre', pre = pre' ++ [.cb (.unsolTimeout q true)]) := by
  obtain ⟨m', h, hfin⟩ := unsol_trace_monitored cfg evMax env ins
  rw [hsplit] at h
  obtain ⟨m1, h1, h2⟩ := runMon_split h
  obtain ⟨m2, h3, h4⟩ := runMon_cons h2
  rcases (uMon_unsolTx h3 hf).2 with he2 | ⟨q, he1⟩
  · left
    cases post with
    | nil => cases h4; rw [he2] at hfin; cases hfin
    | cons o post' =>
      obtain ⟨m3, h5, _⟩ := runMon_cons h4
      obtain ⟨seq, rfl, _⟩ := uMon_owed_start h5 he2
      exact ⟨seq, post', rfl⟩
  · right
    obtain ⟨pre', e⟩ := runMon_expect_retry h1 rfl he1
    exact ⟨q, pre', e⟩

/-- **C14.4 as a trace theorem**: stated for the property, and described, as `Props.C14.retries_bounded_trace` -/
theorem retries_bounded_trace (cfg : OCfg) (evMax : Nat) (env : OEnv) (ins : List OInput)
    (pre mid rest : List OOut) (d : Nat) (b0 : List Nat) (seq : Nat)
    (hsplit : traceOuts cfg evMax env ins = pre ++ [.tx d b0, .cb (.unsolWait seq)] ++ mid ++ rest)
    (hmid : ∀ o ∈ mid, isSeriesMark o = false) :
    (∀ m1 q m2, mid = m1 ++ .cb (.unsolTimeout q true) :: m2 → q = seq ∧ ∃ t, m2 ++ rest = .tx d b0 :: t) ∧
    (∀ n, cfg.retries = some n → (mid.filter isRetryCb).length ≤ n) ∧
    (∀ m1 d' b' m2, mid = m1 ++ .tx d' b' :: m2 → b'.getD 1 0 = 0x82 → m2 ≠ [] → d' = d ∧ b' = b0) := by
  obtain ⟨m', h, hfin⟩ := unsol_trace_monitored cfg evMax env ins
  have hsplit' : traceOuts cfg evMax env ins = pre ++ (.tx d b0 :: .cb (.unsolWait seq) :: (mid ++ rest)) := by
    rw [hsplit]; simp
  rw [hsplit'] at h
  obtain ⟨mp, hp1, hp2⟩ := runMon_split h
  obtain ⟨ma, ha1, ha2⟩ := runMon_cons hp2
  obtain ⟨m0, hb1, hb2⟩ := runMon_cons ha2
  -- the state right after the `unsolWait seq` callback
  have hm0 : m0.ser = some ⟨d, b0, seq, 0⟩ ∧ m0.expect = .nothing := by
    cases uMon_cases hb1 with
    | startCb d' b' _ hea => cases uMon_expect_start ha1 hea; exact ⟨rfl, rfl⟩
    | plain _ _ hp => cases hp
  -- the monitor at any position of `mid`: its series is still the one that started here
  have upto : ∀ m1 o m2, mid = m1 ++ o :: m2 → ∃ x1 x2 k, x1.ser = some ⟨d, b0, seq, k⟩ ∧
      uMon cfg.retries x1 o = some x2 ∧ runMon (uMon cfg.retries) x2 (m2 ++ rest) = some m' := by
    intro m1 o m2 e
    have hb2' : runMon (uMon cfg.retries) m0 (m1 ++ (o :: (m2 ++ rest))) = some m' := by
      rw [e] at hb2; simpa using hb2
    obtain ⟨x1, hx1, hx2⟩ := runMon_split hb2'
    obtain ⟨x2, hx3, hx4⟩ := runMon_cons hx2
    obtain ⟨k1, hs1, _, _⟩ := runMon_ser hx1 (fun o ho => hmid o (by rw [e]; simp [ho])) hm0.1
    exact ⟨x1, x2, k1, hs1, hx3, hx4⟩
  refine ⟨?_, ?_, ?_⟩
  · intro m1 q m2 e
    obtain ⟨x1, x2, k1, hs1, hx3, hx4⟩ := upto m1 _ m2 e
    -- the monitor rests when the callback arrives, and owes the retransmission afterwards
    have hx2e : x2.expect = .retryTx q ∧ x2.ser = x1.ser := by
      cases uMon_cases hx3 with
      | retryCb => exact ⟨rfl, rfl⟩
      | plain _ _ hp => cases hp
    cases hrest : m2 ++ rest with
    | nil => rw [hrest] at hx4; cases hx4; rw [hx2e.1] at hfin; cases hfin
    | cons o t =>
      rw [hrest] at hx4
      obtain ⟨x3, hx5, _⟩ := runMon_cons hx4
      obtain ⟨sr, hsr, rfl, hq, _⟩ := uMon_owed_retry hx5 hx2e.1
      rw [hx2e.2, hs1] at hsr
      cases hsr
      exact ⟨hq, t, rfl⟩
  · -- part 2: the count
    intro n hn
    obtain ⟨x1, hx1, hx2⟩ := runMon_split hb2
    obtain ⟨k1, hs1, hcount, hbound⟩ := runMon_ser hx1 hmid hm0.1
    have hk1 : k1 ≤ n := hbound n hn (Nat.zero_le n)
    have hp0 : pend m0 = 0 := by simp [pend, hm0.2]
    simp only [hp0] at hcount
    cases hex : x1.expect with
    | nothing =>
      have : pend x1 = 0 := by simp [pend, hex]
      omega
    | startCb d' b' =>
      have : pend x1 = 0 := by simp [pend, hex]
      omega
    | retryTx q =>
      have hp1 : pend x1 = 1 := by simp [pend, hex]
      -- the owed retransmission is the first output of `rest`, and it was allowed
      cases rest with
      | nil => cases hx2; rw [hex] at hfin; cases hfin
      | cons o t =>
        obtain ⟨x3, hx5, _⟩ := runMon_cons hx2
        obtain ⟨sr, hsr, _, _, ha⟩ := uMon_owed_retry hx5 hex
        rw [hs1] at hsr
        cases hsr
        simp only [retryAllowed, hn, decide_eq_true_eq] at ha
        omega
  · -- part 3: a fragment 0x82 in `mid` is the owed retransmission; were it a series start, its `unsolWait`
    -- callback would be the next output, inside `mid`
    intro m1 d' b' m2 e hf hne
    obtain ⟨x1, x2, k1, hs1, hx3, hx4⟩ := upto m1 _ m2 e
    cases uMon_cases hx3 with
    | retryTx q sr _ hsr =>
      rw [hs1] at hsr
      cases hsr
      exact ⟨rfl, rfl⟩
    | unsolTx =>
      cases m2 with
      | nil => exact absurd rfl hne
      | cons o m2' =>
        obtain ⟨x3, hx5, _⟩ := runMon_cons hx4
        obtain ⟨sq, rfl, _⟩ := uMon_owed_start hx5 rfl
        have := hmid (.cb (.unsolWait sq)) (by rw [e]; simp)
        cases this
    | plain _ _ hp =>
      have hp' : (!(b'.getD 1 0 == 0x82)) = true := hp
      rw [hf] at hp'
      cases hp'

/-- outputs that neither open a solicited confirm wait (`solWait`) nor belong to unsolicited reporting
    (an unsolicited fragment, function octet 0x82, or one of the `unsol…` callbacks) -/
def solQuietOut : OOut → Bool
  | .cb (.solWait _) => false
  | .cb (.unsolWait _) | .cb (.unsolTimeout ..) | .cb (.unsolConfirmed _) => false
  | .tx _ b => !isUnsolFrag b
  | _ => true

/-- the callbacks that report why a solicited confirm wait ended -/
def isSolEnd : OOut → Bool
  | .cb (.solConfirmed _) | .cb (.solTimeout _) | .cb .solNewRequest => true
  | _ => false

theorem quiet_of_kind {o : OOut} {ks : List OKind} (h : OOut.kind o ∈ ks)
    (hk : ∀ k ∈ ks, k ≠ .tx ∧ k ≠ .sol ∧ k ≠ .unsolWait ∧ k ≠ .unsolTimeout ∧ k ≠ .unsolConfirmed) :
    solQuietOut o = true := by
  have := hk _ h
  cases o with
  | tx d b => exact absurd rfl this.1
  | cb c =>
    cases c <;> first
      | rfl | exact absurd rfl this.2.1 | exact absurd rfl this.2.2.1 | exact absurd rfl this.2.2.2.1
      | exact absurd rfl this.2.2.2.2
  | txLink => rfl
  | line => rfl
  | panic => rfl

theorem quiet_tx {d : Nat} {b : List Nat} (h : b.getD 1 0 = 0x81) : solQuietOut (.tx d b) = true :=
  plain_tx (d := d) h

theorem stepInit_lastReq {env : OEnv} {s : OState} {inp : OInput} {pf : Option Frag} {s0 : OState} {o0 : List OOut}
    (h : StepInit env s inp pf s0 o0) (hc : inp ≠ .cut) : s0.lastReq = s.lastReq := by
  cases h with
  | rx => rfl
  | tick => rfl
  | txn items => exact (txnFold_upd s items).get .lastReq
  | add => rfl
  | cut => exact absurd rfl hc

abbrev SolQuiet : OOut → Prop := fun o => solQuietOut o = true

def SolEnd (pre : List OOut) : Prop := ∃ o ∈ pre, isSolEnd o = true

theorem abortPt_base (b : Acc) (c : SolCont) : Base b (abortPt b c).2 := by
  cases c <;> exact ⟨rfl, .inl rfl, [], (List.append_nil _).symm⟩

theorem swfCase_stands {pf : Option Frag} {a : Acc} {sr : Series} {dl : Nat} {c : SolCont} {y : Pt × Acc}
    (hq : ∀ o ∈ a.2, SolQuiet o) (hm : a.1.mode = .solWait sr dl c) (hi : SolInv a.1)
    (hc : SWFCase a sr c y) :
    Stands SolQuiet (fun s => (∃ sr dl, s.mode = .solWait sr dl c) ∧ SolInv s) SolEnd y := by
  obtain ⟨s, p, hpop, hc⟩ := hc
  -- `s` stays a variable: what the wait reads of it, `mode` and `lastReq`, is what `popRequest` left alone
  have hu := popRequest_upd hpop
  have hl : s.lastReq = a.1.lastReq := hu.get .lastReq
  have hw : ∀ {s' : OState}, s'.mode = s.mode → s'.lastReq = s.lastReq →
      (∃ sr dl, s'.mode = .solWait sr dl c) ∧ SolInv s' := fun h1 h2 =>
    ⟨⟨sr, dl, h1.trans ((hu.get .mode).trans hm)⟩, hi.of_lastReq (h2.trans hl)⟩
  cases hc with
  | nothing => exact .stay hq (hw rfl rfl)
  | error | newRequest =>
    exact .ended (abortPt_base _ c) (quiet_snoc (Q := SolQuiet) hq rfl) ⟨_, mem_snoc _ _, rfl⟩
  | @echo f _ _ _ resp hcl =>
    obtain ⟨last, hlast, _, _, hresp⟩ := classify_repeat (.inl ⟨_, hcl⟩)
    have hs : SolInv (solEchoAcc (onLinkActivity s, a.2) sr c f.src resp).1 :=
      hi.of_lastReq ((solEchoAcc_fields _ _ _ _ _).1.trans hl)
    cases resp with
    | none => exact .stay hq ⟨⟨_, _, rfl⟩, hs⟩
    | some r =>
      exact .stay (quiet_snoc (Q := SolQuiet) hq
        (quiet_tx (by rw [hdr_func]; exact hi last r (hl.symm.trans hlast) hresp.symm))) ⟨⟨_, _, rfl⟩, hs⟩
  | unsolConfirm | wrongSeq => exact .stay (quiet_snoc (Q := SolQuiet) hq rfl) (hw rfl rfl)
  | confirmed hu hseq ht =>
    refine .ended (ht.reach (pf := pf)).base ?_ ⟨.cb (.solConfirmed sr.ecsn), ?_, rfl⟩
    · rw [clearWrittenEvents_eq]
      intro o ho
      simp only [List.mem_append, List.mem_map, List.mem_cons, List.not_mem_nil, or_false] at ho
      rcases ho with (ho | rfl) | (rfl | ⟨_, _, rfl⟩) | rfl
      · exact hq o ho
      all_goals rfl
    · rw [clearWrittenEvents_eq]; simp

/-- **C14.3 for the solicited confirm wait**: stated for the property, and described, as `Props.C14.one_outstanding_sol` -/
theorem one_outstanding_sol (env : OEnv) (s : OState) (inp : OInput) (sr : Series) (dl : Nat) (c : SolCont)
    (hm : s.mode = .solWait sr dl c) (hi : SolInv s) :
    ((∀ o ∈ (Outstation.step env s inp).2, solQuietOut o = true) ∧
      ((∃ sr' dl', (Outstation.step env s inp).1.mode = .solWait sr' dl' c) ∨
        (Outstation.step env s inp).1.mode = .dead)) ∨
    inp = .cut ∨
    (∃ pre post, (Outstation.step env s inp).2 = pre ++ post ∧ (∀ o ∈ pre, solQuietOut o = true) ∧
      ∃ o ∈ pre, isSolEnd o = true) := by
  refine (outstanding (Q := SolQuiet) (W := fun s => (∃ sr dl, s.mode = .solWait sr dl c) ∧ SolInv s)
    (E := fun _ => SolEnd) env s inp (fun o h => quiet_of_kind (ks := [.line]) (by rw [h]; simp) (by simp))
    ⟨⟨sr, dl, hm⟩, hi⟩ (fun _ => ⟨⟨sr, dl, hm⟩, hi.of_keep rfl⟩) (fun hinit hc => ?_) ?_).imp
    (And.imp_right (Or.imp (·.1) (·.1)))
    (Or.imp_right fun ⟨_, pre, post, _, e, hq, he⟩ => ⟨pre, post, e, hq, he⟩)
  · rcases hinit.mode with ⟨h, _, _⟩ | ⟨h, _, _⟩
    · exact ⟨⟨sr, dl, h.trans hm⟩, fun lr r hl => hi lr r (by rw [← stepInit_lastReq hinit hc]; exact hl)⟩
    · exact absurd h hc
  · intro pf a y hp hq ⟨⟨sr, dl, hm⟩, hi⟩ h
    cases h with
    | pass _ n y hm' => exact nomatch hm.symm.trans hm'
    | unsolFragment _ r n rt dl' y hm' | unsolTimeout _ r n rt dl' y hm' => exact nomatch hm.symm.trans hm'
    | solFragment _ sr' dl' c' y hm' _ hc => cases hm.symm.trans hm'; exact swfCase_stands (pf := pf) hq hm hi hc
    | solTimeout _ sr' dl' c' hm' =>
      cases hm.symm.trans hm'
      exact .ended (abortPt_base _ c) (quiet_snoc (Q := SolQuiet) hq rfl) ⟨_, mem_snoc _ _, rfl⟩

theorem J_step {retries : Option Nat} (env : OEnv) (s : OState) (inp : OInput) (h : ∃ m, J retries .blk s m) :
    ∃ m, J retries .blk (Outstation.step env s inp).1 m := by
  obtain ⟨m, hj⟩ := h
  obtain ⟨m', _, j⟩ := mon_step (uMon retries) (J retries) (fun _ _ _ h => Ev2.mr h)
    (fun _ _ _ _ _ _ h m hj => init_mr h m hj) script_mr env s inp m hj
  exact ⟨m', j⟩

theorem one_outstanding_sol_from {retries : Option Nat} (env : OEnv) (c : SolCont) (ins : List OInput) (s : OState)
    (hj : ∃ m, J retries .blk s m)
    (hm : (∃ sr dl, s.mode = .solWait sr dl c) ∨ s.mode = .dead)
    (hcut : ∀ i ∈ ins, i ≠ .cut)
    (hend : ∀ l ∈ (Outstation.run env s ins).2, ∀ o ∈ l, isSolEnd o = false) :
    (∀ l ∈ (Outstation.run env s ins).2, ∀ o ∈ l, solQuietOut o = true) ∧
    ((∃ sr dl, (Outstation.run env s ins).1.mode = .solWait sr dl c) ∨ (Outstation.run env s ins).1.mode = .dead) := by
  induction ins generalizing s with
  | nil => exact ⟨by simp [Outstation.run], hm⟩
  | cons i is ih =>
    have hrun : Outstation.run env s (i :: is) =
        ((Outstation.run env (Outstation.step env s i).1 is).1,
          (Outstation.step env s i).2 :: (Outstation.run env (Outstation.step env s i).1 is).2) := rfl
    rw [hrun] at hend ⊢
    have hend1 : ∀ o ∈ (Outstation.step env s i).2, isSolEnd o = false := hend _ (by simp)
    have hend2 : ∀ l ∈ (Outstation.run env (Outstation.step env s i).1 is).2, ∀ o ∈ l, isSolEnd o = false :=
      fun l hl => hend l (by simp [hl])
    have key : (∀ o ∈ (Outstation.step env s i).2, solQuietOut o = true) ∧
        ((∃ sr dl, (Outstation.step env s i).1.mode = .solWait sr dl c) ∨ (Outstation.step env s i).1.mode = .dead) := by
      rcases hm with ⟨sr, dl, hms⟩ | hd
      · obtain ⟨m, hjm⟩ := hj
        rcases one_outstanding_sol env s i sr dl c hms hjm.1.2.1 with ⟨hq, hmode⟩ | hc | ⟨pre, post, e, _, o, ho, hmk⟩
        · exact ⟨hq, hmode⟩
        · exact absurd hc (hcut i (by simp))
        · have := hend1 o (by rw [e]; simp [ho])
          rw [hmk] at this; cases this
      · rw [step_dead env s i hd]
        exact ⟨fun _ => nofun, .inr (by cases i <;> exact hd)⟩
    obtain ⟨hq2, hm2⟩ := ih (Outstation.step env s i).1 (J_step env s i hj) key.2
      (fun j hjm => hcut j (by simp [hjm])) hend2
    refine ⟨?_, hm2⟩
    intro l hl
    simp only [List.mem_cons] at hl
    rcases hl with rfl | hl
    · exact key.1
    · exact hq2 l hl

/-- **C14.3 for the solicited confirm wait, over runs**: stated for the property, and described, as `Props.C14.one_outstanding_sol_run` -/
theorem one_outstanding_sol_run (cfg : OCfg) (evMax : Nat) (env : OEnv) (ins1 ins2 : List OInput)
    (sr : Series) (dl : Nat) (c : SolCont)
    (hm : (Outstation.run env (Outstation.start cfg evMax).1 ins1).1.mode = .solWait sr dl c)
    (hcut : ∀ i ∈ ins2, i ≠ .cut)
    (hend : ∀ l ∈ (Outstation.run env (Outstation.run env (Outstation.start cfg evMax).1 ins1).1 ins2).2,
      ∀ o ∈ l, isSolEnd o = false) :
    (∀ l ∈ (Outstation.run env (Outstation.run env (Outstation.start cfg evMax).1 ins1).1 ins2).2,
      ∀ o ∈ l, solQuietOut o = true) ∧
    ((∃ sr' dl', (Outstation.run env (Outstation.run env (Outstation.start cfg evMax).1 ins1).1 ins2).1.mode =
        .solWait sr' dl' c) ∨
      (Outstation.run env (Outstation.run env (Outstation.start cfg evMax).1 ins1).1 ins2).1.mode = .dead) := by
  obtain ⟨m', _, hj⟩ := unsol_trace_accepted cfg evMax env ins1
  exact one_outstanding_sol_from env c ins2 _ ⟨m', hj⟩ (Or.inl ⟨sr, dl, hm⟩) hcut hend

/-! Examples: concrete, non-trivial instances (these EVALUATE the model, including the current `Db`) -/

deriving instance DecidableEq for OOut
deriving instance DecidableEq for NextIdle, SolCont, Resp, Mode

/-- unsolicited reporting on, two retries -/
def exCfg : OCfg := { unsolicited := true, retries := some 2 }

/-- the NULL response is confirmed, a point is added, class 1 is enabled, an event occurs, three confirm timeouts
    pass (two retries, then the series is abandoned), and after the retry delay the event is reported again -/
def exIns : List OInput :=
  [.rx 1 1024 [0xD0, 0], .add .binary 0 1, .rx 1 1024 [0xC1, 20, 60, 2, 6], .txn [.bin 0 true 1 0],
   .tick 5000, .tick 5000, .tick 5000, .tick 5000]

def exData : List Nat := [241, 130, 128, 0, 2, 1, 40, 1, 0, 0, 0, 129]

theorem exTrace : traceOuts exCfg 10 {} exIns =
    [OOut.tx 1 [240, 130, 128, 0], .cb (.unsolWait 0), .cb (.unsolConfirmed 0), .line "add 1",
     .tx 1 [193, 129, 128, 0], .line "upd created 0",
     .tx 1 exData, .cb (.unsolWait 1),
     .cb (.unsolTimeout 1 true), .tx 1 exData, .cb (.unsolTimeout 1 true), .tx 1 exData,
     .cb (.unsolTimeout 1 false),
     .tx 1 [242, 130, 128, 0, 2, 1, 40, 1, 0, 0, 0, 129], .cb (.unsolWait 2)] := by decide +kernel

-- the monitor is not vacuous: it rejects event data before a confirmation, a third retry when two are allowed,
-- a retry with other octets, and an `unsolWait` callback without a transmission
example : runMon (uMon (some 2)) {} [.tx 1 [240, 130, 128, 0, 2, 1], .cb (.unsolWait 0)] = none := by decide
example : runMon (uMon (some 2)) { confirmed := true }
    [.tx 1 exData, .cb (.unsolWait 1), .cb (.unsolTimeout 1 true), .tx 1 exData, .cb (.unsolTimeout 1 true), .tx 1 exData,
     .cb (.unsolTimeout 1 true), .tx 1 exData] = none := by decide
example : runMon (uMon none) { confirmed := true }
    [.tx 1 exData, .cb (.unsolWait 1), .cb (.unsolTimeout 1 true), .tx 1 [241, 130, 129, 0, 2, 1, 40, 1, 0, 0, 0, 129]] = none := by
  decide
example : runMon (uMon none) {} [.cb (.unsolWait 1)] = none := by decide

-- `null_until_confirmed_trace`: the first output of the run is an unsolicited fragment before any confirmation
example : ([240, 130, 128, 0] : List Nat).length = 4 :=
  null_until_confirmed_trace exCfg 10 {} exIns [] _ 1 [240, 130, 128, 0] (by rw [exTrace]; rfl) (by simp) rfl

-- `unsol_tx_accounted`: the series start of the event data (position 6), and its first retry (position 9)
example := unsol_tx_accounted exCfg 10 {} exIns
  [OOut.tx 1 [240, 130, 128, 0], .cb (.unsolWait 0), .cb (.unsolConfirmed 0), .line "add 1",
   .tx 1 [193, 129, 128, 0], .line "upd created 0"] _ 1 exData (by rw [exTrace]; rfl) rfl
example := unsol_tx_accounted exCfg 10 {} exIns
  [OOut.tx 1 [240, 130, 128, 0], .cb (.unsolWait 0), .cb (.unsolConfirmed 0), .line "add 1",
   .tx 1 [193, 129, 128, 0], .line "upd created 0", .tx 1 exData, .cb (.unsolWait 1),
   .cb (.unsolTimeout 1 true)] _ 1 exData (by rw [exTrace]; rfl) rfl

-- `retries_bounded_trace`: the series with sequence number 1; `mid` = its two retries
example := retries_bounded_trace exCfg 10 {} exIns
  [OOut.tx 1 [240, 130, 128, 0], .cb (.unsolWait 0), .cb (.unsolConfirmed 0), .line "add 1",
   .tx 1 [193, 129, 128, 0], .line "upd created 0"]
  [.cb (.unsolTimeout 1 true), .tx 1 exData, .cb (.unsolTimeout 1 true), .tx 1 exData]
  [.cb (.unsolTimeout 1 false), .tx 1 [242, 130, 128, 0, 2, 1, 40, 1, 0, 0, 0, 129], .cb (.unsolWait 2)]
  1 exData 1 (by rw [exTrace]; rfl) (by decide)

/-- as `exIns`, but while the event data awaits its confirmation a broadcast arrives (IIN1.0 is set from then on,
    as the solicited reply `… 129 …` in between shows) -/
def exInsIin : List OInput :=
  [.rx 1 1024 [0xD0, 0], .add .binary 0 1, .rx 1 1024 [0xC1, 20, 60, 2, 6], .txn [.bin 0 true 1 0],
   .rx 1 0xFFFF [0xC2, 24], .tick 5000, .rx 1 1024 [0xC3, 23], .tick 5000]

/-- a READ of class 1 answered with an event: the task is in the solicited confirm wait -/
def exSolIns : List OInput := [.add .binary 0 1, .txn [.bin 0 true 1 0], .rx 1 1024 [0xC0, 1, 60, 2, 6]]
def exSolState : OState := (Outstation.run {} (Outstation.start {} 10).1 exSolIns).1

theorem exSolState_mode : exSolState.mode = .solWait ⟨0, true⟩ 5000 .fromRequest := by decide +kernel

-- `one_outstanding_sol` applies to it for every input; e.g. the confirmation ends the wait (`solConfirmed` in `pre`)
example (inp : OInput) := one_outstanding_sol {} exSolState inp ⟨0, true⟩ 5000 .fromRequest exSolState_mode
  (solInv_run {} 10 {} exSolIns)
example : (Outstation.step {} exSolState (.rx 1 1024 [0xC0, 0])).2 =
    [.cb (.solConfirmed 0), .cb .beginConfirm, .cb (.eventCleared 0), .cb (.endConfirm 0 0 0)] := by decide +kernel
-- `one_outstanding_sol_run`: a repeat of the READ, a wrong confirm and some time: nothing but the echo
example := one_outstanding_sol_run {} 10 {} exSolIns [.rx 1 1024 [0xC0, 1, 60, 2, 6], .rx 1 1024 [0xC3, 0], .tick 100]
  ⟨0, true⟩ 5000 .fromRequest exSolState_mode
  (by intro i hi; simp only [List.mem_cons, List.not_mem_nil, or_false] at hi; rcases hi with rfl | rfl | rfl <;> simp)
  (by decide +kernel)
-- … and a repeat of the READ is echoed, the wait goes on
example : (Outstation.step {} exSolState (.rx 1 1024 [0xC0, 1, 60, 2, 6])).2 =
    [.tx 1 [224, 129, 128, 0, 2, 1, 40, 1, 0, 0, 0, 129]] := by decide +kernel

end Dnp3.Proofs.C14Trace
