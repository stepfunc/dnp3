import Dnp3.Proofs.C02Master
/-!
# C02 — an accepted response fragment with IIN2.3 demands the integrity poll (master session model)

`process_read_response` calls `association.process_iin(..)` for EVERY accepted fragment of a READ
response, final or not.  The outstation clears EVENT_BUFFER_OVERFLOW as a side effect of the confirm of
a non-final fragment (the buffer is no longer full), so the indication may be carried by non-final
fragments only; the integrity poll it demands is the only way the master learns the current value of
a point whose event was discarded.
-/
namespace Dnp3.Proofs.C02Overflow
open Dnp3 Dnp3.Master Dnp3.Proofs.Master Dnp3.Proofs.C02Master

theorem demand_keeps_not_idle (s : AutoState) (h : s.isIdle = false) : s.demand = s := by
  cases s with
  | idle => exact absurd h (by decide)
  | pending => rfl
  | failed a b => rfl

theorem onRestartObserved_integrity (x : Assoc) (h : x.auto.integrity.isIdle = false) :
    x.onRestartObserved.auto.integrity.isIdle = false := by
  unfold Assoc.onRestartObserved
  split
  · exact demand_isIdle _
  · exact h

theorem onOverflow_integrity (x : Assoc) (hovf : x.cfg.ovf = true) : x.onOverflow.auto.integrity.isIdle = false := by
  unfold Assoc.onOverflow
  simp only [hovf, if_true]
  exact demand_isIdle _

theorem setEvents_integrity (x : Assoc) (ev : Nat) : (x.setEvents ev).auto.integrity = x.auto.integrity := by
  unfold Assoc.setEvents
  dsimp only
  split <;> rfl

/-- stated for the property, and described, as `Props.C02.process_iin_overflow` -/
theorem processIin_overflow_integrity (x : Assoc) (i1 i2 : Nat) (hovf : x.cfg.ovf = true) (hb : i2 &&& 0x08 ≠ 0) :
    (x.processIin i1 i2).auto.integrity.isIdle = false := by
  unfold Assoc.processIin
  simp only [hb, ne_eq, not_false_eq_true, if_true, setEvents_integrity]
  apply onOverflow_integrity
  split <;> split <;>
    simp only [(onNeedTime_keep _).2.2, (onRestartObserved_keep _).2.2, hovf]

theorem completePoll_integrity (x : Assoc) (id now : Nat) : (x.completePoll id now).auto.integrity = x.auto.integrity := rfl

theorem getAssoc_emit (a : Acc) (o : MOut) (d : Nat) : (emit a o).1.getAssoc d = a.1.getAssoc d := rfl
theorem getAssoc_setMode (a : Acc) (m : Mode) (d : Nat) : (setMode a m).1.getAssoc d = a.1.getAssoc d := rfl
theorem getAssoc_complete (a : Acc) (uid : Nat) (o : Outcome) (d : Nat) : (complete a uid o).1.getAssoc d = a.1.getAssoc d := rfl

theorem getAssoc_mod (a : Acc) (addr : Nat) (f : Assoc → Assoc) (hf : ∀ y, (f y).addr = y.addr) (y : Assoc)
    (hy : a.1.getAssoc addr = some y) : (modAssoc a addr f).1.getAssoc addr = some (f y) := by
  rw [getAssoc_modAssoc a addr f hf, hy]
  rfl

theorem getAssoc_notify (a : Acc) (addr : Nat) (y : Assoc) (hy : a.1.getAssoc addr = some y) :
    (notifyLinkActivity a addr).1.getAssoc addr = some (y.onLinkActivity a.1.now) :=
  getAssoc_mod a addr (·.onLinkActivity a.1.now) (fun _ => rfl) y hy

/-- the accumulator when an accepted fragment of a READ response has been handled up to its confirm -/
def acceptedAcc (a : Acc) (dest : Nat) (t : ReadTask) (seq : Nat) (r : Resp) (hs : List ObjHdr) : Acc :=
  if r.ctrl.con then
    emit (deliver (modAssoc (notifyLinkActivity a dest) dest (·.processIin r.iin1 r.iin2)) (whoOf dest t) (rtOf t) r hs)
      (.tx dest [0xC0 + seq, 0])
  else deliver (modAssoc (notifyLinkActivity a dest) dest (·.processIin r.iin1 r.iin2)) (whoOf dest t) (rtOf t) r hs

theorem acceptedAcc_state (a : Acc) (dest : Nat) (t : ReadTask) (seq : Nat) (r : Resp) (hs : List ObjHdr) :
    (acceptedAcc a dest t seq r hs).1 = (modAssoc (notifyLinkActivity a dest) dest (·.processIin r.iin1 r.iin2)).1 := by
  unfold acceptedAcc
  split <;> simp only [emit, deliver_eq]

theorem acceptedAcc_assoc (a : Acc) (dest : Nat) (t : ReadTask) (seq : Nat) (r : Resp) (hs : List ObjHdr) (x : Assoc)
    (hx : a.1.getAssoc dest = some x) :
    (acceptedAcc a dest t seq r hs).1.getAssoc dest = some ((x.onLinkActivity a.1.now).processIin r.iin1 r.iin2) := by
  rw [acceptedAcc_state]
  exact getAssoc_mod _ dest _ (fun y => processIin_addr y _ _) _ (getAssoc_notify a dest x hx)

/-- the fragment handler on a fragment `process_read_response` accepts, first or not, final or not, with or without CON -/
theorem onFragment_accept (a : Acc) (dest : Nat) (t : ReadTask) (seq dl : Nat) (isFirst : Bool) (src : Nat)
    (frag : List Nat) (r : Resp) (con fin : Bool) (x : Assoc)
    (hm : a.1.mode = .waitRead dest t seq isFirst dl) (hp : parseResponse frag = some r)
    (hx : a.1.getAssoc dest = some x)
    (hv : processReadResponse dest seq isFirst true src r = .accept con fin) :
    src = dest ∧ con = r.ctrl.con ∧ onFragment a src frag =
      if fin = true then
        .appDone (finishRead (acceptedAcc a dest t seq r (r.objects.getD [])) dest t (.ok seq)) dest t.taskType 1 (.ok seq)
      else
        .waiting (setMode (modAssoc (acceptedAcc a dest t seq r (r.objects.getD [])) dest
            fun y => { y with seq := seq4Next y.seq })
          (.waitRead dest t x.seq false (a.1.now + x.cfg.rto))) := by
  obtain ⟨_, rfl, _, _, _, _, _, _, rfl, _⟩ := (processReadResponse_accept_iff ..).mp hv
  refine ⟨rfl, rfl, ?_⟩
  have hS := acceptedAcc_state a src t seq r (r.objects.getD [])
  have hA := acceptedAcc_assoc a src t seq r (r.objects.getD []) x hx
  have h1 : ((notifyLinkActivity a src).1.getAssoc src).isSome = true := by
    rw [getAssoc_notify a src x hx]; rfl
  unfold onFragment
  simp only [hm, hp, h1, hv]
  rw [acceptedAcc] at hS hA ⊢
  generalize (if r.ctrl.con = true then _ else _ : Acc) = A at hS hA
  cases fin with
  | true => rfl
  | false =>
    have hn : (modAssoc A src fun y => { y with seq := seq4Next y.seq }).1.now = a.1.now := congrArg (·.now) hS
    simp only [Bool.false_eq_true, if_false, hA, hn, processIin_seq, (processIin_keep _ _ _).2.2]
    rfl

theorem readComplete_integrity (a : Acc) (dest : Nat) (t : ReadTask) (y : Assoc)
    (hy : a.1.getAssoc dest = some y) (hni : ∀ c, t ≠ .integrity c) :
    ∃ z, (readComplete a dest t).1.getAssoc dest = some z ∧ z.auto.integrity = y.auto.integrity := by
  cases t with
  | integrity c => exact absurd rfl (hni c)
  | poll id c => exact ⟨_, getAssoc_mod a dest (·.completePoll id a.1.now) (fun _ => rfl) y hy, rfl⟩
  | eventScan c => exact ⟨_, getAssoc_mod a dest (·.doneAuto .eventScan) (fun _ => rfl) y hy, rfl⟩
  | single uid c b =>
    exact ⟨y, by simp only [readComplete, getAssoc_complete, hy], rfl⟩

/-- stated for the property, and described, as `Props.C02.overflow_iin_demands_integrity` -/
theorem overflow_iin_demands_integrity (s : MState) (dest seq dl : Nat) (t : ReadTask) (isFirst : Bool)
    (src : Nat) (frag : List Nat) (r : Resp) (x : Assoc) (confirm final : Bool)
    (hm : s.mode = .waitRead dest t seq isFirst dl)
    (hp : parseResponse frag = some r)
    (hx : s.getAssoc dest = some x) (hovf : x.cfg.ovf = true)
    (hv : processReadResponse dest seq isFirst true src r = .accept confirm final)
    (hiin : r.iin2 &&& 0x08 ≠ 0)
    (hni : final = true → ∀ c, t ≠ .integrity c) :
    ∃ y, (onFragment (s, []) src frag).acc.1.getAssoc dest = some y ∧ y.auto.integrity.isIdle = false := by
  obtain ⟨rfl, _, he⟩ := onFragment_accept (s, []) dest t seq dl isFirst src frag r confirm final x hm hp hx hv
  have hA := acceptedAcc_assoc (s, []) src t seq r (r.objects.getD []) x hx
  have hx2 := processIin_overflow_integrity (x.onLinkActivity s.now) r.iin1 r.iin2 hovf hiin
  rw [he]
  cases final with
  | true =>
    simp only [if_true, Step.acc, finishRead, hA, Option.isSome_some]
    obtain ⟨z, hz, hzi⟩ := readComplete_integrity _ src t _ hA (hni rfl)
    exact ⟨z, hz, hzi ▸ hx2⟩
  | false =>
    exact ⟨_, getAssoc_mod _ src (fun y => { y with seq := seq4Next y.seq }) (fun _ => rfl) _ hA, hx2⟩

/-- stated for the property, and described, as `Props.C02.nonfinal_overflow_fragment_step` -/
theorem nonfinal_overflow_fragment_step (s : MState) (dest seq dl : Nat) (t : ReadTask) (isFirst : Bool)
    (src dst : Nat) (frag : List Nat) (r : Resp) (x : Assoc) (confirm : Bool)
    (hdst : dst = masterAddr) (hsrc : src < 0xFFF0) (hne : frag.isEmpty = false) (hlen : frag.length ≤ 2048)
    (hlive : ¬ (s.shutdownReq = true ∧ s.live = 0))
    (hm : s.mode = .waitRead dest t seq isFirst dl)
    (hp : parseResponse frag = some r)
    (hx : s.getAssoc dest = some x) (hovf : x.cfg.ovf = true)
    (hv : processReadResponse dest seq isFirst true src r = .accept confirm false)
    (hiin : r.iin2 &&& 0x08 ≠ 0) :
    ∃ y seq' dl', (Master.step s (.rx src dst frag)).1.getAssoc dest = some y ∧ y.auto.integrity.isIdle = false ∧
      (Master.step s (.rx src dst frag)).1.mode = .waitRead dest t seq' false dl' := by
  obtain ⟨rfl, _, he⟩ := onFragment_accept (s, []) dest t seq dl isFirst src frag r confirm false x hm hp hx hv
  obtain ⟨y, hy, hyi⟩ := overflow_iin_demands_integrity s src seq dl t isFirst src frag r x confirm false
    hm hp hx hovf hv hiin (fun h => absurd h (by decide))
  rw [if_neg (by decide)] at he
  subst hdst
  rw [he] at hy
  rw [step_rx_waiting s src frag _ hsrc hne hlen he
    (by show ¬ ((acceptedAcc (s, []) src t seq r (r.objects.getD [])).1.shutdownReq = true ∧
          (acceptedAcc (s, []) src t seq r (r.objects.getD [])).1.live = 0)
        rw [acceptedAcc_state]; exact hlive)]
  exact ⟨y, x.seq, s.now + x.cfg.rto, hy, hyi, rfl⟩

end Dnp3.Proofs.C02Overflow
