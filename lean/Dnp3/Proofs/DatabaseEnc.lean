import Dnp3.Proofs.DbTables
/-!
# The two writers of the outstation database: what an object costs is what its encoding adds

`encodeEvents_cons` / `encodeStatic_cons`: one more object lengthens the octets by exactly the cost the
writer charges for it (`evCost`, `stCost`).  `MaxFit`: a prefix of a list whose encoding fits the space left
while that of the prefix one longer does not; `Dnp3.Proofs.DatabaseEv` / `DatabaseStatic` show that this is what `write_events`
(`evLoop_spec`) and `write_typed_range` (`stLoop_spec`) write, and everything about a response — which
records are marked, what a series conserves, progress, capacity — is read off that.
-/
namespace Dnp3.DbProofs
open Dnp3 Dnp3.DbM

/-- 15 octets: g32v8 / g42v8 -/
theorem evObjSize_le (t : PtType) (v : Nat) (h : t ≠ .octetString) : evObjSize t v ≤ 15 := by
  unfold evObjSize; split <;> first | decide | exact absurd rfl h

/-- the variations with a common time of occurrence are g2v3 and g4v3 -/
theorem evObjSize_cto (t : PtType) (v : Nat) (h : usesCto t v = true) : evObjSize t v = 3 := by
  simp only [usesCto, Bool.and_eq_true, Bool.or_eq_true, beq_iff_eq] at h
  rcases h with ⟨h1 | h1, h2⟩ <;> rw [h1, h2] <;> rfl

theorem evObjSize_octets (n : Nat) : evObjSize .octetString n = n := by unfold evObjSize; rfl
theorem usesCto_octets (n : Nat) : usesCto .octetString n = false := by simp [usesCto]

theorem wvar_octets (r : EvRec) (h : r.ty = .octetString) : r.wvar = r.m.octets.length := by
  unfold EvRec.wvar; rw [h]

/-- 11 octets: g21v5 -/
theorem stObjSize_le (g v : Nat) (h : g ≠ 110) : stObjSize g v ≤ 11 := by
  unfold stObjSize; split <;> first | decide | exact absurd rfl h

theorem stObjSize_octets (v : Nat) : stObjSize 110 v = v := by unfold stObjSize; rfl
theorem isBits_octets (v : Nat) : isBits 110 v = false := by simp [isBits, packWidth]

theorem le16_len (n : Nat) : (le16 n).length = 2 := rfl
theorem le32_len (n : Nat) : (le32 n).length = 4 := rfl
theorem le48_len (n : Nat) : (le48 n).length = 6 := rfl
theorem le64_len (n : Nat) : (le64 n).length = 8 := rfl

theorem encI32_len (m : Meas) : (encI32 m).length = 5 := rfl
theorem encI16_len (m : Meas) : (encI16 m).length = 3 := rfl
theorem encF32_len (m : Meas) : (encF32 m).length = 5 := rfl
theorem encF64_len (m : Meas) : (encF64 m).length = 9 := rfl
theorem encU32_len (m : Meas) : (encU32 m).length = 5 := rfl
theorem encU16_len (m : Meas) : (encU16 m).length = 3 := rfl

theorem evObj_length (cto : Nat) (r : EvRec) : (evObj cto r).length = evObjSize r.ty r.wvar := by
  obtain ⟨_, _, _, ty, m, _, selVar, _⟩ := r
  cases ty
  case octetString => exact (evObjSize_octets _).symm
  all_goals rcases selVar with _|_|_|_|_|_|_|_|_|n <;> rfl

/-- g110: the size is the variation, the octets cut or padded to it -/
theorem stObjBytes_length (o : SObj) : (stObjBytes o).length = stObjSize o.g o.v := by
  unfold stObjBytes stObjSize
  split <;> first | rfl | (simp only [List.length_append, List.length_take, List.length_replicate]; omega) | simp_all

theorem evHeader_length (r : EvRec) (n : Nat) :
    (evHeader r n).length = (if usesCto r.ty r.wvar = true then 10 else 0) + 5 := by
  unfold evHeader ctoHeader
  by_cases h : usesCto r.ty r.wvar = true <;> simp [h, le16_len, le48_len]

theorem encodeEvents_cons (cur : Option EvCur) (r : EvRec) (rs : List EvRec) :
    (encodeEvents cur (r :: rs)).length = evCost cur r + (encodeEvents (some (evNext cur r)) rs).length := by
  have fresh : (evHeader r (1 + evRunLen (EvCur.start r) rs) ++ le16 r.index ++ evObj r.m.time r
        ++ encodeEvents (some (EvCur.start r)) rs).length =
      (if usesCto r.ty r.wvar = true then 10 else 0) + 5 + 2 + evObjSize r.ty r.wvar +
        (encodeEvents (some (EvCur.start r)) rs).length := by
    simp only [List.length_append, evHeader_length, le16_len, evObj_length]
  cases cur with
  | none =>
    simp only [encodeEvents, evNext, evCost]
    exact fresh
  | some c =>
    simp only [encodeEvents, evNext, evCost]
    by_cases hc : evContinues c r = true
    · simp only [hc, if_true, List.length_append, le16_len, evObj_length]
    · simp only [hc]
      exact fresh

theorem encodeStatic_cons (cur : Option StCur) (o : SObj) (os : List SObj) :
    (encodeStatic cur (o :: os)).length = stCost cur o + (encodeStatic (some (stNext cur o)) os).length := by
  have fresh : ([o.g, o.v, 0x01] ++ le16 o.idx ++ le16 (o.idx + stRunLen { g := o.g, v := o.v, last := o.idx, n := 1 } os) ++
        (if isBits o.g o.v = true then
           [packVals (packWidth o.g o.v)
             ((o :: os).take (min (perOctet o.g o.v) (stRunLen { g := o.g, v := o.v, last := o.idx, n := 1 } os + 1)))]
         else stObjBytes o) ++
        encodeStatic (some { g := o.g, v := o.v, last := o.idx, n := 1 }) os).length =
      7 + (if isBits o.g o.v = true then 1 else stObjSize o.g o.v) +
        (encodeStatic (some { g := o.g, v := o.v, last := o.idx, n := 1 }) os).length := by
    by_cases hb : isBits o.g o.v = true <;> simp [hb, le16_len, stObjBytes_length] <;> omega
  cases cur with
  | none =>
    simp only [encodeStatic, stNext, stCost]
    exact fresh
  | some c =>
    simp only [encodeStatic, stNext, stCost]
    by_cases hc : stContinues c o = true
    · simp only [hc, if_true, List.length_append]
      by_cases hb : isBits o.g o.v = true
      · by_cases hn : c.n % perOctet o.g o.v = 0 <;> simp [hb, hn]
      · simp [hb, stObjBytes_length]
    · simp only [hc]
      exact fresh

theorem encodeEvents_single (cur : Option EvCur) (r : EvRec) : (encodeEvents cur [r]).length = evCost cur r := by
  rw [encodeEvents_cons]; rfl

theorem encodeStatic_single (cur : Option StCur) (o : SObj) : (encodeStatic cur [o]).length = stCost cur o := by
  rw [encodeStatic_cons]; rfl

/-- the encoding of the first `n` of `xs` fits into `cap` octets of which `used` are taken, and that of the first
    `n + 1`, if there are as many, does not: where a writer stops that gives up at the first element without room.
    Nothing is said of longer prefixes: that none of them fits needs the encoded length to grow with the prefix,
    which no lemma states -/
def MaxFit {α : Type} (enc : List α → List Nat) (cap used : Nat) (xs : List α) (n : Nat) : Prop :=
  n ≤ xs.length ∧ used + (enc (xs.take n)).length ≤ cap ∧
    (n < xs.length → cap < used + (enc (xs.take (n + 1))).length)

section
variable {α : Type} {enc enc' : List α → List Nat} {cap used : Nat} {x : α} {xs : List α} {n : Nat}

theorem MaxFit.nil (h0 : enc [] = []) (hu : used ≤ cap) : MaxFit enc cap used [] 0 :=
  ⟨Nat.le_refl _, by simpa [h0] using hu, fun h => absurd h (Nat.lt_irrefl _)⟩

theorem MaxFit.stop (h0 : enc [] = []) (hu : used ≤ cap) (h : cap < used + (enc [x]).length) :
    MaxFit enc cap used (x :: xs) 0 :=
  ⟨Nat.zero_le _, by simpa [h0] using hu, fun _ => by simpa using h⟩

/-- `x` costs `c` and leaves the writer as `enc'` -/
theorem MaxFit.cons {c : Nat} (hc : ∀ ys, (enc (x :: ys)).length = c + (enc' ys).length)
    (h : MaxFit enc' cap (used + c) xs n) : MaxFit enc cap used (x :: xs) (n + 1) := by
  obtain ⟨h1, h2, h3⟩ := h
  refine ⟨Nat.succ_le_succ h1, ?_, fun hn => ?_⟩
  · rw [List.take_succ_cons, hc]; omega
  · have := h3 (Nat.lt_of_succ_lt_succ hn)
    rw [List.take_succ_cons, hc]; omega

theorem MaxFit.zero (h : MaxFit enc cap used (x :: xs) 0) : cap < used + (enc [x]).length := by
  simpa using h.2.2 (Nat.succ_pos _)

theorem MaxFit.take_ne_nil (h : MaxFit enc cap used (x :: xs) n) (hx : used + (enc [x]).length ≤ cap) :
    (x :: xs).take n ≠ [] := by
  cases n with
  | zero => exact absurd hx (Nat.not_le.mpr h.zero)
  | succ n => simp

theorem MaxFit.all (h : MaxFit enc cap used xs xs.length) : used + (enc xs).length ≤ cap := by
  simpa using h.2.1

end

end Dnp3.DbProofs
